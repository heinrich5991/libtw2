/-
Model of `huffman/src/lib.rs`: symbol representation, compressor (spec form: concatenated code
bits, LSB-first packing), decompressor (bit-serial tree walk with zero extension after the input and
an output capacity).  The table is a parameter; the built-in one is `Tw.Gen.Huffman.table`
(regenerated from `huffman/src/instances/teeworlds.rs` on every run).

Other models import `compress`, `compressInto`, `decompress`, `DecResult` from here.
The streaming form of the Rust compressor (`compress_impl_unsafe`) is `Tw.Model.HuffmanStream`,
`from_frequencies` is `Tw.Model.HuffmanFreq`, the C++ reference is `Tw.Model.HuffmanRef`.
-/
namespace Tw.Huffman

abbrev Table := Array (Nat × Nat)

def EOF : Nat := 256
def NUM_SYMBOLS : Nat := 257
def NUM_NODES : Nat := 513
def ROOT_IDX : Nat := 512

/-- `self.nodes[i]`; the default is `NODE_SENTINEL` (an out-of-range index panics in the Rust; it
is excluded by `WellFormed`). -/
def node (t : Table) (i : Nat) : Nat × Nat := t.getD i (65535, 65535)

/-- table lookup as a function; everything that `WellFormed` evaluates is defined over a `Look` so
that the kernel can check the built-in table through a cheap arithmetic lookup -/
abbrev Look := Nat → Nat × Nat

/-- `Node::to_symbol_repr().bits` -/
def symBitsF (look : Look) (s : Nat) : Nat := ((look s).1 % 256) * 65536 + (look s).2
/-- `Node::to_symbol_repr().num_bits` -/
def symLenF (look : Look) (s : Nat) : Nat := (look s).1 / 256

def symBits (t : Table) (s : Nat) : Nat := symBitsF (node t) s
def symLen (t : Table) (s : Nat) : Nat := symLenF (node t) s

/-- the `k` low bits of `n`, least significant first -/
def natBits : Nat → Nat → List Bool
  | 0, _ => []
  | k + 1, n => (n % 2 == 1) :: natBits k (n / 2)

/-- value of a bit list, least significant first -/
def bitsToNat : List Bool → Nat
  | [] => 0
  | b :: bs => (if b then 1 else 0) + 2 * bitsToNat bs

def codeBitsF (look : Look) (s : Nat) : List Bool := natBits (symLenF look s) (symBitsF look s)

/-- the code of symbol `s`, first transmitted bit first (`SymbolRepr::bit(0)`, …) -/
def codeBits (t : Table) (s : Nat) : List Bool := codeBitsF (node t) s

/-- the bit stream of an input: codes of all bytes, then of EOF -/
def streamBits (t : Table) (xs : List UInt8) : List Bool :=
  (xs.map (·.toNat) ++ [EOF]).flatMap (codeBits t)

/-- pack bits into bytes, least significant bit first, zero padding in the last byte;
`k` bits with value `acc` are pending for the current byte -/
def packGo : List Bool → Nat → Nat → List UInt8
  | [], k, acc => if k = 0 then [] else [UInt8.ofNat acc]
  | b :: bs, k, acc =>
    let acc' := acc + (if b then 2 ^ k else 0)
    if k ≥ 7 then UInt8.ofNat acc' :: packGo bs 0 0 else packGo bs (k + 1) acc'

def packBits (bs : List Bool) : List UInt8 := packGo bs 0 0

/-- `compress` (`bug = false`) and `compress_bug` (`bug = true`, the reference-compatible form
that emits an extra zero byte when the stream ends on a byte boundary), without capacity limit. -/
def compress (t : Table) (bug : Bool) (xs : List UInt8) : List UInt8 :=
  let bits := streamBits t xs
  packBits bits ++ (if bug ∧ bits.length % 8 = 0 then [0] else [])

def compressedBitLen (t : Table) (xs : List UInt8) : Nat :=
  (xs.map fun b => symLen t b.toNat).sum + symLen t EOF

def compressedLen (t : Table) (xs : List UInt8) : Nat := (compressedBitLen t xs + 7) / 8
def compressedLenBug (t : Table) (xs : List UInt8) : Nat := compressedBitLen t xs / 8 + 1

/-- Compression into a buffer of capacity `cap`: `none` = `CapacityError` (nothing committed). -/
def compressInto (t : Table) (bug : Bool) (xs : List UInt8) (cap : Nat) : Option (List UInt8) :=
  let out := compress t bug xs
  if out.length ≤ cap then some out else none

inductive DecResult where
  | ok (out : List UInt8)
  | capacity
  | diverge            -- fuel exhausted: shown impossible for well-formed tables
  deriving Repr, DecidableEq

inductive StepResult where
  | cont (node : Nat) (out : List UInt8)     -- `out` is reversed
  | done (out : List UInt8)
  | capacity

/-- `node.children[bit as usize]` -/
def childF (look : Look) (nd : Nat) (bit : Bool) : Nat := if bit then (look nd).2 else (look nd).1
def child (t : Table) (nd : Nat) (bit : Bool) : Nat := childF (node t) nd bit

/-- one bit of `decompress_unsafe` -/
def decStep (t : Table) (cap : Nat) (nd : Nat) (out : List UInt8) (bit : Bool) : StepResult :=
  let idx := child t nd bit
  if idx ≥ NUM_SYMBOLS then .cont idx out
  else if idx = EOF then .done out
  else if out.length ≥ cap then .capacity
  else .cont ROOT_IDX (UInt8.ofNat idx :: out)

inductive BitsResult where
  | more (node : Nat) (out : List UInt8)
  | fin (r : DecResult)

/-- the explicit input bits -/
def decBits (t : Table) (cap : Nat) : Nat → List UInt8 → List Bool → BitsResult
  | nd, out, [] => .more nd out
  | nd, out, b :: bs =>
    match decStep t cap nd out b with
    | .cont nd' out' => decBits t cap nd' out' bs
    | .done out' => .fin (.ok out'.reverse)
    | .capacity => .fin .capacity

/-- the implicit zero bits after the input (`input.next().unwrap_or(&0)`) -/
def decZeros (t : Table) (cap : Nat) : Nat → Nat → List UInt8 → DecResult
  | 0, _, _ => .diverge
  | fuel + 1, nd, out =>
    match decStep t cap nd out false with
    | .cont nd' out' => decZeros t cap fuel nd' out'
    | .done out' => .ok out'.reverse
    | .capacity => .capacity

def byteBits (b : UInt8) : List Bool := natBits 8 b.toNat

/-- fuel for the zero tail: every `NUM_NODES` steps at least one byte is output -/
def zeroFuel (cap : Nat) : Nat := (cap + 2) * (NUM_NODES + 1)

/-- `Huffman::decompress` into a buffer of capacity `cap` -/
def decompress (t : Table) (input : List UInt8) (cap : Nat) : DecResult :=
  match decBits t cap ROOT_IDX [] (input.flatMap byteBits) with
  | .fin r => r
  | .more nd out => decZeros t cap (zeroFuel cap) nd out

/-- `Huffman::decompress_into_vec`: capacity `8 * input.len()`, both errors are `InvalidInput` -/
def decompressVec (t : Table) (input : List UInt8) : Option (List UInt8) :=
  match decompress t input (8 * input.length) with
  | .ok out => some out
  | _ => none

/-! ### a faster, proven-equal evaluation of `decompress` for drivers
(`Tw.Huffman.decompressFast_eq`): the remaining capacity is carried along instead of measuring
`out.length` at every output byte -/

def decBitsF (t : Table) : Nat → Nat → List UInt8 → List Bool → BitsResult
  | _, nd, out, [] => .more nd out
  | rem, nd, out, b :: bs =>
    let idx := child t nd b
    if idx ≥ NUM_SYMBOLS then decBitsF t rem idx out bs
    else if idx = EOF then .fin (.ok out.reverse)
    else if rem = 0 then .fin .capacity
    else decBitsF t (rem - 1) ROOT_IDX (UInt8.ofNat idx :: out) bs

def decZerosF (t : Table) : Nat → Nat → Nat → List UInt8 → DecResult
  | _, 0, _, _ => .diverge
  | rem, fuel + 1, nd, out =>
    let idx := child t nd false
    if idx ≥ NUM_SYMBOLS then decZerosF t rem fuel idx out
    else if idx = EOF then .ok out.reverse
    else if rem = 0 then .capacity
    else decZerosF t (rem - 1) fuel ROOT_IDX (UInt8.ofNat idx :: out)

def decompressFast (t : Table) (input : List UInt8) (cap : Nat) : DecResult :=
  match decBitsF t cap ROOT_IDX [] (input.flatMap byteBits) with
  | .fin r => r
  | .more nd out => decZerosF t (cap - out.length) (zeroFuel cap) nd out

/-! ### Well-formed tables (decidable) -/

/-- follow `bits` from inner node `nd`; `some s` iff the last bit, and no earlier one, lands on
leaf `s` -/
def walkF (look : Look) : Nat → List Bool → Option Nat
  | _, [] => none
  | nd, b :: bs =>
    let idx := childF look nd b
    if idx ≥ NUM_SYMBOLS then walkF look idx bs
    else if bs.isEmpty then some idx else none

/-- inner node: both children have smaller indices and differ -/
def innerOkF (look : Look) (i : Nat) : Bool :=
  decide ((look i).1 < i) && decide ((look i).2 < i) && decide ((look i).1 ≠ (look i).2)

/-- symbol entry: `0 < len ≤ 24`, the stored bits fit in `len` bits, and walking them from the root
reaches exactly this leaf -/
def leafOkF (look : Look) (s : Nat) : Bool :=
  decide (0 < symLenF look s) && decide (symLenF look s ≤ 24)
    && decide (symBitsF look s < 2 ^ symLenF look s)
    && (walkF look ROOT_IDX (codeBitsF look s) == some s)

def okAtF (look : Look) (i : Nat) : Bool := if i < NUM_SYMBOLS then leafOkF look i else innerOkF look i

def walk (t : Table) : Nat → List Bool → Option Nat := walkF (node t)
def okAt (t : Table) (i : Nat) : Bool := okAtF (node t) i

def WellFormed (t : Table) : Prop := t.size = NUM_NODES ∧ ∀ i, i < NUM_NODES → okAt t i = true

instance (t : Table) : Decidable (WellFormed t) := by unfold WellFormed; exact inferInstance

/-- `okAtF` on every index of a range, as one Boolean: the form in which `Proofs/HuffmanTable.lean` has the kernel
evaluate the built-in table (`table_ok`) -/
def okRangeF (look : Look) (lo n : Nat) : Bool := (List.range' lo n).all (okAtF look)

end Tw.Huffman
