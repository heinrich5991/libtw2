import Tw.Model.ServerBrowse

/-! The master-server responses: the address lists, and what `parse_response` does with a datagram
once the header family is known (the classification by the masked header). -/
namespace Tw.ServerBrowse
open Tw.Gen.Browse

theorem exists_cons_of_lt {α : Type} {l : List α} {n : Nat} (h : n < l.length) :
    ∃ a rest, l = a :: rest ∧ n ≤ rest.length :=
  match l, h with
  | a :: rest, h => ⟨a, rest, rfl, Nat.le_of_lt_succ h⟩

theorem exists_six {α : Type} {l : List α} (h : 6 ≤ l.length) :
    ∃ a b c d e f rest, l = a :: b :: c :: d :: e :: f :: rest := by
  obtain ⟨a, l1, rfl, h1⟩ := exists_cons_of_lt h
  obtain ⟨b, l2, rfl, h2⟩ := exists_cons_of_lt h1
  obtain ⟨c, l3, rfl, h3⟩ := exists_cons_of_lt h2
  obtain ⟨d, l4, rfl, h4⟩ := exists_cons_of_lt h3
  obtain ⟨e, l5, rfl, h5⟩ := exists_cons_of_lt h4
  obtain ⟨f, l6, rfl, -⟩ := exists_cons_of_lt h5
  exact ⟨a, b, c, d, e, f, l6, rfl⟩

theorem parseList5_record (fuel : Nat) (a b c d p0 p1 : UInt8) (rest : List UInt8) :
    parseList5 (fuel + 1) (a :: b :: c :: d :: p0 :: p1 :: rest)
      = { v4 := true, ip := [a, b, c, d], port := p0.toNat + 256 * p1.toNat } :: parseList5 fuel rest := rfl

theorem parseList5_short (fuel : Nat) (bs : List UInt8) (h : bs.length < 6) : parseList5 fuel bs = [] := by
  unfold parseList5
  split
  · simp only [List.length_cons] at h; omega
  · rfl

/-- number of addresses = number of complete 6-byte records (a trailing partial record is dropped);
every record takes one unit of fuel and six bytes, so the fuel `payload.length` of the model suffices -/
theorem parseList5_length : ∀ (fuel : Nat) (bs : List UInt8), bs.length ≤ fuel →
    (parseList5 fuel bs).length = bs.length / 6 := by
  intro fuel
  induction fuel with
  | zero => intro bs h; rw [parseList5_short _ _ (by omega), Nat.div_eq_of_lt (by omega)]; rfl
  | succ f ih =>
    intro bs h
    by_cases hs : bs.length < 6
    · rw [parseList5_short _ _ hs, Nat.div_eq_of_lt hs]; rfl
    · obtain ⟨a, b, c, d, p0, p1, rest, rfl⟩ := exists_six (Nat.le_of_not_lt hs)
      rw [parseList5_record, List.length_cons,
        ih rest (Nat.le_of_add_le_add_right (Nat.le_trans (Nat.le_add_right _ 5) h))]
      exact (Nat.add_div_right _ (by decide)).symm

theorem parseList6_short (fuel : Nat) (bs : List UInt8) (h : bs.length < 18) : parseList6 fuel bs = [] := by
  cases fuel with
  | zero => rfl
  | succ f => unfold parseList6; rw [if_pos h]

theorem parseList6_record (fuel : Nat) (ip : List UInt8) (hip : ip.length = 16) (p0 p1 : UInt8) (rest : List UInt8) :
    parseList6 (fuel + 1) (ip ++ p0 :: p1 :: rest) = unpackAddr6 ip p0 p1 :: parseList6 fuel rest := by
  conv => lhs; unfold parseList6
  have hl : ¬ (ip ++ p0 :: p1 :: rest).length < 18 := by
    simp only [List.length_append, List.length_cons, hip]; omega
  rw [if_neg hl, List.drop_left' hip, List.take_left' hip]

theorem parseList6_length : ∀ (fuel : Nat) (bs : List UInt8), bs.length ≤ fuel →
    (parseList6 fuel bs).length = bs.length / 18 := by
  intro fuel
  induction fuel with
  | zero => intro bs h; rw [Nat.div_eq_of_lt (by omega)]; rfl
  | succ f ih =>
    intro bs h
    by_cases hs : bs.length < 18
    · rw [parseList6_short _ _ hs, Nat.div_eq_of_lt hs]; rfl
    · obtain ⟨p0, l1, h1, hl1⟩ := exists_cons_of_lt (l := bs.drop 16) (n := 1) (by rw [List.length_drop]; omega)
      obtain ⟨p1, rest, rfl, -⟩ := exists_cons_of_lt hl1
      have hl : rest.length + 18 = bs.length := by
        have := congrArg List.length h1
        rw [List.length_drop, List.length_cons, List.length_cons] at this
        omega
      rw [← List.take_append_drop 16 bs, h1, parseList6_record f _ (by rw [List.length_take]; omega), List.length_cons,
        ih rest (by omega), ← h1, List.take_append_drop, ← hl]
      exact (Nat.add_div_right _ (by decide)).symm

theorem splitAtChecked_ok {site : String} {bs : List UInt8} {n : Nat} (h : n ≤ bs.length) :
    splitAtChecked site bs n = .ok (bs.take n, bs.drop n) := by
  simp [splitAtChecked, h]

/-- a datagram with a 14-byte connless header that is neither a 0.7 token nor a 0.7 connless packet
is classified by its masked header -/
theorem parseResponse_header6 (first : UInt8) (rest payload : List UInt8) (hl : (first :: rest).length = HEADER_LEN)
    (h04 : first.toNat ≠ 0x04) (h21 : first.toNat ≠ 0x21) (hc : first.toNat &&& PACKETFLAG_CONNLESS ≠ 0) :
    parseResponse (first :: rest ++ payload) = .ok (classify6 (maskHeader6 (first :: rest)) payload) := by
  have h14 : HEADER_LEN = 14 := rfl
  show parseResponse (first :: (rest ++ payload)) = _
  unfold parseResponse
  simp only [h04, h21, if_false]
  have hlen : ¬ (first :: (rest ++ payload)).length < HEADER_LEN := by
    simp only [List.length_cons, List.length_append] at hl ⊢; omega
  rw [if_neg hlen, if_neg hc]
  rw [splitAtChecked_ok (by simp only [List.length_cons, List.length_append] at hl ⊢; omega)]
  have e : first :: (rest ++ payload) = (first :: rest) ++ payload := rfl
  simp only [e, ← hl, List.take_left', List.drop_left']

theorem parseResponse_plain6 {h : List UInt8} (payload : List UInt8) (hl : h.length = HEADER_LEN)
    (hf : ∀ first ∈ h.head?, first.toNat ≠ 0x04 ∧ first.toNat ≠ 0x21 ∧ first.toNat &&& PACKETFLAG_CONNLESS ≠ 0)
    (hm : maskHeader6 h = h) : parseResponse (h ++ payload) = .ok (classify6 h payload) := by
  cases h with
  | nil => cases hl
  | cons first rest =>
    obtain ⟨h04, h21, hc⟩ := hf first rfl
    rw [parseResponse_header6 first rest payload hl h04 h21 hc, hm]

theorem fillRange_zero (l : List UInt8) (lo : Nat) (v : UInt8) : fillRange l lo 0 v = l := by
  unfold fillRange
  simp only [Nat.not_lt_zero, and_false, if_false]
  exact List.mapIdx_eq_iff.2 (fun i => by cases l[i]? <;> rfl)

theorem fillRange_cons_zero (x : UInt8) (l : List UInt8) (hi : Nat) (v : UInt8) :
    fillRange (x :: l) 0 (hi + 1) v = v :: fillRange l 0 hi v := by
  unfold fillRange
  rw [List.mapIdx_cons, if_pos ⟨Nat.le_refl 0, Nat.succ_pos hi⟩]
  simp only [Nat.zero_le, true_and, Nat.add_lt_add_iff_right]

theorem fillRange_cons_succ (x : UInt8) (l : List UInt8) (lo hi : Nat) (v : UInt8) :
    fillRange (x :: l) (lo + 1) (hi + 1) v = x :: fillRange l lo hi v := by
  unfold fillRange
  rw [List.mapIdx_cons, if_neg (fun h => absurd h.1 (Nat.not_succ_le_zero lo))]
  simp only [Nat.add_le_add_iff_right, Nat.add_lt_add_iff_right]

/-- a header that begins with six `ff` (so not with `dp`) is left as it is by the masking -/
theorem maskHeader6_ff {h : List UInt8} (h6 : h.take 6 = [255, 255, 255, 255, 255, 255])
    (hp : DDPER_PREFIX_LEN ≤ 6 ∧ [255, 255, 255, 255, 255, 255].take DDPER_PREFIX_LEN ≠ bytesOf DDPER_PREFIX) :
    maskHeader6 h = h := by
  rw [← List.take_append_drop 6 h, h6]
  unfold maskHeader6
  rw [List.take_append_of_le_length hp.1, if_pos (Or.inl hp.2)]
  simp only [List.cons_append, List.nil_append, fillRange_cons_zero, fillRange_zero]

/-- the eight headers that begin with `ff`: nothing to mask, classified as they are -/
theorem parseResponse_ff6 {h : List UInt8} (payload : List UInt8) (hl : h.length = HEADER_LEN)
    (h6 : h.take 6 = [255, 255, 255, 255, 255, 255]) (hc : 255 &&& PACKETFLAG_CONNLESS ≠ 0)
    (hp : DDPER_PREFIX_LEN ≤ 6 ∧ [255, 255, 255, 255, 255, 255].take DDPER_PREFIX_LEN ≠ bytesOf DDPER_PREFIX) :
    parseResponse (h ++ payload) = .ok (classify6 h payload) := by
  refine parseResponse_plain6 payload hl (fun first hf => ?_) (maskHeader6_ff h6 hp)
  rw [← List.take_append_drop 6 h, h6] at hf
  cases hf
  exact ⟨by decide, by decide, hc⟩

/-- a 0.7 connless datagram is classified by its 17-byte header with both tokens masked; the tokens
(any bytes) are handed on -/
theorem parseResponse_header7 (a b c d e f g h : UInt8) (t payload : List UInt8) (ht : t.length = 8) :
    parseResponse (0x21 :: a :: b :: c :: d :: e :: f :: g :: h :: (t ++ payload))
      = .ok (classify7 (0x21 :: 255 :: 255 :: 255 :: 255 :: 255 :: 255 :: 255 :: 255 :: t)
          [a, b, c, d] [e, f, g, h] payload) := by
  have hlen : 17 ≤ (0x21 :: a :: b :: c :: d :: e :: f :: g :: h :: (t ++ payload)).length := by
    simp only [List.length_cons, List.length_append, ht]; omega
  unfold parseResponse
  simp only
  rw [if_neg (by decide), if_pos (by decide), if_neg (Nat.not_lt.2 hlen), splitAtChecked_ok hlen]
  simp only [List.take_succ_cons, List.drop_succ_cons, List.take_zero, List.drop_zero, List.take_left' ht,
    List.drop_left' ht, fillRange_cons_succ, fillRange_cons_zero, fillRange_zero]

end Tw.ServerBrowse
