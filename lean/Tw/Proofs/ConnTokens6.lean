import Tw.Proofs.ConnSafety6

/-! 0.6 handshake (C02): the handshake state of an endpoint is tied to what the two endpoints have sent.  `Trans` says, for
one returning call or delivery, from which state a `Connect`, a `ConnectAccept` or a chunk packet is sent and what entering a
state takes; `G` accumulates it over the two histories.  The point is `G.agree`: two endpoints that are online, or one online
and one pending, hold the same token, so neither drops the other's datagrams. -/
namespace Tw.NetSim.P6
open Tw.Conn Tw.Conn6 Tw.Time Tw.NetSim

def isConnect : Packet → Bool
  | .control _ _ .connect => true
  | _ => false

def caTok : Packet → Option (Option Nat)
  | .control _ t .connectAccept => some t
  | _ => none

def isChunks : Packet → Bool
  | .chunks _ _ _ _ _ => true
  | _ => false

/-- what one call / delivery does to the handshake: `rx` is the packet `feed` processed, if any.  `sent…`: the
state after sending a chunk packet / `Connect` / `ConnectAccept`; `to…`: from where a state is entered, and what entering
it takes -/
structure Trans (st st' : State) (sent : List Packet) (rx : Option Packet) (evs : List Event) : Prop where
  sentChunks : ∀ p ∈ sent, isChunks p = true → ∃ t o, st' = .online t o
  sentConnect : ∀ p ∈ sent, isConnect p = true → st' = .connecting
  sentCA : ∀ p ∈ sent, ∀ t, caTok p = some t → st' = .pending t ∧
    (st = .pending t ∨ (st = .unconnected ∧ ∃ q, rx = some q ∧ isConnect q = true))
  toCng : st' = .connecting → st = .connecting ∨ (st = .unconnected ∧ ∃ p ∈ sent, isConnect p = true)
  toPnd : ∀ t, st' = .pending t → st = .pending t ∨ (st = .unconnected ∧ ∃ p ∈ sent, caTok p = some t)
  toOnl : ∀ t o, st' = .online t o → (∃ o0, st = .online t o0) ∨
    (st = .pending t ∧ ∃ q, rx = some q ∧ isChunks q = true) ∨
    (st = .connecting ∧ (∃ q, rx = some q ∧ caTok q = some t) ∧ Event.ready ∈ evs)
  toUnc : st' = .unconnected → st = .unconnected

def Plain (p : Packet) : Prop := isConnect p = false ∧ caTok p = none ∧ isChunks p = false

variable {rx : Option Packet} {evs : List Event}

theorem Trans.same (st : State) {sent : List Packet} (hs : ∀ p ∈ sent, Plain p) : Trans st st sent rx evs := by
  refine ⟨?_, ?_, ?_, fun h => Or.inl h, fun t h => Or.inl h, fun t o h => Or.inl ⟨o, h⟩, id⟩
  · intro p hp hc; rw [(hs p hp).2.2] at hc; cases hc
  · intro p hp hc; rw [(hs p hp).1] at hc; cases hc
  · intro p hp t hc; rw [(hs p hp).2.1] at hc; cases hc

theorem Trans.disc {st : State} {sent : List Packet} (hs : ∀ p ∈ sent, Plain p) :
    Trans st .disconnected sent rx evs := by
  refine ⟨?_, ?_, ?_, fun h => (by cases h), fun t h => (by cases h), fun t o h => (by cases h), fun h => (by cases h)⟩
  · intro p hp hc; rw [(hs p hp).2.2] at hc; cases hc
  · intro p hp hc; rw [(hs p hp).1] at hc; cases hc
  · intro p hp t hc; rw [(hs p hp).2.1] at hc; cases hc

theorem Trans.onl {t : Option Nat} {o o' : Online} {sent : List Packet}
    (hs : ∀ p ∈ sent, isConnect p = false ∧ caTok p = none) : Trans (.online t o) (.online t o') sent rx evs := by
  refine ⟨fun _ _ _ => ⟨t, o', rfl⟩, ?_, ?_, fun h => (by cases h), fun t h => (by cases h), ?_, fun h => (by cases h)⟩
  · intro p hp hc; rw [(hs p hp).1] at hc; cases hc
  · intro p hp t hc; rw [(hs p hp).2] at hc; cases hc
  · intro t' o'' h'; injection h' with e1 _; subst e1; exact Or.inl ⟨o, rfl⟩

theorem quiet_ofFlushed (t : Option Nat) (fl : List Flushed) :
    ∀ p ∈ fl.map (ofFlushed t), isConnect p = false ∧ caTok p = none := by
  intro p hp
  simp only [List.mem_map] at hp
  obtain ⟨f, _, rfl⟩ := hp
  exact ⟨rfl, rfl⟩

theorem Trans.of_online {t : Option Nat} {o o1 : Online} {st' : State} {sent : List Packet}
    (h : Trans (.online t o1) st' sent rx evs) : Trans (.online t o) st' sent rx evs := by
  refine ⟨h.sentChunks, h.sentConnect, ?_, ?_, ?_, ?_, ?_⟩
  · intro p hp t' hc
    obtain ⟨_, h2⟩ := h.sentCA p hp t' hc
    rcases h2 with h2 | ⟨h2, _⟩ <;> cases h2
  · intro h'
    rcases h.toCng h' with h3 | ⟨h3, _⟩ <;> cases h3
  · intro t' h'
    rcases h.toPnd t' h' with h4 | ⟨h4, _⟩ <;> cases h4
  · intro t' o' h'
    rcases h.toOnl t' o' h' with ⟨o0, h5⟩ | ⟨h5, _⟩ | ⟨h5, _⟩
    · injection h5 with e1 _; subst e1; exact Or.inl ⟨o, rfl⟩
    · cases h5
    · cases h5
  · intro h'; cases h.toUnc h'

theorem Trans.cng {st : State} (h : st = .connecting ∨ st = .unconnected) :
    Trans st .connecting [.control 0 (some TOKEN_NONE) .connect] rx evs := by
  refine ⟨?_, fun _ _ _ => rfl, ?_, fun _ => h.imp_right fun h => ⟨h, _, List.mem_singleton_self _, rfl⟩,
    fun t h => (by cases h), fun t o h => (by cases h), fun h => (by cases h)⟩
  · intro p hp hc; cases List.mem_singleton.mp hp; cases hc
  · intro p hp t hc; cases List.mem_singleton.mp hp; cases hc

theorem Trans.pnd {st : State} {t : Option Nat}
    (h : st = .pending t ∨ (st = .unconnected ∧ ∃ q, rx = some q ∧ isConnect q = true)) :
    Trans st (.pending t) [.control 0 t .connectAccept] rx evs := by
  refine ⟨?_, ?_, ?_, fun h => (by cases h), ?_, fun t o h => (by cases h), fun h => (by cases h)⟩
  · intro p hp hc; cases List.mem_singleton.mp hp; cases hc
  · intro p hp hc; cases List.mem_singleton.mp hp; cases hc
  · intro p hp t' hc
    cases List.mem_singleton.mp hp; cases hc
    exact ⟨rfl, h⟩
  · intro t' ht'
    cases ht'
    exact h.imp_right fun h => ⟨h.1, _, List.mem_singleton_self _, rfl⟩

def rxOf : In → Option Packet
  | .fed p => some p
  | _ => none

theorem rxOf_fedIn (x : Option Packet) : rxOf (fedIn x) = x := by cases x <;> rfl

theorem trans_stepped {env : Env} {i : In} {c c' : Conn} {out : Out} (h : Stepped env i c c' out) :
    Trans c.state c'.state out.sent (rxOf i) out.events := by
  induction h with
  | same hi hs he => rw [hs]; exact Trans.same _ (by simp)
  | cleared hi hc => exact Trans.same _ (by simp)
  | @ctl i c st' ctl hi hm hc =>
    obtain ⟨st, snd⟩ := c
    cases hm with
    | stay =>
      cases st <;> cases hc
      · exact Trans.cng (.inl rfl)
      · exact Trans.pnd (.inl rfl)
      · exact Trans.onl (by intro p hp; cases List.mem_singleton.mp hp; exact ⟨rfl, rfl⟩)
    | connect => cases hc; exact Trans.cng (.inr rfl)
    | fedConnect ht => cases hc; exact Trans.pnd (.inr ⟨rfl, _, rfl, rfl⟩)
  | @core i c t o o' s' fl evs hst hd =>
    have hq := quiet_ofFlushed t fl
    rcases hst with hst | ⟨hst, _, a, tk, rr, n, cs, rfl⟩
    · rw [hst]; exact Trans.onl hq
    · -- a pending acceptor goes online with the first chunk packet
      refine ⟨fun _ _ _ => ⟨_, _, rfl⟩, ?_, ?_, fun h' => (by cases h'), fun t' h' => (by cases h'), ?_, fun h' => (by cases h')⟩
      · intro p hp hc; rw [(hq p hp).1] at hc; cases hc
      · intro p hp t' hc; rw [(hq p hp).2] at hc; cases hc
      · intro t' o'' h'
        cases h'
        exact Or.inr (Or.inl ⟨hst, _, rfl, rfl⟩)
  | acked hp hst hfa _ ih => rw [hst]; exact ih.of_online
  | connless hst hps =>
    refine Trans.same _ ?_
    rcases hps with rfl | ⟨_, rfl⟩
    · simp
    · exact List.forall_mem_singleton.2 ⟨rfl, rfl, rfl⟩
  | accept hst =>
    refine ⟨?_, ?_, ?_, fun h' => (by cases h'), fun t' h' => (by cases h'), ?_, fun h' => (by cases h')⟩
    · intro p hp hc; cases List.mem_singleton.mp hp; cases hc
    · intro p hp hc; cases List.mem_singleton.mp hp; cases hc
    · intro p hp t' hc; cases List.mem_singleton.mp hp; cases hc
    · intro t' o' h'
      cases h'
      exact Or.inr (Or.inr ⟨hst, ⟨_, rfl, rfl⟩, List.mem_singleton_self _⟩)
  | closed => exact Trans.disc (by simp)
  | disconnect hst => exact Trans.disc (List.forall_mem_singleton.2 ⟨rfl, rfl, rfl⟩)

theorem trans_call6 (now : Nat) (draws : List Nat) (c : Conn) (cl : Call) (r : Ret Conn Packet)
    (hr : P6.call now draws c cl = .ok r) : Trans c.state r.conn.state r.sent none r.events := by
  obtain ⟨out, hs, h1, h2⟩ := call_stepped hr
  rw [h1, h2, show (none : Option Packet) = rxOf (callIn cl r) by cases cl <;> rfl]
  exact trans_stepped hs

/-- the token as the receiver reads it: a peer without tokens has it stripped on the wire -/
def wtok (tl : Bool) (t : Option Nat) : Option Nat := if tl then none else t

variable {tl : Bool}

def Reads (tl : Bool) (p q : Packet) : Prop :=
  isConnect q = isConnect p ∧ isChunks q = isChunks p ∧ ∀ t, caTok q = some t → ∃ tp, caTok p = some tp ∧ wtok tl tp = t

theorem wireRead_kind {p q : Packet} {alt : Alt} {hint : Option Bool} (h : wireRead tl p alt hint = some q) :
    Reads tl p q := by
  have hs : Reads tl p (if tl = true then strip p else p) := by
    cases tl with
    | true =>
      simp only [if_true]
      cases p with
      | control a t c => cases c <;> simp [Reads, strip, isConnect, isChunks, caTok, wtok]
      | _ => simp [Reads, strip, isConnect, isChunks, caTok]
    | false =>
      simp only [Bool.false_eq_true, if_false]
      exact ⟨rfl, rfl, fun t ht => ⟨t, ht, by simp [wtok]⟩⟩
  rcases wireRead_cases h with rfl | ⟨ack, tok, r, tok', r', hp', rfl⟩
  · exact hs
  · rw [hp'] at hs
    exact ⟨by rw [← hs.1]; rfl, by rw [← hs.2.1]; rfl, by intro t ht; simp [caTok] at ht⟩

/-- `rx`: the packet as the reader returns it (`none`: dropped by the reader) -/
theorem trans_recv6 (now : Nat) (draws : List Nat) (c : Conn) (p : Packet) (alt : Alt) (r : Ret Conn Packet)
    (hr : P6.recv tl now draws c p alt = .ok r) :
    ∃ rx, Trans c.state r.conn.state r.sent rx r.events ∧ ∀ q, rx = some q → Reads tl p q := by
  obtain ⟨out, hs, h1, h2⟩ := recv_stepped hr
  refine ⟨wireRead tl p alt c.hint, ?_, fun q hq => wireRead_kind hq⟩
  rw [h1, h2, ← rxOf_fedIn (wireRead tl p alt c.hint)]
  exact trans_stepped hs

def hasConnect (e : End (Pr tl)) : Prop := ∃ dg ∈ e.out, isConnect dg.pkt = true
def hasCA (e : End (Pr tl)) (t : Option Nat) : Prop := ∃ dg ∈ e.out, caTok dg.pkt = some t
def hasChunks (e : End (Pr tl)) : Prop := ∃ dg ∈ e.out, isChunks dg.pkt = true

theorem hasConnect_book (e : End (Pr tl)) (r : Ret Conn Packet) (sub : List (Bytes × Bool)) :
    hasConnect (e.book r sub) ↔ hasConnect e ∨ ∃ p ∈ r.sent, isConnect p = true :=
  out_book (P := Pr tl) (fun p => isConnect p = true) e r sub

theorem hasCA_book (e : End (Pr tl)) (r : Ret Conn Packet) (sub : List (Bytes × Bool)) (t : Option Nat) :
    hasCA (e.book r sub) t ↔ hasCA e t ∨ ∃ p ∈ r.sent, caTok p = some t :=
  out_book (P := Pr tl) (fun p => caTok p = some t) e r sub

theorem hasChunks_book (e : End (Pr tl)) (r : Ret Conn Packet) (sub : List (Bytes × Bool)) :
    hasChunks (e.book r sub) ↔ hasChunks e ∨ ∃ p ∈ r.sent, isChunks p = true :=
  out_book (P := Pr tl) (fun p => isChunks p = true) e r sub

/-- what the histories say about the handshake state of `e` (peer `peer`) -/
structure G (tl : Bool) (e peer : End (Pr tl)) : Prop where
  unc : e.conn.state = .unconnected → ¬ hasConnect e ∧ ∀ t, ¬ hasCA e t
  cng : e.conn.state = .connecting → hasConnect e ∧ ∀ t, ¬ hasCA e t
  pnd : ∀ t, e.conn.state = .pending t → ¬ hasConnect e ∧ hasCA e t ∧ ∀ t', hasCA e t' → t' = t
  onl : ∀ t o, e.conn.state = .online t o →
    (¬ hasConnect e ∧ hasCA e t ∧ ∀ t', hasCA e t' → t' = t) ∨
    (hasConnect e ∧ (∀ t', ¬ hasCA e t') ∧ ∃ tp, hasCA peer tp ∧ wtok tl tp = t)
  excl : hasConnect e → ∀ t, ¬ hasCA e t
  ans : ∀ t, hasCA e t → hasConnect peer
  early : hasChunks e → (∃ t o, e.conn.state = .online t o) ∨ e.conn.state = .disconnected
  acc : ∀ t o, e.conn.state = .online t o → ¬ hasConnect e → hasChunks peer
  rdy : ∀ t o, e.conn.state = .online t o → hasConnect e → Event.ready ∈ e.events

theorem G.peer_mono {e peer peer' : End (Pr tl)} (h : G tl e peer) (hout : ∀ dg ∈ peer.out, dg ∈ peer'.out) :
    G tl e peer' := by
  refine ⟨h.unc, h.cng, h.pnd, ?_, h.excl, ?_, h.early, ?_, h.rdy⟩
  · intro t o hst
    rcases h.onl t o hst with h1 | ⟨a, b, tp, ⟨dg, hdg, hc⟩, hw⟩
    · exact Or.inl h1
    · exact Or.inr ⟨a, b, tp, ⟨dg, hout dg hdg, hc⟩, hw⟩
  · intro t ht
    obtain ⟨dg, hdg, hc⟩ := h.ans t ht
    exact ⟨dg, hout dg hdg, hc⟩
  · intro t o hs hc
    obtain ⟨dg, hdg, hk⟩ := h.acc t o hs hc
    exact ⟨dg, hout dg hdg, hk⟩

theorem G.act {e peer : End (Pr tl)} (h : G tl e peer) {r : Ret Conn Packet} {rx : Option Packet}
    (tr : Trans e.conn.state r.conn.state r.sent rx r.events)
    (hrx : ∀ q, rx = some q → (isConnect q = true → hasConnect peer) ∧ (isChunks q = true → hasChunks peer) ∧
      ∀ t, caTok q = some t → ∃ tp, hasCA peer tp ∧ wtok tl tp = t)
    (sub : List (Bytes × Bool)) : G tl (e.book r sub) peer := by
  have hst' : (e.book r sub).conn.state = r.conn.state := rfl
  -- no new handshake datagram unless the new state is connecting / pending
  have noC : r.conn.state ≠ .connecting → (hasConnect (e.book r sub) ↔ hasConnect e) := by
    intro hne
    rw [hasConnect_book]
    exact ⟨fun hh => hh.elim id (fun ⟨p, hp, hc⟩ => absurd (tr.sentConnect p hp hc) hne), Or.inl⟩
  have noA : ∀ t, (∀ t', r.conn.state ≠ .pending t') → (hasCA (e.book r sub) t ↔ hasCA e t) := by
    intro t hne
    rw [hasCA_book]
    exact ⟨fun hh => hh.elim id (fun ⟨p, hp, hc⟩ => absurd (tr.sentCA p hp t hc).1 (hne t)), Or.inl⟩
  refine ⟨?_, ?_, ?_, ?_, ?_, ?_, ?_, ?_, ?_⟩
  · intro hs
    rw [hst'] at hs
    have h0 := h.unc (tr.toUnc hs)
    rw [noC (by rw [hs]; simp)]
    refine ⟨h0.1, fun t => ?_⟩
    rw [noA t (by intro t'; rw [hs]; simp)]
    exact h0.2 t
  · intro hs
    rw [hst'] at hs
    have hA : ∀ t, hasCA (e.book r sub) t ↔ hasCA e t := fun t => noA t (by intro t'; rw [hs]; simp)
    rcases tr.toCng hs with h3 | ⟨h3, p, hp, hc⟩
    · have h0 := h.cng h3
      exact ⟨(hasConnect_book e r sub).mpr (Or.inl h0.1), fun t => by rw [hA t]; exact h0.2 t⟩
    · have h0 := h.unc h3
      exact ⟨(hasConnect_book e r sub).mpr (Or.inr ⟨p, hp, hc⟩), fun t => by rw [hA t]; exact h0.2 t⟩
  · intro t hs
    rw [hst'] at hs
    rw [noC (by rw [hs]; simp)]
    have hall : ∀ t', (∃ p ∈ r.sent, caTok p = some t') → t' = t := by
      rintro t' ⟨p, hp, hc⟩
      have := (tr.sentCA p hp t' hc).1
      rw [hs] at this; injection this with this; exact this.symm
    rcases tr.toPnd t hs with h4 | ⟨h4, p, hp, hc⟩
    · have h0 := h.pnd t h4
      refine ⟨h0.1, (hasCA_book e r sub t).mpr (Or.inl h0.2.1), ?_⟩
      intro t' ht'
      rcases (hasCA_book e r sub t').mp ht' with ht' | ht'
      · exact h0.2.2 t' ht'
      · exact hall t' ht'
    · have h0 := h.unc h4
      refine ⟨h0.1, (hasCA_book e r sub t).mpr (Or.inr ⟨p, hp, hc⟩), ?_⟩
      intro t' ht'
      rcases (hasCA_book e r sub t').mp ht' with ht' | ht'
      · exact absurd ht' (h0.2 t')
      · exact hall t' ht'
  · intro t o hs
    rw [hst'] at hs
    have hC := noC (by rw [hs]; simp)
    have hA : ∀ t', hasCA (e.book r sub) t' ↔ hasCA e t' := fun t' => noA t' (by intro t''; rw [hs]; simp)
    simp only [hC, hA]
    rcases tr.toOnl t o hs with ⟨o0, h5⟩ | ⟨h5, _⟩ | ⟨h5, ⟨q, hq, hqc⟩, _⟩
    · exact h.onl t o0 h5
    · exact Or.inl (h.pnd t h5)
    · have h0 := h.cng h5
      exact Or.inr ⟨h0.1, h0.2, (hrx q hq).2.2 t hqc⟩
  · intro hc t hca
    rcases (hasConnect_book e r sub).mp hc with hc | ⟨p, hp, hpc⟩
    · rcases (hasCA_book e r sub t).mp hca with hca | ⟨p', hp', hpc'⟩
      · exact h.excl hc t hca
      · rcases (tr.sentCA p' hp' t hpc').2 with h2 | ⟨h2, _⟩
        · exact (h.pnd t h2).1 hc
        · exact (h.unc h2).1 hc
    · have hs := tr.sentConnect p hp hpc
      rcases (hasCA_book e r sub t).mp hca with hca | ⟨p', hp', hpc'⟩
      · rcases tr.toCng hs with h3 | ⟨h3, _⟩
        · exact (h.cng h3).2 t hca
        · exact (h.unc h3).2 t hca
      · have := (tr.sentCA p' hp' t hpc').1
        rw [hs] at this; cases this
  · intro t hca
    rcases (hasCA_book e r sub t).mp hca with hca | ⟨p, hp, hpc⟩
    · exact h.ans t hca
    · rcases (tr.sentCA p hp t hpc).2 with h2 | ⟨_, q, hq, hqc⟩
      · exact h.ans t (h.pnd t h2).2.1
      · exact (hrx q hq).1 hqc
  · -- a chunk packet is sent online only, and nobody leaves online except by closing
    intro hc
    rw [hst']
    rcases (hasChunks_book e r sub).1 hc with hce | ⟨p, hps, hpc⟩
    · have hold := h.early hce
      cases hs : r.conn.state with
      | online t o => exact Or.inl ⟨t, o, rfl⟩
      | disconnected => exact Or.inr rfl
      | connecting =>
        rcases tr.toCng hs with h1 | ⟨h1, _⟩ <;> rcases hold with ⟨t, o, h2⟩ | h2 <;> rw [h1] at h2 <;> cases h2
      | pending t =>
        rcases tr.toPnd t hs with h1 | ⟨h1, _⟩ <;> rcases hold with ⟨t, o, h2⟩ | h2 <;> rw [h1] at h2 <;> cases h2
      | unconnected =>
        have h1 := tr.toUnc hs
        rcases hold with ⟨t, o, h2⟩ | h2 <;> rw [h1] at h2 <;> cases h2
    · exact Or.inl (tr.sentChunks p hps hpc)
  · -- an acceptor goes online on a chunk packet
    intro t o hs hnc
    rw [hst'] at hs
    have hnc0 : ¬ hasConnect e := fun hc => hnc ((hasConnect_book e r sub).2 (Or.inl hc))
    rcases tr.toOnl t o hs with ⟨o0, h0⟩ | ⟨_, q, hq, hqc⟩ | ⟨h0, _⟩
    · exact h.acc t o0 h0 hnc0
    · exact (hrx q hq).2.1 hqc
    · exact absurd (h.cng h0).1 hnc0
  · -- a connector goes online on a `ConnectAccept` and is told `Ready` in that call
    intro t o hs hc
    rw [hst'] at hs
    have hc0 := (noC (by rw [hs]; simp)).1 hc
    have hev : (e.book r sub).events = e.events ++ r.events := rfl
    rw [hev, List.mem_append]
    rcases tr.toOnl t o hs with ⟨o0, h0⟩ | ⟨hp, _⟩ | ⟨_, _, hr⟩
    · exact Or.inl (h.rdy t o0 h0 hc0)
    · exact absurd hc0 (h.pnd t hp).1
    · exact Or.inr hr

def Agree6 (tl : Bool) (w : World (Pr tl)) : Prop := G tl w.a w.b ∧ G tl w.b w.a

theorem Agree6.side {w : World (Pr tl)} (h : Agree6 tl w) (s : Side) : G tl (w.get s) (w.get s.other) :=
  Both.side (G := fun _ => G tl) h s

theorem agree6_init (tl : Bool) : Agree6 tl (World.init (Pr tl)) := by
  have : G tl ({ conn := Conn.new } : End (Pr tl)) { conn := Conn.new } := by
    refine ⟨fun _ => ⟨?_, fun t => ?_⟩, fun h => (by cases h), fun t h => (by cases h), fun t o h => (by cases h), ?_, ?_,
      ?_, fun t o h => (by cases h), fun t o h => (by cases h)⟩
    · rintro ⟨dg, hdg, _⟩; simp at hdg
    · rintro ⟨dg, hdg, _⟩; simp at hdg
    · rintro ⟨dg, hdg, _⟩; simp at hdg
    · rintro t ⟨dg, hdg, _⟩; simp at hdg
    · rintro ⟨dg, hdg, _⟩; simp at hdg
  exact ⟨this, this⟩

theorem g6_rel (tl : Bool) : Rel (Pr tl) (fun _ => G tl) where
  adv _ h := h
  call sub hr h := h.act (trans_call6 _ _ _ _ _ hr) (by intro q hq; cases hq) sub
  recv hdg hr h _ := by
    obtain ⟨rx, tr, hk⟩ := trans_recv6 _ _ _ _ _ _ hr
    refine h.act tr (fun q hq => ?_) []
    obtain ⟨k1, k3, k2⟩ := hk q hq
    refine ⟨fun hc => ⟨_, hdg, by rw [← k1]; exact hc⟩, fun hc => ⟨_, hdg, by rw [← k3]; exact hc⟩, fun t ht => ?_⟩
    obtain ⟨tp, h1, h2⟩ := k2 t ht
    exact ⟨tp, ⟨_, hdg, h1⟩, h2⟩
  mono r sub h := h.peer_mono (book_out_mono _ _ _)

theorem agree6_run (ms : List (Move (Pr tl))) (w w' : World (Pr tl)) : Agree6 tl w → run w ms = some w' → Agree6 tl w' :=
  (g6_rel tl).run ms w w'

def stTok : State → Option (Option Nat)
  | .pending t => some t
  | .online t _ => some t
  | _ => none

theorem stTok_eq (st : State) : stTok st = st.token? := by cases st <;> rfl

theorem none_of_isSome {t : Option Nat} (h : t.isSome = !tl) : tl = true → t = none := by
  rintro rfl
  cases t <;> simp at h ⊢

theorem tokS_none {c : Conn} (h : tokS tl c) {t : Option Nat} (ht : c.state.token? = some t) :
    tl = true → t = none :=
  none_of_isSome (h t ht)

theorem tokS_wtok {c : Conn} (h : tokS tl c) {t : Option Nat} (ht : c.state.token? = some t) : wtok tl t = t := by
  cases htl : tl
  · rfl
  · exact (tokS_none h ht htl).symm ▸ rfl

/-- `hs1`, `hs2` are the token-hint invariant of `loc6`: towards a peer without tokens (`tl`) the wire strips the token of a
`ConnectAccept` (`wtok`), and `tokS` says that the tokens held are then `none` as well. -/
theorem G.agree {e peer : End (Pr tl)} (h1 : G tl e peer) (h2 : G tl peer e)
    (hs1 : tokS tl e.conn) (hs2 : tokS tl peer.conn)
    {t1 : Option Nat} {o1 : Online} (he : e.conn.state = .online t1 o1) {t2 : Option Nat}
    (hp : stTok peer.conn.state = some t2) : t1 = t2 := by
  have hw : ∀ t, stTok peer.conn.state = some t → wtok tl t = t := by
    intro t ht
    exact tokS_wtok hs2 (stTok_eq _ ▸ ht)
  have hpeer : (¬ hasConnect peer ∧ hasCA peer t2 ∧ ∀ t', hasCA peer t' → t' = t2) ∨
      (hasConnect peer ∧ (∀ t', ¬ hasCA peer t') ∧ ∃ tp, hasCA e tp ∧ wtok tl tp = t2) := by
    cases hst : peer.conn.state with
    | pending t => rw [hst] at hp; injection hp with hp; subst hp; exact Or.inl (h2.pnd t hst)
    | online t o => rw [hst] at hp; injection hp with hp; subst hp; exact h2.onl t o hst
    | unconnected => rw [hst] at hp; cases hp
    | connecting => rw [hst] at hp; cases hp
    | disconnected => rw [hst] at hp; cases hp
  have hw1 : wtok tl t1 = t1 := tokS_wtok hs1 (by simp [State.token?, he])
  rcases h1.onl t1 o1 he with ⟨a1, a2, a3⟩ | ⟨b1, b2, tp, b3, b4⟩
  · -- e is the acceptor
    rcases hpeer with ⟨c1, c2, _⟩ | ⟨_, _, tp, d3, d4⟩
    · exact absurd (h1.ans t1 a2) c1
    · have := a3 tp d3
      subst this
      rw [← d4, hw1]
  · -- e is the connector: it took the token of one of the peer's ConnectAccepts
    rcases hpeer with ⟨_, _, c3⟩ | ⟨d1, d2, _⟩
    · have := c3 tp b3
      subst this
      rw [← b4]; exact hw tp hp
    · exact absurd b3 (d2 tp)

/-- **no acceptor is online while its peer is still connecting (0.6)**: in every reachable world, if
one side is connecting, the other side (which has not itself called `connect`) is not online — a
0.6 acceptor goes online with the first chunk packet (`G.acc`), and a connecting side has not sent one (`G.early`) -/
theorem no_online_acceptor_while_connecting6 (tl : Bool) (sched : List (Move (proto6 tl))) (w : World (proto6 tl))
    (hrun : NetSim.run (World.init (proto6 tl)) sched = some w) (s : Side)
    (hcg : (w.get s).conn.state = .connecting) (hnc : ¬ hasConnect (w.get s.other)) (t : Option Nat) (o : Online) :
    (w.get s.other).conn.state ≠ .online t o := by
  intro hon
  have hk := agree6_run sched _ w (agree6_init tl) hrun
  have key : ∀ e peer : End (Pr tl), G tl e peer → G tl peer e → e.conn.state = .connecting →
      ¬ hasConnect peer → peer.conn.state = .online t o → False := by
    intro e peer k1 k2 hc hnc hon
    rcases k1.early (k2.acc t o hon hnc) with ⟨t', o', h⟩ | h <;> rw [hc] at h <;> cases h
  cases s with
  | a => exact key _ _ hk.1 hk.2 hcg hnc hon
  | b => exact key _ _ hk.2 hk.1 hcg hnc hon

end Tw.NetSim.P6
