import Tw.Model.Net

/-! `Timeout.le` is a total preorder with `Timeout.min` its minimum; `Net::needs_tick` is the minimum
of the peers' deadlines. -/
namespace Tw.Time

theorem Timeout.le_refl (a : Timeout) : Timeout.le a a = true := by
  cases a <;> simp [Timeout.le]

theorem Timeout.le_total (a b : Timeout) : Timeout.le a b = true ∨ Timeout.le b a = true := by
  cases a <;> cases b <;> simp [Timeout.le]; omega

theorem Timeout.le_trans {a b c : Timeout} (h1 : Timeout.le a b = true) (h2 : Timeout.le b c = true) :
    Timeout.le a c = true := by
  cases a <;> cases b <;> cases c <;> simp_all [Timeout.le]; omega

theorem Timeout.min_le_left (a b : Timeout) : Timeout.le (Timeout.min a b) a = true := by
  unfold Timeout.min
  split
  · exact Timeout.le_refl a
  · rename_i h
    rcases Timeout.le_total a b with h' | h'
    · exact absurd h' h
    · exact h'

theorem Timeout.min_le_right (a b : Timeout) : Timeout.le (Timeout.min a b) b = true := by
  unfold Timeout.min
  split
  · assumption
  · exact Timeout.le_refl b

theorem Timeout.min_eq (a b : Timeout) : Timeout.min a b = a ∨ Timeout.min a b = b := by
  unfold Timeout.min; split <;> simp

end Tw.Time

namespace Tw.Net
open Tw.Conn Tw.Conn6 Tw.Time

theorem needsTick_le (net : Net) : ∀ e ∈ net.peers, Timeout.le net.needsTick e.2.conn.needsTick = true := by
  unfold Net.needsTick
  induction net.peers with
  | nil => simp
  | cons x xs ih =>
    intro e he
    simp only [List.foldr_cons]
    rcases List.mem_cons.1 he with rfl | he
    · exact Timeout.min_le_left _ _
    · exact Timeout.le_trans (Timeout.min_le_right _ _) (ih e he)

theorem needsTick_attained (net : Net) :
    (net.peers = [] ∧ net.needsTick = .inactive) ∨ ∃ e ∈ net.peers, net.needsTick = e.2.conn.needsTick := by
  unfold Net.needsTick
  induction net.peers with
  | nil => simp
  | cons x xs ih =>
    right
    simp only [List.foldr_cons]
    rcases Timeout.min_eq x.2.conn.needsTick (List.foldr (fun e m => Timeout.min e.2.conn.needsTick m) Timeout.inactive xs) with h | h
    · exact ⟨x, by simp, h⟩
    · rcases ih with ⟨hnil, hin⟩ | ⟨e, he, heq⟩
      · subst hnil
        refine ⟨x, by simp, ?_⟩
        simp only [List.foldr_nil] at h ⊢
        cases hx : x.2.conn.needsTick <;> simp [Timeout.min, Timeout.le]
      · exact ⟨e, List.mem_cons_of_mem _ he, by rw [h, heq]⟩

end Tw.Net
