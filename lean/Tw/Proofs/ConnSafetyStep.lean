import Tw.Proofs.ConnSafetySim
import Tw.Proofs.ConnStep

/-! C01 over the variant-independent description of a returning call or delivery (`GStep`, `Proofs/ConnStep.lean`): every
`GStep` preserves `AInv` (`GStep.ainv`) and obeys the handshake clause (`GStep.hs`); a variant whose calls and deliveries
are `GStep`s (`Steps`) therefore is a `Sim` and an `Hs`, and its admissible runs are `Safe` (`Steps.safe`). -/
namespace Tw.NetSim
open Tw.Conn Tw.Time

theorem _root_.Tw.Conn.Quiet.payloads {evs : List Event} (h : Quiet evs) : vitalPayloads evs = [] ∧ nonvitalPayloads evs = [] := by
  induction evs with
  | nil => exact ⟨rfl, rfl⟩
  | cons ev evs ih =>
    obtain ⟨h0, h1⟩ := List.forall_mem_cons.mp h
    cases ev with
    | chunk d v => exact absurd rfl (h0.1 d v)
    | _ => exact ih h1

theorem _root_.Tw.Conn.Quiet.ready {evs : List Event} (h : Quiet evs) : readyCount evs = 0 := by
  induction evs with
  | nil => rfl
  | cons ev evs ih =>
    obtain ⟨h0, h1⟩ := List.forall_mem_cons.mp h
    cases ev with
    | ready => exact absurd rfl h0.2
    | _ => exact ih h1

theorem mkEnts_chunks (x : AEnd) (fl : List Flushed) :
    mkEnts x ((fl.map GPkt.chunks).filterMap GPkt.view) = astamp x fl := by
  rw [GPkt.view_chunks]
  simp [mkEnts, astamp]

/-- **every `GStep` preserves the invariant** (H1 for a vital submission, H2 for the datagram fed) -/
theorem _root_.Tw.Conn.GStep.ainv {cfg : Cfg} (hc : cfg.Ok) {now : Nat} {fed : Option (Nat × List Chunk)} {acc : Bool}
    {g g' : GConn} {ps : List GPkt} {evs : List Event} {sub : List (Bytes × Bool)}
    (hd : GStep cfg now fed acc g g' ps evs sub) :
    ∀ {x x' y : AEnd}, AInv cfg x y → x.st = g.ph.core → x'.st = g'.ph.core →
      x'.out = x.out ++ mkEnts x (ps.filterMap GPkt.view) →
      x'.sub = x.sub ++ vitalOf sub → x'.nv = x.nv ++ nonvitalOf sub →
      x'.del = x.del ++ vitalPayloads evs → x'.nvDel = x.nvDel ++ nonvitalPayloads evs →
      (∀ o d, g.ph = .on o → sub = [(d, true)] → o.resendQueue.length < 512) →
      (∀ ack cs, fed = some (ack, cs) → ∃ e ∈ y.out, e.ack = ack ∧ e.chunks = cs ∧
        x.sub.length < unwrap e.dStamp ack + 1024 ∧
        ∀ c ∈ cs, ∀ s r, c.vital = some (s, r) → x.del.length + 1 < unwrap e.nStamp s + 1024) →
      AInv cfg x' y := by
  have quiet : ∀ {st : Option Online} {ps : List GPkt} {evs : List Event} {x x' y : AEnd}, AInv cfg x y →
      x.st = st → (x'.st = x.st ∨ x'.st = none) → (∀ p ∈ ps, p = .connless ∨ ∃ o, st = some o ∧ p = .ctl o.ack) →
      x'.out = x.out ++ mkEnts x (ps.filterMap GPkt.view) →
      x'.sub = x.sub ++ vitalOf [] → x'.nv = x.nv ++ nonvitalOf [] → vitalPayloads evs = [] ∧ nonvitalPayloads evs = [] →
      x'.del = x.del ++ vitalPayloads evs → x'.nvDel = x.nvDel ++ nonvitalPayloads evs → AInv cfg x' y := by
    intro st ps evs x x' y h hx hst hps hout hsub hnv hev hdel hnvd
    refine h.quiet _ hst hout (hsub.trans (List.append_nil _)) (hnv.trans (List.append_nil _))
      (by rw [hdel, hev.1, List.append_nil]) (by rw [hnvd, hev.2, List.append_nil]) ?_
    intro en hen
    simp only [mkEnts, List.mem_map, List.mem_filterMap] at hen
    obtain ⟨v, ⟨p, hp, hv⟩, rfl⟩ := hen
    rcases hps p hp with rfl | ⟨o, ho, rfl⟩
    · cases hv
    · cases hv
      exact ⟨rfl, rfl, rfl, o, hx.trans ho, rfl⟩
  induction hd with
  | quiet hp _ hps hev =>
    intro x x' y h hx hx' hout hsub hnv hdel hnvd _ _
    refine quiet h hx ?_ hps hout hsub hnv hev.payloads hdel hnvd
    rcases hp with hp | hp <;> rw [hp] at hx'
    · exact .inl (hx'.trans hx.symm)
    · exact .inr hx'
  | opened _ hg _ hps =>
    intro x x' y h hx hx' hout hsub hnv hdel hnvd _ _
    rw [hg] at hx
    exact quiet h hx (.inl (hx'.trans hx.symm)) (fun p hp => .inr ⟨.new, rfl, hps p hp⟩) hout hsub hnv ⟨rfl, rfl⟩ hdel hnvd
  | @online g o o' s' fl evs sub ho _ hd =>
    intro x x' y h hx hx' hout hsub hnv hdel hnvd hH1 hH2
    have hxo := hx.trans ho
    rw [mkEnts_chunks] at hout
    have hso := h.1.snd _ hxo
    cases hd with
    | flush =>
      obtain ⟨a, b, c⟩ := hso.flush
      exact h.act_send hxo [] [] _ hx' hout hsub hnv (hdel.trans (List.append_nil _)) (hnvd.trans (List.append_nil _))
        (by rw [List.append_nil, List.append_nil]; exact a) b c
    | resend hr =>
      obtain ⟨a, b, c⟩ := hso.resend hc hr
      exact h.act_send hxo [] [] _ hx' hout hsub hnv (hdel.trans (List.append_nil _)) (hnvd.trans (List.append_nil _))
        (by rw [List.append_nil, List.append_nil]; exact a) b c
    | @send d v _ res _ hs =>
      have fin := fun ext extnv a b => h.act_send (o' := o') hxo ext extnv fl hx' hout
        a b (hdel.trans (List.append_nil _)) (hnvd.trans (List.append_nil _))
      rcases hso.send hs with ⟨rfl, rfl, rfl⟩ | ⟨rfl, r2, r3, r4, r5⟩
      · exact fin [] [] hsub hnv (by rw [List.append_nil, List.append_nil]; exact hso) (flsOk_nil _ _ _) rfl
      · cases v with
        | false => exact fin [] [d] hsub hnv (by simpa using r4 rfl) r2 r3
        | true =>
          -- a fresh core has nothing to resend; an online one is covered by H1
          have hq : o.resendQueue.length < 512 := by
            cases hph : g.ph with
            | pre => rw [hph] at ho; cases ho; exact Nat.zero_lt_succ _
            | on o1 => rw [hph] at ho; cases ho; exact hH1 o d hph rfl
            | off => rw [hph] at ho; cases ho
          exact fin [d] [] hsub hnv (by simpa using r5 rfl hq) r2 r3
    | receive hv hr =>
      obtain ⟨e, he, rfl, rfl, _, h2c⟩ := hH2 _ _ hv
      exact h.act_recv hc he hxo hr h2c hx' hout (hsub.trans (List.append_nil _)) (hnv.trans (List.append_nil _)) hdel hnvd
  | @acked g g' o o1 ack cs ps evs hv ho hfa _ ih =>
    intro x x' y h hx hx' hout hsub hnv hdel hnvd _ hH2
    obtain ⟨e, he, rfl, rfl, h2a, _⟩ := hH2 _ _ hv
    rw [ho] at hx
    have hacked := h.act_ack (x' := { x with st := some o1 }) he hx hfa h2a rfl rfl rfl rfl rfl rfl
    exact ih hacked rfl hx' hout hsub hnv hdel hnvd (fun _ _ _ hs => nomatch hs) hH2

theorem _root_.Tw.Conn.Online.Did.ready {cfg : Cfg} {now : Nat} {fed : Option (Nat × List Chunk)} {o o' : Online}
    {s s' : Timeout} {fl : List Flushed} {evs : List Event} {sub : List (Bytes × Bool)}
    (h : Online.Did cfg now fed o s o' s' fl evs sub) : readyCount evs = 0 := by
  cases h with
  | receive _ hr => exact readyCount_receive hr
  | _ => rfl

/-- **… and obeys the handshake clause**: `Ready` only once, on the peer's accept, by an endpoint that then is online -/
theorem _root_.Tw.Conn.GStep.hs {cfg : Cfg} {now : Nat} {fed : Option (Nat × List Chunk)} {acc : Bool} {g g' : GConn}
    {ps : List GPkt} {evs : List Event} {sub : List (Bytes × Bool)} (hd : GStep cfg now fed acc g g' ps evs sub) :
    (g.ph.late = true → g'.ph.late = true ∧ readyCount evs = 0) ∧
    (readyCount evs = 0 ∨ (readyCount evs = 1 ∧ g'.ph.late = true ∧ acc = true)) := by
  induction hd with
  | quiet hp _ _ hev => exact ⟨fun hl => ⟨hp.elim (fun e => e ▸ hl) (fun e => e ▸ rfl), hev.ready⟩, .inl hev.ready⟩
  | opened ha hg _ _ => exact ⟨fun hl => (by rw [hg] at hl; cases hl), .inr ⟨rfl, rfl, ha⟩⟩
  | online _ _ hd => exact ⟨fun _ => ⟨rfl, hd.ready⟩, .inl hd.ready⟩
  | acked _ _ _ _ ih => exact ⟨fun _ => ih.1 rfl, ih.2⟩

/-- what a protocol variant supplies: its view of connection and datagram, and that every returning call and delivery is
a `GStep` -/
structure Steps (P : Proto) (g : P.Conn → GConn) (pg : P.Packet → GPkt) (cfg : Cfg) : Prop where
  init : (g P.init).ph = .pre
  online : ∀ c o, (g c).ph = .on o → P.online c = some o
  view : ∀ p, (pg p).view = P.view p
  call : ∀ {now : Nat} {draws : List Nat} {c : P.Conn} {cl : Call} {r : Ret P.Conn P.Packet},
    P.call now draws c cl = .ok r →
      GStep cfg now none false (g c) (g r.conn) (r.sent.map pg) r.events (subOf cl r)
  recv : ∀ {now : Nat} {draws : List Nat} {c : P.Conn} {p : P.Packet} {alt : P.Alt} {r : Ret P.Conn P.Packet},
    P.recv now draws c p alt = .ok r →
      GStep cfg now (P.view p) (P.isAccept p) (g c) (g r.conn) (r.sent.map pg) r.events []

variable {P : Proto} {g : P.Conn → GConn} {pg : P.Packet → GPkt} {cfg : Cfg}

theorem subOf_single {C Pk : Type} {c : Call} {r : Ret C Pk} {d : Bytes} {v : Bool} (h : subOf c r = [(d, v)]) :
    c = .send d v := by
  cases c <;> simp only [subOf] at h <;> try cases h
  split at h <;> cases h
  rfl

theorem Steps.views (hs : Steps P g pg cfg) (ps : List P.Packet) :
    (ps.map pg).filterMap GPkt.view = ps.filterMap P.view := by
  rw [List.filterMap_map]
  exact congrArg (List.filterMap · ps) (funext hs.view)

theorem Steps.sim (hs : Steps P g pg cfg) (hc : cfg.Ok) : Sim P (fun c => (g c).ph.core) cfg where
  init := by rw [hs.init]; rfl
  call := fun now draws e c r y hr h hh1 => by
    obtain ⟨b1, b2, b3, b4, b5, b6⟩ := absEnd_book (core := fun c => (g c).ph.core) e r (subOf c r)
    refine (hs.call hr).ainv hc h rfl b1 (by rw [hs.views]; exact b2) b3 b4 b5 b6 ?_ (fun _ _ hv => nomatch hv)
    intro o d ho hsub
    exact hh1 d (subOf_single hsub) o (hs.online _ _ ho)
  recv := fun now draws e peer dg alt r hdg hr h h2 => by
    obtain ⟨b1, b2, b3, b4, b5, b6⟩ := absEnd_book (core := fun c => (g c).ph.core) e r []
    refine (hs.recv hr).ainv hc h rfl b1 (by rw [hs.views]; exact b2) b3 b4 b5 b6 (fun _ _ _ hs => nomatch hs) ?_
    intro ack cs hv
    exact ⟨_, mem_absEnd_out hdg hv, rfl, rfl, h2 ack cs hv⟩

theorem Steps.hs (hs : Steps P g pg cfg) : Hs P (fun c => (g c).ph.late) where
  call := fun _ _ _ _ _ hr => by
    obtain ⟨a, b⟩ := (hs.call hr).hs
    exact ⟨b.elim id (fun h => nomatch h.2.2), fun hl => (a hl).1⟩
  recv := fun _ _ _ _ _ _ hr => (hs.recv hr).hs

/-- **C01 for any variant whose calls and deliveries are `GStep`s**, from any world in which the two invariants hold -/
theorem Steps.safe (hs : Steps P g pg cfg) (hc : cfg.Ok) {w0 : World P} (hw : WInv P (fun c => (g c).ph.core) cfg w0)
    (hh : HInv P (fun c => (g c).ph.late) w0) (sched : List (Move P)) (w : World P)
    (hadm : admissible w0 sched = true) (hrun : run w0 sched = some w) : Safe w :=
  safe_of (run_inv (hs.sim hc) sched _ w hw hadm hrun) (run_hs hs.hs sched _ w hh hrun)

theorem Steps.safe_init (hs : Steps P g pg cfg) (hc : cfg.Ok) (sched : List (Move P)) (w : World P)
    (hadm : admissible (World.init P) sched = true) (hrun : run (World.init P) sched = some w) : Safe w :=
  hs.safe hc (init_inv (hs.sim hc)) init_hs sched w hadm hrun

end Tw.NetSim
