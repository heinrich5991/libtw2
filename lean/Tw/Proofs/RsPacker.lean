import Tw.Gen.RsPacker
import Tw.Model.Packer
import Tw.Proofs.RsSem

/-!
Equivalence of the functions translated from `packer/src/lib.rs` (`Tw.Gen.RsPacker`, regenerated
by `tools/rs2lean` on every run) with the hand-written model `Tw.Packer` the C08 theorems are about:
`to_bit` in full; of `write_int` the sign folding (`fold_eq`) and the `while` loop (`write_loop`), not
the glue that would give `write_int v out = out ++ writeInt v`; nothing of `read_int`.

Proof style: unfold the generated definition, split on the (finitely many) control paths, normalise
bit operations to arithmetic (`Tw.Proofs.RsSem`), close with `omega`.  Nothing depends on the
shape of the generated term beyond its meaning.
-/
namespace Tw.RsPacker
open Tw Tw.RsSem Tw.Packer Tw.Gen.RsPacker

theorem to_bit_eq (b : Bool) (bit : Nat) (h : bit < 8) :
    to_bit b bit = .ok (if b then 2 ^ bit else 0) := by
  unfold to_bit
  have h2 : (2:Nat) ^ bit < 2 ^ 8 := Nat.pow_lt_pow_right (by decide) h
  cases b <;> simp [RsSem.assert, h, shamtU, ushl, bind, Except.bind, pure, Except.pure, Nat.mod_eq_of_lt h2]

theorem to_bit_panics (b : Bool) (bit : Nat) (h : 8 ≤ bit) : ∃ p, to_bit b bit = .error p := by
  unfold to_bit
  have : ¬ bit < 8 := by omega
  simp [RsSem.assert, this, RsSem.panic, bind, Except.bind]

theorem or128 (b : Nat) (h : b < 128) : 128 ||| b = 128 + b := PacketBits.mul_pow_or 1 7 b h
theorem or64 (b : Nat) (h : b < 64) : 64 ||| b = 64 + b := PacketBits.mul_pow_or 1 6 b h
theorem or192 (b : Nat) (h : b < 64) : 192 ||| b = 192 + b := PacketBits.mul_pow_or 3 6 b h
theorem m63 (x : Nat) : x &&& 63 = x % 64 := Nat.and_two_pow_sub_one_eq_mod x 6
theorem m127 (x : Nat) : x &&& 127 = x % 128 := Nat.and_two_pow_sub_one_eq_mod x 7

/-- `(int ^ -sign) as u32` is the model's `foldSign` -/
theorem fold_eq (v : Int) (h : inI32 v) :
    castIU 32 (ixor 32 v (-(if v < 0 then 1 else 0))) = foldSign v := by
  have hi : inI 32 v := by simpa [inI, inI32] using h
  unfold foldSign castIU
  by_cases hv : v < 0
  · simp only [hv, if_true]; rw [ixor_neg_one sw32 v hi]
    simp only [inI32] at h; rw [toU_nonneg] <;> omega
  · simp only [hv, if_false]; rw [show (-(0:Int)) = 0 from rfl, ixor_zero sw32 v hi]
    simp only [inI32] at h; rw [toU_nonneg] <;> omega

theorem fuel_cons (k : Nat) : fuel k = () :: List.replicate k () := rfl

/-- loop state of the `while int != 0` loop as Lean's `do` notation orders it: `(buf, int, exited)` -/
abbrev WS := List UInt8 × Nat × Bool

/-- The `while` loop of `write_int`, for *any* loop body `f` that meets the step specification
(`hf0`: exit when `int == 0`; `hf1`: otherwise push one byte and shift by 7): with `m < 128^n` and room
for `n` bytes it appends `writeTail n m` and exits regularly (no fuel panic) whenever `n ≤ fuel`. -/
theorem write_loop (f : Unit → WS → Rs (ForInStep WS))
    (hf0 : ∀ (buf : List UInt8) (e : Bool), f () (buf, 0, e) = .ok (.done (buf, 0, true)))
    (hf1 : ∀ (buf : List UInt8) (m : Nat) (e : Bool), m ≠ 0 → buf.length < 5 →
      f () (buf, m, e) =
        .ok (.yield (buf ++ [UInt8.ofNat ((if m / 128 ≠ 0 then 128 else 0) + m % 128)], m / 128, e))) :
    ∀ (n k : Nat) (buf : List UInt8) (m : Nat), n ≤ k → m < 128 ^ n → buf.length + n ≤ 5 →
      forIn (fuel k) (buf, m, false) f = .ok (buf ++ writeTail n m, 0, true) := by
  intro n
  induction n with
  | zero =>
    intro k buf m _ hm _
    have : m = 0 := by simpa using hm
    subst this
    rw [fuel_cons, List.forIn_cons, hf0]
    simp [writeTail, bind, Except.bind, pure, Except.pure]
  | succ n ih =>
    intro k buf m hk hm hb
    obtain ⟨k', rfl⟩ : ∃ k', k = k' + 1 := ⟨k - 1, by omega⟩
    by_cases h0 : m = 0
    · subst h0
      rw [fuel_cons, List.forIn_cons, hf0]
      simp [writeTail, bind, Except.bind, pure, Except.pure]
    · have hm' : m / 128 < 128 ^ n := by
        rw [Nat.div_lt_iff_lt_mul (by decide : 0 < 128)]
        rw [Nat.pow_succ] at hm; exact hm
      rw [fuel_cons, List.forIn_cons, hf1 buf m false h0 (by omega)]
      simp only [bind, Except.bind]
      show forIn (fuel k') _ f = _
      rw [ih k' _ (m / 128) (by omega) hm' (by simp; omega)]
      simp [writeTail, h0]

end Tw.RsPacker
