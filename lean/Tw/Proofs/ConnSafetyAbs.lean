import Tw.Proofs.ConnSafety

/-!
# C01: the safety invariant on the protocol-independent view of two endpoints

An endpoint is seen as `AEnd`: its online core (`some Online.new` while it has not been online yet,
`none` once it is disconnected), the acks and chunks of every datagram it sent (with the stamps) and
its four logs.  `DirInv cfg x y` is the invariant of the direction in which `x` submits vital chunks
and `y` is handed them; `AInv` is both directions.  The theorems `AInv.*` say that every kind of
thing an endpoint can do (emit control datagrams / die, flush / resend / send, process an ack,
process a chunk packet) preserves it; `GStep.ainv` of `Tw.Proofs.ConnSafetyStep` shows that every
returning call of either variant is one of these, or `act_ack` followed by one of them.
-/
namespace Tw.NetSim
open Tw.Conn Tw.Time

structure AEnt where
  ack : Nat
  chunks : List Chunk
  /-- vital chunks the sender had submitted at the start of the call that emitted the datagram (the non-wrapping
  `sequence`) -/
  nStamp : Nat
  /-- vital chunks the sender had been handed by then (the non-wrapping `ack`) -/
  dStamp : Nat

def AEnt.fl (e : AEnt) : Flushed := ⟨e.ack, false, 0, e.chunks⟩

structure AEnd where
  st : Option Online
  out : List AEnt
  /-- the four logs: vital and non-vital payloads submitted (`send` accepted), then those handed to the application -/
  sub : List Bytes
  nv : List Bytes
  del : List Bytes
  nvDel : List Bytes

/-- the entries for chunk packets emitted now -/
def astamp (x : AEnd) (fl : List Flushed) : List AEnt :=
  fl.map fun f => ⟨f.ack, f.chunks, x.sub.length, x.del.length⟩

/-- direction `x → y`: `x` submits, `y` is handed -/
structure DirInv (cfg : Cfg) (x y : AEnd) : Prop where
  pre : y.del = x.sub.take y.del.length
  dle : y.del.length ≤ x.sub.length
  win : x.sub.length ≤ y.del.length + 512
  nvd : ∀ d ∈ y.nvDel, d ∈ x.nv
  snd : ∀ o, x.st = some o → SendOk cfg o x.sub x.nv y.del.length
  rcv : ∀ o, y.st = some o → o.ack = y.del.length % 1024
  net : ∀ e ∈ x.out, e.nStamp ≤ x.sub.length ∧ FlOk x.sub e.nStamp e.fl ∧ NvOk x.nv e.chunks
  acks : ∀ e ∈ y.out, e.ack = e.dStamp % 1024 ∧ e.dStamp ≤ y.del.length

def AInv (cfg : Cfg) (x y : AEnd) : Prop := DirInv cfg x y ∧ DirInv cfg y x

theorem AInv.symm {cfg : Cfg} {x y : AEnd} (h : AInv cfg x y) : AInv cfg y x := ⟨h.2, h.1⟩

def AEnd.init : AEnd := ⟨some .new, [], [], [], [], []⟩

theorem AInv.init (cfg : Cfg) : AInv cfg .init .init := by
  have : DirInv cfg .init .init := by
    refine ⟨rfl, Nat.le_refl _, by simp [AEnd.init], by simp [AEnd.init], ?_, ?_, by simp [AEnd.init], by simp [AEnd.init]⟩
    · intro o ho; simp [AEnd.init] at ho; subst ho; exact SendOk.new cfg
    · intro o ho; simp [AEnd.init] at ho; subst ho; rfl
  exact ⟨this, this⟩

/-- `x` acts without being handed anything: the direction in which it receives -/
theorem DirInv.frame_recv {cfg : Cfg} {x y x' : AEnd} (h : DirInv cfg y x) (news : List AEnt)
    (hdel : x'.del = x.del) (hnvd : x'.nvDel = x.nvDel)
    (hst : ∀ o', x'.st = some o' → ∃ o, x.st = some o ∧ o'.ack = o.ack)
    (hout : x'.out = x.out ++ news)
    (hnews : ∀ e ∈ news, e.dStamp = x.del.length ∧ ∃ o, x.st = some o ∧ e.ack = o.ack) :
    DirInv cfg y x' := by
  refine ⟨by rw [hdel]; exact h.pre, by rw [hdel]; exact h.dle, by rw [hdel]; exact h.win,
    by rw [hnvd]; exact h.nvd, by rw [hdel]; exact h.snd, ?_, h.net, ?_⟩
  · intro o' ho'
    obtain ⟨o, ho, ha⟩ := hst o' ho'
    rw [ha, hdel]; exact h.rcv o ho
  · rw [hout, hdel]
    intro e he
    rcases List.mem_append.mp he with he | he
    · exact h.acks e he
    · obtain ⟨e1, o, ho, ea⟩ := hnews e he
      rw [ea, e1]
      exact ⟨h.rcv o ho, Nat.le_refl _⟩

/-- `x` acts: the direction in which it sends -/
theorem DirInv.frame_send {cfg : Cfg} {x y x' : AEnd} (h : DirInv cfg x y) (ext extnv : List Bytes)
    (news : List AEnt) (hsub : x'.sub = x.sub ++ ext) (hnv : x'.nv = x.nv ++ extnv)
    (hwin : (x.sub ++ ext).length ≤ y.del.length + 512)
    (hst : ∀ o', x'.st = some o' → SendOk cfg o' (x.sub ++ ext) (x.nv ++ extnv) y.del.length)
    (hout : x'.out = x.out ++ news)
    (hnews : ∀ e ∈ news, e.nStamp = x.sub.length ∧ FlOk x.sub x.sub.length e.fl ∧ NvOk x.nv e.chunks) :
    DirInv cfg x' y := by
  refine ⟨?_, ?_, by rw [hsub]; exact hwin, ?_, by rw [hsub, hnv]; exact hst, h.rcv, ?_, h.acks⟩
  · rw [hsub, List.take_append_of_le_length h.dle]; exact h.pre
  · rw [hsub]; have := h.dle; simp; omega
  · rw [hnv]; intro d hd; exact List.mem_append_left _ (h.nvd d hd)
  · rw [hout, hsub, hnv]
    intro e he
    rcases List.mem_append.mp he with he | he
    · obtain ⟨a, b, c⟩ := h.net e he
      exact ⟨by simp; omega, b.mono _, c.mono _⟩
    · obtain ⟨a, b, c⟩ := hnews e he
      rw [a]
      exact ⟨by simp, b.mono _, c.mono _⟩

/-- control datagrams (no chunks, the current ack), a handshake step that does not touch the online
core, or the end of the connection -/
theorem AInv.quiet {cfg : Cfg} {x y x' : AEnd} (h : AInv cfg x y) (news : List AEnt)
    (hst : x'.st = x.st ∨ x'.st = none) (hout : x'.out = x.out ++ news)
    (hsub : x'.sub = x.sub) (hnv : x'.nv = x.nv) (hdel : x'.del = x.del) (hnvd : x'.nvDel = x.nvDel)
    (hnews : ∀ e ∈ news, e.chunks = [] ∧ e.nStamp = x.sub.length ∧ e.dStamp = x.del.length ∧
      ∃ o, x.st = some o ∧ e.ack = o.ack) :
    AInv cfg x' y := by
  obtain ⟨hxy, hyx⟩ := h
  constructor
  · refine hxy.frame_send [] [] news (by simpa using hsub) (by simpa using hnv) (by simpa using hxy.win) ?_ hout ?_
    · intro o' ho'
      rcases hst with hst | hst
      · rw [hst] at ho'; simpa using hxy.snd o' ho'
      · rw [hst] at ho'; cases ho'
    · intro e he
      obtain ⟨a, b, _, _⟩ := hnews e he
      refine ⟨b, ?_, ?_⟩
      · intro c hc; simp [AEnt.fl, a] at hc
      · intro c hc; simp [a] at hc
  · refine hyx.frame_recv news hdel hnvd ?_ hout ?_
    · intro o' ho'
      rcases hst with hst | hst
      · rw [hst] at ho'; exact ⟨o', ho', rfl⟩
      · rw [hst] at ho'; cases ho'
    · intro e he
      obtain ⟨_, _, c, d⟩ := hnews e he
      exact ⟨c, d⟩

/-- flush / resend / send: the online core changes on its sending side only, chunk packets go out,
possibly one chunk is submitted -/
theorem AInv.act_send {cfg : Cfg} {x y x' : AEnd} (h : AInv cfg x y) {o o' : Online} (hx : x.st = some o)
    (ext extnv : List Bytes) (fl : List Flushed)
    (hst : x'.st = some o') (hout : x'.out = x.out ++ astamp x fl)
    (hsub : x'.sub = x.sub ++ ext) (hnv : x'.nv = x.nv ++ extnv) (hdel : x'.del = x.del) (hnvd : x'.nvDel = x.nvDel)
    (hok : SendOk cfg o' (x.sub ++ ext) (x.nv ++ extnv) y.del.length)
    (hfl : FlsOk x.sub x.nv o.ack fl) (hack : o'.ack = o.ack) :
    AInv cfg x' y := by
  obtain ⟨hxy, hyx⟩ := h
  constructor
  · refine hxy.frame_send ext extnv (astamp x fl) hsub hnv ?_ ?_ hout ?_
    · have := hok.qwin; have := hok.qlen; omega
    · intro o'' ho''
      rw [hst] at ho''; injection ho'' with ho''; subst ho''; exact hok
    · intro e he
      simp only [astamp, List.mem_map] at he
      obtain ⟨f, hf, rfl⟩ := he
      exact ⟨rfl, (hfl f hf).1, (hfl f hf).2.1⟩
  · refine hyx.frame_recv (astamp x fl) hdel hnvd ?_ hout ?_
    · intro o'' ho''
      rw [hst] at ho''; injection ho'' with ho''; subst ho''
      exact ⟨o, hx, hack⟩
    · intro e he
      simp only [astamp, List.mem_map] at he
      obtain ⟨f, hf, rfl⟩ := he
      exact ⟨rfl, o, hx, (hfl f hf).2.2⟩

/-- the ack of a datagram of the peer's history is processed (H2, ack part) -/
theorem AInv.act_ack {cfg : Cfg} {x y x' : AEnd} (h : AInv cfg x y) {e : AEnt} (he : e ∈ y.out)
    {o o1 : Online} (hx : x.st = some o) (hfa : o.feedAck e.ack = .ok o1)
    (h2 : x.sub.length < unwrap e.dStamp e.ack + 1024)
    (hst : x'.st = some o1) (hout : x'.out = x.out)
    (hsub : x'.sub = x.sub) (hnv : x'.nv = x.nv) (hdel : x'.del = x.del) (hnvd : x'.nvDel = x.nvDel) :
    AInv cfg x' y := by
  have hxy := h.1
  obtain ⟨ea, ed⟩ := hxy.acks e he
  have hu : unwrap e.dStamp e.ack = e.dStamp := unwrap_eq (Nat.le_refl _) (by omega) ea
  rw [hu] at h2
  have ho1 := (Online.feedAck_eq hfa).2
  rw [ea] at ho1
  obtain ⟨sok, sack⟩ := (hxy.snd o hx).ack hxy.dle ed h2
  rw [← ho1] at sok sack
  exact h.act_send hx [] [] [] hst (by simpa [astamp] using hout) (by simpa using hsub) (by simpa using hnv) hdel hnvd
    (by simpa using sok) (flsOk_nil _ _ _) sack

/-- a chunk packet of the peer's history is processed after its ack (H2, sequence part): the
application is handed the next chunks of the peer, in order -/
theorem AInv.act_recv {cfg : Cfg} (hc : cfg.Ok) {x y x' : AEnd} (h : AInv cfg x y) {e : AEnt} (he : e ∈ y.out)
    {o o2 : Online} {now : Nat} {send send2 : Timeout} {rr : Bool} {fl : List Flushed} {evs : List Event}
    (hx : x.st = some o) (hr : o.receive cfg now send rr e.chunks = .ok (o2, send2, fl, evs))
    (h2 : ∀ c ∈ e.chunks, ∀ s r, c.vital = some (s, r) → x.del.length + 1 < unwrap e.nStamp s + 1024)
    (hst : x'.st = some o2) (hout : x'.out = x.out ++ astamp x fl)
    (hsub : x'.sub = x.sub) (hnv : x'.nv = x.nv)
    (hdel : x'.del = x.del ++ vitalPayloads evs) (hnvd : x'.nvDel = x.nvDel ++ nonvitalPayloads evs) :
    AInv cfg x' y := by
  obtain ⟨hxy, hyx⟩ := h
  have hs := hxy.snd o hx
  obtain ⟨s2ok, flok, rr0, hack2, hevs⟩ := hs.receive hc hr
  obtain ⟨en1, en2, en3⟩ := hyx.net e he
  have hoack := hyx.rcv o hx
  have hcs : ∀ c ∈ e.chunks, ∀ seq r, c.vital = some (seq, r) →
      ∃ k, k < e.nStamp ∧ e.nStamp ≤ k + 767 ∧ x.del.length < k + 1024 ∧ IsChunk y.sub k seq c.data := by
    intro c hcm seq r hv
    obtain ⟨k, k1, k2, k3⟩ := en2 c hcm seq r hv
    have := h2 c hcm seq r hv
    rw [unwrap_eq (q := k + 1) (by omega) (by omega) k3.2] at this
    exact ⟨k, k1, k2, by omega, k3⟩
  obtain ⟨m, m1, m2, m3⟩ := receive_tight y.sub e.nStamp x.del.length (Nat.le_trans en1 hyx.win) e.chunks
    x.del.length rr0 (Nat.le_refl _) (Or.inl rfl) hyx.dle hcs
  rw [← hoack] at m2 m3
  rw [← hevs] at m2
  have hlen : (vitalPayloads evs).length = m := by
    rw [m2, List.length_take, List.length_drop]; omega
  constructor
  · -- x as sender: only the resend inside `receive`
    refine hxy.frame_send [] [] (astamp x fl) (by simpa using hsub) (by simpa using hnv) (by simpa using hxy.win) ?_ hout ?_
    · intro o'' ho''
      rw [hst] at ho''; injection ho'' with ho''; subst ho''; simpa using s2ok
    · intro e' he'
      simp only [astamp, List.mem_map] at he'
      obtain ⟨f, hf, rfl⟩ := he'
      exact ⟨rfl, (flok f hf).1, (flok f hf).2.1⟩
  · -- x as receiver
    refine ⟨?_, ?_, ?_, ?_, ?_, ?_, hyx.net, ?_⟩
    · rw [hdel, List.length_append, hlen, m2, List.take_add, ← hyx.pre]
    · rw [hdel, List.length_append, hlen]; exact m1
    · rw [hdel, List.length_append, hlen]; have := hyx.win; omega
    · rw [hnvd]
      intro d hd
      rcases List.mem_append.mp hd with hd | hd
      · exact hyx.nvd d hd
      · rw [hevs] at hd
        obtain ⟨c, hcm, hv, rfl⟩ := nonvital_mem _ _ d hd
        exact en3 c hcm hv
    · intro oy hoy
      rw [hdel, List.length_append, hlen]
      exact (hyx.snd oy hoy).mono (by omega)
    · intro o'' ho''
      rw [hst] at ho''; injection ho'' with ho''; subst ho''
      rw [hdel, List.length_append, hlen, hack2]; exact m3
    · rw [hout, hdel, List.length_append, hlen]
      intro e' he'
      rcases List.mem_append.mp he' with he' | he'
      · obtain ⟨a, b⟩ := hyx.acks e' he'
        exact ⟨a, by omega⟩
      · simp only [astamp, List.mem_map] at he'
        obtain ⟨f, hf, rfl⟩ := he'
        simp only
        exact ⟨by rw [(flok f hf).2.2]; exact hoack, by omega⟩

/-- what C01 says, read off the invariant -/
theorem AInv.safe {cfg : Cfg} {x y : AEnd} (h : AInv cfg x y) :
    y.del <+: x.sub ∧ x.del <+: y.sub ∧ (∀ d ∈ y.nvDel, d ∈ x.nv) ∧ (∀ d ∈ x.nvDel, d ∈ y.nv) := by
  refine ⟨?_, ?_, h.1.nvd, h.2.nvd⟩
  · rw [h.1.pre]; exact List.take_prefix _ _
  · rw [h.2.pre]; exact List.take_prefix _ _

end Tw.NetSim
