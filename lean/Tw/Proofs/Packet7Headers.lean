import Tw.Model.Packet7
import Tw.Proofs.PacketBits

/-! Header codecs of protocol7.rs (0.7): arithmetic forms of pack/unpack (`*_pack_eq`, `*_unpack_eq`, from the
extracted masks via the generic bit-field lemmas) and the round trips unpack ∘ pack on the packed bytes
(`*_unpack_packed`), which the reader and the chunk codec use.  `Props/C05` proves pack ∘ unpack from the same
arithmetic forms. -/
namespace Tw.Packet7
open Tw.Packet Tw.PacketBits Tw.Gen.Packet7

theorem ph_pack_eq (h : PacketHeader) (hf : h.flags < 16) (ha : h.ack < 1024) :
    h.pack = some (h.flags * 4 + h.ack / 256, h.ack % 256, h.numChunks) := by
  simp only [PacketHeader.pack, PACKET_FLAGS_BITS, SEQUENCE_BITS, PacketHeader_pack_2, PacketHeader_pack_3,
    Nat.shiftRight_eq_zero h.flags 4 hf, Nat.shiftRight_eq_zero h.ack 10 ha, ne_eq, not_true, or_self, if_false,
    Nat.shiftLeft_eq, Nat.shiftRight_eq_div_pow, Nat.reducePow]
  have hq : h.ack / 256 < 4 := Nat.div_lt_of_lt_mul ha
  rw [Nat.mod_eq_of_lt (Nat.lt_trans ((Nat.mul_lt_mul_right (show 0 < 4 by decide)).mpr hf) (by decide)), Nat.mod_eq_of_lt (Nat.lt_trans hq (by decide)),
    mul_pow_or h.flags 2 _ hq]

theorem ph_unpack_eq (b0 b1 b2 : Nat) (tok : Token) (h1 : b1 < 256) :
    PacketHeader.unpackWarn b0 b1 b2 tok =
      ({ flags := b0 / 4 % 16, ack := b0 % 4 * 256 + b1, numChunks := b2, token := tok },
       if b0 / 64 % 4 ≠ 0 then [.packetHeaderPadding] else []) := by
  simp only [PacketHeader.unpackWarn, PacketHeaderPacked_unpack_warn_0, PacketHeaderPacked_unpack_warn_2,
    PacketHeaderPacked_unpack_warn_3, PacketHeaderPacked_unpack_warn_4, PacketHeaderPacked_unpack_warn_5,
    and_60, and_3, and_192, Nat.shiftLeft_eq, Nat.shiftRight_eq_div_pow, Nat.reducePow,
    Nat.mul_div_left _ (show 0 < 4 by decide), mul_pow_or _ 8 b1 h1, ne_eq, Nat.mul_eq_zero, Nat.reduceEqDiff,
    or_false]

/-- what `pack` produces (`ph_pack_eq`) are bytes, and they unpack to `h` without a warning -/
theorem ph_unpack_packed (h : PacketHeader) (hf : h.flags < 16) (ha : h.ack < 1024) :
    h.flags * 4 + h.ack / 256 < 256 ∧ h.ack % 256 < 256 ∧
      PacketHeader.unpackWarn (h.flags * 4 + h.ack / 256) (h.ack % 256) h.numChunks h.token = (h, []) := by
  have hc : h.ack / 256 < 4 := Nat.div_lt_of_lt_mul ha
  have hm : h.ack % 256 < 256 := Nat.mod_lt _ (by decide)
  have hb : h.flags * 4 + h.ack / 256 < 64 := join_lt _ _ 4 16 hf hc
  refine ⟨Nat.lt_trans hb (by decide), hm, ?_⟩
  rw [ph_unpack_eq _ _ _ _ hm, join_div _ _ _ hc, join_mod _ _ _ hc, Nat.mod_eq_of_lt hf, Nat.div_add_mod',
    Nat.div_eq_of_lt hb]
  rfl

theorem phc_pack_eq (h : PacketHeaderConnless) (hf : h.flags < 16) (hv : h.version < 4) :
    h.pack = some (h.flags * 4 + h.version) := by
  simp only [PacketHeaderConnless.pack, PACKET_FLAGS_BITS, VERSION_BITS, PacketHeaderConnless_pack_2,
    Nat.shiftRight_eq_zero h.flags 4 hf, Nat.shiftRight_eq_zero h.version 2 hv, ne_eq, not_true, or_self, if_false,
    Nat.shiftLeft_eq, Nat.reducePow]
  rw [Nat.mod_eq_of_lt (Nat.lt_trans ((Nat.mul_lt_mul_right (show 0 < 4 by decide)).mpr hf) (by decide)),
    mul_pow_or h.flags 2 _ hv]

theorem phc_unpack_eq (b0 : Nat) (tok rt : Token) :
    PacketHeaderConnless.unpackWarn b0 tok rt =
      ({ flags := b0 / 4 % 16, version := b0 % 4, token := tok, responseToken := rt },
       if b0 / 64 % 4 ≠ 0 then [.packetHeaderPadding] else []) := by
  simp only [PacketHeaderConnless.unpackWarn, PacketHeaderConnlessPacked_unpack_warn_0,
    PacketHeaderConnlessPacked_unpack_warn_2, PacketHeaderConnlessPacked_unpack_warn_3,
    PacketHeaderConnlessPacked_unpack_warn_4, and_60, and_3, and_192, Nat.shiftRight_eq_div_pow, Nat.reducePow,
    Nat.mul_div_left _ (show 0 < 4 by decide), ne_eq, Nat.mul_eq_zero, Nat.reduceEqDiff, or_false]

theorem phc_unpack_packed (h : PacketHeaderConnless) (hf : h.flags < 16) (hv : h.version < 4) :
    h.flags * 4 + h.version < 256 ∧
      PacketHeaderConnless.unpackWarn (h.flags * 4 + h.version) h.token h.responseToken = (h, []) := by
  have hb : h.flags * 4 + h.version < 64 := join_lt _ _ 4 16 hf hv
  refine ⟨Nat.lt_trans hb (by decide), ?_⟩
  rw [phc_unpack_eq, join_div _ _ _ hv, join_mod _ _ _ hv, Nat.mod_eq_of_lt hf, Nat.div_eq_of_lt hb]
  rfl

theorem ch_pack_eq (h : ChunkHeader) (hf : h.flags < 4) (hs : h.size < 4096) :
    chunkHeaderPack h = some (h.flags * 64 + h.size / 64, h.size % 64) := by
  simp only [chunkHeaderPack, CHUNK_FLAGS_BITS, CHUNK_SIZE_BITS, ChunkHeader_pack_2, ChunkHeader_pack_3,
    ChunkHeader_pack_4, ChunkHeader_pack_5, ChunkHeader_pack_6, Nat.shiftRight_eq_zero h.flags 2 hf,
    Nat.shiftRight_eq_zero h.size 12 hs, ne_eq, not_true, or_self, if_false, and_3, and_4032, and_63,
    Nat.shiftLeft_eq, Nat.shiftRight_eq_div_pow, Nat.reducePow, Nat.mul_div_left _ (show 0 < 64 by decide)]
  have hq : h.size / 64 < 64 := Nat.div_lt_of_lt_mul hs
  rw [Nat.mod_eq_of_lt hf, Nat.mod_eq_of_lt hq, Nat.mod_eq_of_lt ((Nat.mul_lt_mul_right (show 0 < 64 by decide)).mpr hf),
    Nat.mod_eq_of_lt (Nat.lt_trans hq (by decide)),
    Nat.mod_eq_of_lt (Nat.lt_trans (Nat.mod_lt h.size (show 0 < 64 by decide)) (by decide)), mul_pow_or h.flags 6 _ hq]

/-- The padding test is on two bits: the extracted mask is `0b1100_0000`, the D1 repair of `protocol7.rs` (DESIGN.md §4). -/
theorem ch_unpack_eq (b0 b1 : Nat) :
    chunkHeaderUnpackWarn b0 b1 =
      ({ flags := b0 / 64 % 4, size := b0 % 64 * 64 + b1 % 64 },
       if b1 / 64 % 4 ≠ 0 then [.chunkHeaderPadding] else []) := by
  simp only [chunkHeaderUnpackWarn, ChunkHeaderPacked_unpack_warn_0, ChunkHeaderPacked_unpack_warn_2,
    ChunkHeaderPacked_unpack_warn_3, ChunkHeaderPacked_unpack_warn_4, ChunkHeaderPacked_unpack_warn_5,
    ChunkHeaderPacked_unpack_warn_6, and_192, and_63, Nat.shiftLeft_eq, Nat.shiftRight_eq_div_pow, Nat.reducePow,
    Nat.mul_div_left _ (show 0 < 64 by decide), mul_pow_or _ 6 _ (Nat.mod_lt b1 (show 0 < 64 by decide)), ne_eq,
    Nat.mul_eq_zero, Nat.reduceEqDiff, or_false]

theorem ch_unpack_packed (h : ChunkHeader) (hf : h.flags < 4) (hs : h.size < 4096) :
    h.flags * 64 + h.size / 64 < 256 ∧ h.size % 64 < 256 ∧
      chunkHeaderUnpackWarn (h.flags * 64 + h.size / 64) (h.size % 64) = (h, []) := by
  have hq : h.size / 64 < 64 := Nat.div_lt_of_lt_mul hs
  have hm : h.size % 64 < 64 := Nat.mod_lt _ (by decide)
  refine ⟨join_lt _ _ 64 4 hf hq, Nat.lt_trans hm (by decide), ?_⟩
  rw [ch_unpack_eq, join_div _ _ _ hq, join_mod _ _ _ hq, Nat.mod_eq_of_lt hf, Nat.mod_mod, Nat.div_add_mod',
    Nat.div_eq_of_lt hm]
  rfl

theorem chv_pack_eq (v : ChunkHeaderVital) (hf : v.h.flags < 4) (hs : v.h.size < 4096)
    (hq : v.sequence < 1024) :
    chunkHeaderVitalPack v =
      some (v.h.flags * 64 + v.h.size / 64, v.sequence / 256 * 64 + v.h.size % 64, v.sequence % 256) := by
  simp only [chunkHeaderVitalPack, SEQUENCE_BITS, ChunkHeaderVital_pack_1, ChunkHeaderVital_pack_2,
    ChunkHeaderVital_pack_3, ChunkHeaderVital_pack_4, Nat.shiftRight_eq_zero _ 10 hq, ne_eq, not_true, if_false,
    ch_pack_eq v.h hf hs, and_63, and_768, and_255, Nat.mod_mod, Nat.shiftRight_eq_div_pow, Nat.reducePow]
  have h4 : v.sequence / 256 < 4 := Nat.div_lt_of_lt_mul hq
  have e : v.sequence / 256 * 256 / 4 = v.sequence / 256 * 64 := Nat.mul_div_assoc _ (by decide)
  rw [Nat.mod_eq_of_lt h4, e, Nat.mod_eq_of_lt ((Nat.mul_lt_mul_right (show 0 < 64 by decide)).mpr h4),
    or_mul_pow _ 6 _ (Nat.mod_lt _ (by decide))]

theorem chv_unpack_eq (b0 b1 b2 : Nat) (h2 : b2 < 256) :
    chunkHeaderVitalUnpackWarn b0 b1 b2 =
      ({ h := { flags := b0 / 64 % 4, size := b0 % 64 * 64 + b1 % 64 },
         sequence := b1 / 64 % 4 * 256 + b2 }, []) := by
  simp only [chunkHeaderVitalUnpackWarn, ChunkHeaderVitalPacked_unpack_warn_0, ChunkHeaderVitalPacked_unpack_warn_1,
    ChunkHeaderVitalPacked_unpack_warn_2, ChunkHeaderVitalPacked_unpack_warn_3, ch_unpack_eq, and_63, and_192,
    and_255, Nat.mod_mod, Nat.shiftLeft_eq, Nat.reducePow, Nat.mod_eq_of_lt h2,
    Nat.div_eq_of_lt (Nat.mod_lt b1 (show 0 < 64 by decide)), Nat.zero_mod, ne_eq, not_true, if_false,
    Nat.mul_assoc, Nat.reduceMul, mul_pow_or _ 8 b2 h2]

theorem chv_unpack_packed (v : ChunkHeaderVital) (hf : v.h.flags < 4) (hs : v.h.size < 4096)
    (hq : v.sequence < 1024) :
    v.h.flags * 64 + v.h.size / 64 < 256 ∧ v.sequence / 256 * 64 + v.h.size % 64 < 256 ∧ v.sequence % 256 < 256 ∧
      chunkHeaderVitalUnpackWarn (v.h.flags * 64 + v.h.size / 64) (v.sequence / 256 * 64 + v.h.size % 64)
        (v.sequence % 256) = (v, []) := by
  have hs' : v.h.size / 64 < 64 := Nat.div_lt_of_lt_mul hs
  have hm : v.h.size % 64 < 64 := Nat.mod_lt _ (by decide)
  have hq' : v.sequence / 256 < 4 := Nat.div_lt_of_lt_mul hq
  have h2 : v.sequence % 256 < 256 := Nat.mod_lt _ (by decide)
  refine ⟨join_lt _ _ 64 4 hf hs', join_lt _ _ 64 4 hq' hm, h2, ?_⟩
  rw [chv_unpack_eq _ _ _ h2, join_div _ _ _ hs', join_mod _ _ _ hs', join_div _ _ _ hm, join_mod _ _ _ hm,
    Nat.mod_eq_of_lt hf, Nat.div_add_mod', Nat.mod_eq_of_lt hq', Nat.div_add_mod']

end Tw.Packet7
