import Tw.Proofs.Huffman
import Tw.Model.HuffmanStream

/-! The compressor in the form of the Rust code (`compress_impl_unsafe`, model `compressStreamInto`)
computes the spec form (`compressInto`) for well-formed tables: same bytes, capacity error exactly
when they do not fit, never a panic.  A state denotes the bits `written` so far; a symbol appends
its code to them, and the capacity error says only how long that bit string is. -/
namespace Tw.Huffman

def SState.bits (st : SState) : List Bool := written st.out st.nob st.byte

def SState.Inv (st : SState) : Prop := st.nob < 8 ∧ st.byte < 2 ^ st.nob

theorem SState.bits_length (st : SState) : st.bits.length = 8 * st.out.length + st.nob :=
  written_length ..

theorem streamWhole_written (cap bits nb : Nat) (hnb : nb ≤ 31) (fuel : Nat) :
    ∀ (bw : Nat) (out : List UInt8), bw ≤ nb → nb - bw < 8 * fuel → out.length ≤ cap →
      match streamWhole cap bits nb fuel bw out with
      | some (some (bw', out')) => bw' ≤ nb ∧ nb - bw' < 8 ∧ out'.length ≤ cap ∧
          written out' (nb - bw') (bits / 2 ^ bw') = written out (nb - bw) (bits / 2 ^ bw)
      | some none => 8 * (cap + 1) ≤ 8 * out.length + (nb - bw)
      | none => False := by
  induction fuel with
  | zero => intro bw out _ hf; omega
  | succ f ih =>
    intro bw out hbw hf hout
    rw [streamWhole]
    by_cases h8 : nb - bw ≥ 8
    · rw [if_pos h8, if_neg (by omega)]
      by_cases hc : out.length ≥ cap
      · rw [if_pos hc]
        show 8 * (cap + 1) ≤ _
        omega
      · rw [if_neg hc]
        have := ih (bw + 8) (UInt8.ofNat ((bits / 2 ^ bw) % 256) :: out) (by omega) (by omega)
          (by rw [List.length_cons]; omega)
        have hw : written (UInt8.ofNat ((bits / 2 ^ bw) % 256) :: out) (nb - (bw + 8))
            (bits / 2 ^ (bw + 8)) = written out (nb - bw) (bits / 2 ^ bw) := by
          rw [Nat.pow_add, ← Nat.div_div_eq_div_mul, written_byte, Nat.sub_add_eq,
            Nat.add_sub_cancel' h8]
        revert this
        split
        · rintro ⟨a, b, c, d⟩; exact ⟨a, b, c, d.trans hw⟩
        · rw [List.length_cons]
          intro h
          omega
        · exact id
    · rw [if_neg h8]
      exact ⟨hbw, by omega, hout, rfl⟩

/-- the byte under construction takes the low `m` bits of the code -/
theorem shift_mod (bits nob m : Nat) (hm : nob + m = 8) :
    (bits * 2 ^ nob) % 256 = (bits % 2 ^ m) <<< nob := by
  have : (256 : Nat) = 2 ^ m * 2 ^ nob := by rw [← Nat.pow_add, Nat.add_comm, hm]
  rw [this, Nat.mul_mod_mul_right, Nat.shiftLeft_eq]

theorem streamSym_written (t : Table) (cap : Nat) (st : SState) (s : Nat) (hI : st.Inv)
    (hl : symLen t s ≤ 24) (hb : symBits t s < 2 ^ symLen t s) (hout : st.out.length ≤ cap) :
    match streamSym t cap st s with
    | .ok st' => st'.Inv ∧ st'.out.length ≤ cap ∧ st'.bits = st.bits ++ codeBits t s
    | .capacity => 8 * (cap + 1) ≤ st.bits.length + symLen t s
    | .panic => False := by
  obtain ⟨hn, hbyte⟩ := hI
  rw [streamSym, if_neg (by omega)]
  by_cases hfull : symLen t s ≥ 8 - st.nob
  · -- a byte is completed: the pending bits and the first `m` bits of the code
    simp only [hfull, if_true]
    by_cases hc : st.out.length ≥ cap
    · rw [if_pos hc]
      show 8 * (cap + 1) ≤ _
      rw [st.bits_length]
      omega
    · rw [if_neg hc]
      generalize hm : 8 - st.nob = m at hfull ⊢
      replace hm : st.nob + m = 8 := hm ▸ Nat.add_sub_cancel' (Nat.le_of_lt hn)
      have hw := streamWhole_written cap (symBits t s) (symLen t s) (by omega) 40 m
        (UInt8.ofNat (st.byte ||| ((symBits t s * 2 ^ st.nob) % 256)) :: st.out) hfull (by omega)
        (by rw [List.length_cons]; omega)
      generalize streamWhole cap (symBits t s) (symLen t s) 40 m _ = R at hw ⊢
      match R, hw with
      | none, hw => exact hw
      | some none, hw =>
        rw [List.length_cons] at hw
        show 8 * (cap + 1) ≤ _
        rw [st.bits_length]
        omega
      | some (some (bw, out')), ⟨a, b, c, d⟩ =>
        simp only
        rw [if_neg (by omega)]
        have hrem : symBits t s / 2 ^ bw < 2 ^ (symLen t s - bw) :=
          div_two_pow_lt (by rwa [Nat.sub_add_cancel a])
        have hmod : symBits t s / 2 ^ bw % 256 = symBits t s / 2 ^ bw :=
          Nat.mod_eq_of_lt (lt_two_pow_of_le (b := 8) hrem (Nat.le_of_lt b))
        refine ⟨⟨b, by rw [hmod]; exact hrem⟩, c, ?_⟩
        obtain ⟨hob, hin⟩ := written_or_shift st.out st.nob st.byte m (symBits t s % 2 ^ m) hbyte
          (Nat.mod_lt _ (Nat.two_pow_pos m))
        rw [hm] at hob hin
        have hsplit : codeBits t s = natBits m (symBits t s)
            ++ natBits (symLen t s - m) (symBits t s / 2 ^ m) := by
          have := natBits_add m (symLen t s - m) (symBits t s)
          rwa [Nat.add_sub_cancel' hfull] at this
        show written out' _ _ = written _ _ _ ++ _
        rw [hmod, d, shift_mod _ _ m hm, written_cons _ _ hob, hin,
          natBits_mod m m _ (Nat.le_refl m), hsplit, List.append_assoc]
  · -- the symbol fits into the byte under construction
    simp only [hfull, if_false]
    obtain ⟨hlt, hin⟩ := written_or_shift st.out st.nob st.byte (symLen t s) (symBits t s) hbyte hb
    have hval : (symBits t s * 2 ^ st.nob) % 256 = symBits t s <<< st.nob := by
      rw [shift_mod _ _ _ (Nat.add_sub_cancel' (Nat.le_of_lt hn)),
        Nat.mod_eq_of_lt (lt_two_pow_of_le hb (Nat.le_of_not_le hfull))]
    refine ⟨⟨by show st.nob + symLen t s < 8; omega, ?_⟩, hout, ?_⟩
    · show st.byte ||| _ < 2 ^ (st.nob + symLen t s)
      rw [hval]
      exact hlt
    · show written st.out (st.nob + symLen t s) (st.byte ||| _) = written _ _ _ ++ _
      rw [hval]
      exact hin

theorem streamGo_written (t : Table) (cap : Nat) (ss : List Nat) : ∀ st : SState, st.Inv →
    (∀ s ∈ ss, symLen t s ≤ 24 ∧ symBits t s < 2 ^ symLen t s) → st.out.length ≤ cap →
    match streamGo t cap st ss with
    | .ok st' => st'.Inv ∧ st'.out.length ≤ cap ∧ st'.bits = st.bits ++ ss.flatMap (codeBits t)
    | .capacity => 8 * (cap + 1) ≤ st.bits.length + (ss.flatMap (codeBits t)).length
    | .panic => False := by
  induction ss with
  | nil => intro st hI _ hout; exact ⟨hI, hout, (List.append_nil _).symm⟩
  | cons s ss ih =>
    intro st hI hs hout
    obtain ⟨hl, hb⟩ := hs s (by simp)
    have h1 := streamSym_written t cap st s hI hl hb hout
    rw [streamGo, List.flatMap_cons, List.length_append, codeBits_length]
    generalize streamSym t cap st s = R at h1 ⊢
    match R, h1 with
    | .panic, h1 => exact h1
    | .capacity, h1 => show 8 * (cap + 1) ≤ _; omega
    | .ok st1, ⟨i1, o1, b1⟩ =>
      have h2 := ih st1 i1 (fun s' hs' => hs s' (by simp [hs'])) o1
      simp only
      generalize streamGo t cap st1 ss = R2 at h2 ⊢
      have hlen : st1.bits.length = st.bits.length + symLen t s := by
        rw [b1, List.length_append, codeBits_length]
      match R2, h2 with
      | .panic, h2 => exact h2
      | .capacity, h2 =>
        rw [hlen] at h2
        show 8 * (cap + 1) ≤ _
        omega
      | .ok st2, ⟨i2, o2, b2⟩ => exact ⟨i2, o2, by rw [b2, b1, List.append_assoc]⟩

theorem compressStreamInto_eq (t : Table) (h : WellFormed t) (bug : Bool) (xs : List UInt8)
    (cap : Nat) :
    compressStreamInto t bug xs cap =
      if (compress t bug xs).length ≤ cap then .ok (compress t bug xs) else .capacity := by
  have hg := streamGo_written t cap (xs.map (·.toNat) ++ [EOF]) { out := [], byte := 0, nob := 0 }
    ⟨by decide, by decide⟩ (h.stream_codes xs) (Nat.zero_le _)
  rw [compressStreamInto]
  generalize streamGo t cap _ _ = R at hg ⊢
  match R, hg with
  | .panic, hg => exact hg.elim
  | .capacity, hg =>
    have : (streamBits t xs).length / 8 ≤ (compress t bug xs).length := by
      simp only [compress, List.length_append, packBits_length]
      omega
    rw [if_neg (by change 8 * (cap + 1) ≤ 0 + (streamBits t xs).length at hg; omega)]
  | .ok st, ⟨⟨hn, hbyte⟩, hout, hbits⟩ =>
    have hres := compress_of_written t bug xs st.out st.nob st.byte hbits.symm hn hbyte
    simp only
    rw [hres]
    split
    · simp only [List.length_append, List.length_reverse, List.length_singleton, List.reverse_cons]
      by_cases hcap : st.out.length ≥ cap
      · rw [if_pos hcap, if_neg (by omega)]
      · rw [if_neg hcap, if_pos (by omega)]
    · rw [List.append_nil, if_pos (by rw [List.length_reverse]; exact hout)]

end Tw.Huffman
