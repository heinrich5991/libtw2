import Tw.Proofs.ConnIface
import Tw.Proofs.ConnTokens6

/-! C02 (c) timed, 0.6: what the generic round argument asks of the variant.  The timer bounds in every reachable world
(`loct6`: `GStep.timed` along `call_step` / `recv_step`); the online connections as an `OnlineIface` (`iface6`; the work is
what the reader and the token check of `feed` do to a datagram that carries the connection's token, `feed_wire`); a reachable
world with both sides online is an `OnlineW` (`onlineW6`).  At the end the test schedule `busy6`, evaluated. -/
namespace Tw.NetSim.P6
open Tw.Conn Tw.Conn6 Tw.Time Tw.NetSim

/-- while a deadline is reported, the send timer is due within one send interval; online, every
retransmission timer within one retransmission interval -/
def Timed (now : Nat) (c : Conn) : Prop :=
  match c.state with
  | .online _ o => SendDue now c.send ∧ RqDue now o
  | .connecting => SendDue now c.send
  | .pending _ => SendDue now c.send
  | _ => True

theorem timed_g {now : Nat} {c : Conn} : Timed now c ↔ c.g.Timed now := by
  obtain ⟨st, snd⟩ := c
  cases st <;> simp [Timed, GConn.Timed, Conn.g, State.armedKind, State.ph, Ph.core, RqDue.new]

theorem loct6 (tl : Bool) : LocT (proto6 tl) Timed where
  init := fun _ => trivial
  mono := fun _ _ _ hn h => timed_g.mpr ((timed_g.mp h).mono hn)
  call := fun _ _ _ _ _ hr h => timed_g.mpr ((call_step hr).timed (timed_g.mp h))
  recv := fun _ _ _ _ _ _ hr h => timed_g.mpr ((recv_step hr).timed (timed_g.mp h))

theorem conn_eta {c : Conn} {st : State} (h : c.state = st) : c = ⟨st, c.send⟩ := h ▸ rfl

/-- a control message other than a close message is always small enough to be sent -/
theorem emit_one (a : Nat) (t : Option Nat) (ctl : Control) (h : ∀ r, ctl ≠ .close r) :
    emit [.control a t ctl] = .ok [.control a t ctl] :=
  Tw.Conn6.emit_ok (by
    intro p hp; cases List.mem_singleton.mp hp
    exact Tw.Conn6.control_valid a t ctl (fun r hr => absurd hr (h r)))

theorem wireRead_hint (tl : Bool) (q : Packet) (alt : Alt) (hq : ∀ r a t, q ≠ .control a t (.close r)) :
    wireRead tl q alt (some (hasToken (if tl = true then strip q else q))) = some (if tl = true then strip q else q) := by
  unfold wireRead
  simp only
  have hnc : ∀ r a t, (if tl = true then strip q else q) ≠ .control a t (.close r) := by
    intro r a t h
    cases tl
    · exact hq r a t h
    · cases q with
      | connless d => cases h
      | chunks a' t' rr n cs => cases h
      | control a' t' c =>
        simp only [if_true, strip] at h
        injection h with _ _ h; subst h; exact hq r a' t' rfl
  generalize (if tl = true then strip q else q) = q' at hnc ⊢
  cases q' with
  | connless d => rfl
  | chunks a t rr n cs => simp
  | control a t c =>
    cases c with
    | close r => exact absurd rfl (hnc r a t)
    | _ => simp

/-- a datagram other than a close message that carries the connection's token `ty` (none towards a peer without
tokens): the reader returns it as written, and `feed` goes on past the token check -/
theorem feed_wire (tl : Bool) (now : Nat) (draws : List Nat) (c : Conn) (ty : Option Nat) (q : Packet) (alt : Alt)
    (ack : Nat) (hq : ∀ r a t, q ≠ .control a t (.close r)) (hta : q.tokenAck? = some (ty, ack))
    (hty : tl = true → ty = none) (hc : c.state.token? = some ty) :
    feed ⟨now, draws⟩ c (wireRead tl q alt) =
      match c.state with
      | .online t o =>
        match o.feedAck ack with
        | .error e => .error e
        | .ok o1 => feedBody ⟨now, draws⟩ { c with state := .online t o1 } ty (if tl = true then strip q else q)
      | _ => feedBody ⟨now, draws⟩ c ty (if tl = true then strip q else q) := by
  have hs : (if tl = true then strip q else q).tokenAck? = some (ty, ack) ∧
      hasToken (if tl = true then strip q else q) = ty.isSome := by
    cases tl
    · cases q <;> cases hta <;> exact ⟨rfl, rfl⟩
    · cases hty rfl; cases q <;> cases hta <;> exact ⟨rfl, rfl⟩
  have hw := wireRead_hint tl q alt hq
  rw [hs.2] at hw
  unfold feed
  simp only [Conn.hint, hc, Option.map_some]
  rw [hw]
  simp only [hs.1]
  obtain ⟨st, snd⟩ := c
  cases st with
  | online t o => simp; cases o.feedAck ack <;> rfl
  | _ => simp

theorem recv_online6 (tl : Bool) (now : Nat) (draws : List Nat) (ty : Option Nat) (o : Online) (s : Timeout)
    (q : Packet) (alt : Alt) (ack : Nat) (hq : ∀ r a t, q ≠ .control a t (.close r))
    (hta : q.tokenAck? = some (ty, ack)) (hty : tl = true → ty = none) (o1 : Online) (hfa : o.feedAck ack = .ok o1) :
    feed ⟨now, draws⟩ ⟨.online ty o, s⟩ (wireRead tl q alt) =
      feedBody ⟨now, draws⟩ ⟨.online ty o1, s⟩ ty (if tl = true then strip q else q) := by
  rw [feed_wire tl now draws _ ty q alt ack hq hta hty rfl]
  simp [hfa]

/-- the control messages an online or pending connection ignores, by number (`0`: keep-alive) -/
def kindOf (k : Nat) : Control :=
  if k = 1 then .accept else if k = 2 then .connectAccept else .keepAlive

theorem kindOf_ne_close (k : Nat) (r : Bytes) : kindOf k ≠ .close r := by
  unfold kindOf; split
  · simp
  · split <;> simp

theorem feedBody_ctl_online (env : Env) (t : Option Nat) (o : Online) (s : Timeout) (tok t' : Option Nat) (a k : Nat) :
    feedBody env ⟨.online t o, s⟩ tok (.control a t' (kindOf k)) = .ok (⟨.online t o, s⟩, {}) := by
  unfold kindOf; split
  · simp [feedBody]
  · split <;> simp [feedBody]

theorem recv_onl_ctl (tl : Bool) (now : Nat) (draws : List Nat) (t : Option Nat) (o o1 : Online) (s : Timeout)
    (k a : Nat) (alt : Alt) (ht : tl = true → t = none) (hfa : o.feedAck a = .ok o1) :
    P6.recv tl now draws ⟨.online t o, s⟩ (.control a t (kindOf k)) alt = .ok { conn := ⟨.online t o1, s⟩ } := by
  unfold P6.recv
  rw [recv_online6 tl now draws t o s (.control a t (kindOf k)) alt a
    (by intro r a' t' h; injection h with _ _ h; exact kindOf_ne_close k r h) rfl ht _ hfa]
  cases tl <;> simp [strip, feedBody_ctl_online]

def iface6 (tl : Bool) : OnlineIface (proto6 tl) core Conn6.cfg Timed where
  Tok := Option Nat
  mkc := fun t o s => ⟨.online t o, s⟩
  chunkPkt := fun t f => ofFlushed t f
  kaPkt := fun t a => .control a t .keepAlive
  peer := fun tx ty => tx = ty ∧ (tl = true → ty = none)
  core_mk := fun _ _ _ => rfl
  online_mk := fun _ _ _ => rfl
  timed_mk := fun _ _ _ _ h => h
  view_chunk := fun _ _ => rfl
  view_ka := fun _ _ => rfl
  tick_resend := by
    intro now t o s o1 s1 fl hd he hval
    show P6.call now [] ⟨.online t o, s⟩ .tick = _
    simp [P6.call, Conn6.tick, hd, resendConn, he, (Tw.Conn6.emit_flushed t hval).1]
    rfl
  tick_flush := by
    intro now t o s hd hs hcs hval
    show P6.call now [] ⟨.online t o, s⟩ .tick = _
    simp [P6.call, Conn6.tick, hd, hs, tickAction, hcs, (Tw.Conn6.emit_flushed t hval).1]
    rfl
  tick_ka := by
    intro now t o s hd hs hcs _
    show P6.call now [] ⟨.online t o, s⟩ .tick = _
    simp [P6.call, Conn6.tick, hd, hs, tickAction, hcs, sendControl, controlPacket, emit_one _ _ .keepAlive nofun]
    rfl
  recv_chunk := by
    intro now draws tx ty o s f alt o1 o2 s2 fl evs hp hfa hrc hval
    obtain ⟨rfl, hty⟩ := hp
    show P6.recv tl now draws ⟨.online tx o, s⟩ (ofFlushed tx f) alt = _
    unfold P6.recv
    rw [recv_online6 tl now draws tx o s (ofFlushed tx f) alt f.ack (by intro r a t h; cases h) rfl hty o1 hfa]
    cases tl <;> simp [ofFlushed, strip, feedBody, hrc, (Tw.Conn6.emit_flushed tx hval).1] <;> rfl
  recv_ka := by
    rintro now draws tx ty o s a alt o1 ⟨rfl, hty⟩ hfa
    exact recv_onl_ctl tl now draws tx o o1 s 0 a alt hty hfa

theorem onlineW6 (tl : Bool) (sched : List (Move (proto6 tl))) (w : World (proto6 tl))
    (hadm : admissible (World.init (proto6 tl)) sched = true) (hrun : run (World.init (proto6 tl)) sched = some w)
    {ta tb : Option Nat} {oa ob : Online} (ha : w.a.conn.state = .online ta oa) (hb : w.b.conn.state = .online tb ob) :
    OnlineW (iface6 tl) ta tb w := by
  have hw := run_inv (sim6 tl) sched _ w (init_inv (sim6 tl)) hadm hrun
  have ht := run_loct (loct6 tl) sched _ w (init_loct (loct6 tl)) hrun
  have hl := run_loc (loc6 tl) sched _ w (init_loc (loc6 tl)) hrun
  have hg := agree6_run sched _ w (agree6_init tl) hrun
  have hab : ta = tb := hg.1.agree hg.2 hl.1.1 hl.2.1 ha (by rw [hb]; rfl)
  have htb : tl = true → tb = none := tokS_none hl.2.1 (by simp [State.token?, hb])
  exact ⟨hw, ht, ⟨oa, _, conn_eta ha⟩, ⟨ob, _, conn_eta hb⟩, ⟨hab, htb⟩, ⟨hab.symm, by rw [hab]; exact htb⟩⟩

theorem busy6_admissible : admissible (World.init (proto6 false)) (busy6 false) = true := by decide +kernel
example : admissible (World.init (proto6 false)) (busy6 false) = true := busy6_admissible
example : ((run (World.init (proto6 false)) (busy6 false)).map fun w =>
    ((online w.a.conn).isSome && (online w.b.conn).isSome, w.settled)) = some (true, false) := by decide +kernel
theorem busy6_timed :
    (((run (World.init (proto6 false)) (busy6 false)).bind (timedRounds .exact 4)).map World.settled) = some true := by
  decide +kernel
example : (((run (World.init (proto6 false)) (busy6 false)).bind (timedRounds .exact 4)).map World.settled) = some true :=
  busy6_timed

theorem busy6_fair : (((run (World.init (proto6 false)) (busy6 false)).bind fun w =>
    fairRoundsT (P := proto6 false) [] Alt.exact 4 (FairState.start w)).map fun s => s.w.settled) = some true := by
  decide +kernel
example : (((run (World.init (proto6 false)) (busy6 false)).bind fun w =>
    fairRoundsT (P := proto6 false) [] Alt.exact 4 (FairState.start w)).map fun s => s.w.settled) = some true :=
  busy6_fair

end Tw.NetSim.P6
