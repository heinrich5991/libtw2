import Tw.Proofs.HuffmanDec
import Tw.Model.HuffmanRef
import Tw.Gen.Huffman

/-! C07: the built-in table `Tw.Gen.Huffman.table` (regenerated from `huffman/src/instances/teeworlds.rs`, one numeral
with an arithmetic `entry`) is well-formed: `table_ok`, by `decide +kernel` over the arithmetic lookup `lookG`. -/
namespace Tw.Huffman

def lookG : Look := fun i => if i < 513 then Tw.Gen.Huffman.entry i else (65535, 65535)

theorem table_size : Tw.Gen.Huffman.table.size = NUM_NODES := by
  simp [Tw.Gen.Huffman.table, NUM_NODES]

theorem node_table : node Tw.Gen.Huffman.table = lookG := by
  funext i
  simp only [node, lookG, Tw.Gen.Huffman.table]
  by_cases h : i < 513
  · simp [h, Array.getD, List.getElem_range]
  · simp [h, Array.getD]

theorem okAtF_of_okRangeF (look : Look) (lo n : Nat) (h : okRangeF look lo n = true) :
    ∀ i, lo ≤ i → i < lo + n → okAtF look i = true := by
  intro i h1 h2
  simp only [okRangeF, List.all_eq_true, List.mem_range'_1] at h
  exact h i ⟨h1, h2⟩

theorem table_ok : okRangeF lookG 0 513 = true := by decide +kernel

theorem wellFormed_table : WellFormed Tw.Gen.Huffman.table := by
  refine ⟨table_size, fun i hi => ?_⟩
  simp only [okAt, node_table]
  exact okAtF_of_okRangeF _ _ _ table_ok i (Nat.zero_le _) (by simpa [NUM_NODES] using hi)

/-- the round trip in the form the packet and demo codecs assume of their table
(`Packet6.HuffmanRoundTrip`, `Packet7.HuffmanRoundTrip`, `Demo.HuffmanRoundTrip` unfold to this) -/
theorem roundTrip_table (xs : List UInt8) (cap : Nat) (h : xs.length ≤ cap) :
    decompress Tw.Gen.Huffman.table (compress Tw.Gen.Huffman.table false xs) cap = .ok xs :=
  decompress_compress _ wellFormed_table false xs cap h

/-! ### evaluating the decoders on the built-in table

In the kernel `node table i` walks a 513-element list and `lookG i` is arithmetic.  The decoders take
the table as an array, so for evaluation they are repeated over a lookup function; on `node t` they
are the model's, and the zero tail of `decompress` is `decBits` on zero bits.  The copies carry the suffix `L` (over a
`Look`): the model's `decBitsF`, `decZerosF` are the fast decoder of the drivers. -/

def decStepL (look : Look) (cap : Nat) (nd : Nat) (out : List UInt8) (bit : Bool) : StepResult :=
  let idx := childF look nd bit
  if idx ≥ NUM_SYMBOLS then .cont idx out
  else if idx = EOF then .done out
  else if out.length ≥ cap then .capacity
  else .cont ROOT_IDX (UInt8.ofNat idx :: out)

def decBitsL (look : Look) (cap : Nat) : Nat → List UInt8 → List Bool → BitsResult
  | nd, out, [] => .more nd out
  | nd, out, b :: bs =>
    match decStepL look cap nd out b with
    | .cont nd' out' => decBitsL look cap nd' out' bs
    | .done out' => .fin (.ok out'.reverse)
    | .capacity => .fin .capacity

theorem decBitsL_node (t : Table) (cap : Nat) (bits : List Bool) : ∀ (nd : Nat) (out : List UInt8),
    decBitsL (node t) cap nd out bits = decBits t cap nd out bits := by
  induction bits with
  | nil => intro nd out; rfl
  | cons b bs ih =>
    intro nd out
    simp only [decBitsL, decBits]
    rw [show decStepL (node t) cap nd out b = decStep t cap nd out b from rfl]
    cases decStep t cap nd out b <;> simp only [ih]

theorem decompress_table (input : List UInt8) (cap : Nat) :
    decompress Tw.Gen.Huffman.table input cap
      = (decBitsL lookG cap ROOT_IDX [] (input.flatMap byteBits
          ++ List.replicate (zeroFuel cap) false)).final := by
  rw [decompress_eq_final, ← decBitsL_node, node_table]

def refDeepL (look : Look) : Nat → Nat → Nat → Nat → DeepRes
  | 0, _, _, _ => .diverge
  | fuel + 1, nd, bits, bc =>
    let nd' := childF look nd (bits % 2 == 1)
    let bc' := wrapSub bc 1
    let bits' := bits / 2
    if nd' < NUM_SYMBOLS then .leaf nd' bits' bc'
    else if bc' = 0 then .error
    else refDeepL look fuel nd' bits' bc'

def refBodyL (look : Look) (cap : Nat) (k : Nat → Nat → List UInt8 → RefDec)
    (nd bits bc : Nat) (out : List UInt8) : RefDec :=
  let fin (nd bits bc : Nat) : RefDec :=
    if nd = EOF then .ok out.reverse
    else if out.length ≥ cap then .error
    else k bits bc (UInt8.ofNat nd :: out)
  if nd < NUM_SYMBOLS then
    fin nd (bits / 2 ^ symLenF look nd) (wrapSub bc (symLenF look nd))
  else
    match refDeepL look NUM_NODES nd (bits / 2 ^ LUTBITS) (wrapSub bc LUTBITS) with
    | .leaf nd bits bc => fin nd bits bc
    | .error => .error
    | .diverge => .diverge

def refLoopL (look : Look) (cap : Nat) : Nat → Nat → Nat → List UInt8 → List UInt8 → RefDec
  | 0, _, _, _, _ => .diverge
  | fuel + 1, bits, bc, src, out =>
    let f := refFill bits bc src
    refBodyL look cap (fun b c o => refLoopL look cap fuel b c f.2.2 o)
      (if bc ≥ LUTBITS then lutWalkF look LUTBITS ROOT_IDX (bits % LUTSIZE)
        else lutWalkF look LUTBITS ROOT_IDX (f.1 % LUTSIZE)) f.1 f.2.1 out

theorem refDeepL_node (t : Table) (fuel : Nat) : ∀ (nd bits bc : Nat),
    refDeepL (node t) fuel nd bits bc = refDeep t fuel nd bits bc := by
  induction fuel with
  | zero => intro nd bits bc; rfl
  | succ f ih =>
    intro nd bits bc
    simp only [refDeepL, refDeep, child, ih]
    rfl

theorem refLoopL_node (t : Table) (cap fuel : Nat) : ∀ (bits bc : Nat) (src out : List UInt8),
    refLoopL (node t) cap fuel bits bc src out = refLoop t cap fuel bits bc src out := by
  induction fuel with
  | zero => intro bits bc src out; rfl
  | succ f ih =>
    intro bits bc src out
    simp only [refLoopL, refLoop, refBodyL, refBody, refDeepL_node, ih]
    rfl

theorem refDecompress_table (fuel : Nat) (input : List UInt8) (cap : Nat) :
    refDecompress Tw.Gen.Huffman.table fuel input cap = refLoopL lookG cap fuel 0 0 input [] := by
  rw [refDecompress, ← refLoopL_node, node_table]

end Tw.Huffman
