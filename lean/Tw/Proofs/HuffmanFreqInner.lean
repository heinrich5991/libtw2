import Tw.Proofs.HuffmanFreq
import Tw.Proofs.HuffmanTree

/-! The merge loop of `fromFrequencies` builds a forest (`rustForest`) of 513 nodes whose inner nodes
have two different children with smaller indices, in which every node but the root is the child of
exactly one inner node. -/
namespace Tw.Huffman

/-- The invariant of the merge loop `buildTree` (`while frequencies.len() > 1` in `from_frequencies_array`): `fs` are the
roots of the trees built so far.  A merge takes two roots away and adds one node, a root, so `fs.length + nodes.size`
stays at the 257 + 257 of the start: one root left means 513 nodes. -/
structure BInv (fs : List Freq) (nodes : Table) : Prop where
  size_ge : NUM_SYMBOLS ≤ nodes.size
  idx_lt : ∀ x ∈ fs, x.nodeIdx < nodes.size
  nodup : (fs.map (·.nodeIdx)).Nodup
  inner : InnerBelow nodes
  count : fs.length + nodes.size = 514
  nonempty : 1 ≤ fs.length
  covered : ∀ j, j < nodes.size → (∃ x ∈ fs, x.nodeIdx = j) ∨
    (∃ i, NUM_SYMBOLS ≤ i ∧ i < nodes.size ∧ ((node nodes i).1 = j ∨ (node nodes i).2 = j))
  rootsFree : ∀ x ∈ fs, ∀ i, NUM_SYMBOLS ≤ i → i < nodes.size →
    (node nodes i).1 ≠ x.nodeIdx ∧ (node nodes i).2 ≠ x.nodeIdx
  uniq : UniqueParent nodes

theorem BInv.done {fs : List Freq} {nodes : Table} (h : BInv fs nodes) (hl : fs.length ≤ 1) :
    Forest nodes := by
  have hc := h.count; have hn := h.nonempty
  have hsz : nodes.size = 513 := by omega
  refine ⟨hsz, h.inner, fun j hj => ?_, h.uniq⟩
  obtain ⟨x, hx⟩ : ∃ x, fs = [x] := by
    match fs, hl, hn with
    | [x], _, _ => exact ⟨x, rfl⟩
  subst hx
  -- the root can only be the single remaining element
  have hroot : x.nodeIdx = 512 := by
    rcases h.covered 512 (by omega) with ⟨y, hy, e⟩ | ⟨i, i1, i2, i3⟩
    · simp only [List.mem_singleton] at hy; subst hy; exact e
    · have := h.inner i i1 i2
      rcases i3 with e | e <;> omega
  rcases h.covered j hj with ⟨y, hy, e⟩ | hch
  · simp only [List.mem_singleton] at hy; subst hy
    left; omega
  · right; exact hch

/-- one merge: two of the roots become the children of a new node, which is a root in their place -/
theorem BInv.step {fs : List Freq} {nodes : Table} (h : BInv fs nodes) {f1 f2 : Freq}
    {rest : List Freq} (hperm2 : (f1 :: f2 :: rest).Perm fs) (p : Freq) (hp : p.nodeIdx = nodes.size) :
    BInv (rest.reverse ++ [p]) (nodes.push (f1.nodeIdx, f2.nodeIdx)) := by
  have hnd : ((f1 :: f2 :: rest).map (·.nodeIdx)).Nodup :=
    ((hperm2.map (·.nodeIdx)).nodup_iff).mpr h.nodup
  have hmem : ∀ x ∈ f1 :: f2 :: rest, x.nodeIdx < nodes.size :=
    fun x hx => h.idx_lt x ((hperm2.mem_iff).mp hx)
  simp only [List.map_cons, List.nodup_cons, List.mem_cons, List.mem_map, not_or] at hnd
  obtain ⟨⟨hne, hf1r⟩, hf2r, hrest⟩ := hnd
  have h1 := hmem f1 (by simp)
  have h2 := hmem f2 (by simp)
  have hl2 : (f1 :: f2 :: rest).length = fs.length := hperm2.length_eq
  constructor
  · simp only [Array.size_push]; have := h.size_ge; omega
  · intro x hx
    simp only [List.mem_append, List.mem_reverse, List.mem_singleton] at hx
    simp only [Array.size_push]
    rcases hx with hx | rfl
    · have := hmem x (by simp [hx]); omega
    · omega
  · simp only [List.map_append, List.map_reverse, List.map_cons, List.map_nil]
    rw [List.nodup_append]
    refine ⟨(List.reverse_perm _).nodup_iff.mpr hrest, by simp, ?_⟩
    intro a ha b hb
    simp only [List.mem_reverse, List.mem_map] at ha
    simp only [List.mem_singleton] at hb
    obtain ⟨x, hx, rfl⟩ := ha
    have := hmem x (by simp [hx])
    omega
  · intro i hi1 hi2
    simp only [Array.size_push] at hi2
    rw [node_push]
    by_cases hi : i = nodes.size
    · simp only [hi, if_true]
      exact ⟨h1, h2, hne⟩
    · simp only [hi, if_false]
      exact h.inner i hi1 (by omega)
  · simp only [List.length_append, List.length_reverse, List.length_singleton, Array.size_push]
    have := h.count
    simp only [List.length_cons] at hl2
    omega
  · simp
  · intro j hj
    simp only [Array.size_push] at hj
    by_cases hjs : j = nodes.size
    · left
      exact ⟨p, by simp, hp.trans hjs.symm⟩
    · rcases h.covered j (by omega) with ⟨x, hx, e⟩ | ⟨i, i1, i2, i3⟩
      · have hx' := (hperm2.mem_iff).mpr hx
        simp only [List.mem_cons] at hx'
        rcases hx' with rfl | rfl | hx'
        · right
          refine ⟨nodes.size, h.size_ge, by simp, ?_⟩
          rw [node_push]; simp [e]
        · right
          refine ⟨nodes.size, h.size_ge, by simp, ?_⟩
          rw [node_push]; simp [e]
        · left
          exact ⟨x, by simp [hx'], e⟩
      · right
        refine ⟨i, i1, by simp only [Array.size_push]; omega, ?_⟩
        rw [node_push]
        have : i ≠ nodes.size := by omega
        simp only [this, if_false]
        exact i3
  · -- the roots are nobody's child
    intro x hx i hi1 hi2
    simp only [Array.size_push] at hi2
    simp only [List.mem_append, List.mem_reverse, List.mem_singleton] at hx
    rw [node_push]
    by_cases hi : i = nodes.size
    · simp only [hi, if_true]
      rcases hx with hx | rfl
      · exact ⟨fun e => hf1r ⟨x, hx, e.symm⟩, fun e => hf2r ⟨x, hx, e.symm⟩⟩
      · exact ⟨by omega, by omega⟩
    · simp only [hi, if_false]
      rcases hx with hx | rfl
      · exact h.rootsFree x ((hperm2.mem_iff).mp (by simp [hx])) i hi1 (by omega)
      · have := h.inner i hi1 (by omega)
        exact ⟨by omega, by omega⟩
  · -- at most one parent: an old node is not the parent of a root, the new one only of `f1`, `f2`
    have hold : ∀ i j, NUM_SYMBOLS ≤ i → i < nodes.size →
        ((node nodes i).1 = j ∨ (node nodes i).2 = j) → f1.nodeIdx ≠ j ∧ f2.nodeIdx ≠ j := by
      intro i j a b c
      have r1 := h.rootsFree f1 ((hperm2.mem_iff).mp (by simp)) i a b
      have r2 := h.rootsFree f2 ((hperm2.mem_iff).mp (by simp)) i a b
      rcases c with e | e
      · exact ⟨fun hh => r1.1 (e.trans hh.symm), fun hh => r2.1 (e.trans hh.symm)⟩
      · exact ⟨fun hh => r1.2 (e.trans hh.symm), fun hh => r2.2 (e.trans hh.symm)⟩
    intro i i' j hi1 hi2 hi1' hi2'
    simp only [Array.size_push] at hi2 hi2'
    rw [node_push, node_push]
    by_cases hi : i = nodes.size
    · by_cases hi' : i' = nodes.size
      · intro _ _; exact hi.trans hi'.symm
      · have hlt : i' < nodes.size := by omega
        simp only [hi, hi', if_true, if_false]
        intro hj hj'
        have := hold i' j hi1' hlt hj'
        rcases hj with e | e
        · exact absurd e this.1
        · exact absurd e this.2
    · have hlt : i < nodes.size := by omega
      by_cases hi' : i' = nodes.size
      · simp only [hi, hi', if_true, if_false]
        intro hj hj'
        have := hold i j hi1 hlt hj
        rcases hj' with e | e
        · exact absurd e this.1
        · exact absurd e this.2
      · have hlt' : i' < nodes.size := by omega
        simp only [hi, hi', if_false]
        exact h.uniq i i' j hi1 hlt hi1' hlt'

theorem buildTree_forest (fuel : Nat) :
    ∀ (fs : List Freq) (nodes : Table), BInv fs nodes → fs.length ≤ fuel + 1 →
      Forest (buildTree fuel fs nodes) := by
  induction fuel with
  | zero => intro fs nodes h hf; exact h.done hf
  | succ f ih =>
    intro fs nodes h hf
    by_cases hlen : fs.length ≤ 1
    · rw [buildTree]; simp only [hlen, if_true]
      exact h.done hlen
    · have hperm := sortDesc_perm fs
      have hslen : (sortDesc fs).reverse.length = fs.length := by
        rw [List.length_reverse, hperm.length_eq]
      obtain ⟨f1, f2, restRev, hrev⟩ : ∃ f1 f2 restRev, (sortDesc fs).reverse = f1 :: f2 :: restRev := by
        match hm : (sortDesc fs).reverse with
        | [] => rw [hm] at hslen; simp at hslen; omega
        | [_] => rw [hm] at hslen; simp at hslen; omega
        | f1 :: f2 :: r => exact ⟨f1, f2, r, rfl⟩
      rw [buildTree_step f fs nodes f1 f2 restRev hlen hrev]
      rw [hrev] at hslen
      exact ih _ _ (h.step (hrev ▸ (List.reverse_perm _).trans hperm) _ rfl)
        (by simp only [List.length_append, List.length_reverse, List.length_cons,
          List.length_nil] at hslen ⊢; omega)

/-- the forest `from_frequencies` builds before it assigns the codes -/
def rustForest (f : List Nat) : Table :=
  buildTree ((f.zipIdx.map fun (p : Nat × Nat) => (⟨p.1, p.2⟩ : Freq)) ++ [(⟨1, EOF⟩ : Freq)]).length
    ((f.zipIdx.map fun (p : Nat × Nat) => (⟨p.1, p.2⟩ : Freq)) ++ [(⟨1, EOF⟩ : Freq)])
    (Array.replicate NUM_SYMBOLS (65535, 65535))

theorem rustForest_forest (f : List Nat) (hlen : f.length = 256) : Forest (rustForest f) := by
  have hidx : (f.zipIdx.map fun (p : Nat × Nat) => (⟨p.1, p.2⟩ : Freq)).map (·.nodeIdx)
      = List.range' 0 256 := by
    rw [List.map_map, ← hlen, ← List.zipIdx_map_snd 0 f]
    rfl
  unfold rustForest
  generalize (f.zipIdx.map fun (p : Nat × Nat) => (⟨p.1, p.2⟩ : Freq)) = fs0 at hidx
  have hlen0 : fs0.length = 256 := by
    have := congrArg List.length hidx
    simpa using this
  have hinit : BInv (fs0 ++ [(⟨1, EOF⟩ : Freq)]) (Array.replicate NUM_SYMBOLS (65535, 65535)) := by
    constructor
    · simp [NUM_SYMBOLS]
    · intro x hx
      simp only [List.mem_append, List.mem_singleton] at hx
      simp only [Array.size_replicate, NUM_SYMBOLS]
      rcases hx with hx | rfl
      · have : x.nodeIdx ∈ List.range' 0 256 := by
          rw [← hidx]; exact List.mem_map_of_mem hx
        simp only [List.mem_range'_1] at this
        omega
      · decide
    · rw [List.map_append, hidx, List.nodup_append]
      refine ⟨List.nodup_range' 1, by simp, ?_⟩
      intro a ha b hb
      simp only [List.mem_range'_1] at ha
      simp only [List.map_cons, List.map_nil, List.mem_singleton, EOF] at hb
      omega
    · intro i hi1 hi2
      simp only [Array.size_replicate] at hi2
      omega
    · simp [hlen0, NUM_SYMBOLS]
    · simp
    · intro j hj
      simp only [Array.size_replicate, NUM_SYMBOLS] at hj
      left
      by_cases hj6 : j = 256
      · exact ⟨⟨1, EOF⟩, by simp, by simp [EOF, hj6]⟩
      · have : j ∈ List.range' 0 256 := by simp only [List.mem_range'_1]; omega
        rw [← hidx] at this
        simp only [List.mem_map] at this
        obtain ⟨x, hx, e⟩ := this
        exact ⟨x, by simp only [List.mem_append]; left; exact hx, e⟩
    · intro x _ i hi1 hi2
      simp only [Array.size_replicate] at hi2
      omega
    · intro i i' j hi1 hi2
      simp only [Array.size_replicate] at hi2
      omega
  exact buildTree_forest _ _ _ hinit (Nat.le_succ _)

/-- `dfs … 4096 [] 0 true` is the call in `fromFrequencies`: fuel, empty stack, `bits = 0`, `first = true` -/
theorem fromFrequencies_ok (f : List Nat) (t : Table) (h : fromFrequencies f = .ok t) :
    f.length = 256 ∧ dfs (rustForest f) 4096 [] 0 true = .ok t ∧ t.size = NUM_NODES := by
  simp only [fromFrequencies] at h
  split at h
  · cases h
  · next hlen =>
    refine ⟨by omega, ?_⟩
    revert h
    generalize hfs0 : List.map _ f.zipIdx = fs0
    have hfs : fs0 = f.zipIdx.map fun (p : Nat × Nat) => (⟨p.1, p.2⟩ : Freq) := by
      rw [← hfs0]
    subst hfs
    intro h
    show dfs (rustForest f) 4096 [] 0 true = .ok t ∧ _
    unfold rustForest
    cases hd : dfs _ 4096 [] 0 true with
    | panic s => rw [hd] at h; cases h
    | diverge => rw [hd] at h; cases h
    | ok t' =>
      rw [hd] at h
      simp only at h
      split at h
      · next hsz => cases h; exact ⟨rfl, hsz⟩
      · cases h

end Tw.Huffman
