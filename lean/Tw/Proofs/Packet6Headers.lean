import Tw.Model.Packet6
import Tw.Proofs.PacketBits

/-! Header codecs of protocol.rs (0.6): arithmetic forms of pack/unpack (`*_pack_eq`, `*_unpack_eq`, from the
extracted masks via the generic bit-field lemmas) and the round trips unpack ∘ pack on the packed bytes
(`*_unpack_packed`), which the reader and the chunk codec use.  `Props/C05` proves pack ∘ unpack from the same
arithmetic forms (for the vital chunk header, all byte patterns, from `chv_pack_unpack_all` here). -/
namespace Tw.Packet6
open Tw.Packet Tw.PacketBits Tw.Gen.Packet6

theorem ph_pack_eq (h : PacketHeader) (hf : h.flags < 16) (ha : h.ack < 1024) :
    h.pack = some (h.flags * 16 + h.ack / 256, h.ack % 256, h.numChunks) := by
  simp only [PacketHeader.pack, PACKET_FLAGS_BITS, SEQUENCE_BITS, PacketHeader_pack_2, PacketHeader_pack_3,
    Nat.shiftRight_eq_zero h.flags 4 hf, Nat.shiftRight_eq_zero h.ack 10 ha, ne_eq, not_true, or_self, if_false,
    Nat.shiftLeft_eq, Nat.shiftRight_eq_div_pow, Nat.reducePow]
  have hq : h.ack / 256 < 16 := Nat.lt_trans (Nat.div_lt_of_lt_mul ha : h.ack / 256 < 4) (by decide)
  rw [Nat.mod_eq_of_lt ((Nat.mul_lt_mul_right (show 0 < 16 by decide)).mpr hf), Nat.mod_eq_of_lt (Nat.lt_trans hq (by decide)),
    mul_pow_or h.flags 4 _ hq]

theorem ph_unpack_eq (b0 b1 b2 : Nat) (h1 : b1 < 256) :
    PacketHeader.unpackWarn b0 b1 b2 =
      ({ flags := b0 / 16 % 16, ack := b0 % 4 * 256 + b1, numChunks := b2 },
       if b0 / 32 % 2 = 0 ∧ b0 / 4 % 4 ≠ 0 then [.packetHeaderPadding] else []) := by
  simp only [PacketHeader.unpackWarn, PacketHeaderPacked_unpack_warn_0, PacketHeaderPacked_unpack_warn_2,
    PacketHeaderPacked_unpack_warn_4, PacketHeaderPacked_unpack_warn_5, PacketHeaderPacked_unpack_warn_6,
    PacketHeaderPacked_unpack_warn_7, and_240, and_3, and_32, and_12, Nat.shiftLeft_eq, Nat.shiftRight_eq_div_pow,
    Nat.reducePow, Nat.mul_div_left _ (show 0 < 16 by decide), mul_pow_or _ 8 b1 h1, ne_eq, Nat.mul_eq_zero,
    Nat.reduceEqDiff, or_false]


/-- what `pack` produces (`ph_pack_eq`) are bytes, and they unpack to `h` without a warning -/
theorem ph_unpack_packed (h : PacketHeader) (hf : h.flags < 16) (ha : h.ack < 1024) :
    h.flags * 16 + h.ack / 256 < 256 ∧ h.ack % 256 < 256 ∧
      PacketHeader.unpackWarn (h.flags * 16 + h.ack / 256) (h.ack % 256) h.numChunks = (h, []) := by
  have hc : h.ack / 256 < 4 := Nat.div_lt_of_lt_mul ha
  have hm : h.ack % 256 < 256 := Nat.mod_lt _ (by decide)
  refine ⟨join_lt _ _ 16 16 hf (Nat.lt_trans hc (by decide)), hm, ?_⟩
  rw [ph_unpack_eq _ _ _ hm, join_div _ _ _ (Nat.lt_trans hc (by decide)), Nat.mod_eq_of_lt hf,
    ← Nat.mod_mod_of_dvd _ (show 4 ∣ 16 by decide), join_mod _ _ _ (Nat.lt_trans hc (by decide)),
    Nat.mod_eq_of_lt hc, Nat.div_add_mod']
  -- the padding bits 2, 3 of the first byte are zero
  have e : (h.flags * 16 + h.ack / 256) / 4 % 4 = 0 := by
    rw [show h.flags * 16 = h.flags * 4 * 4 from (Nat.mul_assoc _ 4 4).symm, join_div _ _ _ hc, Nat.mul_mod_left]
  rw [if_neg (fun hp => hp.2 e)]

theorem ch_pack_eq (h : ChunkHeader) (hf : h.flags < 4) (hs : h.size < 1024) :
    chunkHeaderPack h = some (h.flags * 64 + h.size / 16, h.size % 16) := by
  simp only [chunkHeaderPack, CHUNK_FLAGS_BITS, CHUNK_SIZE_BITS, ChunkHeader_pack_2, ChunkHeader_pack_3,
    ChunkHeader_pack_4, ChunkHeader_pack_5, ChunkHeader_pack_6, Nat.shiftRight_eq_zero h.flags 2 hf,
    Nat.shiftRight_eq_zero h.size 10 hs, ne_eq, not_true, or_self, if_false, and_3, and_1008, and_15,
    Nat.shiftLeft_eq, Nat.shiftRight_eq_div_pow, Nat.reducePow, Nat.mul_div_left _ (show 0 < 16 by decide)]
  have hq : h.size / 16 < 64 := Nat.div_lt_of_lt_mul hs
  rw [Nat.mod_eq_of_lt hf, Nat.mod_eq_of_lt hq, Nat.mod_eq_of_lt ((Nat.mul_lt_mul_right (show 0 < 64 by decide)).mpr hf),
    Nat.mod_eq_of_lt (Nat.lt_trans hq (by decide)),
    Nat.mod_eq_of_lt (Nat.lt_trans (Nat.mod_lt h.size (show 0 < 16 by decide)) (by decide)), mul_pow_or h.flags 6 _ hq]

theorem ch_unpack_eq (b0 b1 : Nat) :
    chunkHeaderUnpackWarn b0 b1 =
      ({ flags := b0 / 64 % 4, size := b0 % 64 * 16 + b1 % 16 },
       if b1 / 16 % 16 ≠ 0 then [.chunkHeaderPadding] else []) := by
  simp only [chunkHeaderUnpackWarn, ChunkHeaderPacked_unpack_warn_0, ChunkHeaderPacked_unpack_warn_2,
    ChunkHeaderPacked_unpack_warn_3, ChunkHeaderPacked_unpack_warn_4, ChunkHeaderPacked_unpack_warn_5,
    ChunkHeaderPacked_unpack_warn_6, and_192, and_63, and_15, and_240, Nat.shiftLeft_eq,
    Nat.shiftRight_eq_div_pow, Nat.reducePow, Nat.mul_div_left _ (show 0 < 64 by decide),
    mul_pow_or _ 4 _ (Nat.mod_lt b1 (show 0 < 16 by decide)), ne_eq, Nat.mul_eq_zero, Nat.reduceEqDiff, or_false]

theorem ch_unpack_packed (h : ChunkHeader) (hf : h.flags < 4) (hs : h.size < 1024) :
    h.flags * 64 + h.size / 16 < 256 ∧ h.size % 16 < 256 ∧
      chunkHeaderUnpackWarn (h.flags * 64 + h.size / 16) (h.size % 16) = (h, []) := by
  have hq : h.size / 16 < 64 := Nat.div_lt_of_lt_mul hs
  have hm : h.size % 16 < 16 := Nat.mod_lt _ (by decide)
  refine ⟨join_lt _ _ 64 4 hf hq, Nat.lt_trans hm (by decide), ?_⟩
  rw [ch_unpack_eq, join_div _ _ _ hq, join_mod _ _ _ hq, Nat.mod_eq_of_lt hf, Nat.mod_mod, Nat.div_add_mod',
    Nat.div_eq_of_lt hm]
  rfl

/-- the four high sequence bits share the second byte with the four low size bits -/
theorem chv_pack_eq_digits (v : ChunkHeaderVital) (hf : v.h.flags < 4) (hs : v.h.size < 1024)
    (hq : v.sequence < 1024) :
    chunkHeaderVitalPack v =
      some (v.h.flags * 64 + v.h.size / 16, v.sequence / 64 * 16 + v.h.size % 16, v.sequence % 256) := by
  simp only [chunkHeaderVitalPack, SEQUENCE_BITS, ChunkHeaderVital_pack_1, ChunkHeaderVital_pack_2,
    ChunkHeaderVital_pack_3, ChunkHeaderVital_pack_4, Nat.shiftRight_eq_zero _ 10 hq, ne_eq, not_true, if_false,
    ch_pack_eq v.h hf hs, and_15, and_960, and_255, Nat.mod_mod, Nat.shiftRight_eq_div_pow, Nat.reducePow]
  have h16 : v.sequence / 64 < 16 := Nat.div_lt_of_lt_mul hq
  have e : v.sequence / 64 * 64 / 4 = v.sequence / 64 * 16 := Nat.mul_div_assoc _ (by decide)
  rw [Nat.mod_eq_of_lt h16, e, Nat.mod_eq_of_lt ((Nat.mul_lt_mul_right (show 0 < 16 by decide)).mpr h16),
    or_mul_pow _ 4 _ (Nat.mod_lt _ (by decide))]

theorem chv_pack_eq (v : ChunkHeaderVital) (hf : v.h.flags < 4) (hs : v.h.size < 1024)
    (hq : v.sequence < 1024) :
    chunkHeaderVitalPack v =
      some (v.h.flags * 64 + v.h.size / 16, v.sequence / 256 * 64 + v.sequence / 64 % 4 * 16 + v.h.size % 16,
            v.sequence % 256) := by
  rw [chv_pack_eq_digits v hf hs hq, split_digit (v.sequence / 64) 4 16, Nat.div_div_eq_div_mul]

theorem chv_unpack_eq (b0 b1 b2 : Nat) (h2 : b2 < 256) :
    chunkHeaderVitalUnpackWarn b0 b1 b2 =
      ({ h := { flags := b0 / 64 % 4, size := b0 % 64 * 16 + b1 % 16 },
         sequence := (b1 / 16 % 16 * 64) ||| b2 },
       if b1 / 16 % 4 ≠ b2 / 64 % 4 then [.chunkHeaderSequence] else []) := by
  simp only [chunkHeaderVitalUnpackWarn, ChunkHeaderVitalPacked_unpack_warn_0, ChunkHeaderVitalPacked_unpack_warn_1,
    ChunkHeaderVitalPacked_unpack_warn_2, ChunkHeaderVitalPacked_unpack_warn_3, ChunkHeaderVitalPacked_unpack_warn_4,
    ChunkHeaderVitalPacked_unpack_warn_5, ChunkHeaderVitalPacked_unpack_warn_6, ChunkHeaderVitalPacked_unpack_warn_7,
    ch_unpack_eq, and_48, and_192, and_15, and_240, and_255, Nat.mod_mod, Nat.shiftLeft_eq, Nat.shiftRight_eq_div_pow,
    Nat.reducePow, Nat.mul_div_left _ (show 0 < 16 by decide), Nat.mul_div_left _ (show 0 < 64 by decide),
    Nat.mod_eq_of_lt h2, Nat.div_eq_of_lt (Nat.mod_lt b1 (show 0 < 16 by decide)), Nat.zero_mod, ne_eq, not_true,
    if_false, List.append_nil, Nat.mul_assoc, Nat.reduceMul]

theorem chv_unpack_packed (v : ChunkHeaderVital) (hf : v.h.flags < 4) (hs : v.h.size < 1024)
    (hq : v.sequence < 1024) :
    v.h.flags * 64 + v.h.size / 16 < 256 ∧ v.sequence / 256 * 64 + v.sequence / 64 % 4 * 16 + v.h.size % 16 < 256 ∧
      v.sequence % 256 < 256 ∧
      chunkHeaderVitalUnpackWarn (v.h.flags * 64 + v.h.size / 16)
        (v.sequence / 256 * 64 + v.sequence / 64 % 4 * 16 + v.h.size % 16) (v.sequence % 256) = (v, []) := by
  have hs' : v.h.size / 16 < 64 := Nat.div_lt_of_lt_mul hs
  have hm : v.h.size % 16 < 16 := Nat.mod_lt _ (by decide)
  have hq' : v.sequence / 64 < 16 := Nat.div_lt_of_lt_mul hq
  have h2 : v.sequence % 256 < 256 := Nat.mod_lt _ (by decide)
  -- the second byte is stated as `chv_pack_eq` has it; as two digits (`chv_pack_eq_digits`) it is
  have e : v.sequence / 256 * 64 + v.sequence / 64 % 4 * 16 = v.sequence / 64 * 16 := by
    rw [split_digit (v.sequence / 64) 4 16, Nat.div_div_eq_div_mul]
  rw [e]
  refine ⟨join_lt _ _ 64 4 hf hs', join_lt _ _ 16 16 hq' hm, h2, ?_⟩
  rw [chv_unpack_eq _ _ _ h2, join_div _ _ _ hs', join_mod _ _ _ hs', join_div _ _ _ hm, join_mod _ _ _ hm,
    Nat.mod_eq_of_lt hf, Nat.div_add_mod', Nat.mod_eq_of_lt hq', div_mul_or_mod v.sequence 6 8 (by decide),
    if_neg (fun hne => hne (by rw [show (256 : Nat) = 64 * 4 from rfl, Nat.mod_mul_right_div_self, Nat.mod_mod]))]

/-- `pack (unpack b)` for every byte pattern of a 0.6 vital chunk header: the two sequence bits that
are stored twice are or-ed together (doc/packet.md; the crate's quickcheck `chunk_header_unpack`) -/
theorem chv_pack_unpack_all (b0 b1 b2 : Nat) (h0 : b0 < 256) (h1 : b1 < 256) (h2 : b2 < 256) :
    chunkHeaderVitalPack (chunkHeaderVitalUnpackWarn b0 b1 b2).1 =
      some (b0, b1 ||| ((b2 &&& 192) >>> 2), b2 ||| ((b1 &&& 48) <<< 2)) := by
  have hm : b1 % 16 < 16 := Nat.mod_lt _ (by decide)
  have hS : (b1 / 16 * 64 ||| b2) < 1024 := Nat.or_lt_two_pow (n := 10)
    ((Nat.mul_lt_mul_right (show 0 < 64 by decide)).mpr (Nat.div_lt_of_lt_mul h1 : b1 / 16 < 16))
    (Nat.lt_trans h2 (by decide))
  rw [chv_unpack_eq _ _ _ h2, Nat.mod_eq_of_lt (Nat.div_lt_of_lt_mul h1 : b1 / 16 < 16),
    chv_pack_eq_digits _ (Nat.mod_lt _ (by decide)) (join_lt _ _ 16 64 (Nat.mod_lt _ (by decide)) hm) hS]
  simp only [join_div _ _ _ hm, join_mod _ _ _ hm, Nat.mod_eq_of_lt (Nat.div_lt_of_lt_mul h0 : b0 / 64 < 4), Nat.div_add_mod',
    mul_pow_or_div _ _ 6, Nat.or_mod_two_pow (n := 8), Nat.mod_eq_of_lt h2, and_192, and_48,
    Nat.shiftRight_eq_div_pow, Nat.shiftLeft_eq, Nat.reducePow, Nat.mod_eq_of_lt (Nat.div_lt_of_lt_mul h2 : b2 / 64 < 4)]
  rw [show b2 / 64 * 64 / 4 = b2 / 64 * 16 from Nat.mul_div_assoc _ (by decide), show b1 / 16 * 64 % 256 = b1 / 16 % 4 * 16 * 4 from by
      rw [show (256 : Nat) = 4 * 64 from rfl, Nat.mul_mod_mul_right, Nat.mul_assoc],
    ← or_high _ _ _ 4 hm, Nat.div_add_mod', Nat.or_comm b2]

end Tw.Packet6
