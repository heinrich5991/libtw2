import Tw.Proofs.HuffmanTable
import Tw.Proofs.Packet6Spec
import Tw.Proofs.Packet7Spec
import Tw.Props.C05
import Tw.Props.C06

/-! C07 discharges the Huffman hypotheses of its users (C05/C06 packet codecs) for the built-in table
`Tw.Gen.Huffman.table`, so the packet theorems can be instantiated without hypotheses. -/
namespace Tw.Huffman

/-- `Tw.Packet6.HuffmanRoundTrip` for every well-formed table (the built-in one, or one
`from_frequencies` returned): C07 `roundtrip` -/
theorem packet6_roundTrip (t : Table) (h : WellFormed t) : Tw.Packet6.HuffmanRoundTrip t :=
  decompress_compress t h false

theorem packet7_roundTrip (t : Table) (h : WellFormed t) : Tw.Packet7.HuffmanRoundTrip t :=
  decompress_compress t h false

/-- `Tw.Props.C06.HuffmanTerminates` likewise: C07 `decompress_total` -/
theorem c06_terminates (t : Table) (h : WellFormed t) : Tw.Props.C06.HuffmanTerminates t :=
  decompress_terminates t h

theorem v6_write_read_roundtrip_table (p : Tw.Packet6.Packet) (hv : Tw.Packet6.Valid p)
    (cap scap : Nat) (hcap : Tw.Gen.Packet6.MAX_PACKETSIZE ≤ cap)
    (hs : Tw.Gen.Packet6.MAX_PACKETSIZE ≤ scap) :
    ∃ bs, Tw.Packet6.write Tw.Gen.Huffman.table p cap = .ok bs
      ∧ bs.length ≤ Tw.Gen.Packet6.MAX_PACKETSIZE
      ∧ ∃ r, Tw.Packet6.read Tw.Gen.Huffman.table bs (some p.hasToken) (some scap) = .ok r
          ∧ r.pkt = p ∧ r.warns = Tw.Packet6.expectedWarnings p :=
  Tw.Props.C05.v6_write_read_roundtrip _ (packet6_roundTrip _ wellFormed_table) p hv cap scap hcap hs

theorem v7_write_read_roundtrip_table (p : Tw.Packet7.Packet) (hv : Tw.Packet7.Valid p)
    (cap scap : Nat) (hcap : Tw.Gen.Packet7.MAX_PACKETSIZE ≤ cap)
    (hs : Tw.Gen.Packet7.MAX_PACKETSIZE ≤ scap) :
    ∃ bs, Tw.Packet7.write Tw.Gen.Huffman.table p cap = .ok bs
      ∧ bs.length ≤ Tw.Gen.Packet7.MAX_PACKETSIZE
      ∧ ∃ r, Tw.Packet7.read Tw.Gen.Huffman.table bs (some scap) = .ok r ∧ r.pkt = p
          ∧ r.warns = Tw.Packet7.expectedWarnings p :=
  Tw.Props.C05.v7_write_read_roundtrip _ (packet7_roundTrip _ wellFormed_table) p hv cap scap hcap hs

theorem v6_read_terminates_table (bytes : List UInt8) (hint : Option Bool) (buffer : Option Nat) :
    Tw.Packet6.read Tw.Gen.Huffman.table bytes hint buffer ≠ .diverge :=
  Tw.Props.C06.v6_read_terminates _ (c06_terminates _ wellFormed_table) bytes hint buffer

theorem v7_read_terminates_table (bytes : List UInt8) (buffer : Option Nat) :
    Tw.Packet7.read Tw.Gen.Huffman.table bytes buffer ≠ .diverge :=
  Tw.Props.C06.v7_read_terminates _ (c06_terminates _ wellFormed_table) bytes buffer

end Tw.Huffman
