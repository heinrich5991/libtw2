import Tw.Model.Packet6

/-! What `Props/C05` and `Props/C06` say about 0.6 packets and read results is said with the definitions of this file;
they rest on the model alone. -/
namespace Tw.Packet6
open Tw.Packet

/-- C05's `Valid` for 0.6 packets. `ack` below `2^SEQUENCE_BITS` = 1024 and the chunk count a byte, as the header holds
them; payload and token at most `READ_PAYLOAD_LIMIT`, because the reader refuses more; a close reason NUL-free, because
it is written NUL-terminated. -/
def Valid : Packet → Prop
  | .connless payload => payload.length ≤ Tw.Gen.Packet6.CONNLESS_WRITE_LIMIT
  | .connected ack tok (.chunks _ nc payload) =>
    ack < 1024 ∧ nc < 256 ∧
      payload.length + (if tok.isSome then Tw.Gen.Packet6.TOKEN_SIZE else 0) ≤ Tw.Gen.Packet6.READ_PAYLOAD_LIMIT
  | .connected ack _ (.control (.close r)) =>
    ack < 1024 ∧ r.length ≤ Tw.Gen.Packet6.CTRLMSG_CLOSE_REASON_LENGTH ∧ (∀ b ∈ r, b ≠ 0)
  | .connected ack _ (.control _) => ack < 1024

/-- validity of a control message (what `ControlPacket::write` asserts, plus the reason limit) -/
def ValidControl : Control → Prop
  | .close m => m.length ≤ Tw.Gen.Packet6.CTRLMSG_CLOSE_REASON_LENGTH ∧ ∀ b ∈ m, b ≠ 0
  | _ => True

theorem valid_control_iff (ack : Nat) (tok : Option Token) (c : Control) :
    Valid (.connected ack tok (.control c)) ↔ ack < 1024 ∧ ValidControl c := by
  cases c with
  | close m => exact Iff.rfl
  | _ => exact ⟨fun h => ⟨h, trivial⟩, fun h => h.1⟩

/-- the token hint under which `read` returns what `write` was given -/
def Packet.hasToken : Packet → Bool
  | .connless _ => false
  | .connected _ tok _ => tok.isSome

/-- warnings the reader gives for a valid value: an empty chunk packet that does not request a
resend is reported as `ChunksNoChunks` (a statement about the value, not about the encoding) -/
def expectedWarnings : Packet → List Warning
  | .connected _ _ (.chunks false 0 _) => [.chunksNoChunks]
  | _ => []

/-- the Huffman codec round trip (C07: `Tw.Huffman.decompress_compress _ wellFormed_table false`) -/
def HuffmanRoundTrip (t : Huffman.Table) : Prop :=
  ∀ (xs : List UInt8) (cap : Nat), xs.length ≤ cap →
    Huffman.decompress t (Huffman.compress t false xs) cap = .ok xs

/-- the Huffman decoder respects the output capacity (C07: `Tw.Huffman.decompress_bound`) -/
def HuffmanBounded (t : Huffman.Table) : Prop :=
  ∀ (input : List UInt8) (cap : Nat) (out : List UInt8), Huffman.decompress t input cap = .ok out → out.length ≤ cap

def bufOf (src : Src) (input scratch : List UInt8) : List UInt8 :=
  match src with
  | .input => input
  | .scratch => scratch

theorem resolve_eq (l : Loc) (len : Nat) (input scratch : List UInt8) :
    l.resolve len input scratch = ((bufOf l.src input scratch).drop l.off).take len := by
  cases l with
  | mk src off => cases src <;> rfl

/-- the returned slice is where the result says, inside the buffer it names -/
def ReadOk.Located (r : ReadOk) (input : List UInt8) : Prop :=
  match r.loc, r.pkt.slice with
  | some l, some sl =>
    l.off + sl.length ≤ (bufOf l.src input r.scratch).length ∧ l.resolve sl.length input r.scratch = sl
  | none, none => True
  | _, _ => False

/-- the value of a read: the packet or the error, without warnings, slice location and scratch contents;
`none` for `panic` / `diverge` -/
def ReadResult.value : ReadResult → Option (Except ReadError Packet)
  | .ok r => some (.ok r.pkt)
  | .err e _ => some (.error e)
  | .panic _ => none
  | .diverge => none

end Tw.Packet6
