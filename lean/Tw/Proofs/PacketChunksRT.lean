import Tw.Model.PacketCommon

/-! Chunk list → bytes → chunk iterator returns the list, with no warning (generic part). -/
namespace Tw.Packet

/-- what the round trip needs from a protocol's chunk header encoding `hdr data vital` -/
structure ChunkEnc (c : ChunkCodec) (hdr : List UInt8 → Option (Nat × Bool) → List UInt8)
    (ok : List UInt8 → Option (Nat × Bool) → Prop) : Prop where
  hread : ∀ d v rest, ok d v → ∃ h, c.readHeader (hdr d v ++ (d ++ rest)) = some (h, v.map Prod.fst, []) ∧
    h.size = d.length ∧ (∀ q r, v = some (q, r) → decide (h.flags &&& c.resendFlag ≠ 0) = r)
  hlen : ∀ d v, (hdr d v).length = c.hdrLen v.isSome
  hpos : ∀ b, 0 < c.hdrLen b

def encodeChunks (hdr : List UInt8 → Option (Nat × Bool) → List UInt8)
    (cs : List (List UInt8 × Option (Nat × Bool))) : List UInt8 :=
  cs.flatMap fun x => hdr x.1 x.2 ++ x.1

theorem Iter.next_encoded (c : ChunkCodec) (hdr) (ok) (H : ChunkEnc c hdr ok) (d : List UInt8)
    (v : Option (Nat × Bool)) (rest : List UInt8) (hok : ok d v) (it : Iter)
    (hdat : it.data = hdr d v ++ (d ++ rest)) :
    ∃ off, it.next c = (some { data := d, vital := v, off := off }, [],
      { it with data := rest, numRemaining := it.numRemaining - 1 }) := by
  obtain ⟨h, hr, hsz, hres⟩ := H.hread d v rest hok
  have hl := H.hlen d v
  have hp := H.hpos v.isSome
  unfold Iter.next
  have hne : it.data ≠ [] := by
    rw [hdat]
    intro hnil
    have := congrArg List.length hnil
    simp only [List.length_append, List.length_nil] at this
    omega
  cases hd : it.data with
  | nil => exact absurd hd hne
  | cons b bs =>
    simp only
    rw [← hd, hdat, hr]
    simp only [Option.isSome_map]
    have hdrop : List.drop (c.hdrLen v.isSome) (hdr d v ++ (d ++ rest)) = d ++ rest := by
      rw [← hl]; exact List.drop_left' rfl
    rw [hdrop]
    have hnlt : ¬ (d ++ rest).length < h.size := by simp [hsz]
    rw [if_neg hnlt, hsz, List.take_left' rfl, List.drop_left' rfl]
    refine ⟨it.pos + c.hdrLen v.isSome, ?_⟩
    congr 2
    · cases v with
      | none => rfl
      | some qr =>
        obtain ⟨q, r⟩ := qr
        simp only [Option.map_some]
        rw [hres q r rfl]

theorem Iter.drain_encoded (c : ChunkCodec) (hdr) (ok) (H : ChunkEnc c hdr ok) :
    ∀ (cs : List (List UInt8 × Option (Nat × Bool))), (∀ x ∈ cs, ok x.1 x.2) →
    ∀ (it : Iter), it.data = encodeChunks hdr cs → it.numRemaining = cs.length → it.checked = false →
    ∀ fuel, it.data.length < fuel →
      ((Iter.drainFuel c fuel it).1.map fun ch => (ch.data, ch.vital)) = cs ∧
      (Iter.drainFuel c fuel it).2.1 = [] ∧ (Iter.drainFuel c fuel it).2.2.2 = false := by
  intro cs
  induction cs with
  | nil =>
    intro _ it hdat hnum hchk fuel hfuel
    cases fuel with
    | zero => omega
    | succ n =>
      simp only [encodeChunks, List.flatMap_nil] at hdat
      unfold Iter.drainFuel Iter.next
      simp [hdat, hchk, hnum]
  | cons x xs ih =>
    intro hok it hdat hnum hchk fuel hfuel
    cases fuel with
    | zero => omega
    | succ n =>
      have hdat' : it.data = hdr x.1 x.2 ++ (x.1 ++ encodeChunks hdr xs) := by
        rw [hdat]; simp [encodeChunks]
      obtain ⟨off, hnext⟩ := Iter.next_encoded c hdr ok H x.1 x.2 (encodeChunks hdr xs) (hok x (by simp)) it hdat'
      unfold Iter.drainFuel
      rw [hnext]
      simp only
      have hlen : (encodeChunks hdr xs).length < n := by
        have : it.data.length = (hdr x.1 x.2).length + (x.1.length + (encodeChunks hdr xs).length) := by
          rw [hdat']; simp
        have hp := H.hpos x.2.isSome
        rw [H.hlen] at this
        omega
      obtain ⟨h1, h2, h3⟩ := ih (fun y hy => hok y (by simp [hy]))
        { it with data := encodeChunks hdr xs, numRemaining := it.numRemaining - 1 } rfl
        (by simp only [hnum, List.length_cons]; omega) hchk n hlen
      refine ⟨?_, ?_, h3⟩
      · simp only [List.map_cons, h1]
      · simp only [h2, List.append_nil]

end Tw.Packet
