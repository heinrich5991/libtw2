import Tw.Proofs.SnapRaw

/-! C11: the readers and `read_with_delta` never panic, their loops are bounded by the input
length, and what they accept is well-formed (sorted, unique keys, inside the limits) and no larger
than the input.  Each reader is walked through once, by an elimination lemma (`*_elim`) that says
what its result can be; the properties are read off from that. -/
namespace Tw.Snap
open Tw.Packer (readInt writeInt inI32 readTail)

theorem readInt_rest_lt {bs : List UInt8} {v : Int} {rest : List UInt8} {ws : List Tw.Packer.Warning}
    (h : readInt bs = some (v, rest, ws)) : rest.length < bs.length ∧ I32 v := by
  obtain ⟨c, -, -, -, hv, -⟩ := Tw.Packer.readInt_inv bs v rest ws h
  refine ⟨(Tw.Packer.readInt_rest h).1, ?_⟩
  unfold inI32 at hv
  unfold I32
  omega

/-! ### `RawSnap::read_from_ints`: whatever it accepts is `addAll l` on the empty snapshot, `l` taken from the input -/

theorem drop_eq_slice {l : List Int} {prev off : Nat} (h1 : prev < off) (h2 : off ≤ l.length) {k : Int}
    (hk : l[prev]? = some k) :
    l.drop prev = k :: (l.drop (prev + 1)).take (off - (prev + 1)) ++ l.drop off := by
  have hlt : prev < l.length := by omega
  rw [List.drop_eq_getElem_cons hlt]
  have : l[prev] = k := by simpa [hlt] using hk
  rw [this, List.cons_append]
  congr 1
  have e : off = (prev + 1) + (off - (prev + 1)) := by omega
  conv => rhs; rhs; rw [e, ← List.drop_drop]
  exact (List.take_append_drop _ _).symm

theorem readItemsLoop_elim (itemData : List Int) {n : Nat} (hn : n = itemData.length)
    {motive : Res RawSnap → Prop} (err : ∀ e, motive (.err e)) :
    ∀ (offs : List Int) (prev : Nat) (s : RawSnap),
      (∀ l s', flatItems l = itemData.drop prev → addAll l s = .ok s' → motive (.ok s')) →
      motive (readItemsLoop itemData n offs prev s) := by
  subst hn
  intro offs
  induction offs with
  | nil =>
    intro prev s ok
    rw [readItemsLoop]
    refine ite_elim (fun _ => err _) fun _ => ?_
    obtain ⟨k, hk, he⟩ := addAt_eq_addItem itemData prev itemData.length s (by omega) (Nat.le_refl _)
    rw [he]
    cases ha : s.addItem k _ with
    | error e => exact err _
    | ok s1 =>
      refine ok [(k, _)] s1 ?_ (by rw [addAll_cons ha]; rfl)
      rw [drop_eq_slice (by omega) (Nat.le_refl _) hk]
      simp [flatItems]
  | cons o os ih =>
    intro prev s ok
    rw [readItemsLoop]
    refine ite_elim (fun _ => err _) fun _ => ite_elim (fun _ => err _) fun _ =>
      ite_elim (fun _ => err _) fun _ => ite_elim (fun _ => err _) fun _ => ?_
    obtain ⟨k, hk, he⟩ := addAt_eq_addItem itemData prev (o.toNat / 4) s (by omega) (by omega)
    rw [he]
    cases ha : s.addItem k _ with
    | error e => exact err _
    | ok s1 =>
      refine ih (o.toNat / 4) s1 fun l s' hl hs' => ok ((k, _) :: l) s' ?_ (by rw [addAll_cons ha]; exact hs')
      rw [drop_eq_slice (off := o.toNat / 4) (by omega) (by omega) hk, flatItems_cons, hl]

theorem RawSnap.readFromInts_elim (data : List Int) {motive : Res (RawSnap × List Warning) → Prop}
    (err : ∀ e, motive (.err e))
    (ok : ∀ l s ws, addAll l .empty = .ok s → (∀ x ∈ flatItems l, x ∈ data) →
      (flatItems l).length + 2 ≤ data.length → motive (.ok (s, ws))) :
    motive (RawSnap.readFromInts data) := by
  match data with
  | [] => exact err _
  | [ds] => exact ite_elim (fun _ => err _) (fun _ => err _)
  | ds :: n :: body =>
    -- the five tests of the header, in the order of the model
    refine ite_elim (fun _ => err _) fun _ => ite_elim (fun _ => err _) fun _ => ite_elim (fun _ => err _) fun _ =>
      ite_elim (fun _ => err _) fun _ => ite_elim (fun _ => err _) fun hlen => ?_
    have hsub : ∀ x ∈ (body.drop n.toNat).take (ds.toNat / 4), x ∈ ds :: n :: body := fun x hx =>
      List.mem_cons_of_mem _ (List.mem_cons_of_mem _ (List.mem_of_mem_drop (List.mem_of_mem_take hx)))
    have hlen : ((body.drop n.toNat).take (ds.toNat / 4)).length = ds.toNat / 4 := by
      rw [List.length_take, List.length_drop]; omega
    generalize body.take n.toNat = offs
    match offs with
    | [] => exact ite_elim (fun _ => err _) fun _ => ok [] _ _ rfl (by simp [flatItems]) (by simp [flatItems])
    | o :: os =>
      refine ite_elim (fun _ => err _) fun _ => ite_elim (fun _ => err _) fun _ => ite_elim (fun _ => err _) fun _ => ?_
      refine readItemsLoop_elim _ hlen.symm
        (motive := fun r => motive (match r with
          | .ok s => .ok (s, _) | .err e => .err e | .panic p => .panic p))
        err _ 0 .empty fun l s' hl hs' => ok l s' _ hs' (by rw [hl]; exact hsub) ?_
      rw [hl, List.drop_zero, hlen, List.length_cons, List.length_cons]
      omega

theorem RawSnap.readFromInts_not_panic (data : List Int) : ∀ p, RawSnap.readFromInts data ≠ .panic p :=
  fun p => RawSnap.readFromInts_elim data (motive := (· ≠ .panic p)) (fun _ => nofun) fun _ _ _ _ _ _ => nofun

theorem RawSnap.readFromInts_WF {data : List Int} {s : RawSnap} {ws : List Warning} (hI : ∀ x ∈ data, I32 x)
    (h : RawSnap.readFromInts data = .ok (s, ws)) : s.WF := by
  revert h
  refine RawSnap.readFromInts_elim data (motive := fun r => r = .ok (s, ws) → s.WF) (fun _ => nofun)
    fun l s' ws' hs hl _ h => ?_
  injection h with h
  injection h with h _
  subst h
  refine addAll_WF l _ _ empty_WF (fun p hp => ?_) hs
  have hsub : ∀ x ∈ p.1 :: p.2, I32 x := fun x hx =>
    hI x (hl x (List.mem_flatMap.mpr ⟨p, hp, hx⟩))
  exact ⟨hsub _ (by simp), fun x hx => hsub x (by simp [hx])⟩

theorem RawSnap.readFromInts_size_le {data : List Int} {s : RawSnap} {ws : List Warning}
    (h : RawSnap.readFromInts data = .ok (s, ws)) : s.items.length + dataLen s.items + 2 ≤ data.length := by
  revert h
  refine RawSnap.readFromInts_elim data
    (motive := fun r => r = .ok (s, ws) → s.items.length + dataLen s.items + 2 ≤ data.length)
    (fun _ => nofun) fun l s' ws' hs _ hlen h => ?_
  injection h with h
  injection h with h _
  subst h
  have := addAll_measure l _ _ hs
  simp only [RawSnap.empty, List.length_nil, show dataLen [] = 0 from rfl] at this
  omega

/-! ### `RawSnap::read`: the byte decoder yields `i32`s, at most one per byte; then the reader above -/

theorem decodeInts_spec : ∀ (fuel : Nat) (bs : List UInt8),
    (∀ x ∈ (decodeInts fuel bs).1, I32 x) ∧ (decodeInts fuel bs).1.length ≤ bs.length := by
  intro fuel
  induction fuel with
  | zero => intro bs; simp [decodeInts]
  | succ f ih =>
    intro bs
    cases bs with
    | nil => simp [decodeInts]
    | cons b r =>
      simp only [decodeInts]
      cases hr : readInt (b :: r) with
      | none => simp
      | some t =>
        obtain ⟨v, rest, w⟩ := t
        obtain ⟨hlt, hv⟩ := readInt_rest_lt hr
        obtain ⟨h1, h2⟩ := ih rest
        refine ⟨fun x hx => ?_, ?_⟩
        · rcases List.mem_cons.mp hx with rfl | hx
          · exact hv
          · exact h1 x hx
        · simp only [List.length_cons] at hlt ⊢
          omega

/-- The fuel `bs.length` given to the decoding loop is never what stops it: with any larger fuel
the result is the same (every iteration consumes at least one byte). -/
theorem decodeInts_fuel : ∀ (fuel : Nat) (bs : List UInt8), bs.length ≤ fuel →
    decodeInts fuel bs = decodeInts bs.length bs := by
  intro fuel
  induction fuel using Nat.strongRecOn with
  | _ fuel ih =>
    intro bs hf
    cases bs with
    | nil => cases fuel <;> simp [decodeInts]
    | cons b r =>
      cases fuel with
      | zero => simp at hf
      | succ f =>
        simp only [decodeInts, List.length_cons]
        cases hr : readInt (b :: r) with
        | none => rfl
        | some t =>
          obtain ⟨v, rest, w⟩ := t
          have hlt := (readInt_rest_lt hr).1
          simp only [List.length_cons] at hlt
          have e1 := ih f (by omega) rest (by simp at hf; omega)
          have e2 := ih r.length (by simp at hf; omega) rest (by omega)
          simp only [e1, e2]

theorem RawSnap.readBytes_eq {bs : List UInt8} {s : RawSnap} {ws : List Warning} (h : RawSnap.readBytes bs = .ok (s, ws)) :
    ∃ ws', RawSnap.readFromInts (decodeInts bs.length bs).1 = .ok (s, ws') := by
  unfold RawSnap.readBytes at h
  cases hr : RawSnap.readFromInts (decodeInts bs.length bs).1 with
  | ok r => simp only [hr] at h; injection h with h; injection h with h _; exact ⟨r.2, by rw [← h]⟩
  | err e => simp [hr] at h
  | panic p => simp [hr] at h

theorem RawSnap.readBytes_not_panic (bs : List UInt8) : ∀ p, RawSnap.readBytes bs ≠ .panic p := by
  intro p hp
  unfold RawSnap.readBytes at hp
  cases hr : RawSnap.readFromInts (decodeInts bs.length bs).1 with
  | ok r => simp [hr] at hp
  | err e => simp [hr] at hp
  | panic q => exact RawSnap.readFromInts_not_panic _ q hr

theorem RawSnap.readBytes_WF {bs : List UInt8} {s : RawSnap} {ws : List Warning}
    (h : RawSnap.readBytes bs = .ok (s, ws)) : s.WF :=
  let ⟨_, hr⟩ := RawSnap.readBytes_eq h
  RawSnap.readFromInts_WF (decodeInts_spec _ _).1 hr

theorem RawSnap.readBytes_size_le {bs : List UInt8} {s : RawSnap} {ws : List Warning}
    (h : RawSnap.readBytes bs = .ok (s, ws)) : s.items.length + dataLen s.items + 2 ≤ bs.length := by
  obtain ⟨ws', hr⟩ := RawSnap.readBytes_eq h
  have := RawSnap.readFromInts_size_le hr
  have := (decodeInts_spec bs.length bs).2
  omega

/-! ### `read_with_delta`: an update replaces an item by one of the same length or inserts one under the
limit check, so `RawSnap.WF` is kept -/

theorem applyUpdates_cons_elim {motive : Res Items → Prop} (from_ : Items) (k : Int) (diff : List Int)
    (r out : Items) (err : ∀ e, motive (.err e))
    (replace : ∀ old v, mfind k out = some old → diff.length = old.length →
      applyItemDelta (mfind k from_) diff = some v → motive (applyUpdates from_ r (minsert k v out)))
    (insert : ∀ v, mfind k out = none → vacantCheck out diff.length = none →
      applyItemDelta (mfind k from_) diff = some v → motive (applyUpdates from_ r (minsert k v out))) :
    motive (applyUpdates from_ ((k, diff) :: r) out) := by
  rw [applyUpdates]
  cases hf : mfind k out with
  | some old =>
    refine ite_elim (fun _ => err _) fun hl => ?_
    cases ha : applyItemDelta (mfind k from_) diff with
    | none => exact err _
    | some v => exact replace old v hf (Decidable.not_not.mp hl) ha
  | none =>
    dsimp only
    cases hc : vacantCheck out diff.length with
    | some e => exact err _
    | none =>
      cases ha : applyItemDelta (mfind k from_) diff with
      | none => exact err _
      | some v => exact insert v hf hc ha

theorem applyUpdates_not_panic (from_ : Items) : ∀ (upd out : Items) p, applyUpdates from_ upd out ≠ .panic p := by
  intro upd
  induction upd with
  | nil => intro out p h; cases h
  | cons q r ih =>
    obtain ⟨k, diff⟩ := q
    intro out p
    exact applyUpdates_cons_elim (motive := (· ≠ .panic p)) from_ k diff r out (fun _ => nofun)
      (fun _ _ _ _ _ => ih _ p) fun _ _ _ _ => ih _ p

/-- `RawSnap::read_with_delta` never panics, whatever the delta: differing sizes are
`DeltaDifferingSizes` (D19, fixed in libtw2). -/
theorem applyDelta_not_panic {a : RawSnap} (ha : Sorted a.items) (d : Delta) : ∀ p, applyDelta a d ≠ .panic p := by
  intro p
  unfold applyDelta
  cases hc : copyUndeleted d.deleted a.items [] 0 with
  | panic q =>
    rcases copyUndeleted_cases d.deleted a.items [] 0 ha with h | ⟨_, e, h⟩
    · rw [h] at hc; cases hc
    · rw [h] at hc; cases hc
  | err e => intro h; cases h
  | ok r =>
    obtain ⟨out, n⟩ := r
    simp only
    cases hu : applyUpdates a.items d.updated out with
    | panic q => exact absurd hu (applyUpdates_not_panic a.items d.updated out q)
    | err e => intro h; cases h
    | ok out' => intro h; cases h

theorem WF_replace {m : Items} {k : Int} {v old : List Int} (hm : RawSnap.WF ⟨m⟩) (hk : I32 k)
    (hv : ∀ x ∈ v, I32 x) (hf : mfind k m = some old) (hl : v.length = old.length) :
    RawSnap.WF ⟨minsert k v m⟩ := by
  obtain ⟨hu, hlim⟩ := WF_iff.mp hm
  obtain ⟨e1, e2⟩ := minsert_replace_measure hu.1 hf hl
  refine WF_iff.mpr ⟨sortedI32_minsert hu hk hv, ?_⟩
  unfold Limits
  rwa [e1, e2]

theorem applyUpdates_WF (from_ : Items) : ∀ (upd out out' : Items),
    (∀ p ∈ upd, I32 p.1 ∧ ∀ v ∈ p.2, I32 v) → RawSnap.WF ⟨out⟩ →
    applyUpdates from_ upd out = .ok out' → RawSnap.WF ⟨out'⟩ := by
  intro upd
  induction upd with
  | nil => intro out out' _ ho h; cases h; exact ho
  | cons q r ih =>
    obtain ⟨k, diff⟩ := q
    intro out out' hI ho
    have hIk := hI (k, diff) (by simp)
    have hIr : ∀ p ∈ r, I32 p.1 ∧ ∀ v ∈ p.2, I32 v := fun p hp => hI p (by simp [hp])
    refine applyUpdates_cons_elim (motive := fun res => res = .ok out' → RawSnap.WF ⟨out'⟩) from_ k diff r out
      (fun _ => nofun) (fun old v hf hl ha => ih _ out' hIr ?_) fun v hf hc ha => ih _ out' hIr ?_
    · exact WF_replace ho hIk.1 (applyItemDelta_I32 ha hIk.2) hf ((applyItemDelta_length ha).trans hl)
    · exact WF_insert_vacant ho hIk.1 (applyItemDelta_I32 ha hIk.2) hf (applyItemDelta_length ha ▸ hc)

theorem applyDelta_WF {a s : RawSnap} {d : Delta} {ws : List Warning} (ha : a.WF)
    (hd : ∀ p ∈ d.updated, I32 p.1 ∧ ∀ v ∈ p.2, I32 v) (h : applyDelta a d = .ok (s, ws)) : s.WF := by
  unfold applyDelta at h
  cases hc : copyUndeleted d.deleted a.items [] 0 with
  | panic q => simp [hc] at h
  | err e => simp [hc] at h
  | ok r =>
    obtain ⟨out, n⟩ := r
    simp only [hc] at h
    -- the first loop leaves a part of `a`
    have hout : RawSnap.WF ⟨out⟩ := by
      rcases copyUndeleted_cases d.deleted a.items [] 0 ha.1 with h' | ⟨_, e, h'⟩
      · rw [h'] at hc
        injection hc with hc
        injection hc with hc _
        exact hc ▸ WF_filter ha _
      · rw [h'] at hc; cases hc
    cases hu : applyUpdates a.items d.updated out with
    | panic q => simp [hu] at h
    | err e => simp [hu] at h
    | ok out' =>
      simp [hu] at h
      rw [← h.1]
      exact applyUpdates_WF a.items d.updated out out' hd hout hu

/-! ### `Delta::read`: what the reader did is recorded as the integers it consumed (`Src.Reads`); what holds of
an accepted update map is an invariant of the update loop (`readUpdates_inv`) -/

theorem Src.size_zero_isEmpty {src : Src} (h : src.size = 0) : src.isEmpty = true := by
  cases src with
  | ints l => cases l <;> simp_all [Src.size, Src.isEmpty]
  | bytes l => cases l <;> simp_all [Src.size, Src.isEmpty]

/-- Nothing is asked of bytes: `read_int` yields an `i32` or fails. -/
def Src.AllI32 : Src → Prop
  | .ints l => ∀ x ∈ l, I32 x
  | .bytes _ => True

theorem Src.readInt_eq {src src' : Src} {v : Int} {w : List Warning} (h : src.readInt = some (v, src', w)) :
    src'.size < src.size ∧ (src.AllI32 → I32 v ∧ src'.AllI32) := by
  cases src with
  | ints l =>
    cases l with
    | nil => simp [Src.readInt] at h
    | cons x r =>
      simp [Src.readInt] at h
      rw [← h.1, ← h.2.1]
      exact ⟨by simp [Src.size], fun hs => ⟨hs x (by simp), fun y hy => hs y (by simp [hy])⟩⟩
  | bytes b =>
    simp only [Src.readInt] at h
    cases hr : Tw.Packer.readInt b with
    | none => simp [hr] at h
    | some t =>
      obtain ⟨v', rest, ws⟩ := t
      simp [hr] at h
      rw [← h.1, ← h.2.1]
      exact ⟨(readInt_rest_lt hr).1, fun _ => ⟨(readInt_rest_lt hr).2, trivial⟩⟩

/-- `src.Reads xs src'`: `read_int`, called `xs.length` times from `src`, returns `xs` and leaves `src'`. -/
inductive Src.Reads : Src → List Int → Src → Prop
  | nil (src : Src) : Reads src [] src
  | cons {src s1 src' : Src} {x : Int} {xs : List Int} {w : List Warning} :
      src.readInt = some (x, s1, w) → Reads s1 xs src' → Reads src (x :: xs) src'

theorem Src.Reads.append {a b c : Src} {xs ys : List Int} (h1 : a.Reads xs b) (h2 : b.Reads ys c) :
    a.Reads (xs ++ ys) c := by
  induction h1 with
  | nil => exact h2
  | cons h _ ih => exact .cons h (ih h2)

theorem Src.Reads.size_le {a b : Src} {xs : List Int} (h : a.Reads xs b) : b.size + xs.length ≤ a.size := by
  induction h with
  | nil => simp
  | cons h _ ih => have := (Src.readInt_eq h).1; simp only [List.length_cons]; omega

theorem Src.Reads.allI32 {a b : Src} {xs : List Int} (h : a.Reads xs b) (ha : a.AllI32) :
    (∀ x ∈ xs, I32 x) ∧ b.AllI32 := by
  induction h with
  | nil => exact ⟨by simp, ha⟩
  | cons h _ ih =>
    obtain ⟨hx, h1⟩ := (Src.readInt_eq h).2 ha
    obtain ⟨hxs, hb⟩ := ih h1
    exact ⟨by simpa [hx] using hxs, hb⟩

theorem readData_reads : ∀ (n : Nat) {src src' : Src} {vs : List Int} {w : List Warning},
    readData n src = some (vs, src', w) → src.Reads vs src' ∧ vs.length = n := by
  intro n
  induction n with
  | zero => intro src src' vs w h; simp [readData] at h; obtain ⟨rfl, rfl, _⟩ := h; exact ⟨.nil _, rfl⟩
  | succ n ih =>
    intro src src' vs w h
    rw [readData] at h
    match h1 : src.readInt with
    | none => simp [h1] at h
    | some (v, s1, w1) =>
      match h2 : readData n s1 with
      | none => simp [h1, h2] at h
      | some (vs2, s2, w2) =>
        simp [h1, h2] at h
        obtain ⟨rfl, rfl, _⟩ := h
        obtain ⟨hr, hl⟩ := ih h2
        exact ⟨.cons h1 hr, by simp [hl]⟩

theorem readKeys_reads : ∀ (n : Nat) {src src' : Src} {acc ks : List Int} {ws ws' : List Warning},
    readKeys n src acc ws = some (ks, src', ws') →
    ∃ xs, src.Reads xs src' ∧ xs.length = n ∧ ks = xs.foldl (fun a k => sinsert k a) acc := by
  intro n
  induction n with
  | zero => intro src src' acc ks ws ws' h; simp [readKeys] at h; obtain ⟨rfl, rfl, _⟩ := h; exact ⟨[], .nil _, rfl, rfl⟩
  | succ n ih =>
    intro src src' acc ks ws ws' h
    rw [readKeys] at h
    match h1 : src.readInt with
    | none => simp [h1] at h
    | some (v, s1, w1) =>
      simp only [h1] at h
      obtain ⟨xs, hr, hl, hk⟩ := ih h
      exact ⟨v :: xs, .cons h1 hr, by simp [hl], hk⟩

theorem readUpdates_succ_elim {motive : Res (Items × Nat × List Warning) → Prop} (objSize : Nat → Option Nat)
    (deleted : List Int) (f : Nat) (src : Src) (upd : Items) (bl num : Nat) (ws : List Warning)
    (done : src.isEmpty = true → motive (.ok (upd, num, ws)))
    (err : ∀ e, motive (.err e))
    (step : ∀ (t id : Int) (hdr data : List Int) (src' : Src) (bl' : Nat) (mid : List Warning),
      src.Reads (t :: id :: (hdr ++ data)) src' →
      motive (readUpdates objSize deleted f src' (minsert (keyOf t.toNat id.toNat) data upd) bl' (num + 1)
        (ws ++ mid ++ if deleted.contains (keyOf t.toNat id.toNat) then [Warning.deleteUpdate] else []))) :
    motive (readUpdates objSize deleted (f + 1) src upd bl num ws) := by
  rw [readUpdates]
  refine ite_elim done fun _ => ?_
  cases h1 : src.readInt with
  | none => exact err _
  | some r1 =>
    obtain ⟨t, s1, w1⟩ := r1
    dsimp only
    cases h2 : s1.readInt with
    | none => exact err _
    | some r2 =>
      obtain ⟨id, s2, w2⟩ := r2
      dsimp only
      refine ite_elim (fun _ => err _) fun _ => ite_elim (fun _ => err _) fun _ => ?_
      -- what follows once the size is known, whichever way it became known; the statement of `key` is the
      -- rest of the body of `readUpdates` (`Model/Snap.lean`) word for word, and has to follow it
      have key : ∀ (size : Nat) (hdr : List Int) (s3 : Src) (w3 : List Warning), s2.Reads hdr s3 → motive
          (if bl ≥ 4294967296 then .err .tooLongDiff
              else if bl + size ≥ 4294967296 then .err .tooLongDiff
              else
                match readData size s3 with
                | none => .err .itemDiffsUnpacking
                | some (data, s4, w4) =>
                  let k := keyOf t.toNat id.toNat
                  let dupW := if (mfind k upd).isSome then [Warning.duplicateUpdate] else []
                  let delW := if deleted.contains k then [Warning.deleteUpdate] else []
                  readUpdates objSize deleted f s4 (minsert k data upd) (bl + size) (num + 1)
                    (ws ++ w1 ++ w2 ++ w3 ++ w4 ++ dupW ++ delW)) := by
        intro size hdr s3 w3 hr
        refine ite_elim (fun _ => err _) fun _ => ite_elim (fun _ => err _) fun _ => ?_
        cases h4 : readData size s3 with
        | none => exact err _
        | some r4 =>
          obtain ⟨data, s4, w4⟩ := r4
          dsimp only
          have e : ∀ dupW delW : List Warning, ws ++ w1 ++ w2 ++ w3 ++ w4 ++ dupW ++ delW
              = ws ++ (w1 ++ w2 ++ w3 ++ w4 ++ dupW) ++ delW := by intro _ _; simp only [List.append_assoc]
          rw [e]
          exact step t id hdr data s4 _ _ (.cons h1 (.cons h2 (hr.append (readData_reads _ h4).1)))
      cases ho : objSize t.toNat with
      | some sz => exact key sz [] s2 [] (.nil _)
      | none =>
        dsimp only
        cases h3 : s2.readInt with
        | none => exact err _
        | some r3 =>
          obtain ⟨sz, s3, w3⟩ := r3
          dsimp only
          by_cases hneg : sz < 0
          · rw [if_pos hneg]; exact err _
          · rw [if_neg hneg]; exact key sz.toNat [sz] s3 w3 (.cons h3 (.nil _))

/-- The fuel handed to the update loop of `Delta::read_impl` (the size of the remaining input)
always suffices: the loop never runs out of it, and nothing else in it can panic. -/
theorem readUpdates_not_panic (objSize : Nat → Option Nat) (deleted : List Int) :
    ∀ (fuel : Nat) (src : Src) (upd : Items) (bl num : Nat) (ws : List Warning), src.size ≤ fuel →
      ∀ p, readUpdates objSize deleted fuel src upd bl num ws ≠ .panic p := by
  intro fuel
  induction fuel with
  | zero =>
    intro src upd bl num ws hf p
    have := Src.size_zero_isEmpty (by omega : src.size = 0)
    simp [readUpdates, this]
  | succ f ih =>
    intro src upd bl num ws hf p
    refine readUpdates_succ_elim (motive := fun r => r ≠ .panic p) objSize deleted f src upd bl num ws
      (fun _ => nofun) (fun _ => nofun) ?_
    intro t id hdr data src' bl' mid hr
    have := hr.size_le
    simp only [List.length_cons] at this
    exact ih _ _ _ _ _ (by omega) p

theorem readUpdates_inv {P : Src → Items → List Warning → Prop} (objSize : Nat → Option Nat)
    (deleted : List Int)
    (step : ∀ {src upd ws} {t id : Int} {hdr data : List Int} {src'} mid, P src upd ws →
      src.Reads (t :: id :: (hdr ++ data)) src' →
      P src' (minsert (keyOf t.toNat id.toNat) data upd)
        (ws ++ mid ++ if deleted.contains (keyOf t.toNat id.toNat) then [Warning.deleteUpdate] else [])) :
    ∀ {fuel : Nat} {src : Src} {upd : Items} {bl num : Nat} {ws : List Warning} {upd' : Items} {num' : Nat}
      {ws' : List Warning}, P src upd ws →
      readUpdates objSize deleted fuel src upd bl num ws = .ok (upd', num', ws') → ∃ src', P src' upd' ws' := by
  intro fuel
  induction fuel with
  | zero =>
    intro src upd bl num ws upd' num' ws' hP h
    rw [readUpdates] at h
    split at h
    · simp at h; exact ⟨src, by rw [← h.1, ← h.2.2]; exact hP⟩
    · cases h
  | succ f ih =>
    intro src upd bl num ws upd' num' ws' hP
    refine readUpdates_succ_elim (motive := fun r => r = .ok (upd', num', ws') → ∃ src', P src' upd' ws')
      objSize deleted f src upd bl num ws ?_ (fun _ => nofun) ?_
    · intro _ h
      simp at h
      exact ⟨src, by rw [← h.1, ← h.2.2]; exact hP⟩
    · intro t id hdr data src' bl' mid hr h
      exact ih (step mid hP hr) h

/-- The clause of `Delta.WF` that `Delta::read` does not enforce but warns about (`DeleteUpdate`). -/
def NoOverlap (deleted : List Int) (upd : Items) (ws : List Warning) : Prop :=
  Warning.deleteUpdate ∉ ws → ∀ p ∈ upd, p.1 ∉ deleted

theorem noOverlap_step {deleted : List Int} {upd : Items} {ws : List Warning} {k : Int} {data : List Int}
    (h : NoOverlap deleted upd ws) (mid : List Warning) :
    NoOverlap deleted (minsert k data upd)
      (ws ++ mid ++ if deleted.contains k = true then [Warning.deleteUpdate] else []) := by
  intro hno p hp
  have hno1 : Warning.deleteUpdate ∉ ws := by
    intro hm; apply hno; simp [hm]
  rcases mem_minsert hp with rfl | hp
  · intro hmem
    apply hno
    have hc : deleted.contains k = true := List.contains_iff_mem.mpr hmem
    rw [if_pos hc]
    simp
  · exact h hno1 p hp

/-- What `readDelta objSize src = .ok (d, ws)` says (`readDelta_eq`); `w5`: the warnings of the update loop. -/
structure DeltaRead (objSize : Nat → Option Nat) (src : Src) (d : Delta) (ws : List Warning)
    (hdr ks : List Int) (s3 s4 : Src) (w5 : List Warning) : Prop where
  header : src.Reads hdr s3
  header_length : hdr.length = 3
  keys : s3.Reads ks s4
  deleted : d.deleted = ks.foldl (fun a k => sinsert k a) []
  updates : ∃ num, readUpdates objSize d.deleted s4.size s4 [] 0 0 [] = .ok (d.updated, num, w5)
  warnings : ∃ pre post, ws = pre ++ w5 ++ post

theorem readDelta_elim {motive : Res (Delta × List Warning) → Prop} (objSize : Nat → Option Nat) (src : Src)
    (err : ∀ e, motive (.err e))
    (panic : ∀ deleted s4 p, readUpdates objSize deleted s4.size s4 [] 0 0 [] = .panic p → motive (.panic p))
    (ok : ∀ d ws hdr ks s3 s4 w5, DeltaRead objSize src d ws hdr ks s3 s4 w5 → motive (.ok (d, ws))) :
    motive (readDelta objSize src) := by
  unfold readDelta
  cases h1 : src.readInt with
  | none => exact err _
  | some r1 =>
    obtain ⟨nd, s1, w1⟩ := r1
    dsimp only
    refine ite_elim (fun _ => err _) fun _ => ?_
    cases h2 : s1.readInt with
    | none => exact err _
    | some r2 =>
      obtain ⟨nu, s2, w2⟩ := r2
      dsimp only
      refine ite_elim (fun _ => err _) fun _ => ?_
      cases h3 : s2.readInt with
      | none => exact err _
      | some r3 =>
        obtain ⟨z, s3, w3⟩ := r3
        dsimp only
        cases h4 : readKeys nd.toNat s3 [] [] with
        | none => exact err _
        | some r4 =>
          obtain ⟨deleted, s4, w4⟩ := r4
          dsimp only
          obtain ⟨ks, hr, _, rfl⟩ := readKeys_reads _ h4
          cases h5 : readUpdates objSize (ks.foldl (fun a k => sinsert k a) []) s4.size s4 [] 0 0 [] with
          | err e => exact err _
          | panic p => exact panic _ _ _ h5
          | ok r5 =>
            obtain ⟨upd, num, w5⟩ := r5
            exact ok _ _ [nd, nu, z] ks s3 s4 w5
              ⟨.cons h1 (.cons h2 (.cons h3 (.nil _))), rfl, hr, rfl, ⟨num, h5⟩, _, _, rfl⟩

theorem readDelta_not_panic (objSize : Nat → Option Nat) (src : Src) : ∀ p, readDelta objSize src ≠ .panic p := by
  intro p
  refine readDelta_elim (motive := fun r => r ≠ .panic p) objSize src (fun _ => nofun) (fun deleted s4 q h => ?_)
    (fun _ _ _ _ _ _ _ _ => nofun)
  exact absurd h (readUpdates_not_panic objSize deleted s4.size s4 [] 0 0 [] (Nat.le_refl _) q)

theorem readDelta_eq (objSize : Nat → Option Nat) {src : Src} {d : Delta} {ws : List Warning}
    (h : readDelta objSize src = .ok (d, ws)) : ∃ hdr ks s3 s4 w5, DeltaRead objSize src d ws hdr ks s3 s4 w5 := by
  revert h
  refine readDelta_elim (motive := fun r => r = .ok (d, ws) → _) objSize src (fun _ => nofun)
    (fun _ _ _ _ => nofun) ?_
  intro d' ws' hdr ks s3 s4 w5 r h
  injection h with h
  injection h with hd hw
  subst hd hw
  exact ⟨hdr, ks, s3, s4, w5, r⟩

theorem readDelta_I32 (objSize : Nat → Option Nat) {src : Src} {d : Delta} {ws : List Warning}
    (hs : src.AllI32) (h : readDelta objSize src = .ok (d, ws)) : SortedI32 d.updated := by
  obtain ⟨hdr, ks, s3, s4, w5, r⟩ := readDelta_eq objSize h
  obtain ⟨num, h5⟩ := r.updates
  obtain ⟨_, hP⟩ := readUpdates_inv (P := fun src upd _ => src.AllI32 ∧ SortedI32 upd) objSize d.deleted
    (fun _ hP hr => by
      obtain ⟨hx, hs'⟩ := hr.allI32 hP.1
      exact ⟨hs', sortedI32_minsert hP.2 (keyOf_I32 _ _) fun x hx' => hx x (by simp [hx'])⟩)
    ⟨(r.keys.allI32 (r.header.allI32 hs).2).2, sorted_nil, by simp⟩ h5
  exact hP.2

theorem readDelta_alloc (objSize : Nat → Option Nat) {src : Src} {d : Delta} {ws : List Warning}
    (h : readDelta objSize src = .ok (d, ws)) :
    3 + d.deleted.length + 2 * d.updated.length + dataLen d.updated ≤ src.size := by
  obtain ⟨hdr, ks, s3, s4, w5, r⟩ := readDelta_eq objSize h
  obtain ⟨num, h5⟩ := r.updates
  -- the update loop never holds more than it has consumed
  obtain ⟨src', hP⟩ := readUpdates_inv
    (P := fun src upd _ => 2 * upd.length + dataLen upd + src.size ≤ s4.size) objSize d.deleted
    (fun {_ upd _ t id _ data _} _ hP hr => by
      have := hr.size_le
      have := minsert_measure_le (k := keyOf t.toNat id.toNat) (v := data) upd
      simp only [List.length_cons, List.length_append] at *
      omega)
    (by simp [dataLen]) h5
  have := r.header.size_le
  have := r.header_length
  have := r.keys.size_le
  have := foldl_sinsert_length_le ks []
  rw [← r.deleted] at this
  simp only [List.length_nil, Nat.zero_add] at this
  omega

/-- C11: what `Delta::read` accepts is `Delta.WF` up to the one thing the reader only warns about, a
key that is both deleted and updated (`DeleteUpdate`). -/
theorem readDelta_accepts_WF (objSize : Nat → Option Nat) {src : Src} {d : Delta} {ws : List Warning}
    (hs : src.AllI32) (hsize : src.size < 2147483648) (h : readDelta objSize src = .ok (d, ws)) :
    SortedSet d.deleted ∧ (∀ k ∈ d.deleted, I32 k) ∧ Sorted d.updated ∧
    (∀ p ∈ d.updated, I32 p.1 ∧ ∀ x ∈ p.2, I32 x) ∧
    d.deleted.length < 2147483648 ∧ d.updated.length < 2147483648 ∧ dataLen d.updated < 2147483648 ∧
    (Warning.deleteUpdate ∉ ws → d.WF) := by
  have hI := readDelta_I32 objSize hs h
  have hal := readDelta_alloc objSize h
  obtain ⟨hdr, ks, s3, s4, w5, r⟩ := readDelta_eq objSize h
  obtain ⟨num, h5⟩ := r.updates
  obtain ⟨pre, post, hw⟩ := r.warnings
  obtain ⟨hS, hmem, _⟩ := foldl_sinsert_spec ks [] (by simp [SortedSet])
  rw [← r.deleted] at hS hmem
  have hkI : ∀ k ∈ d.deleted, I32 k := fun k hk =>
    (r.keys.allI32 (r.header.allI32 hs).2).1 k (by simpa using (hmem k).mp hk)
  obtain ⟨_, hno⟩ := readUpdates_inv (P := fun _ upd ws => NoOverlap d.deleted upd ws) objSize d.deleted
    (fun mid hP _ => noOverlap_step hP mid)
    (by intro _ p hp; simp at hp) h5
  refine ⟨hS, hkI, hI.1, hI.2, by omega, by omega, by omega, fun hnw => ?_⟩
  have h3 := hno (fun hm => hnw (by rw [hw]; simp [hm]))
  exact ⟨hS, hkI, hI.1, fun p hp => ⟨(hI.2 p hp).1, (hI.2 p hp).2, h3 p hp⟩, by omega, by omega, by omega⟩

/-! ### `build_from_raw`, and the `Snap`-level readers: each is the raw one followed by it (`thenBuild`) -/

theorem buildExt_cons_elim {motive : Res (List (Int × Nat) × List Warning) → Prop} (all : Items) (k : Int)
    (d : List Int) (r : Items) (ext : List (Int × Nat)) (ws : List Warning) (err : ∀ e, motive (.err e))
    (reg : keyType k = typeIdEx → ∀ u ex, dataToUuid d = some (u, ex) → mfind u ext = none →
      motive (buildExt all r (minsert u (keyId k) ext) (ws ++ if ex then [Warning.excessUuidItemData] else [])))
    (other : keyType k ≠ typeIdEx →
      (offsetExt ≤ keyType k → (mfind (keyOf typeIdEx (keyType k)) all).isSome) → motive (buildExt all r ext ws)) :
    motive (buildExt all ((k, d) :: r) ext ws) := by
  rw [buildExt]
  refine ite_elim (fun ht => ?_) fun ht => ite_elim (fun hge => ite_elim (fun _ => err _) fun hf => ?_) fun hge => ?_
  · cases hd : dataToUuid d with
    | none => exact err _
    | some t =>
      obtain ⟨u, ex⟩ := t
      refine ite_elim (fun _ => err _) fun hf => reg ht u ex hd ?_
      cases h : mfind u ext with
      | none => rfl
      | some t => simp [h] at hf
  · exact other ht fun _ => by
      cases h : mfind (keyOf typeIdEx (keyType k)) all with
      | none => simp [h] at hf
      | some v => rfl
  · exact other ht fun h => absurd h hge

theorem buildExt_not_panic (all : Items) : ∀ (m : Items) (ext : List (Int × Nat)) (ws : List Warning) p,
    buildExt all m ext ws ≠ .panic p := by
  intro m
  induction m with
  | nil => intro ext ws p h; cases h
  | cons q r ih =>
    obtain ⟨k, d⟩ := q
    intro ext ws p
    exact buildExt_cons_elim (motive := fun r => r ≠ .panic p) all k d r ext ws (fun _ => nofun)
      (fun _ _ _ _ _ => ih _ _ p) (fun _ _ => ih _ _ p)

theorem buildFromRaw_not_panic (raw : RawSnap) : ∀ p, buildFromRaw raw ≠ .panic p := by
  intro p
  unfold buildFromRaw
  cases h : buildExt raw.items raw.items [] [] with
  | panic q => exact absurd h (buildExt_not_panic _ _ _ _ q)
  | err e => intro h; cases h
  | ok r => intro h; cases h

theorem buildFromRaw_eq_ok {raw : RawSnap} {s : Snap} {ws : List Warning} :
    buildFromRaw raw = .ok (s, ws) ↔ buildExt raw.items raw.items [] [] = .ok (s.ext, ws) ∧ s.raw = raw := by
  unfold buildFromRaw
  cases buildExt raw.items raw.items [] [] with
  | panic q => simp
  | err e => simp
  | ok r =>
    obtain ⟨ext, ws'⟩ := r
    obtain ⟨sraw, sext⟩ := s
    simp only [Res.ok.injEq, Prod.mk.injEq, Snap.mk.injEq]
    exact ⟨fun ⟨⟨h1, h2⟩, h3⟩ => ⟨⟨h2, h3⟩, h1.symm⟩, fun ⟨⟨h2, h3⟩, h1⟩ => ⟨⟨h1.symm, h2⟩, h3⟩⟩

/-- the common tail of `Snap::read_from_ints`, `Snap::read` and `Snap::read_with_delta`:
`build_from_raw` on what the raw reader accepted -/
def thenBuild (r : Res (RawSnap × List Warning)) : Res (Snap × List Warning) :=
  match r with
  | .err e => .err e
  | .panic p => .panic p
  | .ok (raw, ws) =>
    match buildFromRaw raw with
    | .ok (s, ws') => .ok (s, ws ++ ws')
    | .err e => .err e
    | .panic p => .panic p

theorem Snap.readFromInts_def (data : List Int) : Snap.readFromInts data = thenBuild (RawSnap.readFromInts data) := rfl
theorem Snap.readBytes_def (bs : List UInt8) : Snap.readBytes bs = thenBuild (RawSnap.readBytes bs) := rfl
theorem Snap.readWithDelta_def (a : Snap) (d : Delta) : a.readWithDelta d = thenBuild (applyDelta a.raw d) := rfl

theorem thenBuild_not_panic {r : Res (RawSnap × List Warning)} (h : ∀ p, r ≠ .panic p) :
    ∀ p, thenBuild r ≠ .panic p := by
  intro p
  unfold thenBuild
  match r, h with
  | .err e, _ => nofun
  | .panic q, h => exact absurd rfl (h q)
  | .ok (raw, ws), _ =>
    dsimp only
    cases hb : buildFromRaw raw with
    | panic q => exact absurd hb (buildFromRaw_not_panic raw q)
    | err e => nofun
    | ok r2 => nofun

theorem thenBuild_eq {r : Res (RawSnap × List Warning)} {s : Snap} {ws : List Warning}
    (h : thenBuild r = .ok (s, ws)) :
    ∃ ws1 ws2, r = .ok (s.raw, ws1) ∧ buildFromRaw s.raw = .ok (s, ws2) ∧ ws = ws1 ++ ws2 := by
  unfold thenBuild at h
  match r, h with
  | .ok (raw, ws1), h =>
    dsimp only at h
    cases hb : buildFromRaw raw with
    | panic q => simp [hb] at h
    | err e => simp [hb] at h
    | ok r2 =>
      obtain ⟨s2, ws2⟩ := r2
      simp only [hb] at h
      injection h with h
      injection h with h1 h2
      subst h1
      obtain rfl := (buildFromRaw_eq_ok.mp hb).2
      exact ⟨ws1, ws2, rfl, hb, h2.symm⟩

theorem Snap.readFromInts_not_panic (data : List Int) : ∀ p, Snap.readFromInts data ≠ .panic p :=
  thenBuild_not_panic (RawSnap.readFromInts_not_panic data)

theorem Snap.readFromInts_WF {data : List Int} {s : Snap} {ws : List Warning} (hI : ∀ x ∈ data, I32 x)
    (h : Snap.readFromInts data = .ok (s, ws)) : s.raw.WF :=
  let ⟨_, _, hr, _⟩ := thenBuild_eq h
  RawSnap.readFromInts_WF hI hr

theorem Snap.readBytes_not_panic (bs : List UInt8) : ∀ p, Snap.readBytes bs ≠ .panic p :=
  thenBuild_not_panic (RawSnap.readBytes_not_panic bs)

theorem Snap.readBytes_WF {bs : List UInt8} {s : Snap} {ws : List Warning}
    (h : Snap.readBytes bs = .ok (s, ws)) : s.raw.WF :=
  let ⟨_, _, hr, _⟩ := thenBuild_eq h
  RawSnap.readBytes_WF hr

theorem Snap.readWithDelta_not_panic {a : Snap} (ha : Sorted a.raw.items) (d : Delta) :
    ∀ p, a.readWithDelta d ≠ .panic p :=
  thenBuild_not_panic (applyDelta_not_panic ha d)

end Tw.Snap
