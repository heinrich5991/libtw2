import Tw.Model.Packet7
import Tw.Proofs.Packet7Read
import Tw.Proofs.Packet7Spec

/-! C05, 0.7: the writer of protocol7.rs in closed form (`writeControl_eq`, `writeChunks_eq`) and the write → read round
trip for every `Valid` packet on either branch, compressed or plain (`write_read_roundtrip`). -/
namespace Tw.Packet7
open Tw.Packet Tw.PacketBits

theorem tok4_toList (tk : Token) (rest : List UInt8) : tok4 (tk.toList ++ rest) = tk := rfl

theorem writeConnless_eq (payload : List UInt8) (tok rt : Token) (cap : Nat)
    (hv : payload.length ≤ Tw.Gen.Packet7.CONNLESS_WRITE_LIMIT) (hcap : 9 + payload.length ≤ cap) :
    writeConnless payload tok rt cap = .ok ([33] ++ tok.toList ++ rt.toList ++ payload) := by
  unfold writeConnless
  have h1 : ¬ payload.length > Tw.Gen.Packet7.CONNLESS_WRITE_LIMIT := by omega
  rw [if_neg h1, phc_pack_eq ⟨_, _, _, _⟩ (by simp only; decide) (by simp only; decide)]
  simp only
  rw [bufWrite_of_le (by simp [Token.toList]; omega)]
  simp only [List.nil_append]
  rw [bufWrite_of_le (by simp [Token.toList]; omega)]
  rfl

theorem read_connless_eq (t : Huffman.Table) (payload : List UInt8) (tok rt : Token) (scap : Nat)
    (hs : Tw.Gen.Packet7.MAX_PACKETSIZE ≤ scap) (hlen : payload.length ≤ Tw.Gen.Packet7.CONNLESS_WRITE_LIMIT) :
    read t ([33] ++ tok.toList ++ rt.toList ++ payload) (some scap) =
      .ok { pkt := .connless payload tok rt, warns := [], loc := some { src := .input, off := 9 }, scratch := [] } := by
  have hl : ([33] ++ tok.toList ++ rt.toList ++ payload).length = payload.length + 9 := rfl
  rw [read_eq t _ _ (cap_of_some hs) (by rw [hl]; exact Nat.add_le_add_right hlen 9)
    (by rw [hl]; exact Nat.le_add_left _ _)]
  have e : headerOf ([33] ++ tok.toList ++ rt.toList ++ payload) = (⟨8, 256 + tok.b0.toNat, tok.b1.toNat, ⟨tok.b2, tok.b3, rt.b0, rt.b1⟩⟩, []) := by
    show PacketHeader.unpackWarn (33 : UInt8).toNat tok.b0.toNat tok.b1.toNat ⟨tok.b2, tok.b3, rt.b0, rt.b1⟩ = _
    rw [ph_unpack_eq _ _ _ _ (UInt8.toNat_lt _)]
    rfl
  rw [e]
  have h3 : (8 : Nat) &&& Tw.Gen.Packet7.PACKETFLAG_CONNLESS ≠ 0 := by decide
  rw [if_pos h3]
  unfold readConnless
  rw [if_neg (by rw [hl]; exact Nat.not_lt.mpr (Nat.le_add_left _ _))]
  have e2 : PacketHeaderConnless.unpackWarn (([33] ++ tok.toList ++ rt.toList ++ payload).getD 0 0).toNat
      (tok4 (([33] ++ tok.toList ++ rt.toList ++ payload).drop 1))
      (tok4 (([33] ++ tok.toList ++ rt.toList ++ payload).drop 5)) = (⟨8, 1, tok, rt⟩, []) := by
    show PacketHeaderConnless.unpackWarn (33 : UInt8).toNat tok rt = _
    rw [phc_unpack_eq]
    rfl
  rw [e2]
  dsimp only
  rw [if_neg (by decide), if_neg (by decide)]
  rfl

/-- the bytes `ControlPacket::write` puts after the header -/
def ctrlBody (c : Control) (tok : Token) : List UInt8 :=
  UInt8.ofNat c.magic ::
    (match c with
     | .connect rt => rt.toList
     | .close m => m ++ [0]
     | .token rt => rt.toList ++ (if tok = tokenNone then List.replicate TOKEN_REQUEST_PADDING 0 else [])
     | _ => [])

theorem ctrlBody_length_le (c : Control) (tok : Token) (hv : ValidControl c) : (ctrlBody c tok).length ≤ 512 := by
  have hp : TOKEN_REQUEST_PADDING = 507 := by decide
  cases c with
  | close m =>
    have := hv.1
    simp only [Tw.Gen.Packet7.CTRLMSG_CLOSE_REASON_LENGTH] at this
    simp only [ctrlBody, List.length_cons, List.length_append, List.length_nil]; omega
  | token rt =>
    simp only [ctrlBody, List.length_cons, List.length_append, Token.toList, List.length_nil]
    split <;> simp only [List.length_replicate, List.length_nil] <;> omega
  | _ => simp [ctrlBody, Token.toList]

theorem writeControl_eq (c : Control) (tok : Token) (ack cap : Nat) (ha : ack < 1024) (hv : ValidControl c)
    (hcap : Tw.Gen.Packet7.MAX_PACKETSIZE ≤ cap) :
    writeControl c tok ack cap =
      .ok (hdrBytes (Tw.Gen.Packet7.PACKETFLAG_CONTROL * 4 + ack / 256, ack % 256, 0) tok ++ ctrlBody c tok) := by
  have hM : Tw.Gen.Packet7.MAX_PACKETSIZE = 1400 := by decide
  have hp : TOKEN_REQUEST_PADDING = 507 := by decide
  have hlen := ctrlBody_length_le c tok hv
  -- header and body together are at most 519 bytes: every write fits, and so does the result
  have hw : ∀ acc bs : List UInt8, acc.length + bs.length ≤ 519 → bufWrite cap acc bs = some (acc ++ bs) :=
    fun acc bs h => bufWrite_of_le (by omega)
  unfold writeControl
  rw [ph_pack_eq ⟨_, _, _, _⟩ (by show Tw.Gen.Packet7.PACKETFLAG_CONTROL < 16; decide) ha]
  dsimp only
  rw [hw _ _ (by rw [List.length_nil, hdrBytes_length]; decide)]
  dsimp only
  rw [hw _ _ (by rw [List.nil_append, hdrBytes_length]; exact Nat.le_of_ble_eq_true rfl)]
  cases c with
  | keepAlive => simp [ctrlBody, hdrBytes, Token.toList, hM]
  | accept => simp [ctrlBody, hdrBytes, Token.toList, hM]
  | connect rt =>
    have hrt : rt ≠ tokenNone := hv
    simp only [hrt, if_false]
    rw [hw _ _ (by simp [hdrBytes, Token.toList])]
    simp [ctrlBody, hdrBytes, Token.toList, hM]
  | close m =>
    simp only [ctrlBody, List.length_cons, List.length_append, List.length_nil] at hlen
    simp only [any_zero_false m hv.2, Bool.false_eq_true, if_false]
    rw [hw _ _ (by simp only [List.length_append, List.nil_append, hdrBytes_length, List.length_cons, List.length_nil]; omega)]
    dsimp only
    rw [hw _ _ (by simp only [List.length_append, List.nil_append, hdrBytes_length, List.length_cons, List.length_nil]; omega)]
    dsimp only
    rw [if_pos (by simp only [List.length_append, List.nil_append, hdrBytes_length, List.length_cons, List.length_nil]; omega)]
    simp only [ctrlBody, List.nil_append, List.append_assoc, List.cons_append]
  | token rt =>
    have hrt : rt ≠ tokenNone := hv
    simp only [hrt, if_false]
    rw [hw _ _ (by simp [hdrBytes, Token.toList])]
    dsimp only
    by_cases htk : tok = tokenNone
    · simp only [htk, if_true]
      rw [hw _ _ (by simp [-List.reduceReplicate, hdrBytes, Token.toList, hp])]
      dsimp only
      rw [if_pos (by simp [-List.reduceReplicate, hdrBytes, Token.toList, hp, hM])]
      simp only [ctrlBody, if_true, List.nil_append, List.append_assoc, List.cons_append]
    · simp only [htk, if_false]
      rw [if_pos (by simp [hdrBytes, Token.toList, hM])]
      simp only [ctrlBody, htk, if_false, List.nil_append, List.append_assoc, List.cons_append, List.append_nil]

theorem responseToken_toList (rt : Token) (rest : List UInt8) (h : rt ≠ tokenNone) :
    responseToken (rt.toList ++ rest) = .ok rt := by
  unfold responseToken
  rw [if_neg (by simp [Token.toList]), tok4_toList, if_neg h]

theorem readControl_ctrlBody (ack : Nat) (c : Control) (tok : Token) (src : Src) (off : Nat)
    (hv : ValidControl c) :
    readControl ⟨Tw.Gen.Packet7.PACKETFLAG_CONTROL, ack, 0, tok⟩ (ctrlBody c tok) src off
        (7 + (ctrlBody c tok).length) = ([], .ok (c, ctrlLoc c src off)) := by
  have hp : TOKEN_REQUEST_PADDING = 507 := by decide
  unfold readControl controlWarns controlValue
  cases c with
  | close m =>
    obtain ⟨hl, hz⟩ := hv
    have hn : nulPos (m ++ [0]) = m.length := nulPos_append_zero m hz []
    have hmin : min m.length Tw.Gen.Packet7.CTRLMSG_CLOSE_REASON_LENGTH = m.length := Nat.min_eq_left hl
    simp [ctrlBody, Control.magic, ctrlLoc, hn, hmin, Tw.Gen.Packet7.CTRLMSG_CLOSE, Tw.Gen.Packet7.CTRLMSG_CONNECT,
      Tw.Gen.Packet7.CTRLMSG_KEEPALIVE, Tw.Gen.Packet7.CTRLMSG_ACCEPT, Tw.Gen.Packet7.PACKETFLAG_CONTROL,
      Tw.Gen.Packet7.PACKETFLAG_COMPRESSION, Tw.Gen.Packet7.PACKETFLAG_REQUEST_RESEND]
  | connect rt =>
    have hrt : responseToken rt.toList = .ok rt := List.append_nil rt.toList ▸ responseToken_toList rt [] hv
    have hd : rt.toList.drop 4 = [] := rfl
    simp [ctrlBody, Control.magic, ctrlLoc, Tw.Gen.Packet7.CTRLMSG_CONNECT, Tw.Gen.Packet7.CTRLMSG_KEEPALIVE,
      Tw.Gen.Packet7.PACKETFLAG_CONTROL, Tw.Gen.Packet7.PACKETFLAG_COMPRESSION,
      Tw.Gen.Packet7.PACKETFLAG_REQUEST_RESEND, hrt, hd]
  | token rt =>
    have hrt := responseToken_toList rt (if tok = tokenNone then List.replicate TOKEN_REQUEST_PADDING 0 else []) hv
    simp only [ctrlBody, Control.magic, ctrlLoc]
    simp only [UInt8.toNat_ofNat_of_lt' (by decide : Tw.Gen.Packet7.CTRLMSG_TOKEN < 256), hrt]
    by_cases htk : tok = tokenNone
    · -- a token request is padded to the 519 bytes the reader asks for
      simp [-List.reduceReplicate, Tw.Gen.Packet7.CTRLMSG_CLOSE, Tw.Gen.Packet7.CTRLMSG_CONNECT,
        Tw.Gen.Packet7.CTRLMSG_KEEPALIVE, Tw.Gen.Packet7.CTRLMSG_ACCEPT, Tw.Gen.Packet7.CTRLMSG_TOKEN,
        Tw.Gen.Packet7.PACKETFLAG_CONTROL, Tw.Gen.Packet7.PACKETFLAG_COMPRESSION,
        Tw.Gen.Packet7.PACKETFLAG_REQUEST_RESEND, htk, hp, Tw.Gen.Packet7.TOKEN_REQUEST_PACKET_SIZE, Token.toList]
    · simp [Tw.Gen.Packet7.CTRLMSG_CLOSE, Tw.Gen.Packet7.CTRLMSG_CONNECT,
        Tw.Gen.Packet7.CTRLMSG_KEEPALIVE, Tw.Gen.Packet7.CTRLMSG_ACCEPT, Tw.Gen.Packet7.CTRLMSG_TOKEN,
        Tw.Gen.Packet7.PACKETFLAG_CONTROL, Tw.Gen.Packet7.PACKETFLAG_COMPRESSION,
        Tw.Gen.Packet7.PACKETFLAG_REQUEST_RESEND, htk, Token.toList]
  | _ =>
    simp [ctrlBody, Control.magic, ctrlLoc, Tw.Gen.Packet7.CTRLMSG_CONNECT, Tw.Gen.Packet7.CTRLMSG_KEEPALIVE,
      Tw.Gen.Packet7.CTRLMSG_ACCEPT, Tw.Gen.Packet7.PACKETFLAG_CONTROL, Tw.Gen.Packet7.PACKETFLAG_COMPRESSION,
      Tw.Gen.Packet7.PACKETFLAG_REQUEST_RESEND]

theorem read_written (t : Huffman.Table) (h : PacketHeader) (hf : h.flags < 16) (ha : h.ack < 1024)
    (hn : h.numChunks < 256) (hc : h.flags &&& Tw.Gen.Packet7.PACKETFLAG_CONNLESS = 0)
    (hz : h.flags &&& Tw.Gen.Packet7.PACKETFLAG_COMPRESSION = 0)
    (body : List UInt8) (scap : Nat) (hs : Tw.Gen.Packet7.MAX_PACKETSIZE ≤ scap)
    (hlen : body.length + 7 ≤ Tw.Gen.Packet7.MAX_PACKETSIZE) :
    read t (hdrBytes (h.flags * 4 + h.ack / 256, h.ack % 256, h.numChunks) h.token ++ body) (some scap) =
      .lift (readBody h [] body .input [] (body.length + 7)) := by
  rw [read_eq t _ _ (cap_of_some hs) (by rw [hdrBytes_append_length]; exact hlen)
      (by rw [hdrBytes_append_length]; exact Nat.le_add_left _ _),
    headerOf_written h hf ha hn body, hdrBytes_append_length, if_neg (fun hx => hx hc), if_neg (fun hx => hx hz)]
  rfl

def chunksPktFlags (rr comp : Bool) : Nat :=
  (if rr then Tw.Gen.Packet7.PACKETFLAG_REQUEST_RESEND else 0) |||
    (if comp then Tw.Gen.Packet7.PACKETFLAG_COMPRESSION else 0)

theorem chunksPktFlags_lt (rr comp : Bool) : chunksPktFlags rr comp < 16 := by
  cases rr <;> cases comp <;> decide

theorem chunksPktFlags_connless (rr comp : Bool) :
    chunksPktFlags rr comp &&& Tw.Gen.Packet7.PACKETFLAG_CONNLESS = 0 := by
  cases rr <;> cases comp <;> decide

theorem chunksPktFlags_control (rr comp : Bool) :
    chunksPktFlags rr comp &&& Tw.Gen.Packet7.PACKETFLAG_CONTROL = 0 := by
  cases rr <;> cases comp <;> decide

theorem chunksPktFlags_compression (rr comp : Bool) :
    chunksPktFlags rr comp &&& Tw.Gen.Packet7.PACKETFLAG_COMPRESSION ≠ 0 ↔ comp = true := by
  cases rr <;> cases comp <;> decide

theorem rrOf_chunksPktFlags (rr comp : Bool) (ack nc : Nat) (tok : Token) :
    rrOf ⟨chunksPktFlags rr comp, ack, nc, tok⟩ = rr := by
  show decide (chunksPktFlags rr comp &&& Tw.Gen.Packet7.PACKETFLAG_REQUEST_RESEND ≠ 0) = rr
  cases rr <;> cases comp <;> decide

theorem chooseCompression_eq (t : Huffman.Table) (p : List UInt8) (hp : p.length ≤ 2048) :
    chooseCompression t p = if useComp t p then some (Huffman.compress t false p) else none := by
  have hc : COMPRESSION_BUFFER_CAP = 2048 := by decide
  unfold chooseCompression Huffman.compressInto useComp
  simp only [hc]
  by_cases h1 : (Huffman.compress t false p).length ≤ 2048
  · simp only [h1, if_true, decide_eq_true_eq]
  · simp only [h1, if_false]
    have : ¬ (Huffman.compress t false p).length < p.length := by omega
    simp [this]

theorem writeChunks_eq (t : Huffman.Table) (ack : Nat) (tok : Token) (rr : Bool) (nc : Nat)
    (p : List UInt8) (cap : Nat) (ha : ack < 1024)
    (hpl : p.length ≤ Tw.Gen.Packet7.READ_PAYLOAD_LIMIT) (hcap : Tw.Gen.Packet7.MAX_PACKETSIZE ≤ cap) :
    writeChunks t ack tok rr nc p cap =
      .ok (hdrBytes (chunksPktFlags rr (useComp t p) * 4 + ack / 256, ack % 256, nc) tok ++
            (if useComp t p then Huffman.compress t false p else p)) := by
  have hL : Tw.Gen.Packet7.READ_PAYLOAD_LIMIT = 1393 := rfl
  have hM : Tw.Gen.Packet7.MAX_PACKETSIZE = 1400 := rfl
  have hsent := sent_length_le t p
  obtain ⟨e1, e2⟩ := ite_some_none (useComp t p) (Huffman.compress t false p) p
  unfold writeChunks
  simp only [chooseCompression_eq t p (by omega), e1, e2]
  rw [show ((if rr = true then Tw.Gen.Packet7.PACKETFLAG_REQUEST_RESEND else 0) |||
      if useComp t p = true then Tw.Gen.Packet7.PACKETFLAG_COMPRESSION else 0) = chunksPktFlags rr (useComp t p) from rfl,
    ph_pack_eq ⟨chunksPktFlags rr (useComp t p), ack, nc, tok⟩ (chunksPktFlags_lt rr _) ha]
  dsimp only
  rw [bufWrite_nil (by rw [hdrBytes_length]; omega)]
  dsimp only
  rw [bufWrite_of_le (by rw [hdrBytes_length]; omega)]

/-- Whichever form was sent, the reader is left with the payload `p`, in the input or (after decompression) in the
scratch buffer. -/
theorem read_sent (t : Huffman.Table) (hrt : HuffmanRoundTrip t) (h : PacketHeader)
    (hf : h.flags < 16) (ha : h.ack < 1024) (hn : h.numChunks < 256)
    (hc : h.flags &&& Tw.Gen.Packet7.PACKETFLAG_CONNLESS = 0) (p : List UInt8) (comp : Bool)
    (hz : h.flags &&& Tw.Gen.Packet7.PACKETFLAG_COMPRESSION ≠ 0 ↔ comp = true)
    (hsent : (if comp then Huffman.compress t false p else p).length ≤ p.length)
    (scap : Nat) (hs : Tw.Gen.Packet7.MAX_PACKETSIZE ≤ scap)
    (hp : p.length + 7 ≤ Tw.Gen.Packet7.MAX_PACKETSIZE) :
    ∃ src scratch total, read t (hdrBytes (h.flags * 4 + h.ack / 256, h.ack % 256, h.numChunks) h.token ++
        if comp then Huffman.compress t false p else p) (some scap) =
      .lift (readBody h [] p src scratch total) := by
  cases comp with
  | false =>
    exact ⟨.input, [], _, read_written t h hf ha hn hc (Decidable.not_not.mp (mt hz.mp Bool.noConfusion)) p scap hs hp⟩
  | true =>
    have hlen : (Huffman.compress t false p).length ≤ p.length := hsent
    refine ⟨.scratch, ?_⟩
    apply Exists.intro
    apply Exists.intro
    show read t (hdrBytes (h.flags * 4 + h.ack / 256, h.ack % 256, h.numChunks) h.token ++ Huffman.compress t false p)
      (some scap) = _
    rw [read_eq t _ _ (cap_of_some hs)
        (by rw [hdrBytes_append_length]; exact Nat.le_trans (Nat.add_le_add_right hlen 7) hp)
        (by rw [hdrBytes_append_length]; exact Nat.le_add_left _ _),
      headerOf_written h hf ha hn _, if_neg (fun hx => hx hc), if_pos (hz.mpr rfl)]
    dsimp only
    rw [show (hdrBytes (h.flags * 4 + h.ack / 256, h.ack % 256, h.numChunks) h.token ++
        Huffman.compress t false p).drop 7 = Huffman.compress t false p from rfl,
      hrt p (scap - 7) (Nat.le_sub_of_add_le (Nat.le_trans hp hs))]

theorem readBody_chunks (h : PacketHeader) (p : List UInt8) (src : Src) (scratch : List UInt8) (total : Nat)
    (hp : p.length ≤ Tw.Gen.Packet7.READ_PAYLOAD_LIMIT)
    (h1 : h.flags &&& Tw.Gen.Packet7.PACKETFLAG_CONTROL = 0) :
    readBody h [] p src scratch total =
      .ok { pkt := .connected h.ack h.token (.chunks (rrOf h) h.numChunks p),
            warns := (if h.numChunks = 0 ∧ ¬ rrOf h then [.chunksNoChunks] else []),
            loc := some { src := src, off := Tw.Gen.Packet7.HEADER_SIZE }, scratch := scratch } := by
  unfold readBody
  have hl : ¬ p.length > Tw.Gen.Packet7.READ_PAYLOAD_LIMIT := by omega
  rw [if_neg hl, if_neg (fun hx => hx h1)]
  rfl

/-- C05 for 0.7; `Props/C05.v7_write_read_roundtrip` restates it and says what it claims of libtw2. -/
theorem write_read_roundtrip (t : Huffman.Table) (hrt : HuffmanRoundTrip t) (p : Packet) (hv : Valid p)
    (cap scap : Nat) (hcap : Tw.Gen.Packet7.MAX_PACKETSIZE ≤ cap) (hs : Tw.Gen.Packet7.MAX_PACKETSIZE ≤ scap) :
    ∃ bs, write t p cap = .ok bs ∧ bs.length ≤ Tw.Gen.Packet7.MAX_PACKETSIZE ∧
      ∃ r, read t bs (some scap) = .ok r ∧ r.pkt = p ∧ r.warns = expectedWarnings p := by
  have hM : Tw.Gen.Packet7.MAX_PACKETSIZE = 1400 := rfl
  have hC : Tw.Gen.Packet7.CONNLESS_WRITE_LIMIT = 1391 := rfl
  have hL : Tw.Gen.Packet7.READ_PAYLOAD_LIMIT = 1393 := rfl
  match p, hv with
  | .connless payload tok rt, hv =>
    simp only [Valid] at hv
    refine ⟨_, writeConnless_eq payload tok rt cap hv (by omega), ?_, _,
      read_connless_eq t payload tok rt scap hs hv, rfl, rfl⟩
    simp [Token.toList]; omega
  | .connected ack tok (.chunks rr nc payload), ⟨ha, hn, hl⟩ =>
    have hsent := sent_length_le t payload
    have hrr := rrOf_chunksPktFlags rr (useComp t payload) ack nc tok
    refine ⟨_, writeChunks_eq t ack tok rr nc payload cap ha hl hcap, ?_, ?_⟩
    · rw [hdrBytes_append_length]; omega
    · -- compressed or not, the reader is left with the payload
      obtain ⟨src, scratch, total, hread⟩ := read_sent t hrt ⟨chunksPktFlags rr (useComp t payload), ack, nc, tok⟩
        (chunksPktFlags_lt rr _) ha hn (chunksPktFlags_connless rr _) _ _ (chunksPktFlags_compression rr _) hsent scap hs
        (by omega)
      rw [hread, readBody_chunks _ _ _ _ _ hl (chunksPktFlags_control rr _)]
      refine ⟨_, rfl, by simp only [hrr], ?_⟩
      cases rr <;> cases nc <;> simp [expectedWarnings, hrr]
  | .connected ack tok (.control c), hv =>
    obtain ⟨ha, hvc⟩ := (valid_control_iff ack tok c).mp hv
    have hlen := ctrlBody_length_le c tok hvc
    refine ⟨_, writeControl_eq c tok ack cap ha hvc hcap, ?_, ?_⟩
    · rw [hdrBytes_append_length]; omega
    · rw [read_written t ⟨Tw.Gen.Packet7.PACKETFLAG_CONTROL, ack, 0, tok⟩ (by simp only; decide) ha
        (by simp only; decide) (by simp only; decide) (by simp only; decide) _ scap hs (by omega)]
      unfold readBody
      rw [if_neg (by omega), if_pos (by simp only; decide), Nat.add_comm, readControl_ctrlBody ack c tok .input _ hvc]
      exact ⟨_, rfl, rfl, by cases c <;> rfl⟩

end Tw.Packet7
