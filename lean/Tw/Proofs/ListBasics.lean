/-! Facts about `List.Nodup` that core Lean does not have: a map without duplicates is injective on
the list, and the converse of the pigeonhole `List.Nodup.length_le_of_subset`. -/
namespace Tw

theorem inj_of_nodup_map {α β : Type} {f : α → β} {l : List α} (hn : (l.map f).Nodup) {x y : α}
    (hx : x ∈ l) (hy : y ∈ l) (h : f x = f y) : x = y := by
  induction l with
  | nil => simp at hx
  | cons z zs ih =>
    simp only [List.map_cons, List.nodup_cons] at hn
    rcases List.mem_cons.1 hx with hxz | hx
    · rcases List.mem_cons.1 hy with hyz | hy
      · rw [hxz, hyz]
      · exact absurd (List.mem_map.2 ⟨y, hy, by rw [← h, hxz]⟩) hn.1
    · rcases List.mem_cons.1 hy with hyz | hy
      · exact absurd (List.mem_map.2 ⟨x, hx, by rw [h, hyz]⟩) hn.1
      · exact ih hn.2 hx hy

theorem nodup_of_subset_of_length_le {α : Type} [DecidableEq α] : ∀ (l₂ l₁ : List α), l₁.Nodup →
    l₁ ⊆ l₂ → l₂.length ≤ l₁.length → l₂.Nodup := by
  intro l₂
  induction l₂ with
  | nil => intro _ _ _ _; exact List.nodup_nil
  | cons a l ih =>
    intro l₁ h₁ hsub hlen
    by_cases ha : a ∈ l
    · have : l₁ ⊆ l := fun x hx => by
        rcases List.mem_cons.mp (hsub hx) with rfl | h
        · exact ha
        · exact h
      have := h₁.length_le_of_subset this
      simp only [List.length_cons] at hlen
      omega
    · refine List.nodup_cons.mpr ⟨ha, ih (l₁.erase a) (h₁.erase a) (fun x hx => ?_) ?_⟩
      · obtain ⟨hne, hx⟩ := (h₁.mem_erase_iff).mp hx
        exact (List.mem_cons.mp (hsub hx)).resolve_left hne
      · rw [List.length_erase]
        simp only [List.length_cons] at hlen
        split <;> omega

end Tw
