import Tw.Proofs.ConnFairH7
import Tw.Proofs.ConnRole7

/-! 0.7, C02 (c) from a reachable world with one connecting side.  `Opened` (fair rounds reach a quiescent world with `a`
online and told `Ready`) holds for each handshake `Shape` (`opened_of_shape`: two, one or no handshake round, then
`PendIface.opened`), and every world reachable by a schedule in which only `a` called `connect` and nobody disconnected has
such a shape (`shape_of_reachable`, from the role invariant `J`); the two together are `C02_open_progress7`. -/
namespace Tw.NetSim.P7
open Tw.Conn Tw.Conn7 Tw.Time Tw.NetSim

def Opened (draws : List Nat) (w : World proto7) : Prop :=
  ∃ k, k ≤ 6 ∧ ∃ s', fairRoundsT draws () k (FairState.start w) = some s' ∧ s'.w.quiescentH ∧
    (∃ o t c s, s'.w.a.conn = ⟨.online o t c, s⟩) ∧ Event.ready ∈ s'.w.a.events

theorem opened_of_fh (draws : List Nat) {w : World proto7} {j : Nat} (hj : j ≤ 2) {s1 : FairState proto7}
    {ownA ownB : Nat} {La : List (DgH × Nat)}
    (e1 : fairRoundsT draws () j (FairState.start w) = some s1)
    (hF : OnlineFH gface7 ((ownA, ownB), true) ((ownB, ownA), false) s1 La) (hr : Event.ready ∈ s1.w.a.events) :
    Opened draws w := by
  obtain ⟨s', e, hq, ⟨o, s, hs⟩, hr'⟩ := pend7.opened Conn7.cfg_ok sim7 loct7 draws () e1 hF hr
  exact ⟨j + 4, by omega, s', e, hq, ⟨ownA, ownB, o, s, hs⟩, hr'⟩

inductive Shape (w : World proto7) : Prop where
  | tok (ownA : Nat) (sa : Timeout) (ha : w.a.conn = ⟨.token ownA, sa⟩) (hA : ownA ≠ TOKEN_NONE)
      (hb : (∃ sb, w.b.conn = ⟨.unconnected, sb⟩) ∨
        (∃ ownB sb, w.b.conn = ⟨.pendingConnect ownB, sb⟩ ∧ ownB ≠ TOKEN_NONE))
  | cng (ownA ownB : Nat) (sa : Timeout) (ha : w.a.conn = ⟨.connecting ownA ownB, sa⟩) (hA : ownA ≠ TOKEN_NONE)
      (hb : (∃ sb, w.b.conn = ⟨.pendingConnect ownB, sb⟩) ∨ (∃ sb, w.b.conn = ⟨.pending ownB ownA, sb⟩))
  | onl (ownA ownB : Nat) (c : Online) (sa : Timeout) (ha : w.a.conn = ⟨.online ownA ownB c, sa⟩)
      (hr : Event.ready ∈ w.a.events)
      (hb : (∃ sb, w.b.conn = ⟨.pending ownB ownA, sb⟩) ∨ (∃ cb sb, w.b.conn = ⟨.online ownB ownA cb, sb⟩))

theorem opened_of_shape (draws : List Nat) (nt : Nat) (hnt : tokenRandom draws = some nt) (w : World proto7)
    (hW : WInv proto7 core Conn7.cfg w) (hT : TInv Timed w) (h : Shape w) : Opened draws w := by
  cases h with
  | tok ownA sa ha hA hb =>
    obtain ⟨s1, ownB, sa', sb, ea, e1, r⟩ := token_round7 draws nt hnt w ownA hA hW hT sa ha hb
    obtain ⟨pre, hout1, hpre1⟩ := r.hca
    obtain ⟨s2, e2, hF, hrd⟩ := connect_round7 draws s1 ownA ownB hA r.winv r.tinv sa' r.connA (Or.inl ⟨sb, r.connB⟩)
      r.hcb pre [⟨.control 0 ownB (.connect ownA), s1.w.a.nAbs, w.a.dAbs⟩] hout1 hpre1
      (by intro sn hsn; simp at hsn; subst hsn; exact ⟨rfl, rfl, r.fresh⟩)
    exact opened_of_fh draws (j := 2) (by omega) (fairRoundsT_then (fairRoundsT_one e1) (fairRoundsT_one e2)) hF hrd
  | cng ownA ownB sa ha hA hb =>
    obtain ⟨s2, e2, hF, hrd⟩ := connect_round7 draws (FairState.start w) ownA ownB hA hW hT sa ha hb rfl w.a.out []
      (by simp [FairState.start]) rfl (by simp)
    exact opened_of_fh draws (j := 1) (by omega) (fairRoundsT_one e2) hF hrd
  | onl ownA ownB c sa ha hr hb =>
    have hWH : OnlineWH gface7 ((ownA, ownB), true) ((ownB, ownA), false) w := by
      refine ⟨hW, hT, ⟨c, pend7.sh_online ha⟩, ?_, rfl, rfl⟩
      rcases hb with ⟨sb, hb⟩ | ⟨cb, sb, hb⟩
      · exact ⟨.new, pend7.sh_pending hb⟩
      · exact ⟨cb, pend7.sh_online hb⟩
    exact opened_of_fh draws (j := 0) (by omega) rfl (OnlineFH.start hWH) hr

theorem shape_of_reachable (sched : List (Move proto7)) (w : World proto7)
    (hrun : NetSim.run (World.init proto7) sched = some w)
    (hca : connects .a sched = true) (hcb : connects .b sched = false)
    (hda : w.a.conn.state ≠ .disconnected) (hdb : w.b.conn.state ≠ .disconnected) : Shape w := by
  have hj := j_run sched false false _ w j_init hrun
  rw [hca, hcb] at hj
  obtain ⟨ra1, ra2, ra3⟩ := hj.a.con rfl
  obtain ⟨rb1, rb2⟩ := hj.b.acc rfl
  have x1 := hj.b.x1
  have x3 := hj.a.x3
  cases hsa : w.a.conn.state with
  | unconnected => rw [hsa] at ra1; simp [tag] at ra1
  | pendingConnect o => rw [hsa] at ra1; simp [tag] at ra1
  | pending o t => rw [hsa] at ra1; simp [tag] at ra1
  | disconnected => exact absurd hsa hda
  | token ownA =>
    have hA : ownA ≠ TOKEN_NONE := hj.g.1.ok ownA (by rw [hsa]; rfl)
    have ta : tag w.a.conn.state = 1 := by rw [hsa]; rfl
    cases hsb : w.b.conn.state with
    | unconnected => exact .tok ownA _ (conn_eta hsa) hA (Or.inl ⟨_, conn_eta hsb⟩)
    | pendingConnect ownB =>
      exact .tok ownA _ (conn_eta hsa) hA (Or.inr ⟨ownB, _, conn_eta hsb, hj.g.2.ok ownB (by rw [hsb]; rfl)⟩)
    | token o => rw [hsb] at rb1; simp [tag] at rb1
    | connecting o t => rw [hsb] at rb1; simp [tag] at rb1
    | pending o t => have := x1 (by rw [hsb]; rfl); omega
    | online o t c => have := rb2 (by rw [hsb]; rfl); omega
    | disconnected => exact absurd hsb hdb
  | connecting ownA tB =>
    have hA : ownA ≠ TOKEN_NONE := hj.g.1.ok ownA (by rw [hsa]; rfl)
    have ta : tag w.a.conn.state = 2 := by rw [hsa]; rfl
    cases hsb : w.b.conn.state with
    | unconnected => exact absurd (by rw [hsb]; rfl) (x3 ta)
    | pendingConnect ownB =>
      have e : tB = ownB := hj.g.1.agree hj.g.2 (by rw [hsa]; rfl) (by rw [hsb]; rfl)
      subst e
      exact .cng ownA tB _ (conn_eta hsa) hA (Or.inl ⟨_, conn_eta hsb⟩)
    | pending ownB tA =>
      have e : tB = ownB := hj.g.1.agree hj.g.2 (by rw [hsa]; rfl) (by rw [hsb]; rfl)
      have e' : tA = ownA := hj.g.2.agree hj.g.1 (by rw [hsb]; rfl) (by rw [hsa]; rfl)
      subst e e'
      exact .cng tA tB _ (conn_eta hsa) hA (Or.inr ⟨_, conn_eta hsb⟩)
    | token o => rw [hsb] at rb1; simp [tag] at rb1
    | connecting o t => rw [hsb] at rb1; simp [tag] at rb1
    | online o t c => have := rb2 (by rw [hsb]; rfl); omega
    | disconnected => exact absurd hsb hdb
  | online ownA tB c =>
    have ta : tag w.a.conn.state = 5 := by rw [hsa]; rfl
    have hr := ra2 ta
    have hb := ra3 ta
    cases hsb : w.b.conn.state with
    | pending ownB tA =>
      have e : tB = ownB := hj.g.1.agree hj.g.2 (by rw [hsa]; rfl) (by rw [hsb]; rfl)
      have e' : tA = ownA := hj.g.2.agree hj.g.1 (by rw [hsb]; rfl) (by rw [hsa]; rfl)
      subst e e'
      exact .onl tA tB c _ (conn_eta hsa) hr (Or.inl ⟨_, conn_eta hsb⟩)
    | online ownB tA cb =>
      have e : tB = ownB := hj.g.1.agree hj.g.2 (by rw [hsa]; rfl) (by rw [hsb]; rfl)
      have e' : tA = ownA := hj.g.2.agree hj.g.1 (by rw [hsb]; rfl) (by rw [hsa]; rfl)
      subst e e'
      exact .onl tA tB c _ (conn_eta hsa) hr (Or.inr ⟨_, _, conn_eta hsb⟩)
    | unconnected => rw [hsb] at hb; simp [tag] at hb
    | pendingConnect o => rw [hsb] at hb; simp [tag] at hb
    | token o => rw [hsb] at hb; simp [tag] at hb
    | connecting o t => rw [hsb] at hb; simp [tag] at hb
    | disconnected => exact absurd hsb hdb

/-- **the connector is told `Ready` (0.7)**: in a world reached by a schedule in which `a` has called
`connect`, if `a` is online it has `Ready` among its events, and `b` is pending, online or disconnected -/
theorem ready_of_connector7 (sched : List (Move proto7)) (w : World proto7)
    (hrun : NetSim.run (World.init proto7) sched = some w) (hca : connects .a sched = true)
    {o t : Nat} {c : Online} (h : w.a.conn.state = .online o t c) :
    Event.ready ∈ w.a.events ∧ (tag w.b.conn.state = 4 ∨ tag w.b.conn.state = 5 ∨ tag w.b.conn.state = 6) := by
  have hj := j_run sched false false _ w j_init hrun
  rw [hca] at hj
  obtain ⟨_, ra2, ra3⟩ := hj.a.con rfl
  have ta : tag w.a.conn.state = 5 := by rw [h]; rfl
  exact ⟨ra2 ta, ra3 ta⟩

/-! non-vacuity: (1) `a` has just called `connect`, `b` is untouched: six rounds, `a` online and told
`Ready` once, `b` pending (0.7 acceptors, too, go online with the first chunk packet); (2) `a` is
online with an unflushed vital chunk, `b` still pending: four rounds, both online, chunk delivered;
(3) `b` answered the token request but its answer was lost (the D23 situation): `a` retransmits. -/
def exA : List (Move proto7) := [.call .a [5] .connect]
def exB : List (Move proto7) :=
  [.call .a [5] .connect, .deliver .b 0 [9] (), .deliver .a 0 [] (), .deliver .b 1 [] (), .deliver .a 1 [] (),
    .call .a [] (.send [7] true)]
def exC : List (Move proto7) := [.call .a [5] .connect, .deliver .b 0 [9] ()]

example : admissible (World.init proto7) exA = true ∧ admissible (World.init proto7) exB = true ∧
    admissible (World.init proto7) exC = true := by decide +kernel
example : (connects .a exA, connects .b exA, connects .a exB, connects .b exB, connects .a exC, connects .b exC) =
    (true, false, true, false, true, false) := by decide +kernel
example : ((NetSim.run (World.init proto7) exA).map fun w => (tag w.a.conn.state, tag w.b.conn.state)) = some (1, 0) := by
  decide +kernel
example : (((NetSim.run (World.init proto7) exA).bind fun w =>
    fairRoundsT (P := proto7) [9] () 6 (FairState.start w)).map fun s =>
    (tag s.w.a.conn.state, readyCount s.w.a.events, tag s.w.b.conn.state)) = some (5, 1, 4) := by decide +kernel
example : ((NetSim.run (World.init proto7) exB).map fun w =>
    (tag w.a.conn.state, tag w.b.conn.state, w.settled)) = some (5, 4, false) := by decide +kernel
example : (((NetSim.run (World.init proto7) exB).bind fun w =>
    fairRoundsT (P := proto7) [] () 4 (FairState.start w)).map fun s =>
    (s.w.settled, readyCount s.w.a.events, s.w.b.deliveredVital)) = some (true, 1, [[7]]) := by decide +kernel
example : ((NetSim.run (World.init proto7) exC).map fun w => (tag w.a.conn.state, tag w.b.conn.state)) = some (1, 3) := by
  decide +kernel
example : (((NetSim.run (World.init proto7) exC).bind fun w =>
    fairRoundsT (P := proto7) [] () 6 (FairState.start w)).map fun s =>
    (tag s.w.a.conn.state, readyCount s.w.a.events, tag s.w.b.conn.state)) = some (5, 1, 4) := by decide +kernel

end Tw.NetSim.P7
