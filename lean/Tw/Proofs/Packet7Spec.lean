import Tw.Model.Packet7

/-! What `Props/C05` and `Props/C06` say about 0.7 packets and read results is said with the definitions of this file
(see `Packet6Spec.lean`); they rest on the model alone. -/
namespace Tw.Packet7
open Tw.Packet Tw.Gen.Packet7

/-- C05's `Valid` for 0.7 packets -/
def Valid : Packet → Prop
  | .connless payload _ _ => payload.length ≤ Tw.Gen.Packet7.CONNLESS_WRITE_LIMIT
  | .connected ack _ (.chunks _ nc payload) =>
    ack < 1024 ∧ nc < 256 ∧ payload.length ≤ Tw.Gen.Packet7.READ_PAYLOAD_LIMIT
  | .connected ack _ (.control (.close r)) =>
    ack < 1024 ∧ r.length ≤ Tw.Gen.Packet7.CTRLMSG_CLOSE_REASON_LENGTH ∧ (∀ b ∈ r, b ≠ 0)
  | .connected ack _ (.control (.connect rt)) => ack < 1024 ∧ rt ≠ tokenNone
  | .connected ack _ (.control (.token rt)) => ack < 1024 ∧ rt ≠ tokenNone
  | .connected ack _ (.control _) => ack < 1024

/-- validity of a control message (what `ControlPacket::write` asserts, plus the reason limit) -/
def ValidControl : Control → Prop
  | .close m => m.length ≤ CTRLMSG_CLOSE_REASON_LENGTH ∧ ∀ b ∈ m, b ≠ 0
  | .connect rt => rt ≠ tokenNone
  | .token rt => rt ≠ tokenNone
  | _ => True

theorem valid_control_iff (ack : Nat) (tok : Token) (c : Control) :
    Valid (.connected ack tok (.control c)) ↔ ack < 1024 ∧ ValidControl c := by
  cases c with
  | keepAlive => exact ⟨fun h => ⟨h, trivial⟩, fun h => h.1⟩
  | accept => exact ⟨fun h => ⟨h, trivial⟩, fun h => h.1⟩
  | _ => exact Iff.rfl

/-- warnings the reader gives for a valid value: an empty chunk packet that does not request a
resend is reported as `ChunksNoChunks` (a statement about the value, not about the encoding) -/
def expectedWarnings : Packet → List Warning
  | .connected _ _ (.chunks false 0 _) => [.chunksNoChunks]
  | _ => []

/-- the Huffman codec round trip (C07: `Tw.Huffman.decompress_compress _ wellFormed_table false`) -/
def HuffmanRoundTrip (t : Huffman.Table) : Prop :=
  ∀ (xs : List UInt8) (cap : Nat), xs.length ≤ cap →
    Huffman.decompress t (Huffman.compress t false xs) cap = .ok xs

/-- the Huffman decoder respects the output capacity (C07: `Tw.Huffman.decompress_bound`) -/
def HuffmanBounded (t : Huffman.Table) : Prop :=
  ∀ (input : List UInt8) (cap : Nat) (out : List UInt8), Huffman.decompress t input cap = .ok out → out.length ≤ cap

def bufOf (src : Src) (input scratch : List UInt8) : List UInt8 :=
  match src with
  | .input => input
  | .scratch => scratch

theorem resolve_eq (l : Loc) (len : Nat) (input scratch : List UInt8) :
    l.resolve len input scratch = ((bufOf l.src input scratch).drop l.off).take len := by
  cases l with
  | mk src off => cases src <;> rfl

/-- the returned slice is where the result says, inside the buffer it names -/
def ReadOk.Located (r : ReadOk) (input : List UInt8) : Prop :=
  match r.loc, r.pkt.slice with
  | some l, some sl =>
    l.off + sl.length ≤ (bufOf l.src input r.scratch).length ∧ l.resolve sl.length input r.scratch = sl
  | none, none => True
  | _, _ => False

/-- the value of a read: the packet or the error, without warnings, slice location and scratch contents;
`none` for `panic` / `diverge` -/
def ReadResult.value : ReadResult → Option (Except ReadError Packet)
  | .ok r => some (.ok r.pkt)
  | .err e _ => some (.error e)
  | .panic _ => none
  | .diverge => none

/-- the only place where the reader looks at the length of the datagram: a `Token` control message with
header token `TOKEN_NONE` (a token request) must come in a datagram of at least 519 bytes -/
def tooShortRequest (tok : Token) (total : Nat) : Prop :=
  tok = tokenNone ∧ total < TOKEN_REQUEST_PACKET_SIZE

instance (tok : Token) (total : Nat) : Decidable (tooShortRequest tok total) := by
  unfold tooShortRequest; infer_instance

end Tw.Packet7
