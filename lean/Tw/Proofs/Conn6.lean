import Tw.Model.Conn6
import Tw.Proofs.ConnStep

/-! The 0.6 connection model, read once, forwards: `step_runs` says which normal form each call evaluates (`Runs`; `Feeds`
for `feedBody`) — a panic on API misuse, the unchanged connection, `sends`, `coreRes` — and C04 (`Runs.good`) and C02 a
(`Runs.nohang`) are one `cases` on that classification each. -/
namespace Tw.Conn6
open Tw.Conn Tw.Time

theorem cfg_ok : cfg.Ok := by
  intro n h
  simp [Cfg.accepts, cfg] at h
  simp [cfg]
  omega

theorem TOKEN_NONE_eq : TOKEN_NONE = 0xffffffff := by decide
theorem TOKEN_RESERVED_eq : TOKEN_RESERVED = 0 := by decide

def Conn.Inv (c : Conn) : Prop := ∀ t o, c.state = .online t o → o.Inv cfg

/-- the conclusion of C04 for one call -/
def Good (r : Res) : Prop :=
  ∃ c' out, r = .ok (c', out) ∧ c'.Inv ∧ ∀ p ∈ out.sent, p.valid = true

theorem Conn.new_inv : Conn.new.Inv := by
  intro t o h; simp [Conn.new] at h

theorem inv_not_online {c : Conn} (h : c.state.isOnline = false) : c.Inv := by
  intro t o hs; rw [hs] at h; simp [State.isOnline] at h

theorem inv_online {t : Option Nat} {o : Online} {s : Timeout} (h : o.Inv cfg) : Conn.Inv ⟨.online t o, s⟩ := by
  intro t' o' hs
  simp at hs
  rw [← hs.2]; exact h

theorem inv_state_eq {c c' : Conn} (h : c.Inv) (hs : c'.state = c.state) : c'.Inv := by
  intro t o hst; exact h t o (hs ▸ hst)

theorem chunks_wire (ack : Nat) (t : Option Nat) (rr : Bool) (n : Nat) (cs : List Chunk)
    (h : chunksSize cs ≤ maxPayload + 3) : (Packet.chunks ack t rr n cs).wireSize ≤ maxPacketSize := by
  have h1 : Tw.Gen.Conn.P6.HEADER_SIZE = 3 := rfl
  have h2 : Tw.Gen.Conn.P6.TOKEN_SIZE = 4 := rfl
  rw [maxPacketSize_eq]; rw [maxPayload_eq] at h
  cases t <;> simp [Packet.wireSize, h1, h2] <;> omega

theorem ofFlushed_valid (t : Option Nat) {f : Flushed} (h : f.Valid cfg) : (ofFlushed t f).valid = true := by
  have hw := chunks_wire f.ack t f.requestResend f.numChunks f.chunks h.size
  have h4 : f.numChunks ≠ 0 ∨ f.requestResend = true := h.nonempty
  unfold ofFlushed Packet.valid
  simp only [Bool.and_eq_true, decide_eq_true_eq, Bool.or_eq_true, List.all_eq_true]
  exact ⟨⟨⟨⟨hw, h.num⟩, h.cnt⟩, h.data⟩, h4⟩

theorem valid_wire {p : Packet} (h : p.valid = true) : p.wireSize ≤ maxPacketSize := by
  cases p with
  | connless d =>
    simp only [Packet.valid, decide_eq_true_eq] at h
    have h1 : Tw.Gen.Conn.P6.HEADER_SIZE = 3 := rfl
    have h2 : Tw.Gen.Conn.P6.PADDING_SIZE_CONNLESS = 3 := rfl
    have h3 : Tw.Gen.Conn.P6.connlessMax + 6 ≤ 1400 := by decide
    rw [maxPacketSize_eq]
    simp only [Packet.wireSize, h1, h2]; omega
  | control ack t c =>
    simp only [Packet.valid, Bool.and_eq_true, decide_eq_true_eq] at h
    exact h.1
  | chunks ack t rr n cs =>
    simp only [Packet.valid, Bool.and_eq_true, decide_eq_true_eq] at h
    exact h.1.1.1.1

theorem emit_ok {ps : List Packet} (h : ∀ p ∈ ps, p.valid = true) : emit ps = .ok ps := by
  unfold emit
  rw [if_pos]
  rw [List.all_eq_true]
  intro p hp
  exact decide_eq_true (valid_wire (h p hp))

theorem emit_flushed (t : Option Nat) {fl : List Flushed} (h : ∀ f ∈ fl, f.Valid cfg) :
    emit (fl.map (ofFlushed t)) = .ok (fl.map (ofFlushed t)) ∧
      ∀ p ∈ fl.map (ofFlushed t), p.valid = true := by
  have hv : ∀ p ∈ fl.map (ofFlushed t), p.valid = true := by
    intro p hp
    obtain ⟨f, hf, rfl⟩ := List.mem_map.mp hp
    exact ofFlushed_valid t (h f hf)
  exact ⟨emit_ok hv, hv⟩

/-- the hypothesis on a close reason is the API precondition of `disconnect` -/
theorem control_valid (ack : Nat) (t : Option Nat) (ctl : Control)
    (h : ∀ r, ctl = .close r → r.length ≤ 127 ∧ r.all (· != 0) = true) : (Packet.control ack t ctl).valid = true := by
  have h1 : Tw.Gen.Conn.P6.HEADER_SIZE = 3 := rfl
  have h2 : Tw.Gen.Conn.P6.TOKEN_SIZE = 4 := rfl
  have h3 : Tw.Gen.Conn.P6.CTRLMSG_CLOSE_REASON_LENGTH = 127 := rfl
  cases ctl with
  | close r =>
    obtain ⟨ha, hb⟩ := h r rfl
    simp only [Packet.valid, Bool.and_eq_true, decide_eq_true_eq, maxPacketSize_eq, h3]
    refine ⟨?_, ha, hb⟩
    cases t <;> simp [Packet.wireSize, h1, h2] <;> omega
  | _ => cases t <;> simp [Packet.valid, maxPacketSize_eq, Packet.wireSize, h1, h2]

/-- the ack that `send_control` puts into a control packet (`ctlToken`: the token) -/
def State.ctlAck : State → Nat
  | .online _ o => o.ack
  | _ => 0

def State.ctlToken : State → Option Nat
  | .connecting => some TOKEN_NONE
  | .pending t => t
  | .online t _ => t
  | _ => none

theorem sendControl_ok (st : State) (ctl : Control) (hs : st ≠ .disconnected)
    (h : ∀ r, ctl = .close r → r.length ≤ 127 ∧ r.all (· != 0) = true) :
    sendControl st ctl = .ok [.control st.ctlAck st.ctlToken ctl] ∧
      (Packet.control st.ctlAck st.ctlToken ctl).valid = true := by
  have hv := control_valid st.ctlAck st.ctlToken ctl h
  refine ⟨?_, hv⟩
  cases st with
  | disconnected => exact absurd rfl hs
  | _ => exact emit_ok (List.forall_mem_singleton.mpr hv)

theorem emit_eq {ps ps' : List Packet} (h : emit ps = .ok ps') : ps' = ps := by
  unfold emit at h
  split at h
  · injection h with h; exact h.symm
  · cases h

theorem sendControl_eq {st : State} {ctl : Control} {ps : List Packet} (h : sendControl st ctl = .ok ps) :
    st ≠ .disconnected ∧ ps = [.control st.ctlAck st.ctlToken ctl] := by
  unfold sendControl at h
  cases st <;> simp only [controlPacket] at h
  case disconnected => cases h
  all_goals exact ⟨State.noConfusion, emit_eq h⟩

theorem emit_nohang (ps : List Packet) : NoHang (emit ps) := by
  unfold emit
  split
  · exact .ok _
  · exact .panic _

theorem sendControl_nohang (st : State) (ctl : Control) : NoHang (sendControl st ctl) := by
  cases st with
  | disconnected => exact .panic _
  | _ => exact emit_nohang _

/-- the shape in which `send_eq` hands on what `send` returns -/
def onlineRet (t : Option Nat) (o : Online) (snd : Timeout) (fl : List Flushed) (evs : List Event) : Conn × Out :=
  (⟨.online t o, snd⟩, { sent := fl.map (ofFlushed t), events := evs })

theorem send_eq {env : Env} {c c' : Conn} {d : Bytes} {v : Bool} {r : SendRes} {out : Out}
    (h : send env c d v = .ok (c', r, out)) :
    ∃ t o o' fl, c.state = .online t o ∧ o.send cfg env.now d v = .ok (o', r, fl) ∧
      (c', out) = onlineRet t o' c.send fl [] := by
  obtain ⟨st, snd⟩ := c
  cases st <;> simp only [send] at h
  case online t o =>
    split at h
    · cases h
    · rename_i o' r' fl hs
      split at h
      · cases h
      · rename_i hem
        cases h; cases emit_eq hem
        exact ⟨t, o, o', fl, rfl, hs, rfl⟩
  all_goals cases h

/-! ## Every call, run forwards -/

/-- hand `x` to the send callback, then return `c'` with the events `evs` -/
def sends (x : Except Fail (List Packet)) (c' : Conn) (evs : List Event) : Res :=
  match x with
  | .error e => .error e
  | .ok ps => .ok (c', { sent := ps, events := evs })

/-- lift the result of one operation of the online core: emit what it flushed, with token `t` -/
def coreRes (t : Option Nat) (r : CoreRes) : Res :=
  match r with
  | .error e => .error e
  | .ok (o1, s1, fl, evs) => sends (emit (fl.map (ofFlushed t))) ⟨.online t o1, s1⟩ evs

section
variable {env : Env} {c c' c1 : Conn} {out : Out} {x : Except Fail (List Packet)} {evs : List Event} {t : Option Nat}

theorem sends_eq (h : sends x c' evs = .ok (c1, out)) : ∃ ps, x = .ok ps ∧ c1 = c' ∧ out = { sent := ps, events := evs } := by
  cases x with
  | error e => cases h
  | ok ps => cases h; exact ⟨ps, rfl, rfl, rfl⟩

theorem sends_nohang (h : NoHang x) : NoHang (sends x c' evs) := by
  cases x with
  | error e => exact h.err rfl
  | ok ps => exact .ok _

theorem sends_good {ps : List Packet} (hx : x = .ok ps) (hv : ∀ p ∈ ps, p.valid = true) (hi : c'.Inv) :
    Good (sends x c' evs) := by
  subst hx; exact ⟨_, _, rfl, hi, hv⟩

theorem ctl_eq {st : State} {ctl : Control} (h : sends (sendControl st ctl) c' evs = .ok (c1, out)) :
    st ≠ .disconnected ∧ c1 = c' ∧ out = { sent := [.control st.ctlAck st.ctlToken ctl], events := evs } := by
  obtain ⟨ps, hs, rfl, rfl⟩ := sends_eq h
  exact ⟨(sendControl_eq hs).1, rfl, by rw [(sendControl_eq hs).2]⟩

theorem ctl_good {st : State} {ctl : Control} (hs : st ≠ .disconnected)
    (hr : ∀ r, ctl = .close r → r.length ≤ 127 ∧ r.all (· != 0) = true) (hi : c'.Inv) :
    Good (sends (sendControl st ctl) c' evs) := by
  obtain ⟨he, hv⟩ := sendControl_ok st ctl hs hr
  exact sends_good he (List.forall_mem_singleton.mpr hv) hi

theorem coreRes_eq {r : CoreRes} (h : coreRes t r = .ok (c1, out)) :
    ∃ o' s' fl evs, r = .ok (o', s', fl, evs) ∧ c1 = ⟨.online t o', s'⟩ ∧
      out = { sent := fl.map (ofFlushed t), events := evs } := by
  cases r with
  | error e => cases h
  | ok r =>
    obtain ⟨o', s', fl, evs⟩ := r
    obtain ⟨ps, hs, rfl, rfl⟩ := sends_eq h
    cases emit_eq hs
    exact ⟨_, _, _, _, rfl, rfl, rfl⟩

theorem coreRes_nohang {r : CoreRes} (h : NoHang r) : NoHang (coreRes t r) := by
  cases r with
  | error e => exact h.err rfl
  | ok r => exact sends_nohang (emit_nohang _)

theorem coreRes_good {o : Online} {s : Timeout} {op : CoreOp} (ho : o.Inv cfg) (hx : op.Wf) :
    Good (coreRes t (op.run cfg env.now o s)) := by
  obtain ⟨o', s', fl, evs, hr, hinv, hfl⟩ := CoreOp.run_spec (now := env.now) (s := s) cfg_ok ho hx
  rw [hr]
  obtain ⟨he, hv⟩ := emit_flushed t hfl
  exact sends_good he hv (inv_online hinv)

end

/-- `Feeds env c token p r`: on packet `p`, after the token check and `ack_chunks`, `feed` evaluates `r` -/
inductive Feeds (env : Env) (c : Conn) (token : Option Nat) : Packet → Res → Prop
  | idle {p evs} (he : evs = [] ∨ ∃ d, evs = [.connless d]) : Feeds env c token p (.ok (c, { events := evs }))
  | receive {ack tk rr n cs t o} (hst : c.state = .online t o ∨ (c.state = .pending t ∧ o = .new)) :
      Feeds env c token (.chunks ack tk rr n cs) (coreRes t (CoreOp.run cfg env.now o c.send (.receive rr cs)))
  | connect {ack tk t} (hst : c.state = .unconnected)
      (ht : token = none ∧ t = none ∨
        ∃ nt, token = some TOKEN_NONE ∧ t = some nt ∧ tokenRandom env.draws = some nt) :
      Feeds env c token (.control ack tk .connect)
        (sends (sendControl (.pending t) .connectAccept) ⟨.pending t, Timeout.after env.now sendUs⟩ [])
  | noDraw {ack tk site} (hd : tokenRandom env.draws = none) :
      Feeds env c token (.control ack tk .connect) (.error (.panic site))
  | accept {ack tk} (hst : c.state = .connecting) :
      Feeds env c token (.control ack tk .connectAccept)
        (sends (sendControl (.online token .new) .accept) ⟨.online token .new, c.send⟩ [.ready])
  | close {ack tk r} :
      Feeds env c token (.control ack tk (.close r)) (.ok (⟨.disconnected, c.send⟩, { events := [.disconnect r] }))

theorem feedBody_feeds (env : Env) (c : Conn) (token : Option Nat) (p : Packet) :
    Feeds env c token p (feedBody env c token p) := by
  obtain ⟨st, snd⟩ := c
  cases p with
  | connless d => exact .idle (.inr ⟨d, rfl⟩)
  | chunks ack tk rr n cs =>
    cases st
    case online t o => exact .receive (.inl rfl)
    case pending t => exact .receive (.inr ⟨rfl, rfl⟩)
    all_goals exact .idle (.inl rfl)
  | control ack tk ctl =>
    cases ctl with
    | keepAlive => exact .idle (.inl rfl)
    | accept => exact .idle (.inl rfl)
    | close r => exact .close
    | connect =>
      cases st
      case unconnected =>
        cases token with
        | none => exact .connect rfl (.inl ⟨rfl, rfl⟩)
        | some t0 =>
          simp only [feedBody]
          split
          · subst t0
            cases hnt : tokenRandom env.draws with
            | none => exact .noDraw hnt
            | some nt => exact .connect rfl (.inr ⟨nt, rfl, rfl, hnt⟩)
          · exact .idle (.inl rfl)
      all_goals exact .idle (.inl rfl)
    | connectAccept =>
      cases st
      case connecting => exact .accept rfl
      all_goals exact .idle (.inl rfl)

/-- the control message `tick_action` sends in a state in which it does not flush -/
def State.tickControl : State → Option Control
  | .connecting => some .connect
  | .pending _ => some .connectAccept
  | .online _ _ => some .keepAlive
  | _ => none

/-- what `permitted` rules out: the call is made in a state, or with an argument, the API forbids -/
def Misuse (c : Conn) : Op → Prop
  | .connect => c.state ≠ .unconnected
  | .disconnect r => c.state = .disconnected ∨ r.any (· == 0) = true
  | .flush | .send _ _ | .sendConnless _ => c.state.isOnline = false
  | _ => False

/-- `x` is a core operation the call `op` may run on an online connection -/
def Asks (x : CoreOp) : Op → Prop
  | .flush => x = .flush
  | .send d v => x = .send d v
  | .tick => x = .flush ∨ x = .resend
  | _ => False

theorem Asks.app {x : CoreOp} {op : Op} : Asks x op → x.App := by
  cases op with
  | flush => rintro rfl; trivial
  | send d v => rintro rfl; trivial
  | tick => rintro (rfl | rfl) <;> trivial
  | _ => exact False.elim

/-- `Runs env c op r`: the call `op` on `c` evaluates `r`.  A result is a constructor application or one of the named
normal forms `sends`, `coreRes` (in `acked` under the model's own `match` on `feedAck`), never another `match`, so that
`step_runs` classifies by `exact .ctor` up to unfolding.
Where the model re-packs the core's result (`step (.send …)`, `resendConn`: a `match` on a `match`, equal to the normal
form but not by unfolding) the constructor takes the equation `hr` instead. -/
inductive Runs (env : Env) (c : Conn) : Op → Res → Prop
  | misuse {op site} (h : Misuse c op) : Runs env c op (.error (.panic site))
  /-- nothing happens: a timer not due, a read error, a token mismatch -/
  | same {op w} (hop : op = .tick ∨ ∃ rd, op = .feed rd) : Runs env c op (.ok (c, { warns := w }))
  /-- `tick` in an idle state whose send timer had run out -/
  | cleared (hc : c.state.tickControl = none) : Runs env c .tick (.ok (⟨c.state, .inactive⟩, {}))
  | connect (hst : c.state = .unconnected) :
      Runs env c .connect (sends (sendControl .connecting .connect) ⟨.connecting, Timeout.after env.now sendUs⟩ [])
  /-- `tick_action` with nothing to flush: the state's control message again -/
  | repeated {ctl} (hc : c.state.tickControl = some ctl) :
      Runs env c .tick (sends (sendControl c.state ctl) ⟨c.state, Timeout.after env.now sendUs⟩ [])
  | core {op t o r} (hst : c.state = .online t o) (x : CoreOp) (hx : Asks x op)
      (hr : r = coreRes t (x.run cfg env.now o c.send)) : Runs env c op r
  | connless {d r} (hst : c.state.isOnline = true)
      (hr : r = if d.length > Tw.Gen.Conn.P6.connlessMax then .ok (⟨c.state, Timeout.after env.now sendUs⟩, {})
        else sends (emit [.connless d]) ⟨c.state, Timeout.after env.now sendUs⟩ []) : Runs env c (.sendConnless d) r
  | disconnect {r} (hst : c.state ≠ .disconnected) (hr : r.any (· == 0) = false) :
      Runs env c (.disconnect r) (sends (sendControl c.state (.close r)) ⟨.disconnected, c.send⟩ [])
  /-- a datagram past the token check, the connection not online (or the datagram connless): `feedBody` -/
  | fed {rd p tk r} (hrd : rd c.hint = some p)
      (hta : p.tokenAck? = none ∧ tk = none ∨ ∃ a, p.tokenAck? = some (tk, a) ∧ c.state.token?.any (· != tk) = false)
      (hst : c.state.isOnline = false ∨ p.tokenAck? = none) (hf : Feeds env c tk p r) : Runs env c (.feed rd) r
  /-- … online: `ack_chunks` first, then `feedBody` on the acked core -/
  | acked {rd p tk a t o} {r : Online → Res} (hrd : rd c.hint = some p) (hta : p.tokenAck? = some (tk, a))
      (hm : c.state.token?.any (· != tk) = false) (hst : c.state = .online t o)
      (hf : ∀ o1, Feeds env ⟨.online t o1, c.send⟩ tk p (r o1)) :
      Runs env c (.feed rd) (match o.feedAck a with | .error e => .error e | .ok o1 => r o1)

theorem Runs.ite {env : Env} {c : Conn} {op : Op} {p : Prop} [Decidable p] {a b : Res}
    (ha : p → Runs env c op a) (hb : ¬p → Runs env c op b) : Runs env c op (if p then a else b) := by
  split
  · exact ha ‹_›
  · exact hb ‹_›

theorem feed_congr {env : Env} {c : Conn} {rd rd' : Option Bool → Option Packet} (h : rd c.hint = rd' c.hint) :
    feed env c rd = feed env c rd' := by
  unfold feed; rw [h]

section
variable (env : Env) (c : Conn)

theorem resendConn_eq (t : Option Nat) (o : Online) (s : Timeout) :
    resendConn env t o s = coreRes t (CoreOp.run cfg env.now o s .resend) := by
  simp only [resendConn, CoreOp.run]
  cases o.resend cfg env.now s <;> rfl

theorem tick_runs : Runs env c .tick (tick env c) := by
  obtain ⟨st, snd⟩ := c
  have idle : Runs env ⟨st, snd⟩ .tick (.ok (⟨st, snd⟩, {})) := .same (.inl rfl)
  cases st
  case online t o =>
    refine .ite (fun _ => .core rfl .resend (.inr rfl) (resendConn_eq env t o snd)) fun _ => .ite (fun _ => ?_) fun _ => idle
    exact .ite (fun _ => .core rfl .flush (.inl rfl) rfl) fun _ => .repeated (ctl := .keepAlive) rfl
  -- `ctl` is given: `rfl` is elaborated before the expected result would fix it
  case connecting => exact .ite (fun _ => .repeated (ctl := .connect) rfl) fun _ => idle
  case pending t => exact .ite (fun _ => .repeated (ctl := .connectAccept) rfl) fun _ => idle
  all_goals exact .ite (fun _ => .cleared rfl) fun _ => idle

theorem feed_runs (rd : Option Bool → Option Packet) : Runs env c (.feed rd) (feed env c rd) := by
  unfold feed
  split
  · exact .same (.inr ⟨rd, rfl⟩)
  · rename_i p hp
    split
    · rename_i hta
      exact .fed hp (.inl ⟨hta, rfl⟩) (.inr hta) (feedBody_feeds env c none p)
    · rename_i tk a hta
      split
      · exact .same (.inr ⟨rd, rfl⟩)
      · rename_i hm
        obtain ⟨st, snd⟩ := c
        cases st
        case online t o => exact .acked hp hta (by simpa using hm) rfl (fun o1 => feedBody_feeds env _ tk p)
        all_goals exact .fed hp (.inr ⟨a, hta, by simpa using hm⟩) (.inl rfl) (feedBody_feeds env _ tk p)

theorem step_runs (op : Op) : Runs env c op (step env c op) := by
  obtain ⟨st, snd⟩ := c
  cases op with
  | connect =>
    cases st
    case unconnected => exact .connect rfl
    all_goals exact .misuse State.noConfusion
  | disconnect r =>
    simp only [step, disconnect]
    split
    · exact .misuse (.inl rfl)
    · split
      · exact .misuse (.inr ‹_›)
      · exact .disconnect ‹_› (Bool.eq_false_iff.mpr ‹_›)
  | flush =>
    cases st
    case online => exact .core rfl .flush rfl rfl
    all_goals exact .misuse rfl
  | send d v =>
    cases st
    case online t o =>
      refine .core rfl (.send d v) rfl ?_
      simp only [step, send, CoreOp.run]
      cases o.send cfg env.now d v with
      | error e => rfl
      | ok r => simp only [coreRes, sends]; cases emit _ <;> rfl
    all_goals exact .misuse rfl
  | sendConnless d =>
    cases st
    case online t o =>
      refine .connless rfl ?_
      by_cases hl : d.length > Tw.Gen.Conn.P6.connlessMax <;> simp only [step, sendConnless, hl, if_true, if_false]
      simp only [sends]; cases emit _ <;> rfl
    all_goals exact .misuse rfl
  | tick => exact tick_runs env _
  | feed rd => exact feed_runs env _ rd

end

/-- The result as a variable `r` with the equation beside it: `cases` on `Runs env c op (.ok (c', out))` cannot unify that
index with `sends …` / `coreRes …`; on `Runs env c op r` it can. -/
theorem step_runs_ok {env : Env} {c c' : Conn} {op : Op} {out : Out} (h : step env c op = .ok (c', out)) :
    ∃ r, Runs env c op r ∧ r = .ok (c', out) :=
  ⟨_, step_runs env c op, h⟩

/-! ## C04: a permitted call returns, keeps the invariant, and everything it sends is valid -/

section
variable {env : Env} {c c' : Conn} {out : Out} {r : Res} {op : Op} {tk : Option Nat} {p : Packet}

theorem Feeds.good (h : Feeds env c tk p r) (hi : c.Inv) (hwf : p.wf = true)
    (hd : (tokenRandom env.draws).isSome = true) : Good r := by
  cases h with
  | idle => exact ⟨_, _, rfl, hi, fun _ h => nomatch h⟩
  | receive hst =>
    simp only [Packet.wf, Bool.and_eq_true, decide_eq_true_eq] at hwf
    refine coreRes_good ?_ hwf.2
    rcases hst with hst | ⟨_, rfl⟩
    · exact hi _ _ hst
    · exact Online.new_inv cfg
  | connect => exact ctl_good State.noConfusion (fun _ h => nomatch h) (inv_not_online rfl)
  | noDraw hn => rw [hn] at hd; cases hd
  | accept => exact ctl_good State.noConfusion (fun _ h => nomatch h) (inv_online (Online.new_inv cfg))
  | close => exact ⟨_, _, rfl, inv_not_online rfl, fun _ h => nomatch h⟩

theorem Misuse.not_permitted (h : Misuse c op) : permitted env c op = false := by
  cases op with
  | connect => exact beq_eq_false_iff_ne.mpr h
  | disconnect r =>
    rcases h with h | h
    · simp [permitted, h]
    · obtain ⟨x, hx, h0⟩ := List.any_eq_true.mp h
      have : r.all (· != 0) = false := List.all_eq_false.mpr ⟨x, hx, by simpa using h0⟩
      simp only [permitted, this, Bool.and_false, Bool.false_and]
  | flush => exact h
  | send d v => exact h
  | sendConnless d => exact h
  | _ => exact h.elim

theorem tickControl_some {st : State} {ctl : Control} (h : st.tickControl = some ctl) :
    st ≠ .disconnected ∧ ∀ r, ctl ≠ .close r := by
  cases st <;> cases h <;> exact ⟨State.noConfusion, fun _ => Control.noConfusion⟩

theorem fed_wf {rd : Option Bool → Option Packet} (hp : permitted env c (.feed rd) = true) (hr : rd c.hint = some p) :
    p.wf = true ∧ (tokenRandom env.draws).isSome = true := by
  simp only [permitted, List.all_cons, List.all_nil, Bool.and_true, Bool.and_eq_true] at hp
  obtain ⟨⟨hn, hf, ht⟩, hd⟩ := hp
  refine ⟨?_, hd⟩
  rcases hh : c.hint with _ | _ | _ <;> rw [hh] at hr
  · rw [hr] at hn; simpa using hn
  · rw [hr] at hf; simpa using hf
  · rw [hr] at ht; simpa using ht

theorem Runs.good (h : Runs env c op r) (hi : c.Inv) (hp : permitted env c op = true) : Good r := by
  cases h with
  | misuse h => rw [h.not_permitted] at hp; cases hp
  | same => exact ⟨_, _, rfl, hi, fun _ h => nomatch h⟩
  | cleared => exact ⟨_, _, rfl, inv_state_eq hi rfl, fun _ h => nomatch h⟩
  | connect => exact ctl_good State.noConfusion (fun _ h => nomatch h) (inv_not_online rfl)
  | repeated hc => exact ctl_good (tickControl_some hc).1 (fun r h => absurd h ((tickControl_some hc).2 r)) (inv_state_eq hi rfl)
  | core hst x hx hr => rw [hr]; exact coreRes_good (hi _ _ hst) hx.app.wf
  | @connless d _ hst hr =>
    rw [hr]; split
    · exact ⟨_, _, rfl, inv_state_eq hi rfl, fun _ h => nomatch h⟩
    · have hv : ∀ p ∈ [Packet.connless d], p.valid = true :=
        List.forall_mem_singleton.mpr (by simp only [Packet.valid, decide_eq_true_eq]; omega)
      exact sends_good (emit_ok hv) hv (inv_state_eq hi rfl)
  | disconnect hst =>
    simp only [permitted, Bool.and_eq_true, decide_eq_true_eq] at hp
    exact ctl_good hst (fun r' h => by cases h; exact ⟨hp.2, hp.1.2⟩) (inv_not_online rfl)
  | fed hrd _ _ hf => exact hf.good hi (fed_wf hp hrd).1 (fed_wf hp hrd).2
  | @acked rd p tk a t o r hrd hta _ hst hf =>
    obtain ⟨hwf, hd⟩ := fed_wf hp hrd
    have hack : a < seqMod := by
      cases p <;> cases hta <;> simp only [Packet.wf, Bool.and_eq_true, decide_eq_true_eq] at hwf
      · exact hwf
      · exact hwf.1
    obtain ⟨he, hinv⟩ := Online.feedAck_spec (hi t o hst) hack
    rw [he]
    exact (hf _).good (inv_online hinv) hwf hd

end

/-- C04, one step: a permitted call on a connection satisfying the packet invariant returns,
keeps the invariant, and every datagram it hands to the send callback is valid -/
theorem step_good (env : Env) {c : Conn} (h : c.Inv) (op : Op) (hp : permitted env c op = true) :
    Good (step env c op) :=
  (step_runs env c op).good h hp

/-- C04 over whole schedules -/
theorem run_good : ∀ (sched : List (Env × Op)) (c : Conn), c.Inv → runPermitted c sched = true →
    ∃ c' outs, run c sched = .ok (c', outs) ∧ c'.Inv ∧ ∀ out ∈ outs, ∀ p ∈ out.sent, p.valid = true := by
  intro sched
  induction sched with
  | nil => intro c h _; exact ⟨c, [], rfl, h, by simp⟩
  | cons eo rest ih =>
    intro c h hp
    obtain ⟨env, op⟩ := eo
    simp only [runPermitted, Bool.and_eq_true] at hp
    obtain ⟨c1, out, he, hinv, hv⟩ := step_good env h op hp.1
    have hp2 := hp.2
    rw [he] at hp2
    obtain ⟨c2, outs, he2, hinv2, hv2⟩ := ih c1 hinv hp2
    refine ⟨c2, out :: outs, ?_, hinv2, ?_⟩
    · simp only [run, he, he2]
    · intro o ho
      rcases List.mem_cons.mp ho with rfl | ho
      · exact hv
      · exact hv2 o ho

/-! ## C02 (a): no call hangs -/

section
variable {env : Env} {c : Conn} {r : Res} {op : Op} {tk : Option Nat} {p : Packet}

theorem Feeds.nohang (h : Feeds env c tk p r) : NoHang r := by
  cases h with
  | receive => exact coreRes_nohang CoreOp.run_nohang
  | connect => exact sends_nohang (sendControl_nohang _ _)
  | noDraw => exact .panic _
  | accept => exact sends_nohang (sendControl_nohang _ _)
  | _ => exact .ok _

theorem Runs.nohang (h : Runs env c op r) : NoHang r := by
  cases h with
  | misuse => exact .panic _
  | connect => exact sends_nohang (sendControl_nohang _ _)
  | repeated => exact sends_nohang (sendControl_nohang _ _)
  | disconnect => exact sends_nohang (sendControl_nohang _ _)
  | core _ _ _ hr => rw [hr]; exact coreRes_nohang CoreOp.run_nohang
  | connless _ hr =>
    rw [hr]; split
    · exact .ok _
    · exact sends_nohang (emit_nohang _)
  | fed _ _ _ hf => exact hf.nohang
  | acked _ _ _ _ hf =>
    split
    · exact (Online.feedAck_nohang _ _).err ‹_›
    · exact (hf _).nohang
  | _ => exact .ok _

end

/-- C02 (a): no call hangs, whatever the state and the arguments -/
theorem step_nohang (env : Env) (c : Conn) (op : Op) : NoHang (step env c op) := (step_runs env c op).nohang

theorem run_nohang : ∀ (sched : List (Env × Op)) (c : Conn), NoHang (run c sched) := by
  intro sched
  induction sched with
  | nil => exact fun _ => .ok _
  | cons eo rest ih =>
    intro c
    simp only [run]
    split
    · exact (step_nohang _ _ _).err ‹_›
    · split
      · exact (ih _).err ‹_›
      · exact .ok _

/-! ## Over schedules -/

theorem run_invariant {I : Conn → Prop} {K : Out → Prop} {G : Env → Prop}
    (hstep : ∀ env c op c' out, G env → step env c op = .ok (c', out) → I c → I c' ∧ K out) :
    ∀ (sched : List (Env × Op)) (c c' : Conn) (outs : List Out), (∀ eo ∈ sched, G eo.1) → I c →
      run c sched = .ok (c', outs) → I c' ∧ ∀ out ∈ outs, K out := by
  intro sched
  induction sched with
  | nil => intro c c' outs _ h he; cases he; exact ⟨h, fun _ h => nomatch h⟩
  | cons eo rest ih =>
    intro c c' outs hg h he
    simp only [run] at he
    obtain ⟨env, op⟩ := eo
    obtain ⟨hg0, hg1⟩ := List.forall_mem_cons.mp hg
    cases hs : step env c op with
    | error e => rw [hs] at he; cases he
    | ok r =>
      obtain ⟨c1, out⟩ := r
      rw [hs] at he
      simp only at he
      cases hr : run c1 rest with
      | error e => rw [hr] at he; cases he
      | ok r2 =>
        obtain ⟨c2, outs2⟩ := r2
        rw [hr] at he
        cases he
        obtain ⟨a, b⟩ := hstep _ _ _ _ _ hg0 hs h
        obtain ⟨a2, b2⟩ := ih c1 _ _ hg1 a hr
        exact ⟨a2, List.forall_mem_cons.mpr ⟨b, b2⟩⟩

end Tw.Conn6
