import Tw.Proofs.ConnSafetyStep
import Tw.Proofs.ConnStep6

/-! C01 for 0.6: every returning call and delivery of the world is a `Conn6.Stepped` of the connection and so a `GStep`
of its view `Conn.g` (`steps6 : Steps`), hence preserves `AInv` and obeys the handshake clause.  It also keeps the
token-hint invariant (`loc6 : Loc`), so the totalised branch of `wireRead` is never taken (`misread_false`).  The same
three for a world started with `new_accept_token` (`initAccept_*`). -/
namespace Tw.NetSim.P6
open Tw.Conn Tw.Conn6 Tw.Time Tw.NetSim

def core (c : Conn) : Option Online := c.g.ph.core

def late (c : Conn) : Bool := c.g.ph.late

abbrev Pr (tl : Bool) : Proto := proto6 tl

variable {tl : Bool}

theorem view_strip (p : Packet) : view (strip p) = view p := by
  cases p <;> rfl

/-- what the reader makes of a written datagram: the datagram itself (stripped of its token towards a
peer that does not use one), or, for a close message read against the hint, a close message with the
same ack -/
theorem wireRead_cases {p q : Packet} {alt : Alt} {hint : Option Bool} (h : wireRead tl p alt hint = some q) :
    q = (if tl = true then strip p else p) ∨
    ∃ ack tok r tok' r', (if tl = true then strip p else p) = .control ack tok (.close r) ∧
      q = .control ack tok' (.close r') := by
  unfold wireRead at h
  simp only at h
  generalize (if tl = true then strip p else p) = p' at h ⊢
  cases p' with
  | connless d => cases h; exact .inl rfl
  | chunks ack tk rr n cs =>
    simp only at h
    split at h
    · cases h; exact .inl rfl
    · cases h
  | control ack tk ctl =>
    cases ctl with
    | close r =>
      simp only at h
      split at h
      · cases h; exact .inl rfl
      · cases alt with
        | exact => cases h; exact .inl rfl
        | error => cases h
        | close tok' r' => cases h; exact .inr ⟨_, _, _, _, _, rfl, rfl⟩
    | _ =>
      simp only at h
      split at h
      · cases h; exact .inl rfl
      · cases h

theorem wireRead_view {p q : Packet} {alt : Alt} {hint : Option Bool} (h : wireRead tl p alt hint = some q) :
    view q = view p := by
  have hs : view (if tl = true then strip p else p) = view p := by
    split
    · exact view_strip p
    · rfl
  rcases wireRead_cases h with rfl | ⟨_, _, _, _, _, hp, rfl⟩
  · exact hs
  · rw [← hs, hp]; rfl

theorem isAccept_strip (p : Packet) : isAccept (strip p) = isAccept p := by
  cases p with
  | control a t c => cases c <;> rfl
  | _ => rfl

theorem wireRead_accept {p q : Packet} {alt : Alt} {hint : Option Bool} (h : wireRead tl p alt hint = some q)
    (hq : isAccept q = true) : isAccept p = true := by
  have hs : isAccept (if tl = true then strip p else p) = isAccept p := by
    split
    · exact isAccept_strip p
    · rfl
  rcases wireRead_cases h with rfl | ⟨_, _, _, _, _, _, rfl⟩
  · rw [← hs]; exact hq
  · cases hq

theorem view_g (p : Packet) : p.g.view = view p := by
  cases p <;> rfl

theorem acc_g (p : Packet) : (In.fed p).acc = isAccept p := by
  cases p with
  | control a t ctl => cases ctl <;> rfl
  | _ => rfl

def callIn (cl : Call) (r : Ret Conn Packet) : In :=
  match cl with
  | .connect => .connect
  | _ => .call (subOf cl r)

theorem call_stepped {now : Nat} {draws : List Nat} {c : Conn} {cl : Call} {r : Ret Conn Packet}
    (hr : P6.call now draws c cl = .ok r) :
    ∃ out, Stepped ⟨now, draws⟩ (callIn cl r) c r.conn out ∧ r.sent = out.sent ∧ r.events = out.events := by
  cases cl <;> simp only [P6.call] at hr <;> split at hr <;> cases hr
  · exact ⟨_, connect_stepped ‹_›, rfl, rfl⟩
  · exact ⟨_, send_stepped ‹_›, rfl, rfl⟩
  · exact ⟨_, sendConnless_stepped ‹_›, rfl, rfl⟩
  · exact ⟨_, flush_stepped ‹_›, rfl, rfl⟩
  · exact ⟨_, tick_stepped ‹_›, rfl, rfl⟩
  · exact ⟨_, disconnect_stepped ‹_›, rfl, rfl⟩

/-- the connection is handed the datagram as its reader returns it -/
theorem recv_stepped {now : Nat} {draws : List Nat} {c : Conn} {p : Packet} {alt : Alt} {r : Ret Conn Packet}
    (hr : P6.recv tl now draws c p alt = .ok r) :
    ∃ out, Stepped ⟨now, draws⟩ (fedIn (wireRead tl p alt c.hint)) c r.conn out ∧
      r.sent = out.sent ∧ r.events = out.events := by
  unfold P6.recv at hr
  split at hr
  · cases hr
  · cases hr; exact ⟨_, feed_stepped ‹_›, rfl, rfl⟩

theorem call_step {now : Nat} {draws : List Nat} {c : Conn} {cl : Call} {r : Ret Conn Packet}
    (hr : P6.call now draws c cl = .ok r) :
    GStep Conn6.cfg now none false c.g r.conn.g (r.sent.map Packet.g) r.events (subOf cl r) := by
  obtain ⟨out, hs, h1, h2⟩ := call_stepped hr
  rw [h1, h2]
  cases cl <;> exact hs.g

/-- the step is labelled by the datagram read, the world's delivery by the datagram written -/
theorem recv_step {now : Nat} {draws : List Nat} {c : Conn} {p : Packet} {alt : Alt} {r : Ret Conn Packet}
    (hr : P6.recv tl now draws c p alt = .ok r) :
    GStep Conn6.cfg now (view p) (isAccept p) c.g r.conn.g (r.sent.map Packet.g) r.events [] := by
  obtain ⟨out, hs, h1, h2⟩ := recv_stepped hr
  rw [h1, h2]
  cases hq : wireRead tl p alt c.hint with
  | none =>
    rw [hq] at hs
    exact GStep.mono (fed := none) (acc := false) (fun _ h => nomatch h) (fun h => nomatch h) hs.g
  | some q =>
    rw [hq] at hs
    refine hs.g.mono (fun v hv => ?_) fun ha => wireRead_accept hq ((acc_g q).symm.trans ha)
    rw [← wireRead_view hq, ← view_g]
    exact hv

theorem steps6 (tl : Bool) : Steps (proto6 tl) Conn.g Packet.g Conn6.cfg where
  init := rfl
  online := fun c o h => by
    obtain ⟨st, snd⟩ := c
    cases st <;> cases h
    rfl
  view := view_g
  call := call_step
  recv := fun {_ _ _ _ alt _} h => recv_step (alt := alt) h

theorem sim6 (tl : Bool) : Sim (proto6 tl) core Conn6.cfg := (steps6 tl).sim Conn6.cfg_ok
theorem hs6 (tl : Bool) : Hs (proto6 tl) late := (steps6 tl).hs

/-! ## the token hint always matches (the totalised branch of `wireRead` is dead) -/

/-- the token of a pending / online connection is present iff the variant uses tokens -/
def tokS (tl : Bool) (c : Conn) : Prop := ∀ t, c.state.token? = some t → t.isSome = !tl

/-- with tokens, every connected datagram other than a close message carries one -/
def pktOk (tl : Bool) : Packet → Prop
  | .connless _ => True
  | .control _ _ (.close _) => True
  | .control _ t _ => tl = false → t.isSome = true
  | .chunks _ t _ _ _ => tl = false → t.isSome = true

/-- the same of a datagram as it is read: without tokens the wire has stripped it -/
def readOk (tl : Bool) : Packet → Prop
  | .connless _ => True
  | .control _ _ (.close _) => True
  | .control _ t _ => t.isSome = !tl
  | .chunks _ t _ _ _ => t.isSome = !tl

theorem pktOk_control {ack : Nat} {t : Option Nat} {ctl : Control} (h : tl = false → t.isSome = true) :
    pktOk tl (.control ack t ctl) := by
  cases ctl <;> first | exact h | trivial

theorem ctl_tok {st : State} {snd : Timeout} (hs : tokS tl ⟨st, snd⟩) (ack : Nat) {ctl : Control}
    (hu : st = .unconnected → ∃ r, ctl = .close r) (hd : st ≠ .disconnected) :
    ∀ p ∈ [Packet.control ack st.ctlToken ctl], pktOk tl p := by
  refine List.forall_mem_singleton.mpr ?_
  cases st
  case unconnected => obtain ⟨r, rfl⟩ := hu rfl; trivial
  case connecting => exact pktOk_control (fun _ => rfl)
  case disconnected => exact absurd rfl hd
  all_goals exact pktOk_control (fun htl => by have := hs _ rfl; simpa [htl, State.ctlToken] using this)

theorem tokS_of_no_token {st : State} {snd : Timeout} (h : st.token? = none) : tokS tl ⟨st, snd⟩ := by
  intro t ht; rw [h] at ht; cases ht

/-- the datagram `wireRead` and `misread` look at -/
theorem readOk_wire {p : Packet} (hp : pktOk tl p) : readOk tl (if tl = true then strip p else p) := by
  cases tl
  · show readOk false p
    cases p with
    | control a t c => cases c <;> first | trivial | exact hp rfl
    | connless d => trivial
    | chunks a t rr n cs => exact hp rfl
  · show readOk true (strip p)
    cases p with
    | control a t c => cases c <;> first | trivial | rfl
    | connless d => trivial
    | chunks a t rr n cs => rfl

theorem wireRead_readOk {p q : Packet} {alt : Alt} {hint : Option Bool} (hp : pktOk tl p)
    (h : wireRead tl p alt hint = some q) : readOk tl q := by
  rcases wireRead_cases h with rfl | ⟨_, _, _, _, _, _, rfl⟩
  · exact readOk_wire hp
  · trivial

theorem _root_.Tw.Conn6.Move.tokHint {env : Env} {i : In} {st st' : State} (hm : Conn6.Move env i st st') {s s' : Timeout}
    (hs : tokS tl ⟨st, s⟩) (hq : ∀ p, i = .fed p → readOk tl p) : tokS tl ⟨st', s'⟩ := by
  cases hm with
  | stay => exact hs
  | connect => exact tokS_of_no_token rfl
  | @fedConnect _ tk _ ht =>
    have hk : tk.isSome = !tl := hq _ rfl
    intro t' h'
    cases h'
    rcases ht with ⟨rfl, rfl⟩ | ⟨_, rfl, rfl, _⟩ <;> exact hk

theorem _root_.Tw.Conn6.Stepped.tokHint {env : Env} {i : In} {c c' : Conn} {out : Out} (h : Stepped env i c c' out)
    (hs : tokS tl c) (hq : ∀ p, i = .fed p → readOk tl p) : tokS tl c' ∧ ∀ p ∈ out.sent, pktOk tl p := by
  induction h with
  | same _ hsent _ => exact ⟨hs, by rw [hsent]; exact fun _ h => nomatch h⟩
  | cleared => exact ⟨hs, fun _ h => nomatch h⟩
  | @ctl _ c st' _ _ hm hc =>
    have hs' := hm.tokHint (s := c.send) (s' := Timeout.after env.now sendUs) hs hq
    exact ⟨hs', ctl_tok hs' _ (fun hu => by rw [hu] at hc; cases hc) (fun hd => by rw [hd] at hc; cases hc)⟩
  | @core _ _ t _ _ _ _ _ hst _ =>
    have ht : t.isSome = !tl := by
      rcases hst with hst | ⟨hst, _⟩ <;> exact hs t (by rw [hst]; rfl)
    refine ⟨fun t' h' => by cases h'; exact ht, fun p hp => ?_⟩
    obtain ⟨f, _, rfl⟩ := List.mem_map.mp hp
    intro htl
    simpa [htl] using ht
  | acked _ hst _ _ ih => exact ih (fun t' h' => by cases h'; exact hs _ (by rw [hst]; rfl)) hq
  | connless _ hps =>
    refine ⟨hs, ?_⟩
    rcases hps with rfl | ⟨_, rfl⟩
    · exact fun _ h => nomatch h
    · exact List.forall_mem_singleton.mpr trivial
  | @accept c _ tk _ =>
    have hk : tk.isSome = !tl := hq _ rfl
    have hs' : tokS tl ⟨.online tk .new, c.send⟩ := fun t' h' => by cases h'; exact hk
    exact ⟨hs', ctl_tok hs' _ State.noConfusion State.noConfusion⟩
  | closed => exact ⟨tokS_of_no_token rfl, fun _ h => nomatch h⟩
  | @disconnect c _ hst => exact ⟨tokS_of_no_token rfl, ctl_tok (snd := c.send) hs _ (fun _ => ⟨_, rfl⟩) hst⟩

theorem loc6 (tl : Bool) : Loc (proto6 tl) (tokS tl) (pktOk tl) where
  init := fun t ht => by simp [proto6, Conn.new, State.token?] at ht
  call := fun _ _ _ cl _ hr hs => by
    obtain ⟨out, hst, h1, _⟩ := call_stepped hr
    rw [h1]
    exact hst.tokHint hs (fun _ h => by cases cl <;> cases h)
  recv := fun _ _ c p alt _ hr hs hp => by
    obtain ⟨out, hst, h1, _⟩ := recv_stepped hr
    rw [h1]
    refine hst.tokHint hs fun q hq => ?_
    cases hr' : wireRead tl p alt c.hint with
    | none => rw [hr'] at hq; cases hq
    | some q' => rw [hr'] at hq; cases hq; exact wireRead_readOk hp hr'

theorem misread_false {c : Conn} {p : Packet} (hs : tokS tl c) (hp : pktOk tl p) : misread tl p c.hint = false := by
  have hq := readOk_wire hp
  have hh : c.hint = none ∨ c.hint = some (!tl) := by
    unfold Conn.hint
    cases ht : c.state.token? with
    | none => left; rfl
    | some t => right; simp [hs t ht]
  unfold misread
  simp only
  generalize (if tl = true then strip p else p) = q at hq ⊢
  have fin : ∀ t : Option Nat, t.isSome = !tl → (!(c.hint == none || c.hint == some t.isSome)) = false := by
    intro t ht
    rcases hh with hh | hh <;> simp [hh, ht]
  cases q with
  | connless d => rfl
  | control a t ctl => cases ctl <;> first | rfl | exact fin t hq
  | chunks a t rr n cs => exact fin t hq

/-! ## a world whose side `b` was created by `Connection::new_accept_token` starts inside the three invariants -/

theorem initAccept_inv (now token k : Nat) :
    WInv (proto6 false) core Conn6.cfg (World.initAccept6 now token k) := by
  have ha : absEnd (proto6 false) core (World.initAccept6 now token k).a = AEnd.init := rfl
  unfold WInv
  rw [ha]
  refine (AInv.quiet (x := AEnd.init) (x' := absEnd (proto6 false) core (World.initAccept6 now token k).b)
    (AInv.init Conn6.cfg).symm
    (absEnd (proto6 false) core (World.initAccept6 now token k).b).out (Or.inl rfl) (List.nil_append _).symm
    rfl rfl rfl rfl ?_).symm
  intro e he
  simp only [absEnd, World.initAccept6, List.mem_filterMap] at he
  obtain ⟨dg, hdg, hde⟩ := he
  have := List.eq_of_mem_replicate hdg
  subst this
  simp only [absEnt, proto6, view, Option.map_some, Option.some.injEq] at hde
  subst hde
  exact ⟨rfl, rfl, rfl, .new, rfl, rfl⟩

theorem initAccept_hs (now token k : Nat) : HInv (proto6 false) late (World.initAccept6 now token k) :=
  ⟨⟨Or.inl rfl, fun h => absurd rfl h⟩, ⟨Or.inl rfl, fun h => absurd rfl h⟩⟩

theorem initAccept_loc (now token k : Nat) :
    LInv (P := proto6 false) (tokS false) (pktOk false) (World.initAccept6 now token k) := by
  refine ⟨⟨fun t ht => by simp [World.initAccept6, Conn.new, State.token?] at ht, by intro dg h; simp [World.initAccept6] at h⟩,
    ⟨fun t ht => ?_, ?_⟩⟩
  · simp [World.initAccept6, Conn.newAcceptToken, State.token?] at ht
    subst ht; rfl
  · intro dg hdg
    have := List.eq_of_mem_replicate hdg
    subst this
    intro _; rfl

end Tw.NetSim.P6

namespace Tw.NetSim.Core
open Tw.Conn

/-- **0.6**: processing a packet yields `Ready` only if the packet is a `ConnectAccept` control
packet and the connection is `Connecting`; the connection then goes online with that packet's token.
(`feedBody` is `feed` after the token check; every other call of the API produces no event at all.)
A statement of its own about one connection: the handshake clause of C01 over schedules (`hs6`) does not go through it. -/
theorem conn6_ready_only_on_accept (env : Tw.Conn6.Env) (c c' : Tw.Conn6.Conn) (token : Option Nat)
    (p : Tw.Conn6.Packet) (out : Tw.Conn6.Out)
    (h : Tw.Conn6.feedBody env c token p = .ok (c', out)) (hr : Event.ready ∈ out.events) :
    c.state = .connecting ∧ (∃ ack tok, p = .control ack tok .connectAccept) ∧ c'.state = .online token .new := by
  have hf := Tw.Conn6.feedBody_feeds env c token p
  generalize Tw.Conn6.feedBody env c token p = r at hf h
  cases hf with
  | idle hev =>
    cases h
    rcases hev with rfl | ⟨d, rfl⟩ <;> cases hr
    rename_i hr; cases hr
  | receive =>
    obtain ⟨_, _, _, _, hrc, _, rfl⟩ := Tw.Conn6.coreRes_eq h
    exact absurd (readyCount_receive hrc) (readyCount_pos_of_mem hr)
  | connect =>
    obtain ⟨_, _, rfl⟩ := Tw.Conn6.ctl_eq h
    cases hr
  | noDraw => cases h
  | accept hst =>
    obtain ⟨_, rfl, _⟩ := Tw.Conn6.ctl_eq h
    exact ⟨hst, ⟨_, _, rfl⟩, rfl⟩
  | close =>
    cases h
    cases hr
    rename_i hr; cases hr

end Tw.NetSim.Core
