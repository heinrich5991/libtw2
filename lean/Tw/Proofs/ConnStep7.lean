import Tw.Proofs.Conn7

/-! 0.7: every way a call returns, as one relation `Stepped`, and its image, a `GStep` of `Conn.g` / `Packet.g` (see
`ConnStep6.lean`). -/
namespace Tw.Conn7
open Tw.Conn Tw.Time

def State.ph : State → Ph
  | .online _ _ o => .on o
  | .disconnected => .off
  | _ => .pre

/-- the states in which the send timer matters: `Token`, `Connecting`, `Pending`, `Online` (the 0.7 acceptor's
`PendingConnect` arms no timer: defect D23, see `Props/C02`) -/
def State.armedKind : State → Bool
  | .token _ | .connecting _ _ | .pending _ _ | .online _ _ _ => true
  | _ => false

def Conn.g (c : Conn) : GConn := ⟨c.state.ph, c.state.armedKind, c.send⟩

def Packet.g : Packet → GPkt
  | .connless _ _ _ => .connless
  | .control ack _ _ => .ctl ack
  | .chunks ack _ rr n cs => .chunks ⟨ack, rr, n, cs⟩

/-- what the caller handed over: the call `connect`, another application call (with what it submits), or a datagram -/
inductive In where
  | connect
  | call (sub : List (Bytes × Bool))
  | fed (p : Packet)

def In.sub : In → List (Bytes × Bool)
  | .call sub => sub
  | _ => []

def In.view : In → Option (Nat × List Chunk)
  | .fed p => p.g.view
  | _ => none

def In.acc : In → Bool
  | .fed (.control _ _ .accept) => true
  | _ => false

/-- a datagram the reader rejects is filed as a call that submits nothing: `feed` returns the connection as it is -/
def fedIn : Option Packet → In
  | some p => .fed p
  | none => .call []

/-- `send` submits only what `cfg` accepts (`Online.send_res`) -/
def Op.inp : Op → In
  | .connect => .connect
  | .feed rd => fedIn rd
  | .send d v => .call (if cfg.accepts d.length then [(d, v)] else [])
  | _ => .call []

/-- the handshake moves after which `tick_action` sends the new state's control message -/
inductive Move (env : Env) : In → State → State → Prop
  | stay (i : In) (st : State) : Move env i st st
  | connect {t} (hd : tokenRandom env.draws = some t) : Move env .connect .unconnected (.token t)
  | tokenAnswer {a tk own their} : Move env (.fed (.control a tk (.token their))) (.token own) (.connecting own their)
  | fedConnect {a tk own their} :
      Move env (.fed (.control a tk (.connect their))) (.pendingConnect own) (.pending own their)

/-- `Stepped env i c c' out`: handed `i`, the connection `c` returns as `c'` with `out` -/
inductive Stepped (env : Env) : In → Conn → Conn → Out → Prop
  /-- nothing changes: an idle `tick`, a datagram dropped or handed on as connless -/
  | same {i c out} (hi : i.sub = []) (hs : out.sent = []) (he : out.events = [] ∨ ∃ d, out.events = [.connless d]) :
      Stepped env i c c out
  /-- a `tick` in an idle state whose send timer had run out -/
  | cleared {i c} (hi : i.sub = []) (hc : c.state.tickControl = none) : Stepped env i c ⟨c.state, .inactive⟩ {}
  /-- `tick_action` with nothing to flush, possibly after a handshake move: the control message of the state (a
  keep-alive when online) -/
  | ctl {i c st' ctl} (hi : i.sub = []) (hm : Move env i c.state st') (hc : st'.tickControl = some ctl) :
      Stepped env i c ⟨st', Timeout.after env.now sendUs⟩ { sent := [.control st'.ctlAck st'.ctlToken ctl] }
  /-- one operation of the online core; a pending acceptor's first chunk packet is received by the fresh core -/
  | core {i c own their o o' s' fl evs}
      (hst : c.state = .online own their o ∨
        (c.state = .pending own their ∧ o = .new ∧ ∃ a tk rr n cs, i = .fed (.chunks a tk rr n cs)))
      (hd : Online.Did cfg env.now i.view o c.send o' s' fl evs i.sub) :
      Stepped env i c ⟨.online own their o', s'⟩ { sent := fl.map (ofFlushed their), events := evs }
  /-- `ack_chunks` on an online connection, then what the datagram does -/
  | acked {p c own their o o1 c' out a} (hp : p.ack? = some a) (hst : c.state = .online own their o)
      (hfa : o.feedAck a = .ok o1) (h : Stepped env (.fed p) ⟨.online own their o1, c.send⟩ c' out) :
      Stepped env (.fed p) c c' out
  /-- `send_connless` (sends nothing if the payload is too long) -/
  | connless {c own their o ps} (hst : c.state = .online own their o)
      (hps : ps = [] ∨ ∃ d, ps = [.connless their own d]) :
      Stepped env (.call []) c ⟨c.state, Timeout.after env.now sendUs⟩ { sent := ps }
  /-- a token request: the acceptor draws (or keeps) its token and answers, unauthenticated -/
  | tokenRequest {c a tk their own}
      (hst : (c.state = .unconnected ∧ tokenRandom env.draws = some own) ∨ c.state = .pendingConnect own) :
      Stepped env (.fed (.control a tk (.token their))) c ⟨.pendingConnect own, c.send⟩
        { sent := [.control 0 their (.token own)] }
  /-- the peer's accept: online, `Ready` -/
  | accept {c a tk own their} (hst : c.state = .connecting own their) :
      Stepped env (.fed (.control a tk .accept)) c ⟨.online own their .new, c.send⟩ { events := [.ready] }
  /-- the peer's close message -/
  | closed {c a tk r} :
      Stepped env (.fed (.control a tk (.close r))) c ⟨.disconnected, c.send⟩ { events := [.disconnect r] }
  /-- `disconnect`: a close message with the state's ack and token -/
  | disconnect {c r} (hst : c.state ≠ .disconnected) :
      Stepped env (.call []) c ⟨.disconnected, c.send⟩ { sent := [.control c.state.ctlAck c.state.ctlToken (.close r)] }

section
variable {env : Env} {c c' : Conn} {out : Out} {r : Res} {op : Op} {p : Packet}

theorem Asks.sub {x : CoreOp} : Asks x op → op.inp.sub = x.sub cfg := by
  cases op with
  | flush => rintro rfl; rfl
  | send d v => rintro rfl; rfl
  | tick => rintro (rfl | rfl) <;> rfl
  | _ => exact False.elim

theorem Feeds.stepped (h : Feeds env c p r) (hr : r = .ok (c', out)) : Stepped env (.fed p) c c' out := by
  cases h with
  | idle => cases hr; exact .same rfl rfl (.inl rfl)
  | receive hst =>
    obtain ⟨o', s', fl, evs, hrun, rfl, rfl⟩ := coreRes_eq hr
    exact .core (hst.imp_right fun h => ⟨h.1, h.2, _, _, _, _, _, rfl⟩) (CoreOp.run_did hrun ⟨_, rfl⟩)
  | noDraw => cases hr
  | tokenRequest hst =>
    obtain ⟨rfl, rfl⟩ := ctl_eq hr
    exact .tokenRequest hst
  | tokenAnswer hst =>
    obtain ⟨rfl, rfl⟩ := ctl_eq hr
    exact .ctl rfl (hst ▸ .tokenAnswer) rfl
  | connect hst =>
    obtain ⟨rfl, rfl⟩ := ctl_eq hr
    exact .ctl rfl (hst ▸ .fedConnect) rfl
  | accept hst => cases hr; exact .accept hst
  | close => cases hr; exact .closed

theorem Runs.stepped (h : Runs env c op r) (hr : r = .ok (c', out)) : Stepped env op.inp c c' out := by
  cases h with
  | misuse => cases hr
  | same hop hs he =>
    cases hr
    rcases hop with rfl | ⟨rd, rfl⟩
    · exact .same rfl hs he
    · exact .same (by cases rd <;> rfl) hs he
  | cleared hc => cases hr; exact .cleared rfl hc
  | connect hst ht =>
    obtain ⟨rfl, rfl⟩ := ctl_eq hr
    exact .ctl rfl (hst ▸ .connect ht) rfl
  | repeated hc =>
    obtain ⟨rfl, rfl⟩ := ctl_eq hr
    exact .ctl rfl (.stay _ _) hc
  | core hst x hx hrr =>
    obtain ⟨o', s', fl, evs, hrun, rfl, rfl⟩ := coreRes_eq (hrr ▸ hr)
    exact .core (.inl hst) (hx.sub ▸ CoreOp.run_did hrun (hx.app.fed _))
  | connless hst hrr =>
    rw [hrr] at hr
    split at hr
    · cases hr; exact .connless hst (.inl rfl)
    · obtain ⟨ps, hs, rfl, rfl⟩ := sends_eq hr
      cases emit_eq hs
      exact .connless hst (.inr ⟨_, rfl⟩)
  | disconnect hst =>
    obtain ⟨rfl, rfl⟩ := ctl_eq hr
    exact .disconnect hst
  | fed _ _ hf => exact hf.stepped hr
  | acked ha hst hf =>
    split at hr
    · cases hr
    · exact .acked ha hst ‹_› ((hf _).stepped hr)

theorem step_stepped (h : step env c op = .ok (c', out)) : Stepped env op.inp c c' out :=
  (step_runs env c op).stepped h

theorem connect_stepped (h : connect env c = .ok (c', out)) : Stepped env .connect c c' out :=
  step_stepped (op := .connect) h

theorem disconnect_stepped {r : Bytes} (h : disconnect env c r = .ok (c', out)) : Stepped env (.call []) c c' out :=
  step_stepped (op := .disconnect r) h

theorem flush_stepped (h : flush env c = .ok (c', out)) : Stepped env (.call []) c c' out :=
  step_stepped (op := .flush) h

theorem tick_stepped (h : tick env c = .ok (c', out)) : Stepped env (.call []) c c' out :=
  step_stepped (op := .tick) h

theorem feed_stepped {rd : Option Packet} (h : feed env c rd = .ok (c', out)) : Stepped env (fedIn rd) c c' out :=
  step_stepped (op := .feed rd) h

theorem send_stepped {d : Bytes} {v : Bool} {r : SendRes} (h : send env c d v = .ok (c', r, out)) :
    Stepped env (.call (if r == .ok then [(d, v)] else [])) c c' out := by
  obtain ⟨own, their, o, o', fl, hst, ho, hr⟩ := send_eq h
  cases hr
  exact .core (.inl hst) (.send ho)

theorem sendConnless_stepped {d : Bytes} {r : SendRes} (h : sendConnless env c d = .ok (c', r, out)) :
    Stepped env (.call []) c c' out :=
  step_stepped (op := .sendConnless d) (by simp only [step, h])

theorem Move.ph {i : In} {st st' : State} (hm : Move env i st st') : st'.ph = st.ph := by
  cases hm <;> rfl

theorem ctl_g {st : State} (h : st ≠ .disconnected) (t : Nat) (ctl : Control) :
    ∃ o, st.ph.core = some o ∧ Packet.g (.control st.ctlAck t ctl) = .ctl o.ack := by
  cases st <;> first | exact ⟨_, rfl, rfl⟩ | exact absurd rfl h

theorem Stepped.g {i : In} (h : Stepped env i c c' out) :
    GStep cfg env.now i.view i.acc c.g c'.g (out.sent.map Packet.g) out.events i.sub := by
  induction h with
  | same hi hs he => rw [hs, hi]; exact .same (.connless he)
  | @cleared _ c hi hc =>
    rw [hi]
    refine .quiet (.inl rfl) (fun hl => ?_) (fun _ h => nomatch h) .nil
    obtain ⟨st, snd⟩ := c
    cases st <;> first | exact absurd hl Bool.false_ne_true | exact absurd hc (Option.some_ne_none _)
  | @ctl _ c st' ctl hi hm hc =>
    rw [hi]
    refine .quiet (.inl hm.ph) (fun _ => .inl rfl) (List.forall_mem_singleton.mpr (.inr ?_)) .nil
    rw [show c.g.ph = st'.ph from hm.ph.symm]
    exact ctl_g (by rintro rfl; cases hc) _ _
  | @core i c own their o o' s' fl evs hst hd =>
    have : (fl.map (ofFlushed their)).map Packet.g = fl.map .chunks := by rw [List.map_map]; rfl
    simp only [this]
    refine .online ?_ ?_ hd
    · rcases hst with hst | ⟨hst, rfl, _⟩ <;> simp only [Conn.g, hst] <;> rfl
    · rcases hst with hst | ⟨hst, rfl, _⟩ <;> simp only [Conn.g, hst] <;> rfl
  | @acked p c own their o o1 c' out a hp hst hfa _ ih =>
    have hv : ∃ cs, p.g.view = some (a, cs) := by cases p <;> cases hp <;> exact ⟨_, rfl⟩
    obtain ⟨cs, hv⟩ := hv
    refine .acked hv (by simp only [Conn.g, hst]; rfl) hfa ?_
    simp only [Conn.g, hst]
    exact ih
  | connless hst hps =>
    refine .quiet (.inl rfl) (fun _ => .inl rfl) ?_ .nil
    rcases hps with rfl | ⟨_, rfl⟩
    · exact fun _ h => nomatch h
    · exact List.forall_mem_singleton.mpr (.inl rfl)
  | tokenRequest hst =>
    refine .quiet (.inl ?_) (fun h => nomatch h) (List.forall_mem_singleton.mpr (.inr ⟨.new, ?_, rfl⟩)) .nil
    · rcases hst with ⟨hst, _⟩ | hst <;> simp only [Conn.g, hst] <;> rfl
    · rcases hst with ⟨hst, _⟩ | hst <;> simp only [Conn.g, hst] <;> rfl
  | @accept c _ _ _ _ hst =>
    have hx : c.g.ph = .pre ∧ c.g.live = true := by simp only [Conn.g, hst]; exact ⟨rfl, rfl⟩
    exact .opened rfl hx.1 hx.2 (fun _ h => nomatch h)
  | closed =>
    exact .quiet (.inr rfl) (fun h => nomatch h) (fun _ h => nomatch h)
      (List.forall_mem_singleton.mpr ⟨fun _ _ h => (nomatch h), fun h => nomatch h⟩)
  | disconnect hst =>
    exact .quiet (.inr rfl) (fun h => nomatch h) (List.forall_mem_singleton.mpr (.inr (ctl_g hst _ _))) .nil

theorem step_g {op : Op} (h : step env c op = .ok (c', out)) :
    GStep cfg env.now op.inp.view op.inp.acc c.g c'.g (out.sent.map Packet.g) out.events op.inp.sub :=
  (step_stepped h).g

end

/-! ## C02 (b): a returning call leaves the send timer armed -/

theorem after_active (now d : Nat) : (Timeout.after now d).isActive = true := rfl

theorem step_armed {env : Env} {c c' : Conn} {op : Op} {out : Out} (h : step env c op = .ok (c', out))
    (hc : c.g.Armed) : c'.g.Armed :=
  (step_g h).armed hc

theorem run_armed (sched : List (Env × Op)) (c c' : Conn) (outs : List Out) (h : c.g.Armed)
    (he : run c sched = .ok (c', outs)) : c'.g.Armed :=
  (run_invariant (K := fun _ => True) (G := fun _ => True) (fun _ _ _ _ _ _ hs hc => ⟨step_armed hs hc, trivial⟩)
    sched c c' outs (fun _ _ => trivial) h he).1

theorem armed_needsTick {c : Conn} (h : c.g.Armed) (hn : c.state.armedKind = true) : c.needsTick ≠ .inactive := by
  obtain ⟨st, snd⟩ := c
  cases st with
  | unconnected => cases hn
  | disconnected => cases hn
  | pendingConnect a => cases hn
  | _ => exact h.min_ne rfl _

end Tw.Conn7
