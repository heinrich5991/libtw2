import Tw.Proofs.SnapMap

/-! C09: applying a delta (the one `createDelta` computes, or any delta the reference may
produce) to the old snapshot yields the new one.  Before that, wrapping arithmetic, and the limits of a
snapshot as a predicate on its items (`Limits`; `WF_iff`), with what the check of `add_item` says in its
terms (`vacantCheck_fresh`). -/
namespace Tw.Snap

/-! ### One item: `apply_item_delta` undoes `create_item_delta`, between `i32` values congruent modulo 2^32 -/

theorem wrap_I32 (v : Int) : I32 (wrap v) := by
  unfold I32 wrap; split <;> omega

theorem wrap_of_I32 {v : Int} (h : I32 v) : wrap v = v := by
  unfold I32 at h; unfold wrap; split <;> omega

theorem wrap_emod (x : Int) : wrap x % 4294967296 = x % 4294967296 := by
  unfold wrap; split <;> omega

/-- both sides are `i32` values congruent modulo 2^32 -/
theorem wrapAdd_wrapSub (a : Int) {b : Int} (h : I32 b) : wrapAdd a (wrapSub b a) = b := by
  have h1 := wrap_emod (a + wrap (b - a))
  have h2 := wrap_emod (b - a)
  have h3 := wrap_I32 (a + wrap (b - a))
  unfold I32 at h h3; unfold wrapAdd wrapSub
  omega

theorem zip_add_sub (f v : List Int) (hl : f.length = v.length) (hv : ∀ x ∈ v, I32 x) :
    List.zipWith wrapAdd f (List.zipWith wrapSub v f) = v := by
  induction f generalizing v with
  | nil => cases v <;> simp_all
  | cons a f ih =>
    cases v with
    | nil => simp at hl
    | cons b v =>
      simp at hl
      simp only [List.zipWith_cons_cons]
      rw [wrapAdd_wrapSub a (hv b (by simp)), ih v hl (fun x hx => hv x (by simp [hx]))]

theorem applyItemDelta_createItemDelta {fo : Option (List Int)} {v diff : List Int}
    (h : createItemDelta fo v = some diff) (hv : ∀ x ∈ v, I32 x) : applyItemDelta fo diff = some v := by
  cases fo with
  | none =>
    simp [createItemDelta] at h
    subst h
    simp [applyItemDelta]
  | some f =>
    simp only [createItemDelta] at h
    split at h
    · simp at h
    · rename_i hl
      simp at hl h
      subst h
      simp [applyItemDelta, hl, zip_add_sub f v hl hv]

theorem forall_mem_zipWith {f : Int → Int → Int} {P : Int → Prop} (h : ∀ a b, P (f a b)) (l1 l2 : List Int) :
    ∀ x ∈ List.zipWith f l1 l2, P x := by
  intro x hx
  obtain ⟨i, hi, rfl⟩ := List.getElem_of_mem hx
  rw [List.getElem_zipWith]
  exact h _ _

theorem createItemDelta_length {fo : Option (List Int)} {v x : List Int} (h : createItemDelta fo v = some x) :
    x.length = v.length := by
  cases fo with
  | none => simp [createItemDelta] at h; simp [h]
  | some f =>
    simp only [createItemDelta] at h
    split at h
    · simp at h
    · rename_i hl
      simp at hl h
      subst h
      simp [hl]

theorem createItemDelta_I32 {fo : Option (List Int)} {v x : List Int} (h : createItemDelta fo v = some x)
    (hv : ∀ y ∈ v, I32 y) : ∀ y ∈ x, I32 y := by
  cases fo with
  | none => simp [createItemDelta] at h; exact h ▸ hv
  | some f =>
    simp only [createItemDelta] at h
    split at h
    · simp at h
    · simp at h
      exact h ▸ forall_mem_zipWith (fun _ _ => wrap_I32 _) v f

theorem applyItemDelta_length {in_ : Option (List Int)} {diff v : List Int} (h : applyItemDelta in_ diff = some v) :
    v.length = diff.length := by
  cases in_ with
  | none => simp [applyItemDelta] at h; rw [h]
  | some i =>
    simp only [applyItemDelta] at h
    split at h
    · cases h
    · rename_i hl
      simp at hl h
      rw [← h]; simp [hl]

theorem applyItemDelta_I32 {in_ : Option (List Int)} {diff v : List Int} (h : applyItemDelta in_ diff = some v)
    (hd : ∀ x ∈ diff, I32 x) : ∀ x ∈ v, I32 x := by
  cases in_ with
  | none => simp [applyItemDelta] at h; exact h ▸ hd
  | some i =>
    simp only [applyItemDelta] at h
    split at h
    · cases h
    · simp at h
      exact h ▸ forall_mem_zipWith (fun _ _ => wrap_I32 _) i diff

/-! ### `RawSnap.WF` in two halves (`WF_iff`): `SortedI32`, which an insertion keeps, and `Limits`, which only
looks at lengths, so it is invariant under permutation and passes down along `SubLe` -/

theorem maxItems_eq : maxItems = 1024 := rfl
theorem maxSize_eq : maxSize = 65536 := rfl
theorem offsetExt_eq : offsetExt = 16384 := rfl
theorem typeIdEx_eq : typeIdEx = 0 := rfl

/-- `MAX_SNAPSHOT_ITEMS` and `MAX_SNAPSHOT_SIZE` (of the serialized form) as `add_item` enforces them -/
def Limits (m : Items) : Prop := m.length ≤ maxItems ∧ serializedSize m.length (dataLen m) ≤ maxSize

theorem Limits.perm {m m' : Items} (p : m.Perm m') (h : Limits m) : Limits m' := by
  unfold Limits dataLen at *
  rwa [← p.length_eq, ← (p.map _).sum_nat]

theorem Limits.of_subLe {m1 m2 : Items} (h : Limits m2) (h1 : (m1.map Prod.fst).Nodup)
    (h2 : (m2.map Prod.fst).Nodup) (hs : SubLe m1 m2) : Limits m1 := by
  have hb := subLe_bounds h1 h2 hs
  unfold Limits serializedSize at h ⊢
  omega

/-- also all that is asked of the update map of a delta -/
def SortedI32 (m : Items) : Prop := Sorted m ∧ ∀ p ∈ m, I32 p.1 ∧ ∀ v ∈ p.2, I32 v

theorem WF_iff {m : Items} : RawSnap.WF ⟨m⟩ ↔ SortedI32 m ∧ Limits m :=
  ⟨fun ⟨a, b, c, d⟩ => ⟨⟨a, b⟩, c, d⟩, fun ⟨⟨a, b⟩, c, d⟩ => ⟨a, b, c, d⟩⟩

theorem sortedI32_minsert {m : Items} {k : Int} {v : List Int} (hm : SortedI32 m) (hk : I32 k) (hv : ∀ x ∈ v, I32 x) :
    SortedI32 (minsert k v m) := by
  refine ⟨sorted_minsert hm.1, ?_⟩
  intro p hp
  rcases mem_minsert hp with rfl | hp
  · exact ⟨hk, hv⟩
  · exact hm.2 p hp

/-- `MAX_SNAPSHOT_ITEMS` and `MAX_SNAPSHOT_SIZE` in numbers -/
theorem WF_limits {s : RawSnap} (h : s.WF) :
    s.items.length ≤ 1024 ∧ 4 * (2 + s.items.length + s.items.length + dataLen s.items) ≤ 65536 :=
  ⟨h.2.2.1, h.2.2.2⟩

theorem vacantCheck_eq_none {m : Items} {size : Nat} :
    vacantCheck m size = none ↔
      m.length + 1 ≤ maxItems ∧ serializedSize (m.length + 1) (dataLen m + size) ≤ maxSize := by
  unfold vacantCheck
  split
  · simp; omega
  · split
    · simp; omega
    · simp; omega

theorem vacantCheck_fresh {m : Items} {k : Int} {v : List Int} (hk : mfind k m = none) :
    vacantCheck m v.length = none ↔ Limits (minsert k v m) := by
  rw [vacantCheck_eq_none, Limits, length_minsert_of_none hk, dataLen_minsert_of_none hk]

/-! ### The two loops of `read_with_delta`.  The first copies what is not deleted and can only fail on the
limits of the old snapshot.  The second, run on updates made from `B`, keeps its output below `B` (`SubLen`),
so each of its limit checks passes because `B` is inside the limits. -/

theorem copyUndeleted_cases (deleted : List Int) : ∀ (r out : Items) (n : Nat), Sorted (out ++ r) →
    copyUndeleted deleted r out n = .ok (out ++ r.filter (fun p => !deleted.contains p.1),
      n + (r.filter (fun p => deleted.contains p.1)).length) ∨
    (¬ Limits (out ++ r) ∧ ∃ e, copyUndeleted deleted r out n = .err e) := by
  intro r
  induction r with
  | nil => intro out n _; left; simp [copyUndeleted]
  | cons q r ih =>
    obtain ⟨k, d⟩ := q
    intro out n hs
    have hlt : ∀ p ∈ out, p.1 < k := by
      have h := hs
      rw [Sorted, List.map_append, List.pairwise_append] at h
      exact fun p hp => h.2.2 p.1 (List.mem_map_of_mem hp) k List.mem_cons_self
    have hmono : Limits (out ++ (k, d) :: r) → Limits (out ++ r) ∧ vacantCheck out d.length = none := by
      rw [vacantCheck_eq_none]
      unfold Limits serializedSize dataLen
      simp only [List.length_append, List.length_cons, List.map_append, List.map_cons, List.sum_append,
        List.sum_cons]
      omega
    cases hdel : deleted.contains k with
    | true =>
      simp only [copyUndeleted, List.filter_cons, hdel, Bool.not_true, Bool.false_eq_true, if_true, if_false]
      have hs' : Sorted (out ++ r) :=
        List.Pairwise.sublist (((List.Sublist.refl out).append (List.sublist_cons_self _ r)).map _) hs
      rcases ih out (n + 1) hs' with h | ⟨hl, e, he⟩
      · left
        rw [h, List.length_cons]
        congr 2
        omega
      · exact Or.inr ⟨fun h => hl (hmono h).1, e, he⟩
    | false =>
      have hk : mfind k out = none := mfind_eq_none_iff.mpr fun hm => by
        obtain ⟨p, hp, e⟩ := List.mem_map.mp hm
        have := hlt p hp
        omega
      simp only [copyUndeleted, List.filter_cons, hdel, Bool.not_false, Bool.false_eq_true, if_true, if_false, hk]
      cases hv : vacantCheck out d.length with
      | some e => exact Or.inr ⟨fun hl => absurd ((hmono hl).2.symm.trans hv) nofun, _, rfl⟩
      | none =>
        have := ih (out ++ [(k, d)]) n (by rwa [List.append_assoc])
        rw [List.append_assoc, List.append_assoc] at this
        rw [minsert_append_of_lt hlt]
        exact this

theorem applyUpdates_spec (A B : Items) (hB : Sorted B) (hlim : Limits B)
    (hBv : ∀ p ∈ B, ∀ x ∈ p.2, I32 x) :
    ∀ (upd out : Items), Sorted upd → Sorted out →
      (∀ p ∈ upd, ∃ v, mfind p.1 B = some v ∧ createItemDelta (mfind p.1 A) v = some p.2) →
      SubLen out B →
      ∃ out', applyUpdates A upd out = .ok out' ∧ Sorted out' ∧
        ∀ k, mfind k out' = if (mfind k upd).isSome then mfind k B else mfind k out := by
  intro upd
  induction upd with
  | nil =>
    intro out _ ho _ _
    exact ⟨out, by simp [applyUpdates], ho, by intro k; simp [mfind]⟩
  | cons p r ih =>
    obtain ⟨k0, diff⟩ := p
    intro out hu ho hspec hsub
    rw [sorted_cons] at hu
    obtain ⟨v, hvB, hcd⟩ := hspec (k0, diff) (by simp)
    have hvI : ∀ x ∈ v, I32 x := hBv (k0, v) (mem_of_mfind hvB)
    have hap : applyItemDelta (mfind k0 A) diff = some v := applyItemDelta_createItemDelta hcd hvI
    have hlen : diff.length = v.length := createItemDelta_length hcd
    have hsub' : SubLen (minsert k0 v out) B := by
      intro k w hw
      rcases mfind_minsert_eq_some hw with ⟨rfl, rfl⟩ | ⟨_, hw⟩
      · exact ⟨w, hvB, rfl⟩
      · exact hsub k w hw
    obtain ⟨out', he, hs, hf⟩ := ih (minsert k0 v out) hu.2 (sorted_minsert ho)
      (fun p hp => hspec p (by simp [hp])) hsub'
    have hk0r : mfind k0 r = none := mfind_none_of_lt hu.1
    refine ⟨out', ?_, hs, ?_⟩
    · cases hold : mfind k0 out with
      | some old =>
        obtain ⟨v', hv', hl⟩ := hsub k0 old hold
        rw [hvB] at hv'
        simp at hv'; subst hv'
        have : ¬ diff.length ≠ old.length := by omega
        simp only [applyUpdates, hold, this, if_false, hap, he]
      | none =>
        -- a new key: with the item in, the map is still below `B`, so it fits
        have hvc := (vacantCheck_fresh (v := v) hold).mpr
          (hlim.of_subLe (sorted_minsert ho).nodup hB.nodup hsub'.le)
        rw [← hlen] at hvc
        simp only [applyUpdates, hold, hvc, hap, he]
    · intro k
      rw [hf k, mfind_minsert]
      by_cases hkk : k = k0
      · subst hkk
        simp [mfind, hk0r, hvB]
      · simp [mfind, hkk]

/-! ### C09: `RefDelta a b d` is all the proof uses of the delta; `Delta::create` makes one (`createDelta_refDelta`) -/

/-- the keys `Delta::create` lists as deleted: those of `a` that `b` lacks -/
theorem mem_deletedKeys {a b : Items} {k : Int} :
    k ∈ (a.filter (fun p => (mfind p.1 b).isNone)).map Prod.fst ↔ (mfind k a).isSome ∧ mfind k b = none := by
  rw [List.mem_map]
  constructor
  · rintro ⟨p, hp, rfl⟩
    rw [List.mem_filter] at hp
    refine ⟨?_, by simpa using hp.2⟩
    rw [mfind_isSome_iff_mem_keys]; exact List.mem_map_of_mem hp.1
  · rintro ⟨h1, h2⟩
    obtain ⟨v, hv⟩ := Option.isSome_iff_exists.mp h1
    exact ⟨(k, v), by rw [List.mem_filter]; exact ⟨mem_of_mfind hv, by simp [h2]⟩, rfl⟩

theorem applyDelta_of_refDelta {a b : RawSnap} {d : Delta} (ha : a.WF) (hb : b.WF)
    (hagree : SizesAgree a b) (hd : RefDelta a b d) : applyDelta a d = .ok (b, []) := by
  obtain ⟨haS, haI, haN, haZ⟩ := ha
  obtain ⟨hbS, hbI, hbN, hbZ⟩ := hb
  obtain ⟨hdel, hdS, hdU, hdO⟩ := hd
  have hlimA : Limits a.items := ⟨haN, haZ⟩
  have hlimB : Limits b.items := ⟨hbN, hbZ⟩
  have hcont : ∀ k, k ∈ d.deleted ↔ ((mfind k a.items).isSome ∧ mfind k b.items = none) := by
    intro k
    rw [hdel]; exact mem_deletedKeys
  -- the first loop keeps of `a` what `b` still has
  obtain ⟨out1, he1, hs1, hf1⟩ : ∃ out1, copyUndeleted d.deleted a.items [] 0 =
        .ok (out1, 0 + (a.items.filter (fun p => d.deleted.contains p.1)).length) ∧ Sorted out1 ∧
      ∀ k, mfind k out1 = if mfind k b.items = none then none else mfind k a.items := by
    refine ⟨_, (copyUndeleted_cases d.deleted a.items [] 0 haS).resolve_right fun h => h.1 hlimA, ?_, fun k => ?_⟩
    · exact haS.filter _
    · rw [List.nil_append, mfind_filter_key (fun k => !d.deleted.contains k)]
      by_cases hk : k ∈ d.deleted
      · simp [hk, ((hcont k).mp hk).2]
      · by_cases hkb : mfind k b.items = none
        · have : mfind k a.items = none := Option.not_isSome_iff_eq_none.mp fun h => hk ((hcont k).mpr ⟨h, hkb⟩)
          simp [hkb, this]
        · simp [hk, hkb]
  -- the count of deletions equals the number of deleted keys: no `UnknownDelete`
  have hcount : (a.items.filter (fun p => d.deleted.contains p.1)).length = d.deleted.length := by
    rw [hdel, List.length_map, ← hdel]
    congr 1
    apply List.filter_congr
    intro p hp
    rw [Bool.eq_iff_iff, List.contains_iff_mem, hcont, Option.isNone_iff_eq_none]
    exact and_iff_right (mfind_isSome_iff_mem_keys.mpr (List.mem_map_of_mem hp))
  have hsub1 : SubLen out1 b.items := by
    intro k v hv
    rw [hf1 k] at hv
    cases hkb : mfind k b.items with
    | none => simp [hkb] at hv
    | some w =>
      have := hagree (k, w) (mem_of_mfind hkb)
      simp only [hkb, reduceCtorEq, if_false] at hv
      simp only [hv, lenAgree, beq_iff_eq] at this
      exact ⟨w, rfl, this⟩
  obtain ⟨out2, he2, hs2, hf2⟩ := applyUpdates_spec a.items b.items hbS hlimB (fun p hp => (hbI p hp).2)
    d.updated out1 hdS hs1 hdU hsub1
  have hfinal : out2 = b.items := by
    apply sorted_ext hs2 hbS
    intro k
    rw [hf2 k]
    cases hu : mfind k d.updated with
    | some x => simp
    | none =>
      simp only [Option.isSome_none]
      rw [hf1 k]
      cases hkb : mfind k b.items with
      | some vb =>
        -- an item the delta does not list is in `a` with the same data
        simp only [reduceCtorEq, if_false]
        exact hdO (k, vb) (mem_of_mfind hkb) hu
      | none => rfl
  unfold applyDelta
  rw [he1]
  simp only [Nat.zero_add, hcount]
  rw [he2, hfinal]
  simp

theorem createItemDelta_isSome_iff (fo : Option (List Int)) (v : List Int) :
    (createItemDelta fo v).isSome ↔ lenAgree fo v.length = true := by
  cases fo with
  | none => simp [createItemDelta, lenAgree]
  | some f =>
    simp only [createItemDelta, lenAgree]
    split <;> simp_all

theorem createUpdates_eq (A : Items) : ∀ (r u : Items), createUpdates A r = some u →
    u.map (fun p => (p.1, p.2.length)) = r.map (fun p => (p.1, p.2.length)) ∧
    ∀ p ∈ u, ∃ d, (p.1, d) ∈ r ∧ createItemDelta (mfind p.1 A) d = some p.2 := by
  intro r
  induction r with
  | nil => intro u h; simp [createUpdates] at h; simp [h]
  | cons q r ih =>
    obtain ⟨k, d⟩ := q
    intro u h
    simp only [createUpdates] at h
    cases hc : createItemDelta (mfind k A) d with
    | none => simp [hc] at h
    | some x =>
      cases hr : createUpdates A r with
      | none => simp [hc, hr] at h
      | some xs =>
        simp [hc, hr] at h
        subst h
        obtain ⟨hl, hs⟩ := ih xs hr
        refine ⟨by simp [hl, createItemDelta_length hc], ?_⟩
        intro p hp
        simp at hp
        rcases hp with rfl | hp
        · exact ⟨d, by simp, hc⟩
        · obtain ⟨d', hd', hc'⟩ := hs p hp
          exact ⟨d', by simp [hd'], hc'⟩

theorem createUpdates_isSome_iff (A : Items) : ∀ r : Items,
    (createUpdates A r).isSome ↔ ∀ p ∈ r, lenAgree (mfind p.1 A) p.2.length = true := by
  intro r
  induction r with
  | nil => simp [createUpdates]
  | cons q r ih =>
    obtain ⟨k, d⟩ := q
    rw [List.forall_mem_cons, ← ih, ← createItemDelta_isSome_iff]
    simp only [createUpdates]
    cases createItemDelta (mfind k A) d <;> cases createUpdates A r <;> simp

/-- Without agreeing sizes `Delta::create` panics (D15); with them it does not. -/
theorem createDelta_eq_none_iff (a b : RawSnap) : createDelta a b = none ↔ ¬ SizesAgree a b := by
  unfold SizesAgree createDelta
  rw [← createUpdates_isSome_iff]
  cases createUpdates a.items b.items <;> simp

theorem createDelta_refDelta {a b : RawSnap} (hb : Sorted b.items) (hag : SizesAgree a b) :
    ∃ d, createDelta a b = some d ∧ RefDelta a b d := by
  obtain ⟨u, hu⟩ := Option.isSome_iff_exists.mp ((createUpdates_isSome_iff a.items b.items).mpr hag)
  obtain ⟨hl, hs⟩ := createUpdates_eq a.items b.items u hu
  have hk : u.map Prod.fst = b.items.map Prod.fst := by
    simpa [List.map_map, Function.comp_def] using congrArg (List.map Prod.fst) hl
  refine ⟨⟨_, u⟩, by simp only [createDelta, hu], rfl, ?_, ?_, ?_⟩
  · unfold Sorted; rw [hk]; exact hb
  · intro p hp
    obtain ⟨d, hd, hc⟩ := hs p hp
    exact ⟨d, mfind_of_mem hb hd, hc⟩
  · intro p hp hnone
    exfalso
    rw [mfind_eq_none_iff] at hnone
    apply hnone
    show p.1 ∈ u.map Prod.fst
    rw [hk]
    exact List.mem_map_of_mem hp

/-- C09, core: the delta computed from `a` to `b`, applied to `a`, gives `b` without warning. -/
theorem applyDelta_createDelta {a b : RawSnap} (ha : a.WF) (hb : b.WF) (hag : SizesAgree a b) :
    ∃ d, createDelta a b = some d ∧ applyDelta a d = .ok (b, []) := by
  obtain ⟨d, hd, hr⟩ := createDelta_refDelta hb.1 hag
  exact ⟨d, hd, applyDelta_of_refDelta ha hb hag hr⟩

end Tw.Snap
