import Tw.Proofs.SnapDelta
import Tw.Proofs.Packer

/-! Wire forms: a delta written by `Delta::write` / `write_to_ints` is read back unchanged and
without a warning, from integers and from bytes (`enc f xs` is either form of `xs`).  Before that, the
arithmetic of `keyOf` / `keyType` / `keyId`. -/
namespace Tw.Snap
open Tw.Packer (readInt writeInt inI32)

theorem inI32_of_I32 {v : Int} (h : I32 v) : inI32 v := by
  unfold I32 at h; unfold inI32; omega

theorem keyOf_key {k : Int} (h : I32 k) : keyOf (keyType k) (keyId k) = k := by
  unfold keyOf keyType keyId
  rw [Int.toNat_of_nonneg (by omega), Int.toNat_of_nonneg (by omega), Int.mul_comm, Int.mul_ediv_add_emod]
  unfold I32 at h; unfold wrap
  split <;> omega

theorem keyType_lt (k : Int) : keyType k < 65536 := by unfold keyType; omega
theorem keyId_lt (k : Int) : keyId k < 65536 := by unfold keyId; omega
theorem keyType_keyOf {t id : Nat} (ht : t < 65536) (hi : id < 65536) : keyType (keyOf t id) = t := by
  unfold keyOf keyType; rw [wrap_emod]; omega

theorem keyId_keyOf {t id : Nat} (hi : id < 65536) : keyId (keyOf t id) = id := by
  unfold keyOf keyId; rw [wrap_emod]; omega

theorem keyOf_I32 (t id : Nat) : I32 (keyOf t id) := wrap_I32 _

theorem keyOf_ne_of_type {t t' id id' : Nat} (ht : t < 65536) (ht' : t' < 65536) (hi : id < 65536)
    (hi' : id' < 65536) (h : t ≠ t') : keyOf t id ≠ keyOf t' id' := by
  intro e
  have := congrArg keyType e
  rw [keyType_keyOf ht hi, keyType_keyOf ht' hi'] at this
  exact h this

theorem keyOf_ne_of_id {t id id' : Nat} (hi : id < 65536) (hi' : id' < 65536) (h : id ≠ id') :
    keyOf t id ≠ keyOf t id' := by
  intro e
  have := congrArg keyId e
  rw [keyId_keyOf hi, keyId_keyOf hi'] at this
  exact h this

theorem key_decomp {k : Int} (h0 : 0 ≤ k) (h : I32 k) : k = (keyType k : Int) * 65536 + (keyId k : Int) := by
  unfold I32 at h; unfold keyType keyId
  have h2 : 0 ≤ (k % 4294967296) / 65536 := by omega
  have h3 : 0 ≤ (k % 4294967296) % 65536 := by omega
  rw [Int.toNat_of_nonneg h2, Int.toNat_of_nonneg h3]
  omega

theorem keyOf_zero_eq {t : Nat} (h : t < 65536) : keyOf typeIdEx t = (t : Int) := by
  unfold keyOf wrap; rw [typeIdEx_eq]; split <;> omega

theorem nonneg_of_type_lt {k : Int} (h : I32 k) (ht : keyType k < 32768) : 0 ≤ k := by
  unfold I32 at h; unfold keyType at ht
  omega

def enc (bytes : Bool) (xs : List Int) : Src :=
  if bytes then .bytes (packInts xs) else .ints xs

theorem packInts_cons (x : Int) (xs : List Int) : packInts (x :: xs) = writeInt x ++ packInts xs := by
  simp [packInts]

theorem packInts_cons_ne_nil (x : Int) (xs : List Int) : packInts (x :: xs) ≠ [] := by
  rw [packInts_cons]
  have := (Tw.Packer.writeInt_length x).1
  cases h : writeInt x with
  | nil => simp [h] at this
  | cons a b => simp

theorem length_le_packInts (xs : List Int) : xs.length ≤ (packInts xs).length := by
  induction xs with
  | nil => simp
  | cons x xs ih =>
    rw [packInts_cons, List.length_append]
    have := (Tw.Packer.writeInt_length x).1
    simp only [List.length_cons]
    omega

theorem enc_readInt (f : Bool) {x : Int} (hx : I32 x) (xs : List Int) :
    (enc f (x :: xs)).readInt = some (x, enc f xs, []) := by
  cases f with
  | false => simp [enc, Src.readInt]
  | true =>
    simp only [enc, if_true, Src.readInt, packInts_cons]
    rw [Tw.Packer.readInt_writeInt x (inI32_of_I32 hx)]
    simp

theorem enc_nil_readInt (f : Bool) : (enc f []).readInt = none := by
  cases f <;> simp [enc, Src.readInt, packInts, readInt]

theorem enc_isEmpty_nil (f : Bool) : (enc f []).isEmpty = true := by
  cases f <;> simp [enc, Src.isEmpty, packInts]

theorem enc_isEmpty_cons (f : Bool) (x : Int) (xs : List Int) : (enc f (x :: xs)).isEmpty = false := by
  cases f with
  | false => simp [enc, Src.isEmpty]
  | true => simp [enc, Src.isEmpty, packInts_cons_ne_nil]

theorem enc_size_ge (f : Bool) (xs : List Int) : xs.length ≤ (enc f xs).size := by
  cases f with
  | false => simp [enc, Src.size]
  | true => exact length_le_packInts xs

theorem readKeys_enc (f : Bool) : ∀ (ks acc : List Int) (rest : List Int) (ws : List Warning),
    (∀ k ∈ ks, I32 k) →
    readKeys ks.length (enc f (ks ++ rest)) acc ws = some (ks.foldl (fun a k => sinsert k a) acc, enc f rest, ws) := by
  intro ks
  induction ks with
  | nil => intro acc rest ws _; simp [readKeys]
  | cons k ks ih =>
    intro acc rest ws hI
    simp only [List.length_cons, readKeys, List.cons_append, enc_readInt f (hI k (by simp)), List.foldl_cons,
      List.append_nil]
    exact ih (sinsert k acc) rest ws (fun x hx => hI x (by simp [hx]))

theorem readData_enc (f : Bool) : ∀ (d rest : List Int), (∀ x ∈ d, I32 x) →
    readData d.length (enc f (d ++ rest)) = some (d, enc f rest, []) := by
  intro d
  induction d with
  | nil => intro rest _; simp [readData]
  | cons x d ih =>
    intro rest hI
    simp only [List.length_cons, readData, List.cons_append, enc_readInt f (hI x (by simp)),
      ih rest (fun y hy => hI y (by simp [hy]))]
    simp

theorem natCast_I32 {n : Nat} (h : n < 2147483648) : I32 (n : Int) := by unfold I32; omega

/-- the integers `Delta::write` emits for the updated items: type, id, the size where the table has
none, the data -/
def updInts (objSize : Nat → Option Nat) : Items → List Int
  | [] => []
  | (k, d) :: r => (keyType k : Int) :: (keyId k : Int) ::
      ((if (objSize (keyType k)).isSome then [] else [(d.length : Int)]) ++ (d ++ updInts objSize r))

/-- `Delta::write` passes its size assertions exactly when the table agrees with the items -/
theorem writeUpdates_eq_some {objSize : Nat → Option Nat} : ∀ {m : Items} {u : List Int},
    writeUpdates objSize m = some u ↔ SizesOk objSize m ∧ u = updInts objSize m := by
  intro m
  induction m with
  | nil => intro u; simp [writeUpdates, updInts, SizesOk]
  | cons p r ih =>
    obtain ⟨k, d⟩ := p
    intro u
    rw [show SizesOk objSize ((k, d) :: r) ↔ szOk (objSize (keyType k)) d.length = true ∧ SizesOk objSize r from
      List.forall_mem_cons]
    simp only [writeUpdates, updInts]
    cases hr : writeUpdates objSize r with
    | none =>
      have hn : ¬ SizesOk objSize r := fun h => by rw [ih.mpr ⟨h, rfl⟩] at hr; cases hr
      simp [hn]
    | some rest =>
      obtain ⟨hok, rfl⟩ := ih.mp hr
      cases ho : objSize (keyType k) with
      | some sz => simp [szOk, hok, @eq_comm _ u]
      | none => simp [szOk, hok, @eq_comm _ u]

theorem Delta.writeInts_eq_some {objSize : Nat → Option Nat} {d : Delta} {xs : List Int} :
    d.writeInts objSize = some xs ↔ SizesOk objSize d.updated ∧
      xs = (d.deleted.length : Int) :: (d.updated.length : Int) :: 0 :: (d.deleted ++ updInts objSize d.updated) := by
  unfold Delta.writeInts
  cases hu : writeUpdates objSize d.updated with
  | none =>
    have hn : ¬ SizesOk objSize d.updated := fun h => by rw [writeUpdates_eq_some.mpr ⟨h, rfl⟩] at hu; cases hu
    simp [hn]
  | some u =>
    obtain ⟨hok, rfl⟩ := writeUpdates_eq_some.mp hu
    simp [hok, @eq_comm _ xs]

theorem updInts_length_ge (objSize : Nat → Option Nat) (m : Items) : m.length ≤ (updInts objSize m).length := by
  induction m with
  | nil => simp
  | cons p r ih => simp only [updInts, List.length_cons, List.length_append]; omega

/-- two or three header integers per item, and the data -/
theorem updInts_length_le (objSize : Nat → Option Nat) (m : Items) :
    (updInts objSize m).length ≤ 3 * m.length + dataLen m := by
  induction m with
  | nil => exact Nat.zero_le _
  | cons p r ih =>
    obtain ⟨k, d⟩ := p
    have : (if (objSize (keyType k)).isSome then [] else [(d.length : Int)]).length ≤ 1 := by
      split
      · exact Nat.zero_le 1
      · exact Nat.le_refl 1
    simp only [updInts, List.length_cons, List.length_append, dataLen_cons]
    omega

theorem readUpdates_enc (f : Bool) (objSize : Nat → Option Nat) (deleted : List Int) :
    ∀ (r : Items) (fuel : Nat) (upd : Items) (bl num : Nat) (ws : List Warning),
      SizesOk objSize r → r.length ≤ fuel → (r.map Prod.fst).Nodup →
      (∀ p ∈ r, I32 p.1 ∧ (∀ x ∈ p.2, I32 x) ∧ p.1 ∉ deleted ∧ mfind p.1 upd = none) →
      bl + dataLen r < 2147483648 →
      readUpdates objSize deleted fuel (enc f (updInts objSize r)) upd bl num ws =
        .ok (r.foldl (fun m p => minsert p.1 p.2 m) upd, num + r.length, ws) := by
  intro r
  induction r with
  | nil =>
    intro fuel upd bl num ws _ _ _ _ _
    cases fuel <;> simp [readUpdates, updInts, enc_isEmpty_nil]
  | cons p r ih =>
    obtain ⟨k, d⟩ := p
    intro fuel upd bl num ws hok hf hnd hI hb
    cases fuel with
    | zero => simp at hf
    | succ fuel =>
      obtain ⟨hkI, hdI, hkd, hfind⟩ := hI (k, d) (by simp)
      simp only [List.map_cons, List.nodup_cons] at hnd
      rw [dataLen_cons] at hb
      have hI' : ∀ p ∈ r, I32 p.1 ∧ (∀ x ∈ p.2, I32 x) ∧ p.1 ∉ deleted ∧ mfind p.1 (minsert k d upd) = none := by
        intro p hp
        obtain ⟨a1, a2, a3, a4⟩ := hI p (by simp [hp])
        refine ⟨a1, a2, a3, ?_⟩
        have hne : p.1 ≠ k := by
          intro e; apply hnd.1; rw [← e]; exact List.mem_map_of_mem hp
        rw [mfind_minsert, if_neg hne]; exact a4
      have ih' := ih fuel (minsert k d upd) (bl + d.length) (num + 1) ws (fun p hp => hok p (by simp [hp]))
        (by simp at hf; omega) hnd.2 hI' (by omega)
      have ht : I32 (keyType k : Int) := natCast_I32 (by have := keyType_lt k; omega)
      have hid : I32 (keyId k : Int) := natCast_I32 (by have := keyId_lt k; omega)
      have hdel : deleted.contains k = false := by
        simpa [List.contains_iff_mem] using hkd
      have hnot1 : ¬ ((keyType k : Int) < 0 ∨ (keyType k : Int) ≥ 65536) := by have := keyType_lt k; omega
      have hnot2 : ¬ ((keyId k : Int) < 0 ∨ (keyId k : Int) ≥ 65536) := by have := keyId_lt k; omega
      have hb1 : ¬ bl ≥ 4294967296 := by omega
      have hb2 : ¬ bl + d.length ≥ 4294967296 := by omega
      have hfind' : mfind k upd = none := hfind
      have e : num + 1 + r.length = num + (r.length + 1) := by omega
      have hsz := hok (k, d) (by simp)
      rw [readUpdates, updInts]
      cases ho : objSize (keyType k) with
      | some sz =>
        simp only [ho, szOk, beq_iff_eq] at hsz
        subst hsz
        simp only [enc_isEmpty_cons, enc_readInt f ht, enc_readInt f hid, hnot1, hnot2, if_false,
          Int.toNat_natCast, ho, Option.isSome_some, if_true, List.nil_append, hb1, hb2,
          readData_enc f d _ hdI, keyOf_key hkI, hfind', hdel]
        simp only [Bool.false_eq_true, if_false, Option.isSome_none, List.append_nil]
        rw [ih']
        simp only [List.foldl_cons, List.length_cons, e]
      | none =>
        have hsz : I32 (d.length : Int) := natCast_I32 (by omega)
        have hnn : ¬ ((d.length : Int) < 0) := by omega
        simp only [enc_isEmpty_cons, enc_readInt f ht, enc_readInt f hid, hnot1, hnot2, if_false,
          Int.toNat_natCast, ho, Option.isSome_none, Bool.false_eq_true, List.singleton_append,
          enc_readInt f hsz, hnn, hb1, hb2, readData_enc f d _ hdI, keyOf_key hkI, hfind', hdel]
        simp only [List.append_nil]
        rw [ih']
        simp only [List.foldl_cons, List.length_cons, e]

/-- Keys and items in any order: the C++ reference emits them in unsigned key order (`SnapRef`). -/
theorem readDelta_enc (f : Bool) (objSize : Nat → Option Nat) {ks : List Int} {r : Items}
    (hok : SizesOk objSize r) (hkI : ∀ k ∈ ks, I32 k) (hknd : ks.Nodup)
    (hkl : ks.length < 2147483648) (hnd : (r.map Prod.fst).Nodup)
    (hI : ∀ p ∈ r, I32 p.1 ∧ (∀ x ∈ p.2, I32 x) ∧ p.1 ∉ ks)
    (hrl : r.length < 2147483648) (hdl : dataLen r < 2147483648) :
    readDelta objSize (enc f ((ks.length : Int) :: (r.length : Int) :: 0 :: (ks ++ updInts objSize r))) =
      .ok (⟨ks.foldl (fun a k => sinsert k a) [], r.foldl (fun m p => minsert p.1 p.2 m) []⟩, []) := by
  obtain ⟨_, hmem, hlen⟩ := foldl_sinsert_spec ks [] (by simp [SortedSet])
  have hfuel := Nat.le_trans (updInts_length_ge objSize r) (enc_size_ge f (updInts objSize r))
  have hru := readUpdates_enc f objSize (ks.foldl (fun a k => sinsert k a) []) r (enc f (updInts objSize r)).size
    [] 0 0 [] hok hfuel hnd
    (fun p hp => ⟨(hI p hp).1, (hI p hp).2.1, by simpa [hmem] using (hI p hp).2.2, rfl⟩) (by omega)
  have hnn1 : ¬ ((ks.length : Int) < 0) := by omega
  have hnn2 : ¬ ((r.length : Int) < 0) := by omega
  unfold readDelta
  simp only [enc_readInt f (natCast_I32 hkl), enc_readInt f (natCast_I32 hrl),
    enc_readInt f (by decide : I32 0), hnn1, hnn2, if_false, Int.toNat_natCast,
    readKeys_enc f ks [] _ [] hkI, hru]
  simp [hlen hknd (by simp)]

/-- C09, wire form: whatever `Delta::write` writes for a well-formed delta is read back as that
delta, without any warning, from the integers (`f = false`) and from the packed bytes (`f = true`). -/
theorem readDelta_of_writeInts (f : Bool) (objSize : Nat → Option Nat) {d : Delta} (hd : d.WF) {xs : List Int}
    (hw : d.writeInts objSize = some xs) : readDelta objSize (enc f xs) = .ok (d, []) := by
  obtain ⟨hdS, hdI, huS, huI, hn1, hn2, hn3⟩ := hd
  obtain ⟨hok, rfl⟩ := Delta.writeInts_eq_some.mp hw
  rw [readDelta_enc f objSize hok hdI (hdS.imp (fun h => by omega)) hn1
    (List.Pairwise.imp (fun h => by omega) huS) huI hn2 hn3,
    foldl_sinsert_eq_append _ _ (by simpa using hdS), foldl_minsert_eq_append _ _ (by simpa using huS)]
  rfl

theorem readDelta_writeInts (f : Bool) (objSize : Nat → Option Nat) {d : Delta} (hd : d.WF)
    (hok : SizesOk objSize d.updated) :
    ∃ xs, d.writeInts objSize = some xs ∧ readDelta objSize (enc f xs) = .ok (d, []) := by
  have hw := Delta.writeInts_eq_some.mpr ⟨hok, rfl⟩
  exact ⟨_, hw, readDelta_of_writeInts f objSize hd hw⟩

theorem dataLen_eq_of_lens {m1 m2 : Items}
    (h : m1.map (fun p => (p.1, p.2.length)) = m2.map (fun p => (p.1, p.2.length))) :
    dataLen m1 = dataLen m2 ∧ m1.length = m2.length ∧ m1.map Prod.fst = m2.map Prod.fst := by
  have h1 := congrArg (List.map Prod.fst) h
  have h2 := congrArg (fun l => (l.map Prod.snd).sum) h
  have h3 := congrArg List.length h
  simp only [List.map_map, List.length_map] at h1 h2 h3
  exact ⟨h2, h3, h1⟩

theorem sizesOk_of_lens (objSize : Nat → Option Nat) {m1 m2 : Items}
    (h : m1.map (fun p => (p.1, p.2.length)) = m2.map (fun p => (p.1, p.2.length)))
    (hok : SizesOk objSize m2) : SizesOk objSize m1 := by
  intro p hp
  have : (p.1, p.2.length) ∈ m2.map (fun p => (p.1, p.2.length)) := by
    rw [← h]; exact List.mem_map.mpr ⟨p, hp, rfl⟩
  obtain ⟨q, hq, he⟩ := List.mem_map.mp this
  have := hok q hq
  simp at he
  rw [← he.1, ← he.2]
  exact this

theorem createDelta_WF {a b : RawSnap} {d : Delta} (ha : a.WF) (hb : b.WF) (h : createDelta a b = some d) :
    d.WF ∧ d.updated.map (fun p => (p.1, p.2.length)) = b.items.map (fun p => (p.1, p.2.length)) := by
  have hla := (WF_limits ha).1
  obtain ⟨hlb, hzb⟩ := WF_limits hb
  obtain ⟨haS, haI, haN, haZ⟩ := ha
  obtain ⟨hbS, hbI, hbN, hbZ⟩ := hb
  unfold createDelta at h
  cases hu : createUpdates a.items b.items with
  | none => simp [hu] at h
  | some u =>
    simp [hu] at h
    subst h
    obtain ⟨hl, hs⟩ := createUpdates_eq a.items b.items u hu
    obtain ⟨hdl, hlen, hkeys⟩ := dataLen_eq_of_lens hl
    refine ⟨⟨?_, ?_, ?_, ?_, ?_, ?_, ?_⟩, hl⟩
    · exact haS.filter _
    · intro k hk
      obtain ⟨p, hp, rfl⟩ := List.mem_map.mp hk
      exact (haI p (List.mem_filter.mp hp).1).1
    · show Sorted u
      unfold Sorted; rw [hkeys]; exact hbS
    · intro p hp
      obtain ⟨dd, hd, hc⟩ := hs p hp
      refine ⟨(hbI _ hd).1, ?_, ?_⟩
      · exact createItemDelta_I32 hc (hbI _ hd).2
      · intro hmem
        obtain ⟨q, hq, he⟩ := List.mem_map.mp hmem
        have hq2 := (List.mem_filter.mp hq).2
        simp at hq2
        rw [he, mfind_of_mem hbS hd] at hq2
        simp at hq2
    · show (List.map Prod.fst (List.filter _ a.items)).length < 2147483648
      have := List.length_filter_le (fun p => (mfind p.1 b.items).isNone) a.items
      rw [List.length_map]
      omega
    · show u.length < 2147483648
      omega
    · show dataLen u < 2147483648
      omega

/-- C09, the whole journey: `Delta::create`, `Delta::write`, `Delta::read` from either form, `read_with_delta`. -/
theorem delta_roundtrip_both (objSize : Nat → Option Nat) {a b : RawSnap} (ha : a.WF) (hb : b.WF)
    (hag : SizesAgree a b) (hok : SizesOk objSize b.items) :
    ∃ d xs, createDelta a b = some d ∧ d.writeInts objSize = some xs ∧
      (∀ f, readDelta objSize (enc f xs) = .ok (d, [])) ∧ applyDelta a d = .ok (b, []) := by
  obtain ⟨d, hd, hap⟩ := applyDelta_createDelta ha hb hag
  obtain ⟨hwf, hl⟩ := createDelta_WF ha hb hd
  have hw := Delta.writeInts_eq_some.mpr ⟨sizesOk_of_lens objSize hl hok, rfl⟩
  exact ⟨d, _, hd, hw, fun f => readDelta_of_writeInts f objSize hwf hw, hap⟩

end Tw.Snap
