import Tw.Proofs.ConnStep6

/-! Two facts about every call of a genuine 0.6 connection, by induction on `Conn6.Stepped` (`Stepped.canon`,
`Stepped.left`): every connect request it writes is `control 0 (some TOKEN_NONE) connect` (needed to identify the canned
packet of `Net::accept` with the client's own datagram), and a connection that has left `Unconnected` never returns to it
(so a peer the application has accepted is not taken for a pending one).  And what `Proofs/NetC01.lean` needs of single
functions: `connect` does not end `Unconnected`, `tick` reports no event. -/
namespace Tw.NetC01
open Tw.Conn Tw.Conn6 Tw.Time

def Canon (p : Packet) : Prop := ∀ ack tok, p = .control ack tok .connect → ack = 0 ∧ tok = some TOKEN_NONE

theorem canon_ctl {st : State} {ctl : Control} (hc : ctl = .connect → st = .connecting) :
    ∀ p ∈ [Packet.control st.ctlAck st.ctlToken ctl], Canon p := by
  intro p hp ack tok he
  cases List.mem_singleton.1 hp
  cases he
  cases hc rfl
  exact ⟨rfl, rfl⟩

theorem _root_.Tw.Conn6.Move.left {env : Env} {i : In} {st st' : State} (hm : Conn6.Move env i st st')
    (hu : st ≠ .unconnected) : st' ≠ .unconnected := by
  cases hm <;> first | exact hu | exact State.noConfusion

theorem _root_.Tw.Conn6.Stepped.canon {env : Env} {i : In} {c c' : Conn} {o : Out} (h : Stepped env i c c' o) :
    ∀ p ∈ o.sent, Canon p := by
  induction h with
  | same _ hs _ => exact hs ▸ fun _ hp => nomatch hp
  | cleared => exact fun _ hp => nomatch hp
  | @ctl _ _ st' _ _ _ hc =>
    refine canon_ctl fun hctl => ?_
    subst hctl
    cases st' <;> first | rfl | cases hc
  | core =>
    intro p hp ack tok he
    obtain ⟨f, _, rfl⟩ := List.mem_map.1 hp
    cases he
  | acked _ _ _ _ ih => exact ih
  | connless _ hps =>
    rcases hps with rfl | ⟨_, rfl⟩
    · exact fun _ hp => nomatch hp
    · exact List.forall_mem_singleton.mpr fun _ _ he => nomatch he
  | @accept _ _ tk _ => exact canon_ctl (st := .online tk .new) Control.noConfusion
  | closed => exact fun _ hp => nomatch hp
  | disconnect => exact canon_ctl Control.noConfusion

theorem _root_.Tw.Conn6.Stepped.left {env : Env} {i : In} {c c' : Conn} {o : Out} (h : Stepped env i c c' o)
    (hu : c.state ≠ .unconnected) : c'.state ≠ .unconnected := by
  induction h with
  | same | cleared | connless => exact hu
  | ctl _ hm _ => exact hm.left hu
  | acked _ _ _ _ ih => exact ih State.noConfusion
  | core | accept | closed | disconnect => exact State.noConfusion

theorem connect_left {env : Env} {c c' : Conn} {o : Out} (h : connect env c = .ok (c', o)) :
    c'.state ≠ .unconnected := by
  obtain ⟨r, hr, hg⟩ := step_runs_ok (op := .connect) h
  cases hr with
  | misuse => cases hg
  | same hop => rcases hop with h | ⟨_, h⟩ <;> cases h
  | connect =>
    obtain ⟨_, rfl, _⟩ := ctl_eq hg
    exact State.noConfusion
  | core _ _ _ hr =>
    obtain ⟨_, _, _, _, _, rfl, _⟩ := coreRes_eq (hr ▸ hg)
    exact State.noConfusion

theorem tick_events {env : Env} {c c' : Conn} {o : Out} (h : tick env c = .ok (c', o)) : o.events = [] := by
  obtain ⟨r, hr, hg⟩ := step_runs_ok (op := .tick) h
  cases hr with
  | misuse => cases hg
  | same => cases hg; rfl
  | cleared => cases hg; rfl
  | repeated =>
    obtain ⟨_, _, rfl⟩ := ctl_eq hg
    rfl
  | core _ x hx hr =>
    obtain ⟨_, _, _, _, hrun, _, rfl⟩ := coreRes_eq (hr ▸ hg)
    have hd := CoreOp.run_did (fed := none) hrun (hx.app.fed _)
    generalize x.sub Conn6.cfg = sub at hd
    cases hd <;> first | rfl | exact nomatch ‹none = some _›

end Tw.NetC01
