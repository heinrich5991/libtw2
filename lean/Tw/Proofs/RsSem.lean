import Tw.Model.RsSem
import Tw.Proofs.PacketBits

/-!
Lemma set for reasoning about `Tw.RsSem` (the support library of the generated `Tw.Gen.Rs*`
definitions): monad plumbing, two's complement conversions at the widths 32 and 64, and the
bitwise-to-arithmetic normal forms (`a*2^k ||| b = a*2^k + b`, `x &&& 2^k` as a test of bit `k`,
`n ^^^ (2^w-1) = 2^w-1-n`) so that `omega` can finish.  Core Lean only.

A stock for `write_int` / `read_int` of the packer: only `RsPacker.fold_eq` uses it (`toU_nonneg`,
`ixor_zero`, `ixor_neg_one`); the rest waits for `read_int` and the glue of `write_int`.
-/
namespace Tw.RsSem

/-- widths at which signed arithmetic is used -/
def SW (w : Nat) : Prop := w = 32 ∨ w = 64
theorem sw32 : SW 32 := Or.inl rfl
theorem sw64 : SW 64 := Or.inr rfl

theorem bind_ok {α β : Type} (x : α) (f : α → Rs β) : (Except.ok x >>= f) = f x := rfl
theorem bind_err {α β : Type} (e : Panic) (f : α → Rs β) : ((Except.error e : Rs α) >>= f) = Except.error e := rfl
theorem pure_eq {α : Type} (x : α) : (pure x : Rs α) = Except.ok x := rfl

/-! ### two's complement

The definitions mix `(2 : Int) ^ k` with casts of `(2 : Nat) ^ k`; `int_two_pow` turns the former
into the latter so that `omega` sees one atom per power.  Only `SW.two_pow` looks at the width. -/

theorem int_two_pow (k : Nat) : (2 : Int) ^ k = ((2 ^ k : Nat) : Int) := (Int.natCast_pow 2 k).symm

theorem SW.two_pow {w : Nat} (hw : SW w) : 2 ^ w = 2 * 2 ^ (w - 1) := by
  rcases hw with rfl | rfl <;> rfl

theorem toU_lt (w : Nat) (a : Int) : toU w a < 2 ^ w := by
  have hp : (0 : Int) < ((2 ^ w : Nat) : Int) := Int.natCast_pos.mpr (Nat.two_pow_pos w)
  have h := Int.emod_lt_of_pos a hp
  have h0 := Int.emod_nonneg a (Int.ne_of_gt hp)
  rw [toU, int_two_pow]
  omega

-- (`toU_toI` and `toU_neg` do not need `hw`; they take it so that they are called like `toI_toU`)
set_option linter.unusedVariables false in
theorem toU_toI {w : Nat} (hw : SW w) (n : Nat) : toU w (toI w n) = n % 2 ^ w := by
  rw [toU, toI, int_two_pow w, int_two_pow (w - 1), Int.natCast_emod, Int.emod_sub_emod,
    Int.natCast_add, Int.add_sub_cancel, ← Int.natCast_emod, Int.toNat_natCast]

theorem toU_nonneg {w : Nat} (a : Int) (h0 : 0 ≤ a) (h : a < 2 ^ w) : toU w a = a.toNat := by
  rw [toU, Int.emod_eq_of_lt h0 h]

set_option linter.unusedVariables false in
theorem toU_neg {w : Nat} (hw : SW w) (a : Int) (h0 : a < 0) (h : -(2 : Int) ^ w ≤ a) :
    toU w a = (a + 2 ^ w).toNat := by
  rw [toU, ← Int.add_emod_right, Int.emod_eq_of_lt (by omega) (by omega)]

theorem toU_cast (w : Nat) (a : Int) : (toU w a : Int) = a % ((2 ^ w : Nat) : Int) := by
  rw [toU, int_two_pow]
  exact Int.toNat_of_nonneg
    (Int.emod_nonneg a (Int.ne_of_gt (Int.natCast_pos.mpr (Nat.two_pow_pos w))))

theorem toI_toU {w : Nat} (hw : SW w) (a : Int) (h : inI w a) : toI w (toU w a) = a := by
  have := hw.two_pow
  rw [inI, int_two_pow] at h
  rw [toI, Int.natCast_emod, Int.natCast_add, toU_cast, Int.emod_add_emod, int_two_pow,
    Int.emod_eq_of_lt (by omega) (by omega)]
  omega

theorem toI_small {w : Nat} (hw : SW w) (n : Nat) (h : n < 2 ^ (w - 1)) : toI w n = n := by
  have := hw.two_pow
  rw [toI, Nat.mod_eq_of_lt (by omega), int_two_pow]
  omega

theorem inI_toI {w : Nat} (hw : SW w) (n : Nat) : inI w (toI w n) := by
  have := hw.two_pow
  have := Nat.mod_lt (n + 2 ^ (w - 1)) (Nat.two_pow_pos w)
  rw [toI, inI, int_two_pow]
  omega

theorem or_mul_pow' (a b k : Nat) (h : b < 2 ^ k) : b ||| a * 2 ^ k = b + a * 2 ^ k := by
  rw [Nat.or_comm, PacketBits.mul_pow_or a k b h, Nat.add_comm]

theorem and_bit (x k : Nat) : x &&& 2 ^ k = if x / 2 ^ k % 2 = 1 then 2 ^ k else 0 := by
  have h : x &&& 2 ^ k = if x.testBit k then 2 ^ k else 0 := by
    apply Nat.eq_of_testBit_eq; intro i
    rw [Nat.testBit_and, Nat.testBit_two_pow]
    by_cases hk : k = i
    · subst hk; cases hb : x.testBit k <;> simp
    · cases hb : x.testBit k <;> simp [hk]
  rw [h, Nat.testBit_eq_decide_div_mod_eq]
  by_cases h : x / 2 ^ k % 2 = 1 <;> simp [h]

theorem xor_ones (w n : Nat) (h : n < 2 ^ w) : n ^^^ (2 ^ w - 1) = 2 ^ w - 1 - n := by
  have := BitVec.toNat_not (x := BitVec.ofNat w n)
  rw [← BitVec.xor_allOnes, BitVec.toNat_xor, BitVec.toNat_allOnes, BitVec.toNat_ofNat,
    Nat.mod_eq_of_lt h] at this
  exact this

/-! ### signed bit operations against 0 and -1 (sign folding: `x ^ -sign`) -/

theorem ixor_zero {w : Nat} (hw : SW w) (a : Int) (h : inI w a) : ixor w a 0 = a := by
  have : toU w 0 = 0 := by simp [toU]
  simp [ixor, this, toI_toU hw a h]

/-- `a ^ -1` flips all bits: the pattern `2^w - 1 - toU w a` differs from `2^(w-1) - 1 - a` (shifted
by the sign bit as `toI` wants it) by a multiple of `2^w`. -/
theorem ixor_neg_one {w : Nat} (hw : SW w) (a : Int) (h : inI w a) : ixor w a (-1) = -a - 1 := by
  have hM := hw.two_pow
  have hlt := toU_lt w a
  have hu := toU_cast w a
  have h1 : toU w (-1) = 2 ^ w - 1 := by rcases hw with rfl | rfl <;> rfl
  have hdiv := Int.emod_add_mul_ediv a ((2 ^ w : Nat) : Int)
  rw [inI, int_two_pow] at h
  rw [ixor, h1, xor_ones w _ hlt, toI, Int.natCast_emod, Int.natCast_add, int_two_pow,
    show ((2 ^ w - 1 - toU w a : Nat) : Int) + ((2 ^ (w - 1) : Nat) : Int) =
      (((2 ^ (w - 1) : Nat) : Int) - 1 - a) + ((2 ^ w : Nat) : Int) * (1 + a / ((2 ^ w : Nat) : Int)) by
        rw [Int.mul_add, Int.mul_one]; omega,
    Int.add_mul_emod_self_left, Int.emod_eq_of_lt (by omega) (by omega)]
  omega

end Tw.RsSem
