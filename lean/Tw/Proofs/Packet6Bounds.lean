import Tw.Model.Packet6
import Tw.Proofs.Packet6Read
import Tw.Proofs.Packet6Spec

/-! Slice bounds of the 0.6 reader: the byte-slice field of an accepted packet is exactly the bytes at
`(loc, len)` of the input or of the scratch buffer, inside that buffer; the scratch buffer is not
overrun. -/
namespace Tw.Packet6
open Tw.Packet Tw.PacketBits

theorem readConnless_located {bytes : List UInt8} {wh : List Warning} {r : ReadOk}
    (h3 : Tw.Gen.Packet6.HEADER_SIZE ≤ bytes.length)
    (hr : readConnless bytes (bytes.drop Tw.Gen.Packet6.HEADER_SIZE) wh = .ok r) :
    r.Located bytes ∧ r.scratch = [] := by
  obtain ⟨hp3, hsc, hloc, hp⟩ := readConnless_ok hr
  refine ⟨?_, hsc⟩
  simp only [ReadOk.Located, hp, hloc, Packet.slice, resolve_eq, bufOf, List.drop_drop]
  rw [List.length_drop] at hp3
  exact located_of_prefix bytes _ _ (by omega) (List.prefix_refl _)

theorem readBody_located {h : PacketHeader} {wh : List Warning} {payload : List UInt8} (src : Src)
    {scratch : List UInt8} {hint : Option Bool} {r : ReadOk} (input : List UInt8)
    (hbuf : payload = (bufOf src input scratch).drop Tw.Gen.Packet6.HEADER_SIZE)
    (hlen : Tw.Gen.Packet6.HEADER_SIZE ≤ (bufOf src input scratch).length)
    (hr : readBody h wh payload src scratch hint = .ok r) : r.Located input ∧ r.scratch = scratch := by
  obtain ⟨_, hsc, x, tok, hx, ⟨c, loc, hcv, hp, hloc⟩ | ⟨hp, hloc⟩⟩ := readBody_ok hr
  · refine ⟨?_, hsc⟩
    obtain ⟨rfl, _, hcl⟩ := controlValue_ok hcv
    cases c with
    | close m =>
      -- the reason is a prefix of what follows the control byte, which is where the header ends + 1
      obtain ⟨c0, pl, rfl, hpm⟩ := hcl m rfl
      have hpb : m <+: (bufOf src input scratch).drop (Tw.Gen.Packet6.HEADER_SIZE + 1) := by
        rw [← List.drop_drop, ← hbuf, hx]
        exact hpm.trans (List.prefix_append pl (tokBytes tok))
      have hoff : Tw.Gen.Packet6.HEADER_SIZE + 1 ≤ (bufOf src input scratch).length := by
        have := congrArg List.length (hbuf.symm.trans hx)
        rw [List.length_drop, List.length_append, List.length_cons] at this
        omega
      simp only [ReadOk.Located, hp, hloc, hsc, Packet.slice, ctrlLoc, resolve_eq]
      exact located_of_prefix _ _ _ hoff hpb
    | _ => simp only [ReadOk.Located, hp, hloc, Packet.slice, ctrlLoc]
  · refine ⟨?_, hsc⟩
    simp only [ReadOk.Located, hp, hloc, hsc, Packet.slice, resolve_eq]
    exact located_of_prefix (bufOf src input scratch) x Tw.Gen.Packet6.HEADER_SIZE hlen
      (by rw [← hbuf, hx]; exact List.prefix_append x _)

/-- `buffer.getD 0`: without a scratch buffer (`read_panic_on_decompression`) nothing is put into it, so the slice
lies in the input. -/
theorem read_located (t : Huffman.Table) (hb : HuffmanBounded t) (bytes : List UInt8) (hint : Option Bool)
    (buffer : Option Nat) (r : ReadOk) (hr : read t bytes hint buffer = .ok r) :
    r.Located bytes ∧ r.scratch.length ≤ buffer.getD 0 := by
  have hH : Tw.Gen.Packet6.HEADER_SIZE = 3 := rfl
  obtain ⟨hlen, h3, hcase⟩ := read_ok_cases t bytes hint buffer r hr
  rcases hcase with h | h | ⟨cap, out, rfl, hcap, hout, h⟩
  · obtain ⟨h1, h2⟩ := readConnless_located h3 h
    exact ⟨h1, by rw [h2]; exact Nat.zero_le _⟩
  · obtain ⟨h1, h2⟩ := readBody_located .input bytes rfl (by simpa [bufOf] using h3) h
    exact ⟨h1, by rw [h2]; exact Nat.zero_le _⟩
  · -- the scratch buffer: fake header (3 bytes) followed by at most `cap - 3` decompressed bytes
    have hlen' : (fakeHeader bytes ++ out).length = 3 + out.length := by
      rw [List.length_append, fakeHeader_length]
    obtain ⟨h1, h2⟩ := readBody_located .scratch bytes (List.drop_left' (fakeHeader_length bytes)).symm
      (by rw [bufOf, hlen', hH]; omega) h
    refine ⟨h1, ?_⟩
    have := hb _ _ _ hout
    have hM : Tw.Gen.Packet6.MAX_PACKETSIZE = 1400 := rfl
    show r.scratch.length ≤ cap
    rw [h2, hlen']
    omega

end Tw.Packet6
