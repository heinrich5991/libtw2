import Tw.Proofs.ConnIface

/-!
# C02 (c) over two full connections: the fair suffix that delivers every datagram, online phase

`fairRoundT` of `Tw.NetSim` (ticks at the deadlines; everything either side has sent in the suffix is
delivered once, in order — the datagrams emitted while a delivery is processed included) is a
`RoundT` on the two cores (`fairRoundT_specH`); four of them end quiescent (`fair_progressV`, `fair_progressH`, `fair_progress`).
-/
namespace Tw.NetSim
open Tw.Conn Tw.Time

variable {P : Proto} {core : P.Conn → Option Online} {cfg : Cfg} {S : Nat → P.Conn → Prop}

/-- the cursors of the fair suffix: everything `b` sent has been delivered, of what `a` sent the
answers `La` (with their ack stamps) are still to be delivered -/
structure OnlineFH (I : GIface P core cfg S) (ta tb : I.Tok) (s : FairState P) (La : List (DgH × Nat)) : Prop where
  on : OnlineWH I ta tb s.w
  hcb : s.cb = s.w.b.out.length
  hca : ∃ pre, s.w.a.out = pre ++ La.map (fun x => ⟨I.pkt ta x.1, s.w.a.nAbs, x.2⟩) ∧ pre.length = s.ca
  fresh : ∀ x ∈ La, s.w.b.nAbs ≤ x.2 + 512

theorem OnlineFH.start {I : GIface P core cfg S} {ta tb : I.Tok} {w : World P} (h : OnlineWH I ta tb w) :
    OnlineFH I ta tb (FairState.start w) [] :=
  ⟨h, rfl, ⟨w.a.out, by simp [FairState.start], rfl⟩, by simp⟩

theorem fairRoundT_specH (I : GIface P core cfg S) (hs : Sim P core cfg) (hl : LocT P S)
    (draws : List Nat) (alt : P.Alt) {ta tb : I.Tok} {s : FairState P} {La : List (DgH × Nat)}
    (h : OnlineFH I ta tb s La) :
    ∃ (s' : FairState P) (La' : List (DgH × Nat)) (vb : View), fairRoundT draws alt s = some s' ∧
      OnlineFH I ta tb s' La' ∧
      RoundT cfg (viewW core s.w) (La.map fun x => x.1.fl) vb (viewW core s'.w) (La'.map fun x => x.1.fl) := by
  obtain ⟨w1, oa, ob, oa2, ob2, da, db, t⟩ := I.ticksWH hs hl h.on
  obtain ⟨pre, hpre, hprelen⟩ := h.hca
  have hwinv : AInv cfg (absEnd P core s.w.a) (absEnd P core s.w.b) := h.on.winv
  have nAa := nAbs_of_submitted t.subA
  have nAb := nAbs_of_submitted t.subB
  have dAa := dAbs_of_events t.evA
  have dAb := dAbs_of_events t.evB
  have hwin_ba : s.w.b.nAbs ≤ s.w.a.dAbs + 512 := hwinv.2.win
  have hwin_ab : s.w.a.nAbs ≤ s.w.b.dAbs + 512 := hwinv.1.win
  -- block 1: the leftovers, then a's tick datagrams, to b
  have outa' : w1.a.out = pre ++ (La.map (fun x => (⟨I.pkt ta x.1, w1.a.nAbs, x.2⟩ : Sent P.Packet)) ++
      (da.map fun d => (⟨I.pkt ta d, w1.a.nAbs, s.w.a.dAbs⟩ : Sent P.Packet))) := by
    rw [t.outA, hpre, nAa]; simp [List.map_map, Function.comp_def]
  obtain ⟨ebm, obm, reps1, g⟩ :=
    I.blockH hs hl (now := w1.now) (draws := draws) h.on.pab alt w1.a La w1.b ob2 t.shB
      (by
        intro x hx
        refine ⟨?_, by rw [nAb]; exact h.fresh x hx⟩
        rw [outa']
        exact List.mem_append_right _ (List.mem_append_left _ (List.mem_map_of_mem (f := fun x => (⟨I.pkt ta x.1, w1.a.nAbs, x.2⟩ : Sent P.Packet)) hx)))
      t.winv.symm t.tinv.2
  obtain ⟨eb3, ob3, reps2, i⟩ :=
    I.blockH hs hl (now := w1.now) (draws := draws) h.on.pab alt w1.a (da.map fun d => (d, s.w.a.dAbs)) ebm obm g.sh
      (by
        intro x hx
        simp only [List.mem_map] at hx
        obtain ⟨d, hd, rfl⟩ := hx
        refine ⟨?_, by rw [g.nAbs, nAb]; exact hwin_ba⟩
        rw [outa']
        exact List.mem_append_right _ (List.mem_append_right _ (List.mem_map_of_mem (f := fun d => (⟨I.pkt ta d, w1.a.nAbs, s.w.a.dAbs⟩ : Sent P.Packet)) hd)))
      g.ainv g.timed
  have hrecvB : recvEndsD w1.now draws alt w1.b
      ((La.map (fun x => (⟨I.pkt ta x.1, w1.a.nAbs, x.2⟩ : Sent P.Packet)) ++
        (da.map fun d => (⟨I.pkt ta d, w1.a.nAbs, s.w.a.dAbs⟩ : Sent P.Packet))).map (·.pkt)) = some eb3 := by
    rw [List.map_append, recvEndsD_append]
    simp only [List.map_map, Function.comp_def]
    rw [g.run]
    simp only [Option.bind_some]
    simpa [List.map_map, Function.comp_def] using i.run
  have hrun1 : run w1 (deliverRangeD .b s.ca w1.a.out.length draws alt) = some (w1.set .b eb3) :=
    hprelen ▸ run_deliverRest .b draws alt outa' hrecvB
  -- what b has sent by now: its tick datagrams and its answers of this round
  have eb3out : eb3.out = s.w.b.out ++ ((db.map fun d => (⟨I.pkt tb d, w1.b.nAbs, s.w.b.dAbs⟩ : Sent P.Packet)) ++
      ((reps1 ++ reps2).map fun x => (⟨I.pkt tb x.1, w1.b.nAbs, x.2⟩ : Sent P.Packet))) := by
    rw [i.out, g.out, t.outB, g.nAbs, nAb]; simp [List.map_map, Function.comp_def]
  have eb3n : eb3.nAbs = w1.b.nAbs := by rw [i.nAbs, g.nAbs]
  -- block 2: b's tick datagrams, then its answers, to a
  obtain ⟨eam, oam, repa1, k⟩ :=
    I.blockH hs hl (now := w1.now) (draws := draws) h.on.pba alt eb3 (db.map fun d => (d, s.w.b.dAbs)) w1.a oa2 t.shA
      (by
        intro x hx
        simp only [List.mem_map] at hx
        obtain ⟨d, hd, rfl⟩ := hx
        refine ⟨?_, by rw [nAa]; exact hwin_ab⟩
        rw [eb3out, eb3n]
        exact List.mem_append_right _ (List.mem_append_left _ (List.mem_map_of_mem (f := fun d => (⟨I.pkt tb d, w1.b.nAbs, s.w.b.dAbs⟩ : Sent P.Packet)) hd)))
      i.ainv.symm t.tinv.1
  obtain ⟨ea3, oa3, repa2, m⟩ :=
    I.blockH hs hl (now := w1.now) (draws := draws) h.on.pba alt eb3 (reps1 ++ reps2) eam oam k.sh
      (by
        intro x hx
        refine ⟨?_, ?_⟩
        · rw [eb3out, eb3n]
          exact List.mem_append_right _ (List.mem_append_right _ (List.mem_map_of_mem (f := fun x => (⟨I.pkt tb x.1, w1.b.nAbs, x.2⟩ : Sent P.Packet)) hx))
        · rw [k.nAbs, nAa]
          have hx2 : s.w.b.dAbs ≤ x.2 := by
            rcases List.mem_append.mp hx with hx | hx
            · have := g.stamps x hx; rw [dAb] at this; exact this
            · have := i.stamps x hx; rw [← dAb]; exact Nat.le_trans g.dAbs this
          omega)
      k.ainv k.timed
  have hrecvA : recvEndsD w1.now draws alt w1.a
      (((db.map fun d => (⟨I.pkt tb d, w1.b.nAbs, s.w.b.dAbs⟩ : Sent P.Packet)) ++
        ((reps1 ++ reps2).map fun x => (⟨I.pkt tb x.1, w1.b.nAbs, x.2⟩ : Sent P.Packet))).map (·.pkt)) = some ea3 := by
    rw [List.map_append, recvEndsD_append]
    simp only [List.map_map, Function.comp_def]
    have krun := k.run
    simp only [List.map_map, Function.comp_def] at krun
    rw [krun]
    simp only [Option.bind_some]
    exact m.run
  have hrun2 : run (w1.set .b eb3) (deliverRangeD .a s.cb (w1.set .b eb3).b.out.length draws alt) =
      some ((w1.set .b eb3).set .a ea3) := by
    rw [h.hcb]
    exact run_deliverRest .a draws alt (w := w1.set .b eb3) eb3out hrecvA
  have c3a : core ea3.conn = some oa3 := I.core_sh m.sh
  have c3b : core eb3.conn = some ob3 := I.core_sh i.sh
  have c1a : core w1.a.conn = some oa2 := I.core_sh t.shA
  have c1b : core w1.b.conn = some ob2 := I.core_sh t.shB
  have cmb : core ebm.conn = some obm := I.core_sh g.sh
  have cma : core eam.conn = some oam := I.core_sh k.sh
  refine ⟨⟨(w1.set .b eb3).set .a ea3, w1.a.out.length, eb3.out.length⟩, repa1 ++ repa2, viewW core w1, ?_, ?_, ?_⟩
  · simp only [fairRoundT, t.run, hrun1, hrun2]
    rfl
  · refine ⟨⟨m.ainv, ⟨m.timed, i.timed⟩, ⟨oa3, m.sh⟩, ⟨ob3, i.sh⟩, h.on.pab, h.on.pba⟩, rfl, ⟨w1.a.out, ?_, rfl⟩, ?_⟩
    · show ea3.out = _
      rw [m.out, k.out, k.nAbs]
      have : ea3.nAbs = w1.a.nAbs := by rw [m.nAbs, k.nAbs]
      simp only [World.set, this, List.map_append, List.append_assoc]
    · intro x hx
      show eb3.nAbs ≤ x.2 + 512
      rw [eb3n, nAb]
      have hx2 : s.w.a.dAbs ≤ x.2 := by
        rcases List.mem_append.mp hx with hx | hx
        · have := k.stamps x hx; rw [dAa] at this; exact this
        · have := m.stamps x hx; rw [← dAa]; exact Nat.le_trans k.dAbs this
      omega
  · -- the round on the two cores
    have hv0 := viewW_eq s.w t.coreA t.coreB
    have hvb := viewW_eq w1 c1a c1b
    have hv' : viewW core ((w1.set .b eb3).set .a ea3) =
        ⟨fun x => if x then oa3 else ob3, fun x => if x then ea3.submittedVital else eb3.submittedVital,
          fun x => if x then ea3.deliveredVital else eb3.deliveredVital⟩ :=
      viewW_eq ((w1.set .b eb3).set .a ea3) (ob := ob3) c3a c3b
    rw [hv0, hvb, hv']
    refine ⟨vinv_of_ainv hwinv t.coreA t.coreB, vinv_of_ainv t.winv c1a c1b, vinv_of_ainv m.ainv c3a c3b, ?_, ?_, ?_, ?_⟩
    · funext x; cases x
      · simp [End.submittedVital, t.subB]
      · simp [End.submittedVital, t.subA]
    · funext x; cases x
      · simp [End.deliveredVital, t.evB]
      · simp [End.deliveredVital, t.evA]
    · funext x; cases x
      · simp [End.submittedVital, i.submitted, g.submitted, t.subB]
      · simp [End.submittedVital, m.submitted, k.submitted, t.subA]
    · refine ⟨da.map DgH.fl, db.map DgH.fl, (reps1 ++ reps2).map (fun x => x.1.fl), obm, oam, ebm.dAbs, eam.dAbs,
        t.phaseA, by simpa using t.neA, t.phaseB, by simpa using t.neB, g.rel, ?_, ?_, ?_, ?_, ?_, m.rel, ?_, ?_, ?_, ?_, ?_⟩
      · simpa [List.map_map, Function.comp_def] using i.rel
      · exact g.ainv.2.rcv obm cmb
      · have := g.dAbs; simp only [End.dAbs] at this dAb ⊢; simp only [Bool.false_eq_true, if_false]; omega
      · have := i.dAbs; simp only [End.dAbs] at this ⊢; simp only [Bool.false_eq_true, if_false]; exact this
      · simpa [List.map_map, Function.comp_def] using k.rel
      · exact k.ainv.2.rcv oam cma
      · have := k.dAbs; simp only [End.dAbs] at this dAa ⊢; simp only [if_true]; omega
      · have := m.dAbs; simp only [End.dAbs] at this ⊢; simp only [if_true]; exact this
      · intro hq
        simp only [Bool.false_eq_true, if_false] at hq
        have h1 := g.idle hq
        have hqm : obm.resendQueue = [] := (g.rel.idle hq).1
        have h2 := i.idle hqm
        rw [h1, h2]; rfl
      · intro hq
        simp only [if_true] at hq
        have h1 := k.idle hq
        have hqm : oam.resendQueue = [] := (k.rel.idle hq).1
        have h2 := m.idle hqm
        rw [h1, h2]; rfl

theorem fair_progressV (I : GIface P core cfg S) (hs : Sim P core cfg) (hl : LocT P S)
    (draws : List Nat) (alt : P.Alt) {ta tb : I.Tok} {s : FairState P} {La : List (DgH × Nat)}
    (h : OnlineFH I ta tb s La) :
    ∃ s' La', fairRoundsT draws alt 4 s = some s' ∧ (viewW core s'.w).quiescent ∧ OnlineFH I ta tb s' La' := by
  obtain ⟨s1, L1, b1, e1, o1, R1⟩ := fairRoundT_specH I hs hl draws alt h
  obtain ⟨s2, L2, b2, e2, o2, R2⟩ := fairRoundT_specH I hs hl draws alt o1
  obtain ⟨s3, L3, b3, e3, o3, R3⟩ := fairRoundT_specH I hs hl draws alt o2
  obtain ⟨s4, L4, b4, e4, o4, R4⟩ := fairRoundT_specH I hs hl draws alt o3
  refine ⟨s4, L4, ?_, four_roundsT R1 R2 R3 R4, o4⟩
  simp only [e1, e2, e3, e4, fairRoundsT]

theorem fair_progressH (I : GIface P core cfg S) (hs : Sim P core cfg) (hl : LocT P S)
    (draws : List Nat) (alt : P.Alt) {ta tb : I.Tok} {s : FairState P} {La : List (DgH × Nat)}
    (h : OnlineFH I ta tb s La) :
    ∃ s' La', fairRoundsT draws alt 4 s = some s' ∧ s'.w.quiescentH ∧ OnlineFH I ta tb s' La' := by
  obtain ⟨s', La', e, q, o⟩ := fair_progressV I hs hl draws alt h
  exact ⟨s', La', e, o.on.quiescentH q, o⟩

/-- **timed progress, online phase, every datagram delivered**: from two online connections with
matching tokens, four rounds of the fair suffix — ticks at the deadlines; everything sent in the
suffix, the answers to resend requests included, is delivered exactly once and in order — all return
and end quiescent -/
theorem fair_progress {I : OnlineIface P core cfg S} (X : PendIface I) (hc : cfg.Ok) (hs : Sim P core cfg)
    (hl : LocT P S) (draws : List Nat) (alt : P.Alt) {ta tb : I.Tok} {w : World P} (h : OnlineW I ta tb w) :
    ∃ s', fairRoundsT draws alt 4 (FairState.start w) = some s' ∧ s'.w.quiescent := by
  obtain ⟨s', _, e, q, o⟩ := fair_progressV (X.toG hc) hs hl draws alt (OnlineFH.start (X.ofW hc h))
  exact ⟨s', e, X.quiescent hc o.on q⟩

end Tw.NetSim
