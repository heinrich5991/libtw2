import Tw.Proofs.Packer

/-! C08, field sequences.  Packing a field or a list of fields is one clamped write of its encoding, which stops at the
first write that does not fit.  Reading back, `unpackOne` on the encoding of a well-formed field returns the field and
the rest, and every reader leaves a suffix of its input. -/
namespace Tw.Packer

theorem Field.encode_length (f : Field) : f.encode.length = f.encodedLength := by
  cases f <;> simp [Field.encode, Field.encodedLength]

theorem encodeAll_length (fs : List Field) : (encodeAll fs).length = totalLen fs := by
  rw [encodeAll, List.length_flatMap, totalLen]
  exact congrArg (fun g => (fs.map g).sum) (funext Field.encode_length)

theorem Buf.write_fits (b : Buf) (bs : List UInt8) (h : bs.length ≤ b.remaining) :
    b.write bs = ({ b with data := b.data ++ bs }, true) := by
  simp [Buf.write, h]

theorem Buf.write_overflow (b : Buf) (bs : List UInt8) (h : ¬ bs.length ≤ b.remaining) :
    b.write bs = ({ b with data := b.data ++ bs.take b.remaining }, false) := by
  simp [Buf.write, h]

theorem Buf.write_append (b : Buf) (xs ys : List UInt8) :
    b.write (xs ++ ys) = if xs.length ≤ b.remaining then (b.write xs).1.write ys else b.write xs := by
  by_cases hx : xs.length ≤ b.remaining
  · have hr : ({ b with data := b.data ++ xs } : Buf).remaining = b.remaining - xs.length := by
      simp only [Buf.remaining, List.length_append]; omega
    rw [if_pos hx, Buf.write_fits b xs hx]
    by_cases hy : ys.length ≤ b.remaining - xs.length
    · rw [Buf.write_fits _ ys (hr ▸ hy), Buf.write_fits _ _ (by rw [List.length_append]; omega),
        List.append_assoc]
    · rw [Buf.write_overflow _ ys (hr ▸ hy), Buf.write_overflow _ _ (by rw [List.length_append]; omega),
        hr, List.take_append, List.take_of_length_le hx, List.append_assoc]
  · rw [if_neg hx, Buf.write_overflow b xs hx,
      Buf.write_overflow _ _ (by rw [List.length_append]; omega),
      List.take_append_of_le_length (by omega)]

def Buf.pack (b : Buf) (bs : List UInt8) : Buf × PackResult :=
  ((b.write bs).1, if (b.write bs).2 then .ok else .capacity)

theorem packField_eq_pack (b : Buf) (f : Field) (hwf : f.wf) : packField b f = b.pack f.encode := by
  cases f with
  | int v => rfl
  | raw d => rfl
  | str s =>
    have hnul : s.any (· == 0) = false := any_nul_eq_false hwf
    simp only [packField, hnul, Field.encode, Buf.pack, Buf.write_append]
    by_cases h : s.length ≤ b.remaining
    · simp [h, Buf.write_fits b s h]
    · simp [h, Buf.write_overflow b s h]
  | data d =>
    have hlt : ¬ d.length ≥ 2 ^ 31 := Nat.not_le.mpr hwf
    simp only [packField, hlt, Field.encode, Buf.pack, Buf.write_append]
    by_cases h : (writeInt d.length).length ≤ b.remaining
    · simp [h, Buf.write_fits b _ h]
    · simp [h, Buf.write_overflow b _ h]

/-- a field is reached only if everything before it fitted, so the writes of a list are one clamped write -/
theorem packAll_eq_pack (fs : List Field) (hwf : ∀ f ∈ fs, f.wf) :
    ∀ (b : Buf), packAll b fs = b.pack (encodeAll fs) := by
  induction fs with
  | nil => intro b; simp [packAll, encodeAll, Buf.pack, Buf.write]
  | cons f fs ih =>
    intro b
    have henc : encodeAll (f :: fs) = f.encode ++ encodeAll fs := by simp [encodeAll]
    rw [packAll, packField_eq_pack b f (hwf f (by simp)), henc, Buf.pack, Buf.pack, Buf.write_append]
    by_cases h : f.encode.length ≤ b.remaining
    · simp only [Buf.write_fits b _ h, if_pos h, if_true]
      exact ih (fun g hg => hwf g (by simp [hg])) _
    · simp only [Buf.write_overflow b _ h, if_neg h]
      rfl

theorem unpackOne_encode (f : Field) (hwf : f.wf) (rest : List UInt8) :
    unpackOne (f.encode ++ rest) f.kind = (some f.value, rest, []) := by
  cases f with
  | int v => simp [Field.encode, Field.kind, Field.value, unpackOne, readInt_writeInt v hwf rest]
  | str s => simp [Field.encode, Field.kind, Field.value, unpackOne, readString_append s (any_nul_eq_false hwf) rest]
  | data d =>
    have hr : inI32 (d.length : Int) := inI32_natCast hwf
    simp only [Field.encode, Field.kind, Field.value, unpackOne, List.append_assoc,
      readInt_writeInt _ hr (d ++ rest)]
    have h1 : ¬ ((d.length : Int) < 0) := by omega
    simp [h1]
  | raw d => simp [Field.encode, Field.kind, Field.value, unpackOne]

theorem unpackOne_suffix (inp : List UInt8) (k : Kind) : (unpackOne inp k).2.1 <:+ inp := by
  cases k with
  | int =>
    simp only [unpackOne]
    split
    · exact List.nil_suffix
    · exact (readInt_rest ‹_›).2.1
  | str =>
    simp only [unpackOne]
    split
    · exact List.nil_suffix
    · exact (readString_rest ‹_›).2.1
  | data =>
    simp only [unpackOne]
    split
    · exact List.nil_suffix
    · split
      · exact List.nil_suffix
      · split
        · exact List.nil_suffix
        · exact (List.drop_suffix _ _).trans (readInt_rest ‹_›).2.1
  | raw len =>
    simp only [unpackOne]
    split
    · exact List.nil_suffix
    · exact List.drop_suffix _ _
  | rest => exact List.nil_suffix

end Tw.Packer
