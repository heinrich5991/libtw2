import Tw.Model.Packet6
import Tw.Proofs.Packet6Read
import Tw.Proofs.Packet6Spec

/-! C05, 0.6: the writer in closed form and the write → read round trip for every `Valid` packet on either branch,
compressed or plain (`write_read_roundtrip`); then when `ConnectedPacket::write` truncates silently
(`write_okTruncated_iff`). -/
namespace Tw.Packet6
open Tw.Packet Tw.PacketBits

theorem nulPos_le (l : List UInt8) : nulPos l ≤ l.length := by
  induction l with
  | nil => simp [nulPos]
  | cons b bs ih => simp only [nulPos]; split <;> simp <;> omega

theorem writeConnless_eq (payload : List UInt8) (cap : Nat)
    (hv : payload.length ≤ Tw.Gen.Packet6.CONNLESS_WRITE_LIMIT) (hcap : 6 + payload.length ≤ cap) :
    writeConnless payload cap = .ok (List.replicate 6 255 ++ payload) := by
  unfold writeConnless
  have h1 : ¬ payload.length > Tw.Gen.Packet6.CONNLESS_WRITE_LIMIT := by omega
  rw [if_neg h1]
  have e : List.replicate (Tw.Gen.Packet6.HEADER_SIZE + Tw.Gen.Packet6.PADDING_SIZE_CONNLESS)
      (UInt8.ofNat Tw.Gen.Packet6.CONNLESS_PADDING_BYTE) = List.replicate 6 (255 : UInt8) := by decide
  rw [e, bufWrite_of_le (by simp; omega)]
  simp only [List.nil_append]
  rw [bufWrite_of_le (by simp; omega)]

theorem read_connless_eq (t : Huffman.Table) (payload : List UInt8) (hint : Option Bool) (scap : Nat)
    (hs : Tw.Gen.Packet6.MAX_PACKETSIZE ≤ scap) (hlen : payload.length ≤ Tw.Gen.Packet6.CONNLESS_WRITE_LIMIT) :
    read t (List.replicate 6 255 ++ payload) hint (some scap) =
      .ok { pkt := .connless payload, warns := [], loc := some { src := .input, off := 6 }, scratch := [] } := by
  show read t (255 :: 255 :: 255 :: (255 :: 255 :: 255 :: payload)) hint (some scap) = _
  have e : PacketHeader.unpackWarn (255 : UInt8).toNat (255 : UInt8).toNat (255 : UInt8).toNat = (⟨15, 1023, 255⟩, []) := by decide
  rw [read_eq t _ hint _ (cap_of_some hs) (by simp [Tw.Gen.Packet6.MAX_PACKETSIZE, Tw.Gen.Packet6.CONNLESS_WRITE_LIMIT] at hlen ⊢; omega)
    (by simp [Tw.Gen.Packet6.HEADER_SIZE]), headerOf_cons, e]
  have h3 : (15 : Nat) &&& Tw.Gen.Packet6.PACKETFLAG_CONNLESS ≠ 0 := by decide
  rw [if_pos h3]
  show ReadResult.lift (readConnless _ (255 :: 255 :: 255 :: payload) _) = _
  unfold readConnless
  have h4 : ¬ (255 :: 255 :: 255 :: payload : List UInt8).length < Tw.Gen.Packet6.PADDING_SIZE_CONNLESS := by
    simp [Tw.Gen.Packet6.PADDING_SIZE_CONNLESS]
  rw [if_neg h4]
  simp [ReadResult.lift, Tw.Gen.Packet6.PADDING_SIZE_CONNLESS, Tw.Gen.Packet6.HEADER_SIZE, allEq]

/-- the bytes `ControlPacket::write` puts between header and token -/
def ctrlBody (c : Control) (tok : Option Token) : List UInt8 :=
  UInt8.ofNat c.magic ::
    ((if (c = .connect ∨ c = .connectAccept) ∧ tok.isSome then Tw.Gen.Packet6.CTRLMSG_TOKEN_MAGIC else []) ++
     (match c with | .close m => m ++ [0] | _ => []))

/-- 138 is not tight (1 + 4 + 128 + 4 = 137, and token magic and close reason exclude each other); all its users need is
that 3 + 138 ≤ `MAX_PACKETSIZE` -/
theorem ctrlBody_length_le (c : Control) (tok : Option Token) (hv : ValidControl c) :
    (ctrlBody c tok).length + (tokBytes tok).length ≤ 138 := by
  have hM : (if (c = .connect ∨ c = .connectAccept) ∧ tok.isSome = true
      then Tw.Gen.Packet6.CTRLMSG_TOKEN_MAGIC else []).length ≤ 4 := by
    split <;> decide
  have hR : (match c with | .close m => m ++ [0] | _ => []).length ≤ 128 := by
    cases c with
    | close m => exact Nat.le_trans (Nat.le_of_eq List.length_append) (Nat.add_le_add_right hv.1 1)
    | _ => exact Nat.zero_le _
  have hT : (tokBytes tok).length ≤ 4 := by
    cases tok with
    | none => exact Nat.zero_le _
    | some tk => exact Nat.le_refl 4
  simp only [ctrlBody, List.length_cons, List.length_append]
  omega

theorem writeControl_eq (c : Control) (tok : Option Token) (ack cap : Nat) (ha : ack < 1024) (hv : ValidControl c)
    (hcap : Tw.Gen.Packet6.MAX_PACKETSIZE ≤ cap) :
    writeControl c tok ack cap =
      .ok (ofNat3 (Tw.Gen.Packet6.PACKETFLAG_CONTROL * 16 + ack / 256, ack % 256, 0) ++ ctrlBody c tok ++ tokBytes tok) := by
  have hlen := ctrlBody_length_le c tok hv
  have hmax : 3 + (ctrlBody c tok).length + (tokBytes tok).length ≤ Tw.Gen.Packet6.MAX_PACKETSIZE :=
    Nat.le_trans (Nat.add_assoc 3 _ _ ▸ Nat.add_le_add_left hlen 3) (by decide)
  replace hcap := Nat.le_trans hmax hcap
  unfold writeControl
  rw [ph_pack_eq ⟨_, _, _⟩ (by show Tw.Gen.Packet6.PACKETFLAG_CONTROL < 16; decide) ha]
  dsimp only
  simp only [ctrlBody, List.length_cons, List.length_append] at hcap hmax
  simp only [ctrlBody]
  rw [bufWrite_of_le (by simp only [ofNat3, List.length_cons, List.length_nil]; omega)]
  simp only [List.nil_append]
  rw [bufWrite_of_le (by simp only [ofNat3, List.length_cons, List.length_nil]; omega)]
  dsimp only
  -- the token magic, the reason, the token: each is written if it is there
  have hmagic : ∀ acc : List UInt8, acc.length = 4 →
      (if (c = .connect ∨ c = .connectAccept) ∧ tok.isSome = true
        then bufWrite cap acc Tw.Gen.Packet6.CTRLMSG_TOKEN_MAGIC else some acc) =
      some (acc ++ if (c = .connect ∨ c = .connectAccept) ∧ tok.isSome = true
        then Tw.Gen.Packet6.CTRLMSG_TOKEN_MAGIC else []) := by
    intro acc hacc
    split
    · rename_i hc
      rw [if_pos hc] at hcap
      rw [bufWrite_of_le (by omega)]
    · rw [List.append_nil]
  rw [hmagic _ rfl]
  simp only
  generalize hM : (if (c = .connect ∨ c = .connectAccept) ∧ tok.isSome = true
    then Tw.Gen.Packet6.CTRLMSG_TOKEN_MAGIC else []) = M at hcap hmax ⊢
  cases c with
  | close m =>
    simp only [List.length_append, List.length_cons, List.length_nil] at hcap hmax
    simp only [any_zero_false m hv.2, Bool.false_eq_true, if_false]
    rw [bufWrite_of_le (by simp only [ofNat3, List.length_append, List.length_cons, List.length_nil]; omega)]
    simp only
    rw [bufWrite_of_le (by simp only [ofNat3, List.length_append, List.length_cons, List.length_nil]; omega)]
    cases tok with
    | none =>
      simp only [tokBytes, List.length_nil] at hcap hmax
      simp only [tokBytes, List.append_nil, List.append_assoc, List.cons_append, List.nil_append]
      rw [if_pos (by simp only [ofNat3, List.length_append, List.length_cons, List.length_nil]; omega)]
    | some tk =>
      simp only [tokBytes, Token.toList, List.length_cons, List.length_nil] at hcap hmax
      simp only [Token.toList]
      rw [bufWrite_of_le (by simp only [ofNat3, List.length_append, List.length_cons, List.length_nil]; omega)]
      simp only [tokBytes, Token.toList, List.append_assoc, List.cons_append, List.nil_append]
      rw [if_pos (by simp only [ofNat3, List.length_append, List.length_cons, List.length_nil]; omega)]
  | _ =>
    simp only [List.length_nil, Nat.add_zero] at hcap hmax
    cases tok with
    | none =>
      simp only [tokBytes, List.length_nil] at hcap hmax
      simp only [tokBytes, List.append_nil, List.append_assoc, List.cons_append, List.nil_append]
      rw [if_pos (by simp only [ofNat3, List.length_append, List.length_cons, List.length_nil]; omega)]
    | some tk =>
      simp only [tokBytes, Token.toList, List.length_cons, List.length_nil] at hcap hmax
      simp only [Token.toList]
      rw [bufWrite_of_le (by simp only [ofNat3, List.length_append, List.length_cons, List.length_nil]; omega)]
      simp only [tokBytes, Token.toList, List.append_assoc, List.cons_append, List.nil_append, List.append_nil]
      rw [if_pos (by simp only [ofNat3, List.length_append, List.length_cons, List.length_nil]; omega)]

theorem control_ctrlBody (ack : Nat) (c : Control) (tok : Option Token) (src : Src) (off : Nat)
    (hv : ValidControl c) :
    controlWarns ⟨Tw.Gen.Packet6.PACKETFLAG_CONTROL, ack, 0⟩ tok (ctrlBody c tok) = [] ∧
      controlValue (ctrlBody c tok) src off = .ok (c, ctrlLoc c src off) := by
  unfold controlWarns controlValue ctrlBody
  cases c with
  | close m =>
    obtain ⟨hl, hz⟩ := hv
    have hn : nulPos (m ++ [0]) = m.length := nulPos_append_zero m hz []
    have hmin : min m.length Tw.Gen.Packet6.CTRLMSG_CLOSE_REASON_LENGTH = m.length := Nat.min_eq_left hl
    cases tok <;>
      simp [Control.magic, ctrlLoc, hn, hmin, Tw.Gen.Packet6.CTRLMSG_CLOSE, Tw.Gen.Packet6.CTRLMSG_CONNECT,
        Tw.Gen.Packet6.CTRLMSG_CONNECTACCEPT, Tw.Gen.Packet6.CTRLMSG_KEEPALIVE, Tw.Gen.Packet6.CTRLMSG_ACCEPT,
        Tw.Gen.Packet6.PACKETFLAG_CONTROL, Tw.Gen.Packet6.PACKETFLAG_COMPRESSION,
        Tw.Gen.Packet6.PACKETFLAG_REQUEST_RESEND]
  | _ =>
    cases tok <;>
      simp [Control.magic, ctrlLoc, Tw.Gen.Packet6.CTRLMSG_CLOSE, Tw.Gen.Packet6.CTRLMSG_CONNECT,
        Tw.Gen.Packet6.CTRLMSG_CONNECTACCEPT, Tw.Gen.Packet6.CTRLMSG_KEEPALIVE, Tw.Gen.Packet6.CTRLMSG_ACCEPT,
        Tw.Gen.Packet6.PACKETFLAG_CONTROL, Tw.Gen.Packet6.PACKETFLAG_COMPRESSION,
        Tw.Gen.Packet6.PACKETFLAG_REQUEST_RESEND, Tw.Gen.Packet6.CTRLMSG_TOKEN_MAGIC]

theorem read_written (t : Huffman.Table) (h : PacketHeader) (hf : h.flags < 16) (ha : h.ack < 1024)
    (hn : h.numChunks < 256) (hc : h.flags &&& Tw.Gen.Packet6.PACKETFLAG_CONNLESS = 0)
    (hz : h.flags &&& Tw.Gen.Packet6.PACKETFLAG_COMPRESSION = 0)
    (body : List UInt8) (hint : Option Bool) (scap : Nat) (hs : Tw.Gen.Packet6.MAX_PACKETSIZE ≤ scap)
    (hlen : body.length + 3 ≤ Tw.Gen.Packet6.MAX_PACKETSIZE) :
    read t (ofNat3 (h.flags * 16 + h.ack / 256, h.ack % 256, h.numChunks) ++ body) hint (some scap) =
      .lift (readBody h [] body .input [] hint) := by
  rw [read_eq t _ hint _ (cap_of_some hs) (by rw [ofNat3_append_length]; exact hlen)
      (by rw [ofNat3_append_length]; exact Nat.le_add_left _ _),
    headerOf_written h hf ha hn body, if_neg (fun hx => hx hc), if_neg (fun hx => hx hz)]
  rfl

def chunksPktFlags (rr comp : Bool) : Nat :=
  (if rr then Tw.Gen.Packet6.PACKETFLAG_REQUEST_RESEND else 0) |||
    (if comp then Tw.Gen.Packet6.PACKETFLAG_COMPRESSION else 0)

theorem chunksPktFlags_lt (rr comp : Bool) : chunksPktFlags rr comp < 16 := by
  cases rr <;> cases comp <;> decide

theorem chunksPktFlags_connless (rr comp : Bool) :
    chunksPktFlags rr comp &&& Tw.Gen.Packet6.PACKETFLAG_CONNLESS = 0 := by
  cases rr <;> cases comp <;> decide

theorem chunksPktFlags_control (rr comp : Bool) :
    chunksPktFlags rr comp &&& Tw.Gen.Packet6.PACKETFLAG_CONTROL = 0 := by
  cases rr <;> cases comp <;> decide

theorem chunksPktFlags_compression (rr comp : Bool) :
    chunksPktFlags rr comp &&& Tw.Gen.Packet6.PACKETFLAG_COMPRESSION ≠ 0 ↔ comp = true := by
  cases rr <;> cases comp <;> decide

theorem rrOf_chunksPktFlags (rr comp : Bool) (ack nc : Nat) : rrOf ⟨chunksPktFlags rr comp, ack, nc⟩ = rr := by
  show decide (chunksPktFlags rr comp &&& Tw.Gen.Packet6.PACKETFLAG_REQUEST_RESEND ≠ 0) = rr
  cases rr <;> cases comp <;> decide

theorem tokenExtend_eq (payload : List UInt8) (tok : Option Token)
    (hl : payload.length + (tokBytes tok).length ≤ 2048) : tokenExtend payload tok = payload ++ tokBytes tok := by
  have : TOKEN_BUFFER_CAP = 2048 := by decide
  cases tok with
  | none => simp [tokenExtend, tokBytes]
  | some tk =>
    simp only [tokenExtend, tokBytes] at hl ⊢
    apply List.take_of_length_le
    simp only [List.length_append] at hl ⊢
    omega

theorem chooseCompression_eq (t : Huffman.Table) (p : List UInt8) (hp : p.length ≤ 2048) :
    chooseCompression t p = if useComp t p then some (Huffman.compress t false p) else none := by
  have hc : COMPRESSION_BUFFER_CAP = 2048 := by decide
  unfold chooseCompression Huffman.compressInto useComp
  simp only [hc]
  by_cases h1 : (Huffman.compress t false p).length ≤ 2048
  · simp only [h1, if_true, decide_eq_true_eq]
  · simp only [h1, if_false]
    have : ¬ (Huffman.compress t false p).length < p.length := by omega
    simp [this]

theorem writeChunksCore_eq (t : Huffman.Table) (ack : Nat) (rr : Bool) (nc : Nat) (p : List UInt8) (cap : Nat)
    (ha : ack < 1024) (hpl : p.length ≤ 1397) (hcap : Tw.Gen.Packet6.MAX_PACKETSIZE ≤ cap) :
    writeChunksCore t ack rr nc p cap =
      .ok (ofNat3 (chunksPktFlags rr (useComp t p) * 16 + ack / 256, ack % 256, nc) ++
            (if useComp t p then Huffman.compress t false p else p)) := by
  have hM : Tw.Gen.Packet6.MAX_PACKETSIZE = 1400 := rfl
  have hsent := sent_length_le t p
  obtain ⟨e1, e2⟩ := ite_some_none (useComp t p) (Huffman.compress t false p) p
  unfold writeChunksCore
  simp only [chooseCompression_eq t p (by omega), e1, e2]
  rw [show ((if rr = true then Tw.Gen.Packet6.PACKETFLAG_REQUEST_RESEND else 0) |||
      if useComp t p = true then Tw.Gen.Packet6.PACKETFLAG_COMPRESSION else 0) = chunksPktFlags rr (useComp t p) from rfl,
    ph_pack_eq ⟨chunksPktFlags rr (useComp t p), ack, nc⟩ (chunksPktFlags_lt rr _) ha]
  dsimp only
  rw [bufWrite_nil (by rw [ofNat3_length]; omega)]
  dsimp only
  rw [bufWrite_of_le (by rw [ofNat3_length]; omega)]

theorem writeChunks_eq (t : Huffman.Table) (ack : Nat) (tok : Option Token) (rr : Bool) (nc : Nat)
    (payload : List UInt8) (cap : Nat) (ha : ack < 1024)
    (hl : payload.length + (tokBytes tok).length ≤ Tw.Gen.Packet6.READ_PAYLOAD_LIMIT)
    (hcap : Tw.Gen.Packet6.MAX_PACKETSIZE ≤ cap) :
    writeChunks t ack tok rr nc payload cap =
      .ok (ofNat3 (chunksPktFlags rr (useComp t (payload ++ tokBytes tok)) * 16 + ack / 256, ack % 256, nc) ++
            (if useComp t (payload ++ tokBytes tok) then Huffman.compress t false (payload ++ tokBytes tok)
             else payload ++ tokBytes tok)) := by
  have hL : Tw.Gen.Packet6.READ_PAYLOAD_LIMIT = 1397 := by decide
  have hT : Tw.Gen.Packet6.TOKEN_SIZE = 4 := by decide
  have hB : TOKEN_BUFFER_CAP = 2048 := by decide
  unfold writeChunks
  rw [tokenExtend_eq payload tok (by omega),
    writeChunksCore_eq t ack rr nc _ cap ha (by simp only [List.length_append]; omega) hcap]
  simp only
  rw [if_neg (by omega)]

/-- Whichever form was sent, the reader is left with the payload `p`, in the input or (after decompression) in the
scratch buffer. -/
theorem read_sent (t : Huffman.Table) (hrt : HuffmanRoundTrip t) (h : PacketHeader)
    (hf : h.flags < 16) (ha : h.ack < 1024) (hn : h.numChunks < 256)
    (hc : h.flags &&& Tw.Gen.Packet6.PACKETFLAG_CONNLESS = 0) (p : List UInt8) (comp : Bool)
    (hz : h.flags &&& Tw.Gen.Packet6.PACKETFLAG_COMPRESSION ≠ 0 ↔ comp = true)
    (hsent : (if comp then Huffman.compress t false p else p).length ≤ p.length)
    (hint : Option Bool) (scap : Nat) (hs : Tw.Gen.Packet6.MAX_PACKETSIZE ≤ scap)
    (hp : p.length + 3 ≤ Tw.Gen.Packet6.MAX_PACKETSIZE) :
    ∃ src scratch, read t (ofNat3 (h.flags * 16 + h.ack / 256, h.ack % 256, h.numChunks) ++
        if comp then Huffman.compress t false p else p) hint (some scap) =
      .lift (readBody h [] p src scratch hint) := by
  cases comp with
  | false =>
    exact ⟨.input, [], read_written t h hf ha hn hc (Decidable.not_not.mp (mt hz.mp Bool.noConfusion)) p hint scap hs hp⟩
  | true =>
    have hlen : (Huffman.compress t false p).length ≤ p.length := hsent
    refine ⟨.scratch, ?_⟩
    apply Exists.intro
    show read t (ofNat3 (h.flags * 16 + h.ack / 256, h.ack % 256, h.numChunks) ++ Huffman.compress t false p) hint
      (some scap) = _
    rw [read_eq t _ hint _ (cap_of_some hs)
        (by rw [ofNat3_append_length]; exact Nat.le_trans (Nat.add_le_add_right hlen 3) hp)
        (by rw [ofNat3_append_length]; exact Nat.le_add_left _ _),
      headerOf_written h hf ha hn _, if_neg (fun hx => hx hc), if_pos (hz.mpr rfl)]
    dsimp only
    rw [show List.drop 3 (ofNat3 (h.flags * 16 + h.ack / 256, h.ack % 256, h.numChunks) ++ Huffman.compress t false p) =
      Huffman.compress t false p from rfl, hrt p (scap - 3) (Nat.le_sub_of_add_le (Nat.le_trans hp hs))]

/-- C05 for 0.6; `Props/C05.v6_write_read_roundtrip` restates it and says what it claims of libtw2. -/
theorem write_read_roundtrip (t : Huffman.Table) (hrt : HuffmanRoundTrip t) (p : Packet) (hv : Valid p)
    (cap scap : Nat) (hcap : Tw.Gen.Packet6.MAX_PACKETSIZE ≤ cap) (hs : Tw.Gen.Packet6.MAX_PACKETSIZE ≤ scap) :
    ∃ bs, write t p cap = .ok bs ∧ bs.length ≤ Tw.Gen.Packet6.MAX_PACKETSIZE ∧
      ∃ r, read t bs (some p.hasToken) (some scap) = .ok r ∧ r.pkt = p ∧ r.warns = expectedWarnings p := by
  have hM : Tw.Gen.Packet6.MAX_PACKETSIZE = 1400 := rfl
  have hC : Tw.Gen.Packet6.CONNLESS_WRITE_LIMIT = 1394 := rfl
  have hL : Tw.Gen.Packet6.READ_PAYLOAD_LIMIT = 1397 := rfl
  match p, hv with
  | .connless payload, hv =>
    simp only [Valid] at hv
    refine ⟨_, writeConnless_eq payload cap hv (by omega), ?_, _,
      read_connless_eq t payload _ scap hs hv, rfl, rfl⟩
    simp only [List.length_append, List.length_replicate]; omega
  | .connected ack tok (.chunks rr nc payload), ⟨ha, hn, hl⟩ =>
    replace hl : payload.length + (tokBytes tok).length ≤ Tw.Gen.Packet6.READ_PAYLOAD_LIMIT := tokBytes_length tok ▸ hl
    simp only [Packet.hasToken]
    have hsent := sent_length_le t (payload ++ tokBytes tok)
    have hrr := rrOf_chunksPktFlags rr (useComp t (payload ++ tokBytes tok)) ack nc
    refine ⟨_, writeChunks_eq t ack tok rr nc payload cap ha hl hcap, ?_, ?_⟩
    · rw [List.length_append, ofNat3_length]; rw [List.length_append] at hsent; omega
    · -- compressed or not, the reader is left with payload ++ token
      obtain ⟨src, scratch, hread⟩ := read_sent t hrt ⟨chunksPktFlags rr (useComp t (payload ++ tokBytes tok)), ack, nc⟩
        (chunksPktFlags_lt rr _) ha hn (chunksPktFlags_connless rr _) _ _ (chunksPktFlags_compression rr _) hsent
        (some tok.isSome) scap hs (by rw [List.length_append]; omega)
      rw [hread, readBody_some _ (List.length_append ▸ hl), readBodyWith_strip,
        if_neg (by rw [chunksPktFlags_control]; exact fun h => h rfl)]
      refine ⟨_, rfl, by simp only [hrr], ?_⟩
      cases rr <;> cases nc <;> simp [expectedWarnings, hrr]
  | .connected ack tok (.control c), hv =>
    obtain ⟨ha, hvc⟩ := (valid_control_iff ack tok c).mp hv
    have hlen := ctrlBody_length_le c tok hvc
    simp only [Packet.hasToken]
    refine ⟨_, writeControl_eq c tok ack cap ha hvc hcap, ?_, ?_⟩
    · simp only [List.length_append, ofNat3_length]; omega
    · have hrc := control_ctrlBody ack c tok .input Tw.Gen.Packet6.HEADER_SIZE hvc
      rw [List.append_assoc, read_written t ⟨Tw.Gen.Packet6.PACKETFLAG_CONTROL, ack, 0⟩ (by simp only; decide) ha
        (by simp only; decide) (by simp only; decide) (by simp only; decide) _ _ scap hs
        (by simp only [List.length_append]; omega), readBody_some _ (by rw [List.length_append]; omega), readBodyWith_strip,
        if_pos (by simp only; decide), hrc.1, hrc.2]
      exact ⟨_, rfl, rfl, by cases c <;> rfl⟩

theorem writeControl_ne_truncated (c : Control) (tok : Option Token) (ack cap : Nat) (bs : List UInt8) :
    writeControl c tok ack cap ≠ .okTruncated bs := by
  intro h
  unfold writeControl at h
  repeat' (first | (cases h; done) | split at h | dsimp only at h)

/-- Restated as `Props/C05.v6_write_truncates_iff`, which says what it claims of libtw2. -/
theorem write_okTruncated_iff (t : Huffman.Table) (p : Packet) (cap : Nat) (bs : List UInt8) :
    write t p cap = .okTruncated bs ↔
      ∃ ack tk rr nc payload, p = .connected ack (some tk) (.chunks rr nc payload) ∧
        payload.length + Tw.Gen.Packet6.TOKEN_SIZE > TOKEN_BUFFER_CAP ∧
        writeChunksCore t ack rr nc (tokenExtend payload (some tk)) cap = .ok bs := by
  constructor
  · intro h
    match p, h with
    | .connless payload, h =>
      simp only [write, writeConnless] at h
      repeat' (first | (cases h; done) | split at h)
    | .connected ack tok (.control c), h =>
      exact absurd h (writeControl_ne_truncated c tok ack cap bs)
    | .connected ack tok (.chunks rr nc payload), h =>
      simp only [write, writeChunks] at h
      split at h
      · rename_i bs' hcore
        split at h
        · rename_i hcond
          simp only [WriteResult.okTruncated.injEq] at h
          subst h
          cases tok with
          | none => simp at hcond
          | some tk => exact ⟨ack, tk, rr, nc, payload, rfl, hcond.2, hcore⟩
        · simp at h
      · rename_i r hne
        -- the core never reports `okTruncated`
        exfalso
        have hcore : ∀ r, writeChunksCore t ack rr nc (tokenExtend payload tok) cap = r →
            ∀ b, r ≠ .okTruncated b := by
          intro r hr b hb
          subst hr
          unfold writeChunksCore at hb
          simp only [bufWrite] at hb
          repeat' (first | (simp at hb; done) | (split at hb))
        exact hcore _ h bs rfl
  · rintro ⟨ack, tk, rr, nc, payload, rfl, hlen, hcore⟩
    simp only [write, writeChunks, hcore, Option.isSome_some, true_and, hlen, if_true]

/-- Truncation needs a payload that overflows the 2048-byte token buffer; `Valid` stops at `READ_PAYLOAD_LIMIT`. -/
theorem valid_not_truncated (t : Huffman.Table) (p : Packet) (hv : Valid p) (cap : Nat) (bs : List UInt8) :
    write t p cap ≠ .okTruncated bs := by
  intro h
  obtain ⟨ack, tk, rr, nc, payload, rfl, hlen, _⟩ := (write_okTruncated_iff t p cap bs).mp h
  have hl : payload.length + Tw.Gen.Packet6.TOKEN_SIZE ≤ Tw.Gen.Packet6.READ_PAYLOAD_LIMIT := hv.2.2
  exact Nat.not_lt.mpr (Nat.le_trans hl (by decide)) hlen

end Tw.Packet6
