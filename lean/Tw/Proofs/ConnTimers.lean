import Tw.Proofs.ConnStep

/-!
# Timer bounds of the online core

A timer is only ever armed as `Timeout.after now _` by an operation executed at `now`, so in every reachable state the
retransmission timers are due within `resendUs` and the send / keep-alive timer within `sendUs` of the clock.  The progress
rounds tick at `now + resendUs` and `now + resendUs + sendUs` and learn from this that the timers have fired.
-/
namespace Tw.Conn
open Tw.Time

def TimerDue (now dur : Nat) (t : Timeout) : Prop := ∃ x, t = .active x ∧ x ≤ now + dur

def RqDue (now : Nat) (o : Online) : Prop := ∀ r ∈ o.resendQueue, TimerDue now resendUs r.nextSend

def SendDue (now : Nat) (s : Timeout) : Prop := TimerDue now sendUs s

theorem TimerDue.mono {now now' dur : Nat} {t : Timeout} (h : TimerDue now dur t) (hn : now ≤ now') :
    TimerDue now' dur t := by
  obtain ⟨x, hx, hle⟩ := h
  exact ⟨x, hx, by omega⟩

theorem timerDue_after (now dur : Nat) : TimerDue now dur (Timeout.after now dur) := ⟨_, rfl, Nat.le_refl _⟩

theorem TimerDue.triggered {now dur now' : Nat} {t : Timeout} (h : TimerDue now dur t) (hn : now + dur ≤ now') :
    t.triggered now' = true := by
  obtain ⟨x, hx, hle⟩ := h
  subst hx
  simp [Timeout.triggered]; omega

theorem RqDue.mono {now now' : Nat} {o : Online} (h : RqDue now o) (hn : now ≤ now') : RqDue now' o :=
  fun r hr => (h r hr).mono hn

theorem RqDue.new (now : Nat) : RqDue now .new := by intro r hr; simp [Online.new] at hr

theorem RqDue.of_rq {now : Nat} {o o' : Online} (h : RqDue now o) (hq : ∀ r ∈ o'.resendQueue, r ∈ o.resendQueue) :
    RqDue now o' := fun r hr => h r (hq r hr)

theorem RqDue.flush {now : Nat} {o : Online} (h : RqDue now o) : RqDue now o.flush.1 :=
  h.of_rq (by rw [Online.flush_resendQueue]; exact fun r hr => hr)

theorem RqDue.ackChunks {now : Nat} {o : Online} (h : RqDue now o) (a : Nat) : RqDue now (o.ackChunks a) := by
  obtain ⟨i, hq⟩ := o.ackChunks_resendQueue a
  exact h.of_rq (by rw [hq]; exact fun r hr => List.mem_of_mem_take hr)

theorem RqDue.queued {now : Nat} {o : Online} (h : RqDue now o) (d : Bytes) (v : Bool) : RqDue now (o.queued now d v) := by
  cases v
  · exact h
  · intro r hr
    rcases List.mem_cons.mp hr with rfl | hr
    · exact timerDue_after _ _
    · exact h r hr

theorem RqDue.send {cfg : Cfg} {now : Nat} {o o' : Online} {d : Bytes} {v : Bool} {r : SendRes} {fl : List Flushed}
    (h : RqDue now o) (he : o.send cfg now d v = .ok (o', r, fl)) : RqDue now o' := by
  rcases Online.send_cases he with ⟨_, _, rfl, _⟩ | ⟨_, _, ⟨_, rfl, _⟩ | ⟨rfl, _⟩⟩
  · exact h
  · exact h.queued d v
  · exact h.flush.queued d v

theorem Online.Resent.restarted {now : Nat} {o o' : Online} {send send' : Timeout} {fl : List Flushed}
    (h : Online.Resent now o o' send send' fl) : ∀ r ∈ o'.resendQueue, r.nextSend = Timeout.after now resendUs := by
  intro r hr
  rw [h.queue] at hr
  obtain ⟨r0, _, rfl⟩ := List.mem_map.mp hr
  rfl

theorem RqDue.resend {cfg : Cfg} {now : Nat} {o o' : Online} {send send' : Timeout} {fl : List Flushed}
    (h : RqDue now o) (he : o.resend cfg now send = .ok (o', send', fl)) : RqDue now o' := by
  have hr := Online.resend_eq he
  by_cases hq : o.resendQueue = []
  · exact (hr.idle hq).1 ▸ h
  · intro r hm
    rw [hr.restarted r hm]
    exact timerDue_after _ _

theorem SendDue.resend {cfg : Cfg} {now : Nat} {o o' : Online} {send send' : Timeout} {fl : List Flushed}
    (h : SendDue now send) (he : o.resend cfg now send = .ok (o', send', fl)) : SendDue now send' := by
  rcases (Online.resend_eq he).timer with h' | h'
  · rw [h']; exact h
  · rw [h']; exact timerDue_after _ _

theorem Online.receive_timers {cfg : Cfg} {now : Nat} {o o2 : Online} {send send2 : Timeout} {rr : Bool} {cs : List Chunk}
    {fl : List Flushed} {evs : List Event} (he : o.receive cfg now send rr cs = .ok (o2, send2, fl, evs))
    (hq : RqDue now o) (hs : SendDue now send) : RqDue now o2 ∧ SendDue now send2 := by
  obtain ⟨o1, h1, rfl, _⟩ := Online.receive_eq he
  rcases h1 with ⟨_, rfl, rfl, _⟩ | ⟨_, hrs⟩
  · exact ⟨hq.of_rq fun _ h => h, hs⟩
  · exact ⟨(hq.resend hrs).of_rq fun _ h => h, hs.resend hrs⟩

theorem Online.Did.timed {cfg : Cfg} {now : Nat} {fed : Option (Nat × List Chunk)} {o o' : Online} {s s' : Timeout}
    {fl : List Flushed} {evs : List Event} {sub : List (Bytes × Bool)}
    (h : Online.Did cfg now fed o s o' s' fl evs sub) (hq : RqDue now o) (hs : SendDue now s) :
    RqDue now o' ∧ SendDue now s' := by
  cases h with
  | flush => exact ⟨hq.flush, timerDue_after _ _⟩
  | send h => exact ⟨hq.send h, hs⟩
  | resend h => exact ⟨hq.resend h, hs.resend h⟩
  | receive _ h => exact Online.receive_timers h hq hs

def GConn.Timed (now : Nat) (x : GConn) : Prop :=
  (x.live = true → SendDue now x.send) ∧ ∀ o, x.ph.core = some o → RqDue now o

theorem GConn.Timed.mono {now now' : Nat} {x : GConn} (h : x.Timed now) (hn : now ≤ now') : x.Timed now' :=
  ⟨fun hl => (h.1 hl).mono hn, fun o ho => (h.2 o ho).mono hn⟩

theorem GStep.timed {cfg : Cfg} {now : Nat} {fed : Option (Nat × List Chunk)} {acc : Bool} {x x' : GConn}
    {ps : List GPkt} {evs : List Event} {sub : List (Bytes × Bool)} (h : GStep cfg now fed acc x x' ps evs sub)
    (hx : x.Timed now) : x'.Timed now := by
  induction h with
  | quiet hp hs _ _ =>
    refine ⟨fun hl => ?_, fun o ho => ?_⟩
    · rcases hs hl with h | ⟨h1, h2⟩
      · rw [h]; exact timerDue_after _ _
      · rw [h2]; exact hx.1 h1
    · rcases hp with hp | hp <;> rw [hp] at ho
      · exact hx.2 o ho
      · cases ho
  | opened _ _ hl _ => exact ⟨fun _ => hx.1 hl, fun o h => by cases h; exact RqDue.new _⟩
  | online ho hl hd =>
    obtain ⟨a, b⟩ := hd.timed (hx.2 _ ho) (hx.1 hl)
    exact ⟨fun _ => b, fun o h => by cases h; exact a⟩
  | acked _ ho hfa _ ih =>
    refine ih ⟨hx.1, fun o h => ?_⟩
    cases h
    rw [(Online.feedAck_eq hfa).2]
    exact (hx.2 _ (by rw [ho]; rfl)).ackChunks _

end Tw.Conn
