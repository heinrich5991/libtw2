import Tw.Model.Packet6
import Tw.Model.Packet7
import Tw.Proofs.HuffmanDec

/-! The decoder-parametrised reader functions agree with the model's (`rfl`), and evaluating them with the
fast Huffman decoder — what the drivers `Tw/Drv/Packet6.lean`, `Packet7.lean` do — gives the model's result. -/

theorem Tw.Huffman.decompressFast_eq_decompress (t : Tw.Huffman.Table) : Tw.Huffman.decompressFast t = Tw.Huffman.decompress t :=
  funext fun input => funext fun cap => Tw.Huffman.decompressFast_eq t input cap

namespace Tw.Packet6
theorem decompressWith_decompress (t : Huffman.Table) (packet : List UInt8) (cap : Nat) :
    decompressWith (Huffman.decompress t) packet cap = decompress t packet cap := rfl
theorem decompressIfNeededWith_decompress (t : Huffman.Table) (packet : List UInt8) (cap : Nat) :
    decompressIfNeededWith (Huffman.decompress t) packet cap = decompressIfNeeded t packet cap := rfl
theorem readWith_decompress (t : Huffman.Table) (bytes : List UInt8) (hint : Option Bool) (buffer : Option Nat) :
    readWith (Huffman.decompress t) bytes hint buffer = read t bytes hint buffer := rfl
theorem readWith_fast (t : Huffman.Table) (bytes : List UInt8) (hint : Option Bool) (buffer : Option Nat) :
    readWith (Huffman.decompressFast t) bytes hint buffer = read t bytes hint buffer := by
  rw [Huffman.decompressFast_eq_decompress]; rfl
theorem decompressIfNeededWith_fast (t : Huffman.Table) (packet : List UInt8) (cap : Nat) :
    decompressIfNeededWith (Huffman.decompressFast t) packet cap = decompressIfNeeded t packet cap := by
  rw [Huffman.decompressFast_eq_decompress]; rfl
end Tw.Packet6
namespace Tw.Packet7
theorem readWith_decompress (t : Huffman.Table) (bytes : List UInt8) (buffer : Option Nat) :
    readWith (Huffman.decompress t) bytes buffer = read t bytes buffer := rfl
theorem readWith_fast (t : Huffman.Table) (bytes : List UInt8) (buffer : Option Nat) :
    readWith (Huffman.decompressFast t) bytes buffer = read t bytes buffer := by
  rw [Huffman.decompressFast_eq_decompress]; rfl
theorem decompressIfNeededWith_fast (t : Huffman.Table) (packet : List UInt8) (cap : Nat) :
    decompressIfNeededWith (Huffman.decompressFast t) packet cap = decompressIfNeeded t packet cap := by
  rw [Huffman.decompressFast_eq_decompress]; rfl
end Tw.Packet7
