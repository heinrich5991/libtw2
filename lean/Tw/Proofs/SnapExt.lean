import Tw.Proofs.SnapTotal

/-! C10: snapshots with UUID-typed items.  The registry (`extended_types`) of a snapshot the
builder produced is rebuilt exactly by `build_from_raw`, so every copy obtained through a wire
form or a delta is *equal* to the original. -/
namespace Tw.Snap

theorem dataToUuid_uuidToData {u : Int} (h : IsUuid u) : dataToUuid (uuidToData u) = some (u, false) := by
  unfold IsUuid at h
  simp only [uuidToData, dataToUuid, wrap_emod, List.isEmpty_nil, Bool.not_true]
  congr 2
  omega

theorem uuidToData_I32 (u : Int) : ∀ x ∈ uuidToData u, I32 x := by
  intro x hx
  simp [uuidToData] at hx
  rcases hx with rfl | rfl | rfl | rfl <;> exact wrap_I32 _

theorem uuidToData_inj {u v : Int} (hu : IsUuid u) (hv : IsUuid v) (h : uuidToData u = uuidToData v) : u = v := by
  have h1 := dataToUuid_uuidToData hu
  rw [h, dataToUuid_uuidToData hv] at h1
  injection h1 with h1
  injection h1 with h1
  exact h1.symm

theorem uuidToData_length (u : Int) : (uuidToData u).length = 4 := rfl

theorem dataToUuid_length {d : List Int} {u : Int} {ex : Bool} (h : dataToUuid d = some (u, ex)) : 4 ≤ d.length := by
  match d, h with
  | a :: b :: c :: e :: rest, _ => simp
  | [], h => simp [dataToUuid] at h
  | [_], h => simp [dataToUuid] at h
  | [_, _], h => simp [dataToUuid] at h
  | [_, _, _], h => simp [dataToUuid] at h

-- from here on `uuidToData` and `keyOf` are used through their lemmas only (when the unifier
-- tries to unfold them on open terms it runs out of stack on the 32/96-bit literals)
attribute [local irreducible] uuidToData keyOf

/-- The raw part is well-formed and the registry items (type `TYPE_ID_EX`) are in one-to-one
correspondence with `extended_types`; every extended type that occurs has its registry item. -/
structure ExtOk (s : Snap) : Prop where
  raw_wf : s.raw.WF
  ext_sorted : Sorted s.ext
  ext_reg : ∀ u t, mfind u s.ext = some t →
    IsUuid u ∧ t < 65536 ∧ mfind (keyOf typeIdEx t) s.raw.items = some (uuidToData u)
  reg_ext : ∀ p ∈ s.raw.items, keyType p.1 = typeIdEx →
    ∃ u, mfind u s.ext = some (keyId p.1) ∧ p.2 = uuidToData u
  types_reg : ∀ p ∈ s.raw.items, offsetExt ≤ keyType p.1 →
    (mfind (keyOf typeIdEx (keyType p.1)) s.raw.items).isSome

/-- a registry item: raw type `TYPE_ID_EX`; its id is the raw number of a UUID type, its data the UUID -/
def isReg (p : Int × List Int) : Bool := decide (keyType p.1 = typeIdEx)

/-- What `buildExt all m ext0 _ = .ok (ext', _)` says of the registry `ext'` (`buildExt_eq`). -/
structure BuildExt (all m : Items) (ext0 ext' : List (Int × Nat)) : Prop where
  sorted : Sorted ext'
  count : ext'.length = ext0.length + (m.filter isReg).length
  keeps : ∀ u t, mfind u ext0 = some t → mfind u ext' = some t
  ext_reg : ∀ u t, mfind u ext' = some t → mfind u ext0 = some t ∨
    ∃ k d ex, (k, d) ∈ m ∧ keyType k = typeIdEx ∧ keyId k = t ∧ dataToUuid d = some (u, ex)
  reg_ext : ∀ k d, (k, d) ∈ m → keyType k = typeIdEx →
    ∃ u ex, dataToUuid d = some (u, ex) ∧ mfind u ext' = some (keyId k)
  types_reg : ∀ p ∈ m, offsetExt ≤ keyType p.1 → (mfind (keyOf typeIdEx (keyType p.1)) all).isSome

theorem buildExt_eq {all : Items} : ∀ {m : Items} {ext0 ext' : List (Int × Nat)} {ws ws' : List Warning},
    Sorted ext0 → buildExt all m ext0 ws = .ok (ext', ws') → BuildExt all m ext0 ext' := by
  intro m
  induction m with
  | nil =>
    intro ext0 ext' ws ws' hs h
    simp [buildExt] at h
    rw [← h.1]
    exact ⟨hs, by simp, fun _ _ h => h, fun _ _ h => Or.inl h, by simp, by simp⟩
  | cons q r ih =>
    obtain ⟨k, d⟩ := q
    intro ext0 ext' ws ws' hs
    refine buildExt_cons_elim (motive := fun res => res = .ok (ext', ws') → _) all k d r ext0 ws
      (fun _ => nofun) ?_ ?_
    · intro ht u ex hd hf h
      have r := ih (sorted_minsert hs) h
      have hreg : isReg (k, d) = true := by simp [isReg, ht]
      refine ⟨r.sorted, ?_, ?_, ?_, ?_, ?_⟩
      · rw [r.count, length_minsert_of_none hf, List.filter_cons, hreg]; simp; omega
      · exact fun u' t' hu' => r.keeps u' t' (mfind_minsert_of_none hf hu')
      · intro u' t' hu'
        rcases r.ext_reg u' t' hu' with h' | ⟨k', d', ex', hm, hk', hid', hdu'⟩
        · rcases mfind_minsert_eq_some h' with ⟨rfl, rfl⟩ | ⟨_, h'⟩
          · exact .inr ⟨k, d, ex, by simp, ht, rfl, hd⟩
          · exact .inl h'
        · right
          exact ⟨k', d', ex', by simp [hm], hk', hid', hdu'⟩
      · intro k' d' hm hk'
        simp only [List.mem_cons, Prod.mk.injEq] at hm
        rcases hm with ⟨e1, e2⟩ | hm
        · subst e1 e2
          exact ⟨u, ex, hd, r.keeps u (keyId k') (by rw [mfind_minsert, if_pos rfl])⟩
        · exact r.reg_ext k' d' hm hk'
      · intro p hp hge
        simp only [List.mem_cons] at hp
        rcases hp with rfl | hp
        · exfalso
          simp only at hge
          rw [ht, offsetExt_eq, typeIdEx_eq] at hge
          omega
        · exact r.types_reg p hp hge
    · intro ht hpresent h
      have hreg : isReg (k, d) = false := by simp [isReg, ht]
      have r := ih hs h
      refine ⟨r.sorted, ?_, r.keeps, ?_, ?_, ?_⟩
      · rw [r.count, List.filter_cons, hreg]; simp
      · intro u' t' hu'
        rcases r.ext_reg u' t' hu' with h' | ⟨k', d', ex', hm, hk', hid', hdu'⟩
        · exact Or.inl h'
        · exact Or.inr ⟨k', d', ex', by simp [hm], hk', hid', hdu'⟩
      · intro k' d' hm hk'
        simp only [List.mem_cons, Prod.mk.injEq] at hm
        rcases hm with ⟨e1, e2⟩ | hm
        · subst e1; exact absurd hk' ht
        · exact r.reg_ext k' d' hm hk'
      · intro p hp hge'
        simp only [List.mem_cons] at hp
        rcases hp with rfl | hp
        · exact hpresent hge'
        · exact r.types_reg p hp hge'

/-- `ext0` holds the UUIDs whose registry items are already passed: each is registered in `s` under
its number, and no item to come has that registry key. -/
theorem buildExt_ok {s : Snap} (hs : ExtOk s) :
    ∀ (m : Items) (ext0 : List (Int × Nat)) (ws : List Warning),
      (∀ p ∈ m, p ∈ s.raw.items) → Sorted m →
      (∀ u t, mfind u ext0 = some t → mfind u s.ext = some t ∧ keyOf typeIdEx t ∉ m.map Prod.fst) →
      ∃ ext', buildExt s.raw.items m ext0 ws = .ok (ext', ws) := by
  intro m
  induction m with
  | nil => intro ext0 ws _ _ _; exact ⟨ext0, rfl⟩
  | cons q r ih =>
    obtain ⟨k, d⟩ := q
    intro ext0 ws hsub hm h0
    rw [sorted_cons] at hm
    have hkmem : (k, d) ∈ s.raw.items := hsub (k, d) (by simp)
    have hkI : I32 k := (hs.raw_wf.2.1 (k, d) hkmem).1
    have hsubr : ∀ p ∈ r, p ∈ s.raw.items := fun p hp => hsub p (by simp [hp])
    have h0r : ∀ u t, mfind u ext0 = some t → mfind u s.ext = some t ∧ keyOf typeIdEx t ∉ r.map Prod.fst :=
      fun u t h => ⟨(h0 u t h).1, fun hmem => (h0 u t h).2 (List.mem_cons_of_mem _ hmem)⟩
    by_cases ht : keyType k = typeIdEx
    · -- a registry item: its UUID is not in `ext0`, whose registry keys lie before `k`
      obtain ⟨u, hu, hd⟩ := hs.reg_ext (k, d) hkmem ht
      have hu' : mfind u s.ext = some (keyId k) := hu
      have hdu : dataToUuid d = some (u, false) := by
        rw [show d = uuidToData u from hd]; exact dataToUuid_uuidToData (hs.ext_reg u _ hu').1
      have hkk : keyOf typeIdEx (keyId k) = k := by rw [← ht, keyOf_key hkI]
      have hnone : mfind u ext0 = none := by
        cases hf : mfind u ext0 with
        | none => rfl
        | some t =>
          obtain ⟨h1, h2⟩ := h0 u t hf
          rw [hu'] at h1
          injection h1 with h1
          exact absurd (by rw [← h1, hkk]; simp) h2
      obtain ⟨ext', hb⟩ := ih (minsert u (keyId k) ext0) ws hsubr hm.2 fun u' t h => by
        rcases mfind_minsert_eq_some h with ⟨rfl, rfl⟩ | ⟨_, h⟩
        · rw [hkk]
          refine ⟨hu', fun hmem => ?_⟩
          obtain ⟨p, hp, hpe⟩ := List.mem_map.mp hmem
          have := hm.1 p hp
          omega
        · exact h0r u' t h
      refine ⟨ext', ?_⟩
      simp only [buildExt, ht, if_true, hdu, hnone, Option.isSome_none, Bool.false_eq_true, if_false,
        List.append_nil]
      exact hb
    · -- an ordinary item; an extended type has its registry item
      obtain ⟨ext', hb⟩ := ih ext0 ws hsubr hm.2 h0r
      refine ⟨ext', ?_⟩
      rw [buildExt, if_neg ht]
      refine ite_elim (motive := (· = Res.ok (ext', ws))) (fun hge => ?_) fun _ => hb
      have := hs.types_reg (k, d) hkmem hge
      rw [if_neg (by simpa [Option.isSome_iff_ne_none] using this)]
      exact hb

/-- `build_from_raw` applied to the raw part of a snapshot satisfying the registry invariant
rebuilds exactly its `extended_types`, without any warning (false before the fix of D6). -/
theorem buildFromRaw_of_extOk {s : Snap} (hs : ExtOk s) : buildFromRaw s.raw = .ok (s, []) := by
  obtain ⟨ext', hb⟩ := buildExt_ok hs s.raw.items [] [] (fun p hp => hp) hs.raw_wf.1
    (by intro u t h; simp [mfind] at h)
  have r := buildExt_eq sorted_nil hb
  have hreg : ∀ k d u ex, (k, d) ∈ s.raw.items → keyType k = typeIdEx → dataToUuid d = some (u, ex) →
      mfind u s.ext = some (keyId k) := by
    intro k d u ex hm hk hd
    obtain ⟨u', hu', hd'⟩ := hs.reg_ext (k, d) hm hk
    rw [show d = uuidToData u' from hd', dataToUuid_uuidToData (hs.ext_reg u' _ hu').1] at hd
    injection hd with hd
    injection hd with hd _
    exact hd ▸ hu'
  have hext : ext' = s.ext := by
    apply sorted_ext r.sorted hs.ext_sorted
    intro u
    cases hf : mfind u ext' with
    | some t =>
      rcases r.ext_reg u t hf with h | ⟨k, d, ex, hm, hk, hid, hd⟩
      · simp [mfind] at h
      · rw [hreg k d u ex hm hk hd, hid]
    | none =>
      cases hf' : mfind u s.ext with
      | none => rfl
      | some t =>
        obtain ⟨huu, ht, hr⟩ := hs.ext_reg u t hf'
        obtain ⟨u', ex, hd, hm⟩ := r.reg_ext _ _ (mem_of_mfind hr) (keyType_keyOf (by decide) ht)
        rw [dataToUuid_uuidToData huu] at hd
        injection hd with hd
        injection hd with hd _
        rw [← hd, hf] at hm
        cases hm
  exact buildFromRaw_eq_ok.mpr ⟨hext ▸ hb, rfl⟩

theorem thenBuild_of_extOk {s : Snap} (hs : ExtOk s) : thenBuild (.ok (s.raw, [])) = .ok (s, []) := by
  simp only [thenBuild, buildFromRaw_of_extOk hs, List.append_nil]

theorem addItem_error_state {s : RawSnap} {k : Int} {d : List Int} {e : BuilderError}
    (_h : s.addItem k d = .error e) : True := trivial

theorem extOk_add_item {s : Snap} {raw' : RawSnap} {t id : Nat} {data : List Int} (hs : ExtOk s)
    (ht0 : t ≠ typeIdEx) (ht : t < 65536) (hid : id < 65536) (hd : ∀ x ∈ data, I32 x)
    (hreg : t < offsetExt ∨ (mfind (keyOf typeIdEx t) s.raw.items).isSome)
    (h : s.raw.addItem (keyOf t id) data = .ok raw') : ExtOk ⟨raw', s.ext⟩ := by
  obtain ⟨hitems, hnone⟩ := RawSnap.addItem_eq h
  have hne : ∀ t', t' < 65536 → keyOf typeIdEx t' ≠ keyOf t id := by
    intro t' ht'
    exact keyOf_ne_of_type (by decide) ht ht' hid (fun e => ht0 e.symm)
  have hkeep : ∀ t', t' < 65536 → mfind (keyOf typeIdEx t') raw'.items = mfind (keyOf typeIdEx t') s.raw.items := by
    intro t' ht'
    rw [hitems, mfind_minsert, if_neg (hne t' ht')]
  refine ⟨RawSnap.addItem_WF hs.raw_wf (keyOf_I32 _ _) hd h, hs.ext_sorted, ?_, ?_, ?_⟩
  · intro u t' hu
    obtain ⟨h1, h2, h3⟩ := hs.ext_reg u t' hu
    exact ⟨h1, h2, by show mfind _ raw'.items = _; rw [hkeep t' h2]; exact h3⟩
  · intro p hp hpt
    rcases mem_of_addItem h hp with rfl | hp'
    · exfalso
      simp only at hpt
      rw [keyType_keyOf ht hid] at hpt
      exact ht0 hpt
    · exact hs.reg_ext p hp' hpt
  · intro p hp hpt
    show (mfind (keyOf typeIdEx (keyType p.1)) raw'.items).isSome
    rw [hkeep _ (keyType_lt _)]
    rcases mem_of_addItem h hp with rfl | hp'
    · simp only at hpt ⊢
      rw [keyType_keyOf ht hid] at hpt ⊢
      rcases hreg with hreg | hreg
      · omega
      · exact hreg
    · exact hs.types_reg p hp' hpt

theorem extOk_add_registry {s : Snap} {raw1 : RawSnap} {u : Int} {t : Nat} (hs : ExtOk s) (hu : IsUuid u)
    (hnew : mfind u s.ext = none) (ht : t < 65536)
    (hfresh : ∀ u' t', mfind u' s.ext = some t' → t' ≠ t)
    (h : s.raw.addItem (keyOf typeIdEx t) (uuidToData u) = .ok raw1) : ExtOk ⟨raw1, minsert u t s.ext⟩ := by
  obtain ⟨hitems, hnone⟩ := RawSnap.addItem_eq h
  refine ⟨RawSnap.addItem_WF hs.raw_wf (keyOf_I32 _ _) (uuidToData_I32 u) h, sorted_minsert hs.ext_sorted, ?_, ?_, ?_⟩
  · intro u' t' hu'
    show IsUuid u' ∧ t' < 65536 ∧ mfind (keyOf typeIdEx t') raw1.items = some (uuidToData u')
    rw [hitems, mfind_minsert]
    rcases mfind_minsert_eq_some hu' with ⟨rfl, rfl⟩ | ⟨_, hu'⟩
    · exact ⟨hu, ht, by rw [if_pos rfl]⟩
    · obtain ⟨h1, h2, h3⟩ := hs.ext_reg u' t' hu'
      have hne : keyOf typeIdEx t' ≠ keyOf typeIdEx t := keyOf_ne_of_id h2 ht (hfresh u' t' hu')
      exact ⟨h1, h2, by rw [if_neg hne]; exact h3⟩
  · intro p hp hpt
    show ∃ u', mfind u' (minsert u t s.ext) = some (keyId p.1) ∧ p.2 = uuidToData u'
    rcases mem_of_addItem h hp with rfl | hp'
    · refine ⟨u, ?_, rfl⟩
      rw [mfind_minsert, if_pos rfl]
      simp only
      rw [keyId_keyOf ht]
    · obtain ⟨u', h1, h2⟩ := hs.reg_ext p hp' hpt
      exact ⟨u', mfind_minsert_of_none hnew h1, h2⟩
  · intro p hp hpt
    show (mfind (keyOf typeIdEx (keyType p.1)) raw1.items).isSome
    rw [hitems, mfind_minsert]
    split
    · rfl
    · rcases mem_of_addItem h hp with rfl | hp'
      · exfalso
        simp only at hpt
        rw [keyType_keyOf (by decide) ht, offsetExt_eq, typeIdEx_eq] at hpt
        omega
      · exact hs.types_reg p hp' hpt

/-- invariant of every builder state reachable from `Builder::new()` through `add_item`,
`finish`, wire/delta copies and `recycle` -/
structure Builder.Inv (b : Builder) : Prop where
  ok : ExtOk b.snap
  ext_range : ∀ u t, mfind u b.snap.ext = some t → offsetExt ≤ t ∧ t < b.nextTypeId
  ext_onto : ∀ t, offsetExt ≤ t → t < b.nextTypeId → ∃ u, mfind u b.snap.ext = some t
  next_range : offsetExt ≤ b.nextTypeId ∧ b.nextTypeId ≤ 32768
  types : ∀ p ∈ b.snap.raw.items, keyType p.1 < offsetExt ∨ ∃ u, mfind u b.snap.ext = some (keyType p.1)

theorem Builder.new_inv : Builder.new.Inv := by
  refine ⟨⟨empty_WF, sorted_nil, ?_, ?_, ?_⟩, ?_, ?_, ?_, ?_⟩
  · intro u t h; simp [Builder.new, Snap.empty, mfind] at h
  · intro p hp; simp [Builder.new, Snap.empty, RawSnap.empty] at hp
  · intro p hp; simp [Builder.new, Snap.empty, RawSnap.empty] at hp
  · intro u t h; simp [Builder.new, Snap.empty, mfind] at h
  · intro t h1 h2; simp [Builder.new] at h2; omega
  · simp [Builder.new, offsetExt_eq]
  · intro p hp; simp [Builder.new, Snap.empty, RawSnap.empty] at hp

/-- a UUID type's UUID is a 128-bit number (a Rust `Uuid` always is); nothing is asked of an ordinal here -/
def TypeId.Valid : TypeId → Prop
  | .ordinal _ => True
  | .uuid u => IsUuid u

/-- `t` is the raw type number under which `b` stores items of type `tid` -/
def Builder.RawType (b : Builder) : TypeId → Nat → Prop
  | .ordinal o, t => o = t ∧ 0 < t ∧ t < offsetExt
  | .uuid u, t => mfind u b.snap.ext = some t

/-- the last step of every branch of `Builder::add_item`: the item goes in under the raw type `t` -/
def Builder.addRaw (b : Builder) (t id : Nat) (data : List Int) : Builder × Option BuilderError :=
  match b.snap.raw.addItem (keyOf t id) data with
  | .error e => (b, some e)
  | .ok raw => ({ b with snap := { b.snap with raw := raw } }, none)

/-- the builder once the registry item of the new UUID type `u` is in (`raw1`) -/
def Builder.registered (b : Builder) (u : Int) (raw1 : RawSnap) : Builder :=
  ⟨⟨raw1, minsert u b.nextTypeId b.snap.ext⟩, b.nextTypeId + 1⟩

theorem Builder.addRaw_ext (b : Builder) (t id : Nat) (data : List Int) :
    (b.addRaw t id data).1.snap.ext = b.snap.ext := by
  unfold Builder.addRaw
  cases b.snap.raw.addItem (keyOf t id) data <;> rfl

theorem Builder.addItem_elim {motive : Option (Builder × Option BuilderError) → Prop} (b : Builder)
    (tid : TypeId) (id : Nat) (data : List Int)
    (panic : (∀ t, ¬ b.RawType tid t) → (∀ u, tid = .uuid u → b.nextTypeId < offsetExt) → motive none)
    (same : ∀ e, motive (some (b, some e)))
    (known : ∀ t, b.RawType tid t → motive (some (b.addRaw t id data)))
    (fresh : ∀ u raw1, tid = .uuid u → mfind u b.snap.ext = none → b.nextTypeId < 32768 →
      b.snap.raw.addItem (keyOf typeIdEx b.nextTypeId) (uuidToData u) = .ok raw1 →
      motive (some ((b.registered u raw1).addRaw b.nextTypeId id data))) :
    motive (b.addItem tid id data) := by
  have hraw : ∀ (b : Builder) t, motive (some (b.addRaw t id data)) → motive
      (match b.snap.raw.addItem (keyOf t id) data with
      | .error e => some (b, some e)
      | .ok raw => some ({ b with snap := { b.snap with raw := raw } }, none)) := by
    intro b t
    unfold Builder.addRaw
    cases b.snap.raw.addItem (keyOf t id) data <;> exact fun h => h
  cases tid with
  | ordinal o =>
    refine ite_elim (fun ho => panic (fun t ht => ho (ht.1 ▸ ht.2)) nofun) fun ho =>
      hraw b o (known o ⟨rfl, Decidable.not_not.mp ho⟩)
  | uuid u =>
    simp only [Builder.addItem]
    cases hf : mfind u b.snap.ext with
    | some t => exact hraw b t (known t hf)
    | none =>
      refine ite_elim (fun h => panic (fun t ht => by rw [Builder.RawType, hf] at ht; cases ht)
        fun _ _ => Nat.lt_of_not_le h) fun _ => ite_elim (fun _ => same _) fun hlt => ?_
      cases ha : b.snap.raw.addItem (keyOf typeIdEx b.nextTypeId) (uuidToData u) with
      | error e => exact same e
      | ok raw1 => exact hraw (b.registered u raw1) _ (fresh u raw1 rfl hf (Decidable.not_not.mp hlt) ha)

theorem Builder.addItem_ne_none {b : Builder} (hn : offsetExt ≤ b.nextTypeId) {tid : TypeId} {id : Nat}
    {data : List Int} (ho : ∀ o, tid = .ordinal o → 0 < o ∧ o < offsetExt) : b.addItem tid id data ≠ none := by
  refine Builder.addItem_elim (motive := (· ≠ none)) b tid id data (fun h1 h2 => ?_) (fun _ => nofun)
    (fun _ _ => nofun) (fun _ _ _ _ _ _ => nofun)
  cases tid with
  | ordinal o => exact absurd ⟨rfl, ho o rfl⟩ (h1 o)
  | uuid u => exact absurd hn (Nat.not_le_of_lt (h2 u rfl))

theorem Builder.addRaw_inv {b : Builder} {tid : TypeId} {t id : Nat} {data : List Int} (hb : b.Inv)
    (ht : b.RawType tid t) (hid : id < 65536) (hd : ∀ x ∈ data, I32 x) : (b.addRaw t id data).1.Inv := by
  have hnr := hb.next_range
  have hreg : t ≠ typeIdEx ∧ t < 65536 ∧
      (t < offsetExt ∨ (mfind (keyOf typeIdEx t) b.snap.raw.items).isSome) ∧
      (t < offsetExt ∨ ∃ u, mfind u b.snap.ext = some t) := by
    have h0 := typeIdEx_eq
    have h1 := offsetExt_eq
    cases tid with
    | ordinal o => obtain ⟨rfl, _, h2⟩ := ht; exact ⟨by omega, by omega, Or.inl h2, Or.inl h2⟩
    | uuid u =>
      have := hb.ext_range u t ht
      exact ⟨by omega, by omega, Or.inr (by rw [(hb.ok.ext_reg u t ht).2.2]; rfl), Or.inr ⟨u, ht⟩⟩
  unfold Builder.addRaw
  cases ha : b.snap.raw.addItem (keyOf t id) data with
  | error e => exact hb
  | ok raw =>
    refine ⟨extOk_add_item hb.ok hreg.1 hreg.2.1 hid hd hreg.2.2.1 ha, hb.ext_range, hb.ext_onto, hb.next_range, ?_⟩
    intro p hp
    rcases mem_of_addItem ha hp with rfl | hp'
    · simp only; rw [keyType_keyOf hreg.2.1 hid]; exact hreg.2.2.2
    · exact hb.types p hp'

theorem Builder.registered_inv {b : Builder} {u : Int} {raw1 : RawSnap} (hb : b.Inv) (hu : IsUuid u)
    (hf : mfind u b.snap.ext = none) (hlt : b.nextTypeId < 32768)
    (ha : b.snap.raw.addItem (keyOf typeIdEx b.nextTypeId) (uuidToData u) = .ok raw1) :
    (b.registered u raw1).Inv := by
  obtain ⟨hnr1, hnr2⟩ := hb.next_range
  rw [offsetExt_eq] at hnr1
  have hfresh : ∀ u' t', mfind u' b.snap.ext = some t' → t' ≠ b.nextTypeId := by
    intro u' t' h'
    have := (hb.ext_range u' t' h').2
    omega
  refine ⟨extOk_add_registry hb.ok hu hf (by omega) hfresh ha, ?_, ?_, ?_, ?_⟩
  · intro u' t' h'
    simp only [Builder.registered] at h' ⊢
    rcases mfind_minsert_eq_some h' with ⟨_, rfl⟩ | ⟨_, h'⟩
    · rw [offsetExt_eq]; omega
    · have := hb.ext_range u' t' h'
      omega
  · intro t' h1' h2'
    simp only [Builder.registered] at h2' ⊢
    by_cases e : t' = b.nextTypeId
    · exact ⟨u, by rw [mfind_minsert, if_pos rfl, e]⟩
    · obtain ⟨u', hu'⟩ := hb.ext_onto t' h1' (by omega)
      exact ⟨u', mfind_minsert_of_none hf hu'⟩
  · simp only [Builder.registered]; rw [offsetExt_eq]; omega
  · intro p hp
    rcases mem_of_addItem ha hp with rfl | hp'
    · left; simp only; rw [keyType_keyOf (by decide) (by omega), offsetExt_eq, typeIdEx_eq]; omega
    · rcases hb.types p hp' with h' | ⟨u', hu'⟩
      · exact Or.inl h'
      · exact Or.inr ⟨u', mfind_minsert_of_none hf hu'⟩

/-- `Builder::add_item` is made of two elementary steps, `addRaw` and `registered`: what both keep, it keeps. -/
theorem Builder.addItem_keeps {P : Builder → Prop} {b b' : Builder} {tid : TypeId} {id : Nat} {data : List Int}
    {r : Option BuilderError} (raw : ∀ (c : Builder) t, P c → c.RawType tid t → P (c.addRaw t id data).1)
    (reg : ∀ u raw1, tid = .uuid u → mfind u b.snap.ext = none → b.nextTypeId < 32768 →
      b.snap.raw.addItem (keyOf typeIdEx b.nextTypeId) (uuidToData u) = .ok raw1 → P (b.registered u raw1))
    (hb : P b) (h : b.addItem tid id data = some (b', r)) : P b' := by
  revert h
  refine Builder.addItem_elim (motive := fun o => o = some (b', r) → P b') b tid id data (fun _ _ => nofun)
    ?_ ?_ ?_
  · intro e h
    injection h with h; injection h with h _
    exact h ▸ hb
  · intro t ht h
    injection h with h
    have := raw b t hb ht
    rwa [h] at this
  · intro u raw1 hu hf hlt ha h
    injection h with h
    have := raw _ b.nextTypeId (reg u raw1 hu hf hlt ha)
      (by subst hu; show mfind u (minsert u _ _) = _; rw [mfind_minsert, if_pos rfl])
    rwa [h] at this

theorem Builder.addItem_inv {b b' : Builder} {tid : TypeId} {id : Nat} {data : List Int}
    {r : Option BuilderError} (hb : b.Inv) (htid : tid.Valid) (hid : id < 65536) (hd : ∀ x ∈ data, I32 x)
    (h : b.addItem tid id data = some (b', r)) : b'.Inv :=
  Builder.addItem_keeps (P := Builder.Inv) (fun _ _ hc ht => Builder.addRaw_inv hc ht hid hd)
    (fun _ _ hu hf hlt ha => Builder.registered_inv hb (by subst hu; exact htid) hf hlt ha) hb h

theorem recycleNext_range : ∀ (m : Items) (n N : Nat), Sorted m → (∀ p ∈ m, 0 ≤ p.1 ∧ I32 p.1) →
    n ≤ N → N ≤ 32768 → offsetExt ≤ n →
    (∀ p ∈ m, keyType p.1 = typeIdEx → n ≤ keyId p.1 ∧ keyId p.1 < N) →
    (∀ t, n ≤ t → t < N → keyOf typeIdEx t ∈ m.map Prod.fst) → recycleNext m n = some N := by
  intro m
  induction m with
  | nil =>
    intro n N _ _ hnN _ _ _ honto
    by_cases e : n = N
    · simp [recycleNext, e]
    · exfalso
      have := honto n (Nat.le_refl _) (by omega)
      simp at this
  | cons q r ih =>
    obtain ⟨k, d⟩ := q
    intro n N hs hpos hnN hN hoff hin honto
    rw [sorted_cons] at hs
    have hk0 : 0 ≤ k := (hpos (k, d) (by simp)).1
    have hkI : I32 k := (hpos (k, d) (by simp)).2
    have hdec : k = (keyType k : Int) * 65536 + (keyId k : Int) := key_decomp hk0 hkI
    rw [offsetExt_eq] at hoff
    by_cases ht : keyType k = typeIdEx
    · -- a registry item: it is the one with id `n`
      have h1 : n ≤ keyId k := (hin (k, d) (by simp) ht).1
      have h2 : keyId k < N := (hin (k, d) (by simp) ht).2
      have hk_eq : k = (keyId k : Int) := by
        rw [ht, typeIdEx_eq] at hdec; omega
      have hn_mem := honto n (Nat.le_refl _) (by omega)
      rw [keyOf_zero_eq (by omega)] at hn_mem
      simp only [List.map_cons, List.mem_cons] at hn_mem
      have hid : keyId k = n := by
        rcases hn_mem with e | hmem
        · omega
        · obtain ⟨p, hp, hpe⟩ := List.mem_map.mp hmem
          have := hs.1 p hp
          omega
      have c1 : offsetExt ≤ keyId k ∧ keyId k < 32768 := by rw [offsetExt_eq]; omega
      have c2 : ¬ n + 256 ≥ 65536 := by omega
      have c3 : keyId k < n + 256 := by omega
      simp only [recycleNext, ht, ne_eq, not_true_eq_false, if_false, c1, and_self, if_true, c2, c3]
      rw [hid]
      apply ih (n + 1) N hs.2 (fun p hp => hpos p (by simp [hp])) (by omega) hN (by rw [offsetExt_eq]; omega)
      · intro p hp hpt
        obtain ⟨h1', h2'⟩ := hin p (by simp [hp]) hpt
        refine ⟨?_, h2'⟩
        obtain ⟨hp0, hpI⟩ := hpos p (by simp [hp])
        have hdp := key_decomp hp0 hpI
        rw [hpt, typeIdEx_eq] at hdp
        have := hs.1 p hp
        omega
      · intro t ht1 ht2
        have := honto t (by omega) ht2
        simp only [List.map_cons, List.mem_cons] at this
        rcases this with e | hmem
        · exfalso
          rw [keyOf_zero_eq (by omega)] at e
          omega
        · exact hmem
    · -- the first non-registry item ends the loop: there is no registry item at all
      have hN' : n = N := by
        by_cases e : n = N
        · exact e
        · exfalso
          have hn_mem := honto n (Nat.le_refl _) (by omega)
          rw [keyOf_zero_eq (by omega)] at hn_mem
          have hkt : 1 ≤ keyType k := by
            have h' : keyType k ≠ 0 := by rw [← typeIdEx_eq]; exact ht
            omega
          have hkid := keyId_lt k
          simp only [List.map_cons, List.mem_cons] at hn_mem
          rcases hn_mem with e' | hmem
          · omega
          · obtain ⟨p, hp, hpe⟩ := List.mem_map.mp hmem
            have := hs.1 p hp
            omega
      simp [recycleNext, ht, hN']

theorem recycleAdd_eq_some : ∀ {ext : List (Int × Nat)} {raw r : RawSnap},
    recycleAdd ext raw = some r ↔
      addAll (ext.map (fun p => (keyOf typeIdEx p.2, uuidToData p.1))) raw = .ok r := by
  intro ext
  induction ext with
  | nil => intro raw r; simp [recycleAdd, addAll]
  | cons q l ih =>
    obtain ⟨u, t⟩ := q
    intro raw r
    simp only [recycleAdd, List.map_cons, addAll]
    cases raw.addItem (keyOf typeIdEx t) (uuidToData u) with
    | error e => simp
    | ok raw' => exact ih

theorem recycleAdd_items (ext : List (Int × Nat)) (raw raw' : RawSnap) (h : recycleAdd ext raw = some raw') :
    ∀ p, p ∈ raw'.items → p ∈ raw.items ∨ ∃ q, q ∈ ext ∧ p.1 = keyOf typeIdEx q.2 := by
  intro p hp
  rcases List.mem_append.mp ((addAll_perm _ _ _ (recycleAdd_eq_some.mp h)).1.mem_iff.mp hp) with hm | hm
  · obtain ⟨q, hq, e⟩ := List.mem_map.mp hm
    -- not `rfl` on the pair: the unifier goes into `keyOf` and runs out of recursion depth
    exact .inr ⟨q, hq, by rw [← e]⟩
  · exact .inl hm

theorem Snap.recycle_eq_some {s : Snap} {b : Builder} :
    s.recycle = some b ↔ ∃ n raw, recycleNext s.raw.items offsetExt = some n ∧
      recycleAdd s.ext RawSnap.empty = some raw ∧ b = ⟨⟨raw, s.ext⟩, n⟩ := by
  unfold Snap.recycle
  cases recycleNext s.raw.items offsetExt with
  | none => simp
  | some n =>
    cases recycleAdd s.ext RawSnap.empty with
    | none => simp
    | some raw => simp [eq_comm]

theorem recycle_items_reg {s : Snap} {b : Builder} (hs : ExtOk s) (h : s.recycle = some b) :
    ∀ p ∈ b.snap.raw.items, keyType p.1 = typeIdEx := by
  obtain ⟨n, raw, -, hadd, rfl⟩ := Snap.recycle_eq_some.mp h
  intro p hp
  rcases recycleAdd_items _ _ _ hadd p hp with h0 | ⟨q, hq, e⟩
  · simp [RawSnap.empty] at h0
  · rw [e]
    exact keyType_keyOf (by decide) (hs.ext_reg q.1 q.2 (mfind_of_mem hs.ext_sorted hq)).2.1

theorem nodup_map_of_sorted {α β : Type} (g : Int × α → β) (ext : List (Int × α)) (hs : Sorted ext)
    (hinj : ∀ p ∈ ext, ∀ q ∈ ext, g p = g q → p.1 = q.1) : (ext.map g).Nodup :=
  List.pairwise_map.mpr ((List.pairwise_map.mp hs).imp_of_mem fun hp hq hlt e => by
    have := hinj _ hp _ hq e
    omega)

/-- The keys are distinct because the UUIDs are; the four integers written are no longer than the
item found in `S`, so the limits of `S` carry over. -/
theorem recycleAdd_ok {ext : List (Int × Nat)} {S : Items} (hS : Sorted S) (hlim : Limits S) (he : Sorted ext)
    (hentry : ∀ u t, (u, t) ∈ ext → ∃ d ex, mfind (keyOf typeIdEx t) S = some d ∧ dataToUuid d = some (u, ex)) :
    ∃ r, recycleAdd ext RawSnap.empty = some r := by
  have hnd : ((ext.map (fun p => (keyOf typeIdEx p.2, uuidToData p.1))).map Prod.fst).Nodup := by
    have e : (ext.map (fun p => (keyOf typeIdEx p.2, uuidToData p.1))).map Prod.fst
        = ext.map (fun p => keyOf typeIdEx p.2) := by rw [List.map_map]; rfl
    rw [e]
    apply nodup_map_of_sorted _ _ he
    intro p hp q hq heq
    obtain ⟨d1, ex1, hf1, hd1⟩ := hentry p.1 p.2 hp
    obtain ⟨d2, ex2, hf2, hd2⟩ := hentry q.1 q.2 hq
    have heq' : keyOf typeIdEx p.2 = keyOf typeIdEx q.2 := heq
    rw [heq', hf2] at hf1
    injection hf1 with hf1
    rw [← hf1, hd2] at hd1
    injection hd1 with hd1
    injection hd1 with hd1
    exact hd1.symm
  obtain ⟨r, hr⟩ := addAll_ok _ RawSnap.empty hnd (fun _ _ => rfl) <|
    (List.append_nil _).symm ▸ hlim.of_subLe hnd hS.nodup fun k v hv => by
      obtain ⟨q, hq, e⟩ := List.mem_map.mp (mem_of_mfind hv)
      obtain ⟨d, ex, hf, hd⟩ := hentry q.1 q.2 hq
      cases e
      exact ⟨d, hf, uuidToData_length q.1 ▸ dataToUuid_length hd⟩
  exact ⟨r, recycleAdd_eq_some.mpr hr⟩

/-- `Snap::recycle` of a builder-made snapshot: it succeeds, keeps every UUID type with its number,
re-inserts the registry items, and continues numbering after the highest number in use. -/
theorem Builder.recycle_inv {b : Builder} (hb : b.Inv) :
    ∃ b', b.snap.recycle = some b' ∧ b'.Inv ∧ b'.snap.ext = b.snap.ext ∧ b'.nextTypeId = b.nextTypeId := by
  obtain ⟨hS, hI, hN, hZ⟩ := hb.ok.raw_wf
  obtain ⟨hnr1, hnr2⟩ := hb.next_range
  have hnext : recycleNext b.snap.raw.items offsetExt = some b.nextTypeId := by
    apply recycleNext_range _ _ _ hS _ hnr1 hnr2 (Nat.le_refl _)
    · intro p hp hpt
      obtain ⟨u, hu, _⟩ := hb.ok.reg_ext p hp hpt
      exact hb.ext_range u _ hu
    · intro t ht1 ht2
      obtain ⟨u, hu⟩ := hb.ext_onto t ht1 ht2
      have := (hb.ok.ext_reg u t hu).2.2
      exact List.mem_map_of_mem (mem_of_mfind this)
    · intro p hp
      refine ⟨?_, (hI p hp).1⟩
      apply nonneg_of_type_lt (hI p hp).1
      rcases hb.types p hp with h | ⟨u, hu⟩
      · rw [offsetExt_eq] at h; omega
      · have := (hb.ext_range u _ hu).2; omega
  let f : Int × Nat → Int × List Int := fun p => (keyOf typeIdEx p.2, uuidToData p.1)
  have hmemf : ∀ p ∈ b.snap.ext.map f, ∃ u t, mfind u b.snap.ext = some t ∧ p = (keyOf typeIdEx t, uuidToData u) := by
    intro p hp
    obtain ⟨q, hq, he⟩ := List.mem_map.mp hp
    obtain ⟨u, t⟩ := q
    exact ⟨u, t, mfind_of_mem hb.ok.ext_sorted hq, he.symm⟩
  obtain ⟨r, hrec⟩ := recycleAdd_ok hS ⟨hN, hZ⟩ hb.ok.ext_sorted fun u t hm => by
    obtain ⟨h1, _, h3⟩ := hb.ok.ext_reg u t (mfind_of_mem hb.ok.ext_sorted hm)
    exact ⟨_, false, h3, dataToUuid_uuidToData h1⟩
  have hr : addAll (b.snap.ext.map f) RawSnap.empty = .ok r := recycleAdd_eq_some.mp hrec
  obtain ⟨hp, hrs⟩ := addAll_perm _ _ _ hr
  have hp : r.items.Perm (b.snap.ext.map f) := hp.trans (by simp [RawSnap.empty])
  have hrmem : ∀ p ∈ r.items, ∃ u t, mfind u b.snap.ext = some t ∧ p = (keyOf typeIdEx t, uuidToData u) :=
    fun p hp' => hmemf p (hp.mem_iff.mp hp')
  have hrwf : r.WF := addAll_WF _ _ _ empty_WF (by
    intro p hp
    obtain ⟨u, t, hu, rfl⟩ := hmemf p hp
    exact ⟨keyOf_I32 _ _, uuidToData_I32 u⟩) hr
  have hrcy : b.snap.recycle = some ⟨⟨r, b.snap.ext⟩, b.nextTypeId⟩ :=
    Snap.recycle_eq_some.mpr ⟨_, _, hnext, hrec, rfl⟩
  have hreg : ∀ p ∈ r.items, keyType p.1 = typeIdEx := recycle_items_reg hb.ok hrcy
  refine ⟨_, hrcy, ⟨⟨hrwf, hb.ok.ext_sorted, ?_, ?_, ?_⟩, hb.ext_range, hb.ext_onto, hb.next_range, ?_⟩, rfl, rfl⟩
  · intro u t hu
    obtain ⟨h1, h2, _⟩ := hb.ok.ext_reg u t hu
    refine ⟨h1, h2, ?_⟩
    show mfind (keyOf typeIdEx t) r.items = some (uuidToData u)
    exact mfind_of_mem (hrs sorted_nil) (hp.mem_iff.mpr (List.mem_map.mpr ⟨(u, t), mem_of_mfind hu, rfl⟩))
  · intro p hp _
    obtain ⟨u, t, hu, rfl⟩ := hrmem p hp
    refine ⟨u, ?_, rfl⟩
    show mfind u b.snap.ext = some (keyId (keyOf typeIdEx t))
    rw [keyId_keyOf (hb.ok.ext_reg u t hu).2.1]
    exact hu
  · intro p hp hge
    have := hreg p hp
    rw [this, offsetExt_eq, typeIdEx_eq] at hge
    omega
  · intro p hp
    left
    show keyType p.1 < offsetExt
    rw [hreg p hp, offsetExt_eq, typeIdEx_eq]
    omega

end Tw.Snap
