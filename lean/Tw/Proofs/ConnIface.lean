import Tw.Proofs.ConnTimed

/-!
# C02 (c): how a protocol variant supplies the interface of the round argument

A variant gives equations for `tick` / `feed` on its online connections `mkc tok core sendTimer` (`OnlineIface`, instantiated
in `ConnTimed6/7`) and on its pending acceptor `pend tok sendTimer` (`PendIface`, instantiated in `ConnFairH6/7`).  From them
`PendIface.toG` makes the one `GIface` there is: "online, or pending with the fresh core".  Its token carries a flag "known
to be online": two online connections are the case of both flags set (`timed_progress`; `fair_progress` in `ConnFair`), and
a composed theorem can say that the connector is online at the end.
-/
namespace Tw.NetSim
open Tw.Conn Tw.Time

theorem receive_fl_nil {cfg : Cfg} {now : Nat} {o o2 : Online} {s s2 : Timeout} {rr : Bool} {cs : List Chunk}
    {fl : List Flushed} {evs : List Event} (hq : o.resendQueue = [])
    (h : o.receive cfg now s rr cs = .ok (o2, s2, fl, evs)) : fl = [] := by
  obtain ⟨o1, h1, _, _⟩ := Online.receive_eq h
  rcases h1 with ⟨_, _, _, hfl⟩ | ⟨_, hrs⟩
  · exact hfl
  · exact ((Online.resend_eq hrs).idle hq).2.2

/-- the fresh core through a tick phase in which only keep-alives go out (what the control datagrams of a pending
acceptor repeating its answer are, abstractly) -/
theorem PhaseSpec.new_kas (cfg : Cfg) (kas : List Flushed) (hk : ∀ f ∈ kas, f.ack = 0 ∧ f.chunks = []) :
    PhaseSpec cfg .new .new kas := by
  obtain ⟨h2, h1⟩ := Online.flush_silent .new rfl
  have := PhaseSpec.of_flush_kas (Online.new_inv cfg) (o := .new) rfl kas hk
  rwa [h1, h2, List.nil_append] at this

variable {P : Proto} {core : P.Conn → Option Online} {cfg : Cfg} {S : Nat → P.Conn → Prop}

structure OnlineIface (P : Proto) (core : P.Conn → Option Online) (cfg : Cfg) (S : Nat → P.Conn → Prop) where
  /-- 0.6: the one token, if any; 0.7: its own and the peer's -/
  Tok : Type
  mkc : Tok → Online → Timeout → P.Conn
  /-- `Packet::Connected` made of a flushed packet, with the token the peer expects -/
  chunkPkt : Tok → Flushed → P.Packet
  kaPkt : Tok → Nat → P.Packet
  /-- `peer tx ty`: the datagrams of an endpoint holding `tx` pass the token check of one holding `ty` -/
  peer : Tok → Tok → Prop
  core_mk : ∀ t o s, core (mkc t o s) = some o
  online_mk : ∀ t o s, P.online (mkc t o s) = some o
  timed_mk : ∀ now t o s, S now (mkc t o s) → SendDue now s ∧ RqDue now o
  view_chunk : ∀ t f, P.view (chunkPkt t f) = some (f.ack, f.chunks)
  view_ka : ∀ t a, P.view (kaPkt t a) = some (a, [])
  /-- `tick` once the oldest unacknowledged chunk has waited a retransmission interval: `Connection::resend` -/
  tick_resend : ∀ now t o s o1 s1 fl, o.resendDeadline.triggered now = true →
    o.resend cfg now s = .ok (o1, s1, fl) → (∀ f ∈ fl, f.Valid cfg) →
    P.call now [] (mkc t o s) .tick = .ok { conn := mkc t o1 s1, sent := fl.map (chunkPkt t) }
  /-- `tick` when only the send timer has run out, `tick_action` with something to flush (`can_send`) -/
  tick_flush : ∀ now t o s, o.resendDeadline.triggered now = false → s.triggered now = true →
    o.canSend = true → (∀ f ∈ o.flush.2, f.Valid cfg) →
    P.call now [] (mkc t o s) .tick =
      .ok { conn := mkc t o.flush.1 (Timeout.after now sendUs), sent := o.flush.2.map (chunkPkt t) }
  tick_ka : ∀ now t o s, o.resendDeadline.triggered now = false → s.triggered now = true →
    o.canSend = false → o.ack < seqMod →
    P.call now [] (mkc t o s) .tick = .ok { conn := mkc t o (Timeout.after now sendUs), sent := [kaPkt t o.ack] }
  /-- `feed` of a chunk packet of the peer: `ack_chunks` (`feedAck`), then the chunks -/
  recv_chunk : ∀ now draws tx ty o s f alt o1 o2 s2 fl evs, peer tx ty → o.feedAck f.ack = .ok o1 →
    o1.receive cfg now s f.requestResend f.chunks = .ok (o2, s2, fl, evs) → (∀ f' ∈ fl, f'.Valid cfg) →
    P.recv now draws (mkc ty o s) (chunkPkt tx f) alt =
      .ok { conn := mkc ty o2 s2, sent := fl.map (chunkPkt ty), events := evs }
  recv_ka : ∀ now draws tx ty o s a alt o1, peer tx ty → o.feedAck a = .ok o1 →
    P.recv now draws (mkc ty o s) (kaPkt tx a) alt = .ok { conn := mkc ty o1 s }

theorem OnlineIface.recv_dg (I : OnlineIface P core cfg S) (hc : cfg.Ok) {now : Nat} {draws : List Nat}
    {tx ty : I.Tok} {o : Online} {s : Timeout} (f : Flushed) (alt : P.Alt) (hp : I.peer tx ty) (hinv : o.Inv cfg)
    (hack : f.ack < seqMod) (hseq : chunksSeqOk f.chunks = true) :
    ∃ o2 s2 r fl, P.recv now draws (I.mkc ty o s) (I.chunkPkt tx f) alt = .ok r ∧ r.conn = I.mkc ty o2 s2 ∧
      RecvRel cfg o f o2 ∧ r.sent = fl.map (I.chunkPkt ty) ∧ (o.resendQueue = [] → fl = []) := by
  obtain ⟨hfa, hinv1⟩ := Online.feedAck_spec hinv hack
  have hq1 : o.resendQueue = [] → (o.ackChunks f.ack).resendQueue = [] := by
    intro hq
    have kl := o.ackChunks_length_le f.ack
    rw [hq] at kl
    exact List.length_eq_zero_iff.mp (Nat.le_zero.mp (by simpa using kl))
  obtain ⟨o2, s2, fl, evs, hrc, _, hval⟩ :=
    Online.receive_spec hc hinv1 now s f.requestResend f.chunks hseq
  exact ⟨o2, s2, _, fl, I.recv_chunk now draws tx ty o s f alt _ o2 s2 fl evs hp hfa hrc hval, rfl,
    ⟨now, s, s2, _, fl, evs, hfa, hrc⟩, rfl, fun hq => receive_fl_nil (hq1 hq) hrc⟩

structure OnlineW (I : OnlineIface P core cfg S) (ta tb : I.Tok) (w : World P) : Prop where
  winv : WInv P core cfg w
  tinv : TInv S w
  ca : ∃ o s, w.a.conn = I.mkc ta o s
  cb : ∃ o s, w.b.conn = I.mkc tb o s
  pab : I.peer ta tb
  pba : I.peer tb ta

theorem OnlineW.vinv {I : OnlineIface P core cfg S} {ta tb : I.Tok} {w : World P} (h : OnlineW I ta tb w) :
    VInv cfg (viewW core w) := by
  obtain ⟨oa, sa, ha⟩ := h.ca
  obtain ⟨ob, sb, hb⟩ := h.cb
  have ca : core w.a.conn = some oa := by rw [ha]; exact I.core_mk _ _ _
  have cb : core w.b.conn = some ob := by rw [hb]; exact I.core_mk _ _ _
  rw [viewW_eq w ca cb]
  exact vinv_of_ainv h.winv ca cb

/-- a variant's pending acceptor, next to its online connections `I`: the state after it has answered the connector
(0.6 `Pending`, 0.7 `Pending` once the `Connect` has come); it goes online with the first chunk packet -/
structure PendIface (I : OnlineIface P core cfg S) where
  pend : I.Tok → Timeout → P.Conn
  /-- `ctl t k a`: the control datagram of kind `k` (`DgH.ctl`) with ack `a` -/
  ctl : I.Tok → Nat → Nat → P.Packet
  /-- the kind of the answer the acceptor repeats (0.6: `ConnectAccept`, 0.7: `Accept`) -/
  kp : Nat
  ctl_ka : ∀ t a, ctl t 0 a = I.kaPkt t a
  view_ctl : ∀ t k a, P.view (ctl t k a) = some (a, [])
  /-- the safety invariant treats it as holding the fresh core, which is what the first chunk packet will meet -/
  core_pend : ∀ t s, core (pend t s) = some .new
  online_pend : ∀ t s, P.online (pend t s) = none
  timed_pend : ∀ now t s, S now (pend t s) → SendDue now s
  tick_pend : ∀ now t s, s.triggered now = true →
    P.call now [] (pend t s) .tick = .ok (tickRet (pend t (Timeout.after now sendUs)) [ctl t kp 0])
  recv_onl_ctl : ∀ now draws tx ty o o1 s k a alt, I.peer tx ty → o.feedAck a = .ok o1 →
    P.recv now draws (I.mkc ty o s) (ctl tx k a) alt = .ok { conn := I.mkc ty o1 s }
  recv_pend_chunk : ∀ now draws tx ty s f alt o2 s2 fl evs, I.peer tx ty →
    Online.new.receive cfg now s f.requestResend f.chunks = .ok (o2, s2, fl, evs) → (∀ f' ∈ fl, f'.Valid cfg) →
    P.recv now draws (pend ty s) (I.chunkPkt tx f) alt =
      .ok { conn := I.mkc ty o2 s2, sent := fl.map (I.chunkPkt ty), events := evs }
  recv_pend_ctl : ∀ now draws tx ty s k a alt, I.peer tx ty →
    P.recv now draws (pend ty s) (ctl tx k a) alt = .ok { conn := pend ty s }

namespace PendIface

variable {I : OnlineIface P core cfg S}

def pkt (X : PendIface I) (t : I.Tok) : DgH → P.Packet
  | .chunk f => I.chunkPkt t f
  | .ctl k a => X.ctl t k a

theorem pend_ne (X : PendIface I) (t : I.Tok) (s s' : Timeout) (o : Online) : X.pend t s ≠ I.mkc t o s' := by
  intro h
  have := X.online_pend t s
  rw [h, I.online_mk] at this
  cases this

/-- the two ticks of a round on an online connection: the retransmission timer has fired (resend, then flush the rest), or
nothing is unacknowledged (flush or keep-alive, then a keep-alive) -/
theorem tickPhase (X : PendIface I) (hc : cfg.Ok) {now0 : Nat} {t : I.Tok}
    {o : Online} {s : Timeout} (hinv : o.Inv cfg) (hack : o.ack < seqMod) (hs : SendDue now0 s) (hq : RqDue now0 o) :
    ∃ (c1 : P.Conn) (o2 : Online) (s2 : Timeout) (d1 d2 : List DgH),
      P.call (now0 + resendUs) [] (I.mkc t o s) .tick = .ok { conn := c1, sent := d1.map (X.pkt t) } ∧
      P.call (now0 + resendUs + sendUs) [] c1 .tick = .ok { conn := I.mkc t o2 s2, sent := d2.map (X.pkt t) } ∧
      PhaseSpec cfg o o2 ((d1 ++ d2).map DgH.fl) ∧ d2 ≠ [] := by
  have hsend1 : s.triggered (now0 + resendUs) = true := by
    apply hs.triggered
    rw [sendUs_eq, resendUs_eq]; omega
  by_cases hemp : o.resendQueue = []
  · -- nothing unacknowledged: flush or keep-alive, then a keep-alive
    have hd1 : o.resendDeadline.triggered (now0 + resendUs) = false := by
      simp [Online.resendDeadline, hemp, Timeout.triggered]
    have hflq : o.flush.1.resendQueue = [] := by rw [Online.flush_resendQueue]; exact hemp
    have hd2 : o.flush.1.resendDeadline.triggered (now0 + resendUs + sendUs) = false := by
      simp [Online.resendDeadline, hflq, Timeout.triggered]
    have hsend2 : (Timeout.after (now0 + resendUs) sendUs).triggered (now0 + resendUs + sendUs) = true := by
      simp [Timeout.after, Timeout.triggered]
    have hack2 : o.flush.1.ack < seqMod := by rw [Online.flush_ack]; exact hack
    have h2 := I.tick_ka (now0 + resendUs + sendUs) t o.flush.1 (Timeout.after (now0 + resendUs) sendUs) hd2 hsend2
      (Online.flush_canSend_false o) hack2
    by_cases hcs : o.canSend = true
    · have h1 := I.tick_flush (now0 + resendUs) t o s hd1 hsend1 hcs (Online.flush_valid hinv)
      refine ⟨I.mkc t o.flush.1 (Timeout.after (now0 + resendUs) sendUs), o.flush.1,
        Timeout.after (now0 + resendUs + sendUs) sendUs, o.flush.2.map DgH.chunk, [DgH.ctl 0 o.flush.1.ack], ?_, ?_, ?_,
        by simp⟩
      · rw [h1]; simp [List.map_map, Function.comp_def, PendIface.pkt]
      · rw [h2]; simp [PendIface.pkt, X.ctl_ka]
      · have := PhaseSpec.of_flush_kas hinv hemp [⟨o.ack, false, 0, []⟩] (by simp)
        simpa [List.map_map, Function.comp_def, DgH.fl, Online.flush_ack] using this
    · have hcs' : o.canSend = false := by simpa using hcs
      obtain ⟨hf2, hf1⟩ := Online.flush_silent o hcs'
      have h1 := I.tick_ka (now0 + resendUs) t o s hd1 hsend1 hcs' hack
      rw [hf1] at h2
      refine ⟨I.mkc t o (Timeout.after (now0 + resendUs) sendUs), o,
        Timeout.after (now0 + resendUs + sendUs) sendUs, [DgH.ctl 0 o.ack], [DgH.ctl 0 o.ack], ?_, ?_, ?_, by simp⟩
      · rw [h1]; simp [PendIface.pkt, X.ctl_ka]
      · rw [h2]; simp [PendIface.pkt, X.ctl_ka]
      · have := PhaseSpec.of_flush_kas hinv hemp [⟨o.ack, false, 0, []⟩, ⟨o.ack, false, 0, []⟩] (by simp)
        rw [hf1, hf2] at this
        simpa [DgH.fl] using this
  · -- the retransmission timer has fired: resend, then flush the rest
    obtain ⟨o1, s1, fl, he, hinv1, hval⟩ := Online.resend_spec hc hinv (now0 + resendUs) s
    have hlen := (Online.resend_eq he).length
    have hlast : ∃ c, o.resendQueue.getLast? = some c ∧ c ∈ o.resendQueue := by
      cases hql : o.resendQueue.getLast? with
      | none => exact absurd (List.getLast?_eq_none_iff.mp hql) hemp
      | some c => exact ⟨c, rfl, List.mem_of_getLast? hql⟩
    obtain ⟨c, hc1, hc2⟩ := hlast
    have hd1 : o.resendDeadline.triggered (now0 + resendUs) = true := by
      simp only [Online.resendDeadline, hc1]
      exact (hq c hc2).triggered (Nat.le_refl _)
    have h1 := I.tick_resend (now0 + resendUs) t o s o1 s1 fl hd1 he hval
    obtain ⟨hps, hcs⟩ := PhaseSpec.of_resend_flush hinv hinv1 hemp he
    -- second tick: the timers were restarted, the send timer is due
    have hemp1 : o1.resendQueue ≠ [] := by
      intro hh; rw [hh] at hlen; exact hemp (List.length_eq_zero_iff.mp hlen.symm)
    have hall := (Online.resend_eq he).restarted
    have hd2 : o1.resendDeadline.triggered (now0 + resendUs + sendUs) = false := by
      cases hql : o1.resendQueue.getLast? with
      | none => exact absurd (List.getLast?_eq_none_iff.mp hql) hemp1
      | some c1 =>
        simp only [Online.resendDeadline, hql, hall c1 (List.mem_of_getLast? hql), Timeout.after, Timeout.triggered,
          decide_eq_false_iff_not, Nat.not_le]
        rw [sendUs_eq, resendUs_eq]; omega
    have hsend2 : s1.triggered (now0 + resendUs + sendUs) = true := by
      rcases (Online.resend_eq he).timer with h | h
      · rw [h]; apply hs.triggered; omega
      · rw [h]; simp [Timeout.after, Timeout.triggered]
    have h2 := I.tick_flush (now0 + resendUs + sendUs) t o1 s1 hd2 hsend2 hcs (Online.flush_valid hinv1)
    refine ⟨I.mkc t o1 s1, o1.flush.1, Timeout.after (now0 + resendUs + sendUs) sendUs, fl.map DgH.chunk,
      o1.flush.2.map DgH.chunk, ?_, ?_, ?_, by rw [Online.flush_emits o1 hcs]; simp⟩
    · rw [h1]; simp [List.map_map, Function.comp_def, PendIface.pkt]
    · rw [h2]; simp [List.map_map, Function.comp_def, PendIface.pkt]
    · simpa [List.map_map, Function.comp_def, DgH.fl] using hps

/-- online with core `o`, or pending (then the core is the fresh one); the flag `t.2` says "online" (this
is how a composed theorem knows that the connector is still online at the end) -/
def Sh (X : PendIface I) (t : I.Tok × Bool) (o : Online) (c : P.Conn) : Prop :=
  ((∃ s, c = I.mkc t.1 o s) ∨ (o = .new ∧ ∃ s, c = X.pend t.1 s)) ∧ (t.2 = true → ∃ s, c = I.mkc t.1 o s)

theorem sh_online (X : PendIface I) {t : I.Tok} {f : Bool} {o : Online} {s : Timeout} {c : P.Conn}
    (h : c = I.mkc t o s) : X.Sh (t, f) o c :=
  ⟨Or.inl ⟨s, h⟩, fun _ => ⟨s, h⟩⟩

theorem sh_pending (X : PendIface I) {t : I.Tok} {s : Timeout} {c : P.Conn} (h : c = X.pend t s) :
    X.Sh (t, false) .new c :=
  ⟨Or.inr ⟨rfl, s, h⟩, nofun⟩

theorem online_of_sh (X : PendIface I) {t : I.Tok} {o : Online} {c : P.Conn} (h : X.Sh (t, true) o c) :
    ∃ s, c = I.mkc t o s :=
  h.2 rfl

theorem flag_of_pend (X : PendIface I) {t : I.Tok} {f : Bool} {o : Online} {s : Timeout}
    (h : X.Sh (t, f) o (X.pend t s)) : f = false := by
  cases f
  · rfl
  · obtain ⟨s', h'⟩ := h.2 rfl
    exact absurd h' (X.pend_ne t s s' o)

def toG (X : PendIface I) (hc : cfg.Ok) : GIface P core cfg S where
  Tok := I.Tok × Bool
  Sh := X.Sh
  pkt := fun t => X.pkt t.1
  peer := fun tx ty => I.peer tx.1 ty.1
  core_sh := by
    intro t o c h
    rcases h.1 with ⟨s, rfl⟩ | ⟨rfl, s, rfl⟩
    · exact I.core_mk _ _ _
    · exact X.core_pend _ _
  view_pkt := by
    intro t d
    cases d with
    | chunk f => exact I.view_chunk _ f
    | ctl k a => exact X.view_ctl _ k a
  online_sh := by
    intro t o c h
    rcases h.1 with ⟨s, rfl⟩ | ⟨rfl, s, rfl⟩
    · exact Or.inl (I.online_mk _ _ _)
    · exact Or.inr ⟨X.online_pend _ _, rfl⟩
  tickPhase := by
    intro now0 t o c h hinv hack hS
    obtain ⟨t, flg⟩ := t
    rcases h.1 with ⟨s, rfl⟩ | ⟨rfl, s, rfl⟩
    · obtain ⟨hs, hq⟩ := I.timed_mk _ _ _ _ hS
      obtain ⟨c1, o2, s2, d1, d2, e1, e2, hps, hne⟩ := X.tickPhase hc (t := t) hinv hack hs hq
      exact ⟨c1, _, o2, d1, d2, e1, e2, X.sh_online rfl, hps, hne⟩
    · obtain rfl := X.flag_of_pend h
      obtain ⟨e1, e2⟩ := two_ticks (mk := X.pend t) (fun now s h => X.tick_pend now t s h) (X.timed_pend _ _ _ hS)
      exact ⟨_, _, .new, [.ctl X.kp 0], [.ctl X.kp 0], e1, e2, X.sh_pending rfl,
        PhaseSpec.new_kas _ _ (by simp [DgH.fl]), by simp⟩
  recv_dg := by
    intro now draws tx ty o c d alt h hp hinv hack hseq
    obtain ⟨tx, fx⟩ := tx
    obtain ⟨ty, fy⟩ := ty
    dsimp only at hp
    rcases h.1 with ⟨s, rfl⟩ | ⟨rfl, s, rfl⟩
    · cases d with
      | chunk f =>
        obtain ⟨o2, s2, r, fl, h1, h2, h3, h4, h5⟩ :=
          I.recv_dg hc (now := now) (draws := draws) (s := s) f alt hp hinv hack hseq
        exact ⟨o2, r, fl, h1, X.sh_online h2, h3, h4, h5⟩
      | ctl k a =>
        obtain ⟨hfa, _⟩ := Online.feedAck_spec hinv hack
        exact ⟨_, _, [], X.recv_onl_ctl now draws tx ty o _ s k a alt hp hfa, X.sh_online rfl,
          ⟨now, s, s, _, [], [], hfa, Online.receive_nil now _ s⟩, rfl, fun _ => rfl⟩
    · -- pending receiver: the core is the fresh one
      have hfa := Online.new_feedAck hack
      cases d with
      | chunk f =>
        obtain ⟨o2, s2, fl, evs, hrc, _, hval⟩ :=
          Online.receive_spec hc (Online.new_inv cfg) now s f.requestResend f.chunks hseq
        exact ⟨o2, _, fl, X.recv_pend_chunk now draws tx ty s f alt o2 s2 fl evs hp hrc hval,
          X.sh_online rfl, ⟨now, s, s2, _, fl, evs, hfa, hrc⟩, rfl, fun _ => receive_fl_nil rfl hrc⟩
      | ctl k a =>
        obtain rfl := X.flag_of_pend h
        exact ⟨.new, _, [], X.recv_pend_ctl now draws tx ty s k a alt hp, X.sh_pending rfl,
          ⟨now, s, s, _, [], [], hfa, Online.receive_nil now _ s⟩, rfl, fun _ => rfl⟩

theorem ofW (X : PendIface I) (hc : cfg.Ok) {ta tb : I.Tok} {w : World P} (h : OnlineW I ta tb w) :
    OnlineWH (X.toG hc) (ta, true) (tb, true) w :=
  ⟨h.winv, h.tinv, (let ⟨o, _, e⟩ := h.ca; ⟨o, X.sh_online e⟩), (let ⟨o, _, e⟩ := h.cb; ⟨o, X.sh_online e⟩),
    h.pab, h.pba⟩

/-- with both flags set both sides are online, so `quiescentH` is `quiescent` -/
theorem quiescent (X : PendIface I) (hc : cfg.Ok) {ta tb : I.Tok} {w : World P}
    (h : OnlineWH (X.toG hc) (ta, true) (tb, true) w) (hq : (viewW core w).quiescent) : w.quiescent := by
  obtain ⟨q1, q2, q3⟩ := h.quiescentH hq
  have on : ∀ {t : I.Tok} {o : Online} {c : P.Conn}, X.Sh (t, true) o c → P.online c = some o := by
    intro t o c hsh
    obtain ⟨s, e⟩ := X.online_of_sh hsh
    rw [e]; exact I.online_mk _ _ _
  refine ⟨q1, q2, fun s => ?_⟩
  cases s with
  | a => obtain ⟨o, ho⟩ := h.ca; exact ⟨o, on ho, q3 .a o (on ho)⟩
  | b => obtain ⟨o, ho⟩ := h.cb; exact ⟨o, on ho, q3 .b o (on ho)⟩

end PendIface

variable {I : OnlineIface P core cfg S}

/-- **timed progress, online phase**: from two online connections with matching tokens, four timed rounds (ticks at
the deadlines, then the datagrams the ticks emitted delivered in order) all return and end quiescent -/
theorem timed_progress (X : PendIface I) (hc : cfg.Ok) (hs : Sim P core cfg) (hl : LocT P S)
    (alt : P.Alt) {ta tb : I.Tok} {w : World P} (h : OnlineW I ta tb w) :
    ∃ w', timedRounds alt 4 w = some w' ∧ w'.quiescent := by
  obtain ⟨w', e, q, o⟩ := timed_progressH (X.toG hc) hs hl alt (X.ofW hc h)
  exact ⟨w', e, X.quiescent hc o q⟩

end Tw.NetSim
