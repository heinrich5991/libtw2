import Tw.Proofs.SnapWire

/-! `add_item`, one item and a list of them (`addAll`), and the wire forms of a raw snapshot: what
`write_to_ints` emits for a well-formed `s` is what the C++ reference builder emits for its items in unsigned
key order (`writeInts_eq_reference`), and `read_from_ints` reads that back as `s` without a warning, also
through bytes: reading `refSnapInts m` is `addAll m` on the empty snapshot, whatever the order of `m`. -/
namespace Tw.Snap
open Tw.Packer (readInt writeInt inI32)

theorem RawSnap.addItem_eq_ok {s s' : RawSnap} {k : Int} {d : List Int} :
    s.addItem k d = .ok s' ↔
      mfind k s.items = none ∧ vacantCheck s.items d.length = none ∧ s' = ⟨minsert k d s.items⟩ := by
  unfold RawSnap.addItem
  cases mfind k s.items with
  | some v => simp
  | none =>
    cases vacantCheck s.items d.length with
    | some e => simp
    | none => simp [eq_comm]

theorem RawSnap.addItem_eq {s s' : RawSnap} {k : Int} {d : List Int} (h : s.addItem k d = .ok s') :
    s'.items = minsert k d s.items ∧ mfind k s.items = none := by
  obtain ⟨h1, _, rfl⟩ := RawSnap.addItem_eq_ok.mp h
  exact ⟨rfl, h1⟩

theorem RawSnap.addItem_sizes {s s' : RawSnap} {k : Int} {d : List Int} (h : s.addItem k d = .ok s') :
    s'.items.length = s.items.length + 1 ∧ dataLen s'.items = dataLen s.items + d.length := by
  obtain ⟨hi, hnone⟩ := RawSnap.addItem_eq h
  rw [hi]
  exact ⟨length_minsert_of_none hnone, dataLen_minsert_of_none hnone⟩

theorem mem_of_addItem {s s' : RawSnap} {k : Int} {d : List Int} {p : Int × List Int}
    (h : s.addItem k d = .ok s') (hp : p ∈ s'.items) : p = (k, d) ∨ p ∈ s.items := by
  rw [(RawSnap.addItem_eq h).1] at hp
  exact mem_minsert hp

theorem WF_insert_vacant {m : Items} {k : Int} {v : List Int} (hm : RawSnap.WF ⟨m⟩) (hk : I32 k)
    (hv : ∀ x ∈ v, I32 x) (hf : mfind k m = none) (hc : vacantCheck m v.length = none) :
    RawSnap.WF ⟨minsert k v m⟩ :=
  WF_iff.mpr ⟨sortedI32_minsert (WF_iff.mp hm).1 hk hv, (vacantCheck_fresh hf).mp hc⟩

theorem WF_filter {m : Items} (hm : RawSnap.WF ⟨m⟩) (Q : Int × List Int → Bool) : RawSnap.WF ⟨m.filter Q⟩ := by
  obtain ⟨⟨hS, hI⟩, hL⟩ := WF_iff.mp hm
  have hS' := hS.filter Q
  exact WF_iff.mpr ⟨⟨hS', fun p hp => hI p (List.mem_filter.mp hp).1⟩,
    hL.of_subLe hS'.nodup hS.nodup fun k v hv =>
      ⟨v, mfind_of_mem hS (List.mem_filter.mp (mem_of_mfind hv)).1, Nat.le_refl _⟩⟩

theorem RawSnap.addItem_WF {s s' : RawSnap} {k : Int} {d : List Int} (hs : s.WF) (hk : I32 k)
    (hd : ∀ x ∈ d, I32 x) (h : s.addItem k d = .ok s') : s'.WF := by
  obtain ⟨hf, hc, rfl⟩ := RawSnap.addItem_eq_ok.mp h
  exact WF_insert_vacant hs hk hd hf hc

theorem empty_WF : RawSnap.empty.WF := by decide

/-- `add_item` for each item in order (errors as `read_from_ints` reports them) -/
def addAll : Items → RawSnap → Res RawSnap
  | [], s => .ok s
  | (k, d) :: r, s =>
    match s.addItem k d with
    | .error e => .err e.toError
    | .ok s' => addAll r s'

theorem addAll_cons {k : Int} {d : List Int} {l : Items} {s s1 : RawSnap} (h : s.addItem k d = .ok s1) :
    addAll ((k, d) :: l) s = addAll l s1 := by
  simp only [addAll, h]

theorem addAll_WF : ∀ (l : Items) (s0 r : RawSnap), s0.WF → (∀ p ∈ l, I32 p.1 ∧ ∀ x ∈ p.2, I32 x) →
    addAll l s0 = .ok r → r.WF := by
  intro l
  induction l with
  | nil => intro s0 r h0 _ h; simp [addAll] at h; rw [← h]; exact h0
  | cons q l ih =>
    obtain ⟨k, d⟩ := q
    intro s0 r h0 hI h
    simp only [addAll] at h
    cases ha : s0.addItem k d with
    | error e => simp [ha] at h
    | ok s1 =>
      simp only [ha] at h
      have := hI (k, d) (by simp)
      exact ih s1 r (RawSnap.addItem_WF h0 this.1 this.2 ha) (fun p hp => hI p (by simp [hp])) h

theorem mfind_unsignedOrder (k : Int) (m : Items) : mfind k (unsignedOrder m) = mfind k m := by
  unfold unsignedOrder
  rw [mfind_append, mfind_filter_key (fun k => decide (0 ≤ k)), mfind_filter_key (fun k => decide (k < 0))]
  by_cases h : 0 ≤ k
  · have : ¬ k < 0 := by omega
    simp [h, this]
  · have : k < 0 := by omega
    simp [h, this]

theorem unsignedOrder_perm (m : Items) : (unsignedOrder m).Perm m := by
  have e : (fun p : Int × List Int => decide (p.1 < 0)) = fun p => !decide (0 ≤ p.1) := by
    funext p; rw [← decide_not]; exact decide_eq_decide.mpr Int.not_le.symm
  unfold unsignedOrder
  rw [e]
  exact List.filter_append_perm _ m

theorem nodup_keys_unsignedOrder {m : Items} (h : Sorted m) : ((unsignedOrder m).map Prod.fst).Nodup :=
  ((unsignedOrder_perm m).map Prod.fst).nodup_iff.mpr h.nodup

theorem mem_unsignedOrder {m : Items} {p : Int × List Int} : p ∈ unsignedOrder m ↔ p ∈ m :=
  (unsignedOrder_perm m).mem_iff

theorem unsignedOrder_length (m : Items) : (unsignedOrder m).length = m.length :=
  (unsignedOrder_perm m).length_eq

theorem unsignedOrder_dataLen (m : Items) : dataLen (unsignedOrder m) = dataLen m :=
  ((unsignedOrder_perm m).map _).sum_nat

/-- The limit checks grow with the snapshot: each is passed because the last one is. -/
theorem addAll_ok : ∀ (l : Items) (s0 : RawSnap), (l.map Prod.fst).Nodup →
    (∀ p ∈ l, mfind p.1 s0.items = none) → Limits (l ++ s0.items) → ∃ r, addAll l s0 = .ok r := by
  intro l
  induction l with
  | nil => intro s0 _ _ _; exact ⟨s0, rfl⟩
  | cons p l ih =>
    obtain ⟨k0, d0⟩ := p
    intro s0 hnd hnew hlim
    have hk0 : mfind k0 s0.items = none := hnew (k0, d0) (by simp)
    have hvc : vacantCheck s0.items d0.length = none := by
      rw [vacantCheck_eq_none]
      unfold Limits serializedSize dataLen at *
      simp only [List.length_append, List.length_cons, List.map_append, List.map_cons, List.sum_append,
        List.sum_cons] at hlim
      omega
    simp only [List.map_cons, List.nodup_cons] at hnd
    obtain ⟨r, hr⟩ := ih ⟨minsert k0 d0 s0.items⟩ hnd.2
      (fun p hp => by
        rw [mfind_minsert, if_neg fun e : p.1 = k0 => hnd.1 (e ▸ List.mem_map_of_mem hp)]
        exact hnew p (by simp [hp]))
      (hlim.perm (List.perm_middle.symm.trans ((minsert_perm hk0).symm.append_left l)))
    exact ⟨r, (addAll_cons (RawSnap.addItem_eq_ok.mpr ⟨hk0, hvc, rfl⟩)).trans hr⟩

theorem addAll_perm : ∀ (l : Items) (s0 r : RawSnap), addAll l s0 = .ok r →
    r.items.Perm (l ++ s0.items) ∧ (Sorted s0.items → Sorted r.items) := by
  intro l
  induction l with
  | nil => intro s0 r h; cases h; exact ⟨.refl _, id⟩
  | cons q l ih =>
    obtain ⟨k, d⟩ := q
    intro s0 r h
    simp only [addAll] at h
    cases ha : s0.addItem k d with
    | error e => simp [ha] at h
    | ok s1 =>
      simp only [ha] at h
      obtain ⟨hi, hf⟩ := RawSnap.addItem_eq ha
      obtain ⟨hp, hs⟩ := ih s1 r h
      rw [hi] at hp hs
      exact ⟨hp.trans (((minsert_perm hf).append_left l).trans List.perm_middle), fun h0 => hs (sorted_minsert h0)⟩

theorem addAll_unsignedOrder {s : RawSnap} (h : s.WF) : addAll (unsignedOrder s.items) RawSnap.empty = .ok s := by
  obtain ⟨hS, _, hN, hZ⟩ := h
  obtain ⟨r, hr⟩ := addAll_ok (unsignedOrder s.items) RawSnap.empty (nodup_keys_unsignedOrder hS)
    (fun _ _ => rfl) (Limits.perm (List.append_nil _ ▸ (unsignedOrder_perm _).symm) ⟨hN, hZ⟩)
  obtain ⟨hp, hrs⟩ := addAll_perm _ _ _ hr
  have hp : r.items.Perm s.items := (hp.trans (by simp [RawSnap.empty])).trans (unsignedOrder_perm _)
  rw [hr, show r = s from congrArg RawSnap.mk (sorted_eq_of_perm (hrs sorted_nil) hS hp)]

theorem offsetsOf_length (o : Nat) (m : Items) : (offsetsOf o m).length = m.length := by
  induction m generalizing o with
  | nil => rfl
  | cons p r ih => obtain ⟨k, d⟩ := p; simp [offsetsOf, ih]

theorem flatItems_cons (k : Int) (d : List Int) (r : Items) : flatItems ((k, d) :: r) = k :: d ++ flatItems r := by
  simp [flatItems]

theorem flatItems_length (m : Items) : (flatItems m).length = m.length + dataLen m := by
  induction m with
  | nil => simp [flatItems, dataLen]
  | cons p r ih =>
    obtain ⟨k, d⟩ := p
    rw [flatItems_cons, dataLen_cons]
    simp [ih]; omega

theorem addAll_measure (l : Items) (s0 r : RawSnap) (h : addAll l s0 = .ok r) :
    r.items.length + dataLen r.items = s0.items.length + dataLen s0.items + (flatItems l).length := by
  have hp := (addAll_perm l s0 r h).1
  rw [hp.length_eq, dataLen, (hp.map _).sum_nat, flatItems_length]
  simp only [List.length_append, List.map_append, List.sum_append, dataLen]
  omega

theorem addAt_eq_addItem (itemData : List Int) (prev off : Nat) (s : RawSnap) (h1 : prev < off)
    (h2 : off ≤ itemData.length) :
    ∃ k, itemData[prev]? = some k ∧
      addAt itemData prev off s =
        match s.addItem k ((itemData.drop (prev + 1)).take (off - (prev + 1))) with
        | .error e => .err e.toError
        | .ok s' => .ok s' := by
  have hlt : prev < itemData.length := by omega
  refine ⟨itemData[prev], by simp [hlt], ?_⟩
  unfold addAt
  have : itemData[prev]? = some itemData[prev] := by simp [hlt]
  rw [this]
  have h3 : ¬ (off > itemData.length ∨ off < prev + 1) := by omega
  simp only [h3, if_false]
  cases s.addItem itemData[prev] _ <;> rfl

theorem addAt_slice (pre : List Int) (k : Int) (d post : List Int) (s : RawSnap) :
    addAt (pre ++ k :: d ++ post) pre.length (pre.length + 1 + d.length) s =
      match s.addItem k d with
      | .error e => .err e.toError
      | .ok s' => .ok s' := by
  obtain ⟨k', hk, he⟩ := addAt_eq_addItem (pre ++ k :: d ++ post) pre.length (pre.length + 1 + d.length) s
    (by omega) (by simp; omega)
  have h3 : (List.drop (pre.length + 1) (pre ++ k :: d ++ post)).take (pre.length + 1 + d.length - (pre.length + 1)) = d := by
    have : pre ++ k :: d ++ post = (pre ++ [k]) ++ (d ++ post) := by simp
    rw [this, List.drop_left' (by simp)]
    have : pre.length + 1 + d.length - (pre.length + 1) = d.length := by omega
    rw [this, List.take_left' rfl]
  simp at hk
  rw [he, h3, hk]

theorem readItemsLoop_layout : ∀ (r : Items) (pre : List Int) (k : Int) (d : List Int) (s : RawSnap),
    readItemsLoop (pre ++ k :: d ++ flatItems r) (pre ++ k :: d ++ flatItems r).length
      (offsetsOf (4 * (pre.length + 1 + d.length)) r) pre.length s = addAll ((k, d) :: r) s := by
  intro r
  induction r with
  | nil =>
    intro pre k d s
    have hlen : (pre ++ k :: d ++ flatItems []).length = pre.length + 1 + d.length := by
      simp [flatItems]; omega
    have hnot : ¬ (pre ++ k :: d ++ flatItems []).length ≤ pre.length := by omega
    simp only [offsetsOf, readItemsLoop, hnot, if_false]
    rw [hlen, addAt_slice]
    simp only [addAll]
  | cons q r ih =>
    obtain ⟨k', d'⟩ := q
    intro pre k d s
    have hlen : (pre ++ k :: d ++ flatItems ((k', d') :: r)).length
        = pre.length + 1 + d.length + (1 + d'.length + (flatItems r).length) := by
      simp [flatItems_cons]; omega
    simp only [offsetsOf, readItemsLoop]
    have h1 : ¬ (((4 * (pre.length + 1 + d.length) : Nat) : Int) < 0) := by omega
    have h2 : ¬ (((4 * (pre.length + 1 + d.length) : Nat) : Int) % 4 ≠ 0) := by omega
    have h3 : ((4 * (pre.length + 1 + d.length) : Nat) : Int).toNat / 4 = pre.length + 1 + d.length := by
      rw [Int.toNat_natCast]; omega
    simp only [h1, h2, if_false, h3]
    have h4 : ¬ (pre.length + 1 + d.length ≤ pre.length) := by omega
    have h5 : ¬ (pre.length + 1 + d.length > (pre ++ k :: d ++ flatItems ((k', d') :: r)).length) := by omega
    simp only [h4, h5, if_false, addAt_slice]
    simp only [addAll]
    cases ha : s.addItem k d with
    | error e => rfl
    | ok s' =>
      simp only []
      have e1 : pre ++ k :: d ++ flatItems ((k', d') :: r) = (pre ++ k :: d) ++ k' :: d' ++ flatItems r := by
        simp [flatItems_cons]
      have e2 : pre.length + 1 + d.length = (pre ++ k :: d).length := by simp; omega
      have e3 : 4 * (pre.length + 1 + d.length) + 4 * (d'.length + 1) = 4 * ((pre ++ k :: d).length + 1 + d'.length) := by
        simp; omega
      rw [e3, e2, e1]
      exact ih (pre ++ k :: d) k' d' s'

theorem refSnapInts_length (m : Items) : (refSnapInts m).length = 2 + m.length + m.length + dataLen m := by
  simp [refSnapInts, offsetsOf_length, flatItems_length]; omega

theorem writeInts_eq_reference {s : RawSnap} (h : s.WF) :
    s.writeInts = some (refSnapInts (unsignedOrder s.items)) := by
  obtain ⟨hN, hZ⟩ := WF_limits h
  have hl := refSnapInts_length (unsignedOrder s.items)
  simp only [refSnapInts, unsignedOrder_length, unsignedOrder_dataLen] at hl ⊢
  unfold RawSnap.writeInts
  rw [if_neg (by rw [maxItems_eq]; omega)]
  dsimp only
  rw [if_neg (by rw [hl, maxSize_eq]; omega)]

theorem RawSnap.readFromInts_refSnapInts (m : Items) :
    RawSnap.readFromInts (refSnapInts m) =
      match addAll m .empty with
      | .ok s => .ok (s, [])
      | .err e => .err e
      | .panic p => .panic p := by
  unfold RawSnap.readFromInts refSnapInts
  have h1 : ¬ (((dataLen m + m.length) * 4 : Nat) : Int) < 0 := by omega
  have h2 : ¬ ((m.length : Nat) : Int) < 0 := by omega
  simp only [h1, h2, if_false, Int.toNat_natCast]
  have hbl : (offsetsOf 0 m ++ flatItems m).length = m.length + (m.length + dataLen m) := by
    simp [offsetsOf_length, flatItems_length]
  have h3 : ¬ ((offsetsOf 0 m ++ flatItems m).length < m.length) := by omega
  have h4 : ¬ ((((dataLen m + m.length) * 4 : Nat) : Int) % 4 ≠ 0) := by omega
  have h5 : (dataLen m + m.length) * 4 / 4 = dataLen m + m.length := by omega
  simp only [h3, h4, if_false, h5]
  have h6 : ¬ (m.length + (dataLen m + m.length) > (offsetsOf 0 m ++ flatItems m).length) := by omega
  have h7 : ¬ (m.length + (dataLen m + m.length) < (offsetsOf 0 m ++ flatItems m).length) := by omega
  simp only [h6, h7, if_false]
  have htake : List.take m.length (offsetsOf 0 m ++ flatItems m) = offsetsOf 0 m := by
    rw [List.take_left' (offsetsOf_length 0 m)]
  have hdrop : List.take (dataLen m + m.length) (List.drop m.length (offsetsOf 0 m ++ flatItems m))
      = flatItems m := by
    rw [List.drop_left' (offsetsOf_length 0 m), List.take_of_length_le (by rw [flatItems_length]; omega)]
  rw [htake, hdrop]
  cases m with
  | nil => rfl
  | cons p r =>
    obtain ⟨k, d⟩ := p
    simp only [offsetsOf]
    have hz1 : ¬ (((0 : Nat) : Int) < 0) := by omega
    have hz2 : ¬ (((0 : Nat) : Int) % 4 ≠ 0) := by omega
    have hz3 : ¬ (((0 : Nat) : Int).toNat / 4 ≠ 0) := by simp
    simp only [hz1, hz2, hz3, if_false]
    have hlen : dataLen ((k, d) :: r) + ((k, d) :: r).length = (([] : List Int) ++ k :: d ++ flatItems r).length := by
      simp [dataLen_cons, flatItems_length]; omega
    have hloop := readItemsLoop_layout r [] k d RawSnap.empty
    simp only [List.nil_append, List.length_nil, Nat.zero_add] at hloop hlen
    rw [flatItems_cons, hlen]
    have e : 0 + 4 * (d.length + 1) = 4 * (1 + d.length) := by omega
    rw [e, hloop]
    cases addAll ((k, d) :: r) RawSnap.empty <;> rfl

theorem decodeInts_packInts : ∀ (xs : List Int) (fuel : Nat), xs.length ≤ fuel → (∀ x ∈ xs, I32 x) →
    decodeInts fuel (packInts xs) = (xs, []) := by
  intro xs
  induction xs with
  | nil => intro fuel _ _; cases fuel <;> simp [decodeInts, packInts]
  | cons x xs ih =>
    intro fuel hf hI
    cases fuel with
    | zero => simp at hf
    | succ fuel =>
      have hx := hI x (by simp)
      cases hb : packInts (x :: xs) with
      | nil => exact absurd hb (packInts_cons_ne_nil x xs)
      | cons b0 bs =>
        simp only [decodeInts]
        rw [← hb, packInts_cons, Tw.Packer.readInt_writeInt x (inI32_of_I32 hx)]
        simp only [ih fuel (by simp at hf; omega) (fun y hy => hI y (by simp [hy]))]
        simp

theorem offsetsOf_I32 (o : Nat) (m : Items) (h : o + 4 * (m.length + dataLen m) < 2147483648) :
    ∀ x ∈ offsetsOf o m, I32 x := by
  induction m generalizing o with
  | nil => simp [offsetsOf]
  | cons p r ih =>
    obtain ⟨k, d⟩ := p
    rw [dataLen_cons] at h
    simp only [List.length_cons] at h
    intro x hx
    simp only [offsetsOf, List.mem_cons] at hx
    rcases hx with rfl | hx
    · unfold I32; omega
    · exact ih (o + 4 * (d.length + 1)) (by omega) x hx

theorem refSnapInts_I32 {m : Items} (hI : ∀ p ∈ m, I32 p.1 ∧ ∀ v ∈ p.2, I32 v)
    (hb : 4 * (m.length + dataLen m) < 2147483648) : ∀ x ∈ refSnapInts m, I32 x := by
  intro x hx
  simp only [refSnapInts, List.mem_cons, List.mem_append] at hx
  rcases hx with rfl | rfl | hx | hx
  · unfold I32; omega
  · unfold I32; omega
  · exact offsetsOf_I32 0 _ (by omega) x hx
  · obtain ⟨p, hp, hx⟩ := List.mem_flatMap.mp hx
    rcases List.mem_cons.mp hx with rfl | hx
    · exact (hI p hp).1
    · exact (hI p hp).2 x hx

/-- C10/C11: a well-formed raw snapshot written to its integer form and read back is the same
snapshot, and the reader emits no warning. -/
theorem RawSnap.readFromInts_written {s : RawSnap} (h : s.WF) :
    RawSnap.readFromInts (refSnapInts (unsignedOrder s.items)) = .ok (s, []) := by
  rw [RawSnap.readFromInts_refSnapInts, addAll_unsignedOrder h]

/-- … and the same through the byte form (`RawSnap::write` / `RawSnap::read`). -/
theorem RawSnap.readBytes_written {s : RawSnap} (h : s.WF) :
    RawSnap.readBytes (packInts (refSnapInts (unsignedOrder s.items))) = .ok (s, []) := by
  have hlim := WF_limits h
  unfold RawSnap.readBytes
  rw [decodeInts_packInts _ _ (length_le_packInts _)
    (refSnapInts_I32 (fun p hp => h.2.1 p (mem_unsignedOrder.mp hp))
      (by rw [unsignedOrder_length, unsignedOrder_dataLen]; omega))]
  simp only [RawSnap.readFromInts_written h]
  simp

end Tw.Snap
