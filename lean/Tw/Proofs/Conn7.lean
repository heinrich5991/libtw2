import Tw.Model.Conn7
import Tw.Proofs.ConnStep

/-! The 0.7 connection model, read once, forwards, as `Conn6.lean` does for 0.6: `step_runs` says which normal form each
call evaluates (`Runs`, `Feeds`), and C04 (`Runs.good`) and C02 a (`Runs.nohang`) are one `cases` on it each. -/
namespace Tw.Conn7
open Tw.Conn Tw.Time

theorem cfg_ok : cfg.Ok := by
  intro n h
  simp [Cfg.accepts, cfg] at h
  simp [cfg]
  rw [maxPayload_eq] at h
  have : Tw.Gen.Conn.P7.CHUNK_SIZE_BITS = 12 := rfl
  rw [this]
  omega

theorem TOKEN_NONE_eq : TOKEN_NONE = 0xffffffff := by decide

/-- the own token is not `TOKEN_NONE` because it came out of `Token::random` -/
structure Conn.Inv (c : Conn) : Prop where
  online : ∀ own their o, c.state = .online own their o → o.Inv cfg
  own : ∀ own, c.state.ownToken? = some own → own ≠ TOKEN_NONE

/-- the conclusion of C04 for one call -/
def Good (r : Res) : Prop :=
  ∃ c' out, r = .ok (c', out) ∧ c'.Inv ∧ ∀ p ∈ out.sent, p.valid = true

theorem Conn.new_inv : Conn.new.Inv := by
  constructor
  · intro a b o h; simp [Conn.new] at h
  · intro a h; simp [Conn.new, State.ownToken?] at h

theorem inv_online {own their : Nat} {o : Online} {s : Timeout} (h : o.Inv cfg) (hown : own ≠ TOKEN_NONE) :
    Conn.Inv ⟨.online own their o, s⟩ := by
  constructor
  · intro a b o' hs
    simp at hs
    rw [← hs.2.2]; exact h
  · intro a hs
    simp [State.ownToken?] at hs
    rw [← hs]; exact hown

theorem inv_not_online {st : State} {s : Timeout} (h : st.isOnline = false)
    (hown : ∀ own, st.ownToken? = some own → own ≠ TOKEN_NONE) : Conn.Inv ⟨st, s⟩ := by
  constructor
  · intro a b o hs
    simp at hs
    rw [hs] at h; simp [State.isOnline] at h
  · exact hown

theorem inv_own {st : State} {s : Timeout} {own : Nat} (h : st.isOnline = false) (hst : st.ownToken? = some own)
    (hown : own ≠ TOKEN_NONE) : Conn.Inv ⟨st, s⟩ :=
  inv_not_online h (by intro o ho; rw [hst] at ho; cases ho; exact hown)

theorem tokenRandom_ne {l : List Nat} {t : Nat} (h : tokenRandom l = some t) : t ≠ TOKEN_NONE := by
  induction l with
  | nil => simp [tokenRandom] at h
  | cons x xs ih =>
    simp only [tokenRandom] at h
    split at h
    · injection h with h; subst h; assumption
    · exact ih h

theorem tokenRandom_mem : ∀ (draws : List Nat) (t : Nat), tokenRandom draws = some t → t ∈ draws
  | [], t, h => by simp [tokenRandom] at h
  | d :: ds, t, h => by
    simp only [tokenRandom] at h
    split at h
    · injection h with h; subst h; simp
    · exact List.mem_cons_of_mem _ (tokenRandom_mem ds t h)

theorem chunks_wire (ack tok : Nat) (rr : Bool) (n : Nat) (cs : List Chunk)
    (h : chunksSize cs ≤ maxPayload + 3) : (Packet.chunks ack tok rr n cs).wireSize ≤ maxPacketSize := by
  have h1 : Tw.Gen.Conn.P7.HEADER_SIZE = 7 := rfl
  rw [maxPacketSize_eq]; rw [maxPayload_eq] at h
  simp only [Packet.wireSize, h1]; omega

theorem ofFlushed_valid (t : Nat) {f : Flushed} (h : f.Valid cfg) : (ofFlushed t f).valid = true := by
  have hw := chunks_wire f.ack t f.requestResend f.numChunks f.chunks h.size
  have h4 : f.numChunks ≠ 0 ∨ f.requestResend = true := h.nonempty
  unfold ofFlushed Packet.valid
  simp only [Bool.and_eq_true, decide_eq_true_eq, Bool.or_eq_true, List.all_eq_true]
  exact ⟨⟨⟨⟨hw, h.num⟩, h.cnt⟩, h.data⟩, h4⟩

theorem valid_wire {p : Packet} (h : p.valid = true) : p.wireSize ≤ maxPacketSize ∧ p.writeOk = true := by
  cases p with
  | connless t rt d =>
    simp only [Packet.valid, decide_eq_true_eq] at h
    have h1 : Tw.Gen.Conn.P7.HEADER_SIZE_CONNLESS = 9 := rfl
    have h3 : Tw.Gen.Conn.P7.connlessMax + 9 ≤ 1400 := by decide
    rw [maxPacketSize_eq]
    simp only [Packet.wireSize, h1, Packet.writeOk, and_true]; omega
  | control ack t c =>
    simp only [Packet.valid, Bool.and_eq_true, decide_eq_true_eq] at h
    exact h.1
  | chunks ack t rr n cs =>
    simp only [Packet.valid, Bool.and_eq_true, decide_eq_true_eq] at h
    exact ⟨h.1.1.1.1, rfl⟩

theorem emit_ok {ps : List Packet} (h : ∀ p ∈ ps, p.valid = true) : emit ps = .ok ps := by
  unfold emit
  have h1 : ps.all Packet.writeOk = true := by
    rw [List.all_eq_true]; intro p hp; exact (valid_wire (h p hp)).2
  have h2 : ps.all (fun p => decide (p.wireSize ≤ maxPacketSize)) = true := by
    rw [List.all_eq_true]; intro p hp; exact decide_eq_true (valid_wire (h p hp)).1
  simp [h1, h2]

theorem emit_flushed (t : Nat) {fl : List Flushed} (h : ∀ f ∈ fl, f.Valid cfg) :
    emit (fl.map (ofFlushed t)) = .ok (fl.map (ofFlushed t)) ∧
      ∀ p ∈ fl.map (ofFlushed t), p.valid = true := by
  have hv : ∀ p ∈ fl.map (ofFlushed t), p.valid = true := by
    intro p hp
    obtain ⟨f, hf, rfl⟩ := List.mem_map.mp hp
    exact ofFlushed_valid t (h f hf)
  exact ⟨emit_ok hv, hv⟩

/-- the hypothesis on a close reason is the API precondition of `disconnect` -/
theorem control_valid (ack tok : Nat) (ctl : Control)
    (h : ∀ r, ctl = .close r → r.length ≤ 127 ∧ r.all (· != 0) = true)
    (hc : ∀ rt, ctl = .connect rt → rt ≠ TOKEN_NONE) (ht : ∀ rt, ctl = .token rt → rt ≠ TOKEN_NONE) :
    (Packet.control ack tok ctl).valid = true := by
  have h1 : Tw.Gen.Conn.P7.HEADER_SIZE = 7 := rfl
  have h2 : Tw.Gen.Conn.P7.TOKEN_REQUEST_PACKET_SIZE = 519 := rfl
  have h3 : Tw.Gen.Conn.P7.CTRLMSG_CLOSE_REASON_LENGTH = 127 := rfl
  cases ctl with
  | close r =>
    obtain ⟨ha, hb⟩ := h r rfl
    simp only [Packet.valid, Bool.and_eq_true, decide_eq_true_eq, maxPacketSize_eq, h3]
    refine ⟨⟨?_, rfl⟩, ha, hb⟩
    simp [Packet.wireSize, h1]; omega
  | keepAlive => simp [Packet.valid, maxPacketSize_eq, Packet.wireSize, Packet.writeOk, h1]
  | accept => simp [Packet.valid, maxPacketSize_eq, Packet.wireSize, Packet.writeOk, h1]
  | connect rt => have := hc rt rfl; simp [Packet.valid, maxPacketSize_eq, Packet.wireSize, Packet.writeOk, h1, this]
  | token rt =>
    have := ht rt rfl
    have hb : (rt != TOKEN_NONE) = true := by simpa using this
    simp only [Packet.valid, maxPacketSize_eq, Packet.wireSize, Packet.writeOk, h1, h2, hb, Bool.and_true,
      decide_eq_true_eq]
    split <;> omega

/-- the ack that `send_control` puts into a control packet (`ctlToken`: the token) -/
def State.ctlAck : State → Nat
  | .online _ _ o => o.ack
  | _ => 0

def State.ctlToken (st : State) : Nat := st.theirToken?.getD TOKEN_NONE

theorem sendControlWith_ok (st : State) (ctl : Control) (tok : Nat)
    (h : ∀ r, ctl = .close r → r.length ≤ 127 ∧ r.all (· != 0) = true)
    (hc : ∀ rt, ctl = .connect rt → rt ≠ TOKEN_NONE) (ht : ∀ rt, ctl = .token rt → rt ≠ TOKEN_NONE) :
    sendControlWith st ctl tok = .ok [.control st.ctlAck tok ctl] ∧ (Packet.control st.ctlAck tok ctl).valid = true := by
  have hv := control_valid st.ctlAck tok ctl h hc ht
  refine ⟨?_, hv⟩
  cases st <;> exact emit_ok (List.forall_mem_singleton.mpr hv)

theorem emit_eq {ps ps' : List Packet} (h : emit ps = .ok ps') : ps' = ps := by
  unfold emit at h
  split at h
  · cases h
  · split at h
    · injection h with h; exact h.symm
    · cases h

theorem sendControlWith_eq {st : State} {ctl : Control} {tok : Nat} {ps : List Packet}
    (h : sendControlWith st ctl tok = .ok ps) : ps = [.control st.ctlAck tok ctl] := by
  cases st <;> exact emit_eq h

theorem emit_nohang (ps : List Packet) : NoHang (emit ps) := by
  unfold emit
  split
  · exact .panic _
  · split
    · exact .ok _
    · exact .panic _

theorem sendControl_nohang (st : State) (ctl : Control) : NoHang (sendControl st ctl) :=
  emit_nohang _

/-- as `Conn6.onlineRet` -/
def onlineRet (own their : Nat) (o : Online) (snd : Timeout) (fl : List Flushed) (evs : List Event) : Conn × Out :=
  (⟨.online own their o, snd⟩, { sent := fl.map (ofFlushed their), events := evs })

theorem send_eq {env : Env} {c c' : Conn} {d : Bytes} {v : Bool} {r : SendRes} {out : Out}
    (h : send env c d v = .ok (c', r, out)) :
    ∃ own their o o' fl, c.state = .online own their o ∧ o.send cfg env.now d v = .ok (o', r, fl) ∧
      (c', out) = onlineRet own their o' c.send fl [] := by
  obtain ⟨st, snd⟩ := c
  cases st <;> simp only [send] at h
  case online own their o =>
    split at h
    · cases h
    · rename_i o' r' fl hs
      split at h
      · cases h
      · rename_i hem
        cases h; cases emit_eq hem
        exact ⟨own, their, o, o', fl, rfl, hs, rfl⟩
  all_goals cases h

/-! ## Every call, run forwards -/

def sends (x : Except Fail (List Packet)) (c' : Conn) (evs : List Event) : Res :=
  match x with
  | .error e => .error e
  | .ok ps => .ok (c', { sent := ps, events := evs })

def coreRes (own their : Nat) (r : CoreRes) : Res :=
  match r with
  | .error e => .error e
  | .ok (o1, s1, fl, evs) => sends (emit (fl.map (ofFlushed their))) ⟨.online own their o1, s1⟩ evs

section
variable {env : Env} {c c' c1 : Conn} {out : Out} {x : Except Fail (List Packet)} {evs : List Event} {own their : Nat}

theorem sends_eq (h : sends x c' evs = .ok (c1, out)) : ∃ ps, x = .ok ps ∧ c1 = c' ∧ out = { sent := ps, events := evs } := by
  cases x with
  | error e => cases h
  | ok ps => cases h; exact ⟨ps, rfl, rfl, rfl⟩

theorem sends_nohang (h : NoHang x) : NoHang (sends x c' evs) := by
  cases x with
  | error e => exact h.err rfl
  | ok ps => exact .ok _

theorem sends_good {ps : List Packet} (hx : x = .ok ps) (hv : ∀ p ∈ ps, p.valid = true) (hi : c'.Inv) :
    Good (sends x c' evs) := by
  subst hx; exact ⟨_, _, rfl, hi, hv⟩

/-- `sendControl st ctl` is `sendControlWith st ctl st.ctlToken` -/
theorem ctl_eq {st : State} {ctl : Control} {tok : Nat} (h : sends (sendControlWith st ctl tok) c' evs = .ok (c1, out)) :
    c1 = c' ∧ out = { sent := [.control st.ctlAck tok ctl], events := evs } := by
  obtain ⟨ps, hs, rfl, rfl⟩ := sends_eq h
  exact ⟨rfl, by rw [sendControlWith_eq hs]⟩

theorem ctl_good {st : State} {ctl : Control} {tok : Nat}
    (hr : ∀ r, ctl = .close r → r.length ≤ 127 ∧ r.all (· != 0) = true)
    (hc : ∀ rt, ctl = .connect rt → rt ≠ TOKEN_NONE) (ht : ∀ rt, ctl = .token rt → rt ≠ TOKEN_NONE) (hi : c'.Inv) :
    Good (sends (sendControlWith st ctl tok) c' evs) := by
  obtain ⟨he, hv⟩ := sendControlWith_ok st ctl tok hr hc ht
  exact sends_good he (List.forall_mem_singleton.mpr hv) hi

theorem coreRes_eq {r : CoreRes} (h : coreRes own their r = .ok (c1, out)) :
    ∃ o' s' fl evs, r = .ok (o', s', fl, evs) ∧ c1 = ⟨.online own their o', s'⟩ ∧
      out = { sent := fl.map (ofFlushed their), events := evs } := by
  cases r with
  | error e => cases h
  | ok r =>
    obtain ⟨o', s', fl, evs⟩ := r
    obtain ⟨ps, hs, rfl, rfl⟩ := sends_eq h
    cases emit_eq hs
    exact ⟨_, _, _, _, rfl, rfl, rfl⟩

theorem coreRes_nohang {r : CoreRes} (h : NoHang r) : NoHang (coreRes own their r) := by
  cases r with
  | error e => exact h.err rfl
  | ok r => exact sends_nohang (emit_nohang _)

theorem coreRes_good {o : Online} {s : Timeout} {op : CoreOp} (ho : o.Inv cfg) (hown : own ≠ TOKEN_NONE) (hx : op.Wf) :
    Good (coreRes own their (op.run cfg env.now o s)) := by
  obtain ⟨o', s', fl, evs, hr, hinv, hfl⟩ := CoreOp.run_spec (now := env.now) (s := s) cfg_ok ho hx
  rw [hr]
  obtain ⟨he, hv⟩ := emit_flushed their hfl
  exact sends_good he hv (inv_online hinv hown)

end

/-- `Feeds env c p r`: on packet `p`, after the token check and `ack_chunks`, `feed` evaluates `r` -/
inductive Feeds (env : Env) (c : Conn) : Packet → Res → Prop
  | idle {p} : Feeds env c p (.ok (c, {}))
  | receive {ack tk rr n cs own their o}
      (hst : c.state = .online own their o ∨ (c.state = .pending own their ∧ o = .new)) :
      Feeds env c (.chunks ack tk rr n cs) (coreRes own their (CoreOp.run cfg env.now o c.send (.receive rr cs)))
  | noDraw {ack tk their site} (hd : tokenRandom env.draws = none) :
      Feeds env c (.control ack tk (.token their)) (.error (.panic site))
  | tokenRequest {ack tk their own}
      (hst : (c.state = .unconnected ∧ tokenRandom env.draws = some own) ∨ c.state = .pendingConnect own) :
      Feeds env c (.control ack tk (.token their))
        (sends (sendControlWith (.pendingConnect own) (.token own) their) ⟨.pendingConnect own, c.send⟩ [])
  | tokenAnswer {ack tk their own} (hst : c.state = .token own) :
      Feeds env c (.control ack tk (.token their))
        (sends (sendControl (.connecting own their) (.connect own)) ⟨.connecting own their, Timeout.after env.now sendUs⟩ [])
  | connect {ack tk their own} (hst : c.state = .pendingConnect own) :
      Feeds env c (.control ack tk (.connect their))
        (sends (sendControl (.pending own their) .accept) ⟨.pending own their, Timeout.after env.now sendUs⟩ [])
  | accept {ack tk own their} (hst : c.state = .connecting own their) :
      Feeds env c (.control ack tk .accept) (.ok (⟨.online own their .new, c.send⟩, { events := [.ready] }))
  | close {ack tk r} :
      Feeds env c (.control ack tk (.close r)) (.ok (⟨.disconnected, c.send⟩, { events := [.disconnect r] }))

theorem feedBody_feeds (env : Env) (c : Conn) (p : Packet) : Feeds env c p (feedBody env c p) := by
  obtain ⟨st, snd⟩ := c
  cases p with
  | connless a b d => exact .idle
  | chunks ack tk rr n cs =>
    cases st
    case online own their o => exact .receive (.inl rfl)
    case pending own their => exact .receive (.inr ⟨rfl, rfl⟩)
    all_goals exact .idle
  | control ack tk ctl =>
    cases ctl with
    | keepAlive => exact .idle
    | close r => exact .close
    | accept =>
      cases st
      case connecting own their => exact .accept rfl
      all_goals exact .idle
    | connect their =>
      cases st
      case pendingConnect own => exact .connect rfl
      all_goals exact .idle
    | token their =>
      cases st
      case unconnected =>
        simp only [feedBody]
        cases hd : tokenRandom env.draws with
        | none => exact .noDraw hd
        | some own => exact .tokenRequest (.inl ⟨rfl, hd⟩)
      case pendingConnect own => exact .tokenRequest (.inr rfl)
      case token own => exact .tokenAnswer rfl
      all_goals exact .idle

def Packet.ack? : Packet → Option Nat
  | .connless _ _ _ => none
  | .control ack _ _ => some ack
  | .chunks ack _ _ _ _ => some ack

/-- the control message `tick_action` sends in a state in which it does not flush -/
def State.tickControl : State → Option Control
  | .token own => some (.token own)
  | .connecting own _ => some (.connect own)
  | .pending _ _ => some .accept
  | .online _ _ _ => some .keepAlive
  | _ => none

/-- what `permitted` rules out: the call is made in a state, or with an argument, the API forbids, or `connect`
finds the random source exhausted -/
def Misuse (env : Env) (c : Conn) : Op → Prop
  | .connect => c.state ≠ .unconnected ∨ tokenRandom env.draws = none
  | .disconnect r => c.state = .disconnected ∨ r.any (· == 0) = true
  | .flush | .send _ _ | .sendConnless _ => c.state.isOnline = false
  | _ => False

/-- `x` is a core operation the call `op` may run on an online connection -/
def Asks (x : CoreOp) : Op → Prop
  | .flush => x = .flush
  | .send d v => x = .send d v
  | .tick => x = .flush ∨ x = .resend
  | _ => False

theorem Asks.app {x : CoreOp} {op : Op} : Asks x op → x.App := by
  cases op with
  | flush => rintro rfl; trivial
  | send d v => rintro rfl; trivial
  | tick => rintro (rfl | rfl) <;> trivial
  | _ => exact False.elim

/-- `Runs env c op r`: the call `op` on `c` evaluates `r`; for the shape of the results see `Conn6.Runs`. -/
inductive Runs (env : Env) (c : Conn) : Op → Res → Prop
  | misuse {op site} (h : Misuse env c op) : Runs env c op (.error (.panic site))
  /-- nothing happens: a timer not due, a read error, a token mismatch (0.7: a connless datagram handed on) -/
  | same {op out} (hop : op = .tick ∨ ∃ rd, op = .feed rd) (hs : out.sent = [])
      (he : out.events = [] ∨ ∃ d, out.events = [.connless d]) : Runs env c op (.ok (c, out))
  /-- `tick` in an idle state whose send timer had run out -/
  | cleared (hc : c.state.tickControl = none) : Runs env c .tick (.ok (⟨c.state, .inactive⟩, {}))
  | connect {t} (hst : c.state = .unconnected) (ht : tokenRandom env.draws = some t) :
      Runs env c .connect (sends (sendControl (.token t) (.token t)) ⟨.token t, Timeout.after env.now sendUs⟩ [])
  /-- `tick_action` with nothing to flush: the state's control message again -/
  | repeated {ctl} (hc : c.state.tickControl = some ctl) :
      Runs env c .tick (sends (sendControl c.state ctl) ⟨c.state, Timeout.after env.now sendUs⟩ [])
  | core {op own their o r} (hst : c.state = .online own their o) (x : CoreOp) (hx : Asks x op)
      (hr : r = coreRes own their (x.run cfg env.now o c.send)) : Runs env c op r
  | connless {d r own their o} (hst : c.state = .online own their o)
      (hr : r = if d.length > Tw.Gen.Conn.P7.connlessMax then .ok (⟨c.state, Timeout.after env.now sendUs⟩, {})
        else sends (emit [.connless their own d]) ⟨c.state, Timeout.after env.now sendUs⟩ []) :
      Runs env c (.sendConnless d) r
  | disconnect {r} (hst : c.state ≠ .disconnected) (hr : r.any (· == 0) = false) :
      Runs env c (.disconnect r) (sends (sendControl c.state (.close r)) ⟨.disconnected, c.send⟩ [])
  /-- a connected datagram past the token check, the connection not online: `feedBody` -/
  | fed {p a r} (ha : p.ack? = some a) (hst : c.state.isOnline = false) (hf : Feeds env c p r) :
      Runs env c (.feed (some p)) r
  /-- … online: `ack_chunks` first, then `feedBody` on the acked core -/
  | acked {p a own their o} {r : Online → Res} (ha : p.ack? = some a) (hst : c.state = .online own their o)
      (hf : ∀ o1, Feeds env ⟨.online own their o1, c.send⟩ p (r o1)) :
      Runs env c (.feed (some p)) (match o.feedAck a with | .error e => .error e | .ok o1 => r o1)

theorem Runs.ite {env : Env} {c : Conn} {op : Op} {p : Prop} [Decidable p] {a b : Res}
    (ha : p → Runs env c op a) (hb : ¬p → Runs env c op b) : Runs env c op (if p then a else b) := by
  split
  · exact ha ‹_›
  · exact hb ‹_›

section
variable (env : Env) (c : Conn)

theorem resendConn_eq (own their : Nat) (o : Online) (s : Timeout) :
    resendConn env own their o s = coreRes own their (CoreOp.run cfg env.now o s .resend) := by
  simp only [resendConn, CoreOp.run]
  cases o.resend cfg env.now s <;> rfl

theorem tick_runs : Runs env c .tick (tick env c) := by
  obtain ⟨st, snd⟩ := c
  have idle : Runs env ⟨st, snd⟩ .tick (.ok (⟨st, snd⟩, {})) := .same (.inl rfl) rfl (.inl rfl)
  cases st
  case online own their o =>
    refine .ite (fun _ => .core rfl .resend (.inr rfl) (resendConn_eq env own their o snd)) fun _ => .ite (fun _ => ?_) fun _ => idle
    exact .ite (fun _ => .core rfl .flush (.inl rfl) rfl) fun _ => .repeated (ctl := .keepAlive) rfl
  case token own => exact .ite (fun _ => .repeated (ctl := .token own) rfl) fun _ => idle
  case connecting own their =>
    exact .ite (fun _ => .repeated (ctl := .connect own) rfl) fun _ => idle
  case pending own their =>
    exact .ite (fun _ => .repeated (ctl := .accept) rfl) fun _ => idle
  all_goals exact .ite (fun _ => .cleared rfl) fun _ => idle

theorem feed_runs (rd : Option Packet) : Runs env c (.feed rd) (feed env c rd) := by
  obtain ⟨st, snd⟩ := c
  cases rd with
  | none => exact .same (.inr ⟨_, rfl⟩) rfl (.inl rfl)
  | some p =>
    cases p with
    | connless a b d =>
      exact .ite (fun _ => .same (.inr ⟨_, rfl⟩) rfl (.inl rfl)) fun _ =>
        .ite (fun _ => .same (.inr ⟨_, rfl⟩) rfl (.inl rfl)) fun _ => .same (.inr ⟨_, rfl⟩) rfl (.inr ⟨_, rfl⟩)
    | control ack tk ctl =>
      refine .ite (fun _ => .same (.inr ⟨_, rfl⟩) rfl (.inl rfl)) fun _ => ?_
      cases st
      case online own their o => exact .acked rfl rfl fun o1 => feedBody_feeds env _ _
      all_goals exact .fed (a := ack) rfl rfl (feedBody_feeds env _ _)
    | chunks ack tk rr n cs =>
      refine .ite (fun _ => .same (.inr ⟨_, rfl⟩) rfl (.inl rfl)) fun _ => ?_
      cases st
      case online own their o => exact .acked rfl rfl fun o1 => feedBody_feeds env _ _
      all_goals exact .fed (a := ack) rfl rfl (feedBody_feeds env _ _)

theorem step_runs (op : Op) : Runs env c op (step env c op) := by
  obtain ⟨st, snd⟩ := c
  cases op with
  | connect =>
    cases st
    case unconnected =>
      simp only [step, connect]
      cases hd : tokenRandom env.draws with
      | none => exact .misuse (.inr hd)
      | some t => exact .connect rfl hd
    all_goals exact .misuse (.inl State.noConfusion)
  | disconnect r =>
    simp only [step, disconnect]
    split
    · exact .misuse (.inl rfl)
    · split
      · exact .misuse (.inr ‹_›)
      · exact .disconnect ‹_› (Bool.eq_false_iff.mpr ‹_›)
  | flush =>
    cases st
    case online => exact .core rfl .flush rfl rfl
    all_goals exact .misuse rfl
  | send d v =>
    cases st
    case online own their o =>
      refine .core rfl (.send d v) rfl ?_
      simp only [step, send, CoreOp.run]
      cases o.send cfg env.now d v with
      | error e => rfl
      | ok r => simp only [coreRes, sends]; cases emit _ <;> rfl
    all_goals exact .misuse rfl
  | sendConnless d =>
    cases st
    case online own their o =>
      refine .connless rfl ?_
      by_cases hl : d.length > Tw.Gen.Conn.P7.connlessMax <;> simp only [step, sendConnless, hl, if_true, if_false]
      simp only [sends]; cases emit _ <;> rfl
    all_goals exact .misuse rfl
  | tick => exact tick_runs env _
  | feed rd => exact feed_runs env _ rd

end

/-- The result as a variable `r` with the equation beside it: `cases` on `Runs env c op (.ok (c', out))` cannot unify that
index with `sends …` / `coreRes …`; on `Runs env c op r` it can. -/
theorem step_runs_ok {env : Env} {c c' : Conn} {op : Op} {out : Out} (h : step env c op = .ok (c', out)) :
    ∃ r, Runs env c op r ∧ r = .ok (c', out) :=
  ⟨_, step_runs env c op, h⟩

/-! ## C04: a permitted call returns, keeps the invariant, and everything it sends is valid -/

section
variable {env : Env} {c c' : Conn} {out : Out} {r : Res} {op : Op} {p : Packet}

theorem tickControl_valid {st : State} {ctl : Control} (hown : ∀ own, st.ownToken? = some own → own ≠ TOKEN_NONE)
    (hc : st.tickControl = some ctl) :
    (∀ r, ctl = .close r → r.length ≤ 127 ∧ r.all (· != 0) = true) ∧ (∀ rt, ctl = .connect rt → rt ≠ TOKEN_NONE) ∧
      ∀ rt, ctl = .token rt → rt ≠ TOKEN_NONE := by
  cases st <;> cases hc <;> refine ⟨fun _ h => (nomatch h), ?_, ?_⟩ <;> intro rt h <;> cases h <;> exact hown _ rfl

theorem Feeds.good (h : Feeds env c p r) (hi : c.Inv) (hwf : p.wf = true)
    (hd : (tokenRandom env.draws).isSome = true) : Good r := by
  cases h with
  | idle => exact ⟨_, _, rfl, hi, fun _ h => nomatch h⟩
  | receive hst =>
    simp only [Packet.wf, Bool.and_eq_true, decide_eq_true_eq] at hwf
    rcases hst with hst | ⟨hst, rfl⟩
    · exact coreRes_good (hi.online _ _ _ hst) (hi.own _ (by rw [hst]; rfl)) hwf.2
    · exact coreRes_good (Online.new_inv cfg) (hi.own _ (by rw [hst]; rfl)) hwf.2
  | noDraw hn => rw [hn] at hd; cases hd
  | @tokenRequest _ _ their own hst =>
    have hown : own ≠ TOKEN_NONE := by
      rcases hst with ⟨_, ht⟩ | hst
      · exact tokenRandom_ne ht
      · exact hi.own own (by rw [hst]; rfl)
    exact ctl_good (fun _ h => nomatch h) (fun _ h => nomatch h) (by intro rt hrt; cases hrt; exact hown)
      (inv_own rfl rfl hown)
  | tokenAnswer hst =>
    have hown := hi.own _ (by rw [hst]; rfl)
    exact ctl_good (fun _ h => nomatch h) (by intro rt hrt; cases hrt; exact hown) (fun _ h => nomatch h)
      (inv_own rfl rfl hown)
  | connect hst =>
    exact ctl_good (fun _ h => nomatch h) (fun _ h => nomatch h) (fun _ h => nomatch h)
      (inv_own rfl rfl (hi.own _ (by rw [hst]; rfl)))
  | accept hst => exact ⟨_, _, rfl, inv_online (Online.new_inv cfg) (hi.own _ (by rw [hst]; rfl)), fun _ h => nomatch h⟩
  | close => exact ⟨_, _, rfl, inv_not_online rfl (by intro own ho; cases ho), fun _ h => nomatch h⟩

theorem Misuse.not_permitted (h : Misuse env c op) : permitted env c op = false := by
  cases op with
  | connect =>
    rcases h with h | h
    · simp [permitted, h]
    · simp [permitted, h]
  | disconnect r =>
    rcases h with h | h
    · simp [permitted, h]
    · obtain ⟨x, hx, h0⟩ := List.any_eq_true.mp h
      have : r.all (· != 0) = false := List.all_eq_false.mpr ⟨x, hx, by simpa using h0⟩
      simp only [permitted, this, Bool.and_false, Bool.false_and]
  | flush => exact h
  | send d v => exact h
  | sendConnless d => exact h
  | _ => exact h.elim

theorem Runs.good (h : Runs env c op r) (hi : c.Inv) (hp : permitted env c op = true) : Good r := by
  cases h with
  | misuse h => rw [h.not_permitted] at hp; cases hp
  | same _ hs => exact ⟨_, _, rfl, hi, by rw [hs]; exact fun _ h => nomatch h⟩
  | cleared => exact ⟨_, _, rfl, ⟨hi.online, hi.own⟩, fun _ h => nomatch h⟩
  | connect hst ht =>
    have hown := tokenRandom_ne ht
    exact ctl_good (fun _ h => nomatch h) (fun _ h => nomatch h) (by intro rt hrt; cases hrt; exact hown)
      (inv_own rfl rfl hown)
  | repeated hc =>
    obtain ⟨a, b, d⟩ := tickControl_valid hi.own hc
    exact ctl_good a b d ⟨hi.online, hi.own⟩
  | core hst x hx hr => rw [hr]; exact coreRes_good (hi.online _ _ _ hst) (hi.own _ (by rw [hst]; rfl)) hx.app.wf
  | @connless d _ own their o hst hr =>
    rw [hr]; split
    · exact ⟨_, _, rfl, ⟨hi.online, hi.own⟩, fun _ h => nomatch h⟩
    · have hv : ∀ p ∈ [Packet.connless their own d], p.valid = true :=
        List.forall_mem_singleton.mpr (by simp only [Packet.valid, decide_eq_true_eq]; omega)
      exact sends_good (emit_ok hv) hv ⟨hi.online, hi.own⟩
  | disconnect hst =>
    simp only [permitted, Bool.and_eq_true, decide_eq_true_eq] at hp
    exact ctl_good (fun r' h => by cases h; exact ⟨hp.2, hp.1.2⟩) (fun _ h => nomatch h) (fun _ h => nomatch h)
      (inv_not_online rfl (by intro own ho; cases ho))
  | @fed p a _ ha _ hf =>
    simp only [permitted, Bool.and_eq_true] at hp
    exact hf.good hi (by simpa using hp.1) hp.2
  | @acked p a own their o r ha hst hf =>
    simp only [permitted, Bool.and_eq_true] at hp
    have hwf : p.wf = true := by simpa using hp.1
    have hack : a < seqMod := by
      cases p <;> cases ha <;> simp only [Packet.wf, Bool.and_eq_true, decide_eq_true_eq] at hwf
      · exact hwf
      · exact hwf.1
    obtain ⟨he, hinv⟩ := Online.feedAck_spec (hi.online _ _ _ hst) hack
    rw [he]
    exact (hf _).good (inv_online hinv (hi.own _ (by rw [hst]; rfl))) hwf hp.2

end

theorem step_good (env : Env) {c : Conn} (h : c.Inv) (op : Op) (hp : permitted env c op = true) :
    Good (step env c op) :=
  (step_runs env c op).good h hp

theorem run_good : ∀ (sched : List (Env × Op)) (c : Conn), c.Inv → runPermitted c sched = true →
    ∃ c' outs, run c sched = .ok (c', outs) ∧ c'.Inv ∧ ∀ out ∈ outs, ∀ p ∈ out.sent, p.valid = true := by
  intro sched
  induction sched with
  | nil => intro c h _; exact ⟨c, [], rfl, h, by simp⟩
  | cons eo rest ih =>
    intro c h hp
    obtain ⟨env, op⟩ := eo
    simp only [runPermitted, Bool.and_eq_true] at hp
    obtain ⟨c1, out, he, hinv, hv⟩ := step_good env h op hp.1
    have hp2 := hp.2
    rw [he] at hp2
    obtain ⟨c2, outs, he2, hinv2, hv2⟩ := ih c1 hinv hp2
    refine ⟨c2, out :: outs, ?_, hinv2, ?_⟩
    · simp only [run, he, he2]
    · intro o ho
      rcases List.mem_cons.mp ho with rfl | ho
      · exact hv
      · exact hv2 o ho

/-! ## C02 (a): no call hangs -/

theorem Feeds.nohang {env : Env} {c : Conn} {p : Packet} {r : Res} (h : Feeds env c p r) : NoHang r := by
  cases h with
  | receive => exact coreRes_nohang CoreOp.run_nohang
  | noDraw => exact .panic _
  | tokenRequest => exact sends_nohang (emit_nohang _)
  | tokenAnswer => exact sends_nohang (sendControl_nohang _ _)
  | connect => exact sends_nohang (sendControl_nohang _ _)
  | _ => exact .ok _

theorem Runs.nohang {env : Env} {c : Conn} {op : Op} {r : Res} (h : Runs env c op r) : NoHang r := by
  cases h with
  | misuse => exact .panic _
  | connect => exact sends_nohang (sendControl_nohang _ _)
  | repeated => exact sends_nohang (sendControl_nohang _ _)
  | disconnect => exact sends_nohang (sendControl_nohang _ _)
  | core _ _ _ hr => rw [hr]; exact coreRes_nohang CoreOp.run_nohang
  | connless _ hr =>
    rw [hr]; split
    · exact .ok _
    · exact sends_nohang (emit_nohang _)
  | fed _ _ hf => exact hf.nohang
  | acked _ _ hf =>
    split
    · exact (Online.feedAck_nohang _ _).err ‹_›
    · exact (hf _).nohang
  | _ => exact .ok _

/-- C02 (a): no call hangs, whatever the state and the arguments -/
theorem step_nohang (env : Env) (c : Conn) (op : Op) : NoHang (step env c op) := (step_runs env c op).nohang

theorem run_nohang : ∀ (sched : List (Env × Op)) (c : Conn), NoHang (run c sched) := by
  intro sched
  induction sched with
  | nil => exact fun _ => .ok _
  | cons eo rest ih =>
    intro c
    simp only [run]
    split
    · exact (step_nohang _ _ _).err ‹_›
    · split
      · exact (ih _).err ‹_›
      · exact .ok _

/-! ## Over schedules -/

theorem run_invariant {I : Conn → Prop} {K : Out → Prop} {G : Env → Prop}
    (hstep : ∀ env c op c' out, G env → step env c op = .ok (c', out) → I c → I c' ∧ K out) :
    ∀ (sched : List (Env × Op)) (c c' : Conn) (outs : List Out), (∀ eo ∈ sched, G eo.1) → I c →
      run c sched = .ok (c', outs) → I c' ∧ ∀ out ∈ outs, K out := by
  intro sched
  induction sched with
  | nil => intro c c' outs _ h he; cases he; exact ⟨h, fun _ h => nomatch h⟩
  | cons eo rest ih =>
    intro c c' outs hg h he
    simp only [run] at he
    obtain ⟨env, op⟩ := eo
    obtain ⟨hg0, hg1⟩ := List.forall_mem_cons.mp hg
    cases hs : step env c op with
    | error e => rw [hs] at he; cases he
    | ok r =>
      obtain ⟨c1, out⟩ := r
      rw [hs] at he
      simp only at he
      cases hr : run c1 rest with
      | error e => rw [hr] at he; cases he
      | ok r2 =>
        obtain ⟨c2, outs2⟩ := r2
        rw [hr] at he
        cases he
        obtain ⟨a, b⟩ := hstep _ _ _ _ _ hg0 hs h
        obtain ⟨a2, b2⟩ := ih c1 _ _ hg1 a hr
        exact ⟨a2, List.forall_mem_cons.mpr ⟨b, b2⟩⟩

end Tw.Conn7
