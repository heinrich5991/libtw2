import Tw.Proofs.HuffmanDec
import Tw.Proofs.ListBasics
import Tw.Model.HuffmanRef

/-! A well-formed table is a tree: every node but the root is the child of exactly one inner node
(`WellFormed.forest`), so paths from the root are unique (`go_unique`) and the reference's lookup
table is consistent with the stored code lengths (`WellFormed.lutOk`).  `Forest` is also what the
merge loop of `from_frequencies` establishes before any code is assigned (`HuffmanFreqInner`). -/
namespace Tw.Huffman

def Covered (nodes : Table) : Prop :=
  ∀ j, j < nodes.size → j = nodes.size - 1 ∨
    (∃ i, NUM_SYMBOLS ≤ i ∧ i < nodes.size ∧ ((node nodes i).1 = j ∨ (node nodes i).2 = j))

/-- that the two children of one node differ is in `InnerBelow` -/
def UniqueParent (nodes : Table) : Prop :=
  ∀ i i' j, NUM_SYMBOLS ≤ i → i < nodes.size → NUM_SYMBOLS ≤ i' → i' < nodes.size →
    ((node nodes i).1 = j ∨ (node nodes i).2 = j) →
    ((node nodes i').1 = j ∨ (node nodes i').2 = j) → i = i'

structure Forest (N : Table) : Prop where
  size : N.size = 513
  inner : InnerBelow N
  covered : Covered N
  uniq : UniqueParent N

theorem Forest.child_lt {N : Table} (h : Forest N) {n : Nat} (hge : NUM_SYMBOLS ≤ n) (hn : n < 513)
    (b : Bool) : child N n b < n :=
  h.inner.child_lt hge (h.size ▸ hn) b

/-- follow `p` from `nd` through inner nodes; the last step may land on a symbol.  The model's `walk` answers only at a
symbol; `go` answers at every node, so it composes (`go_append`); `walk_iff_go` relates them. -/
def go (N : Table) : Nat → List Bool → Option Nat
  | nd, [] => some nd
  | nd, b :: bs => if nd ≥ NUM_SYMBOLS then go N (child N nd b) bs else none

theorem go_append (N : Table) (p q : List Bool) :
    ∀ nd, go N nd (p ++ q) = (go N nd p).bind (fun m => go N m q) := by
  induction p with
  | nil => intro nd; simp [go]
  | cons b bs ih =>
    intro nd
    simp only [List.cons_append, go]
    split
    · exact ih _
    · rfl

theorem walk_iff_go (N : Table) (p : List Bool) : ∀ nd s, nd ≥ NUM_SYMBOLS →
    (walk N nd p = some s ↔ go N nd p = some s ∧ s < NUM_SYMBOLS ∧ p ≠ []) := by
  induction p with
  | nil => intro nd s _; simp [walk, walkF]
  | cons b bs ih =>
    intro nd s hnd
    have hc : childF (node N) nd b = child N nd b := rfl
    simp only [walk, walkF, go, hnd, if_true, hc]
    by_cases hge : child N nd b ≥ NUM_SYMBOLS
    · simp only [hge, if_true]
      rw [show walkF (node N) (child N nd b) bs = walk N (child N nd b) bs from rfl, ih _ s hge]
      constructor
      · rintro ⟨h1, h2, _⟩
        exact ⟨h1, h2, List.cons_ne_nil _ _⟩
      · rintro ⟨h1, h2, _⟩
        refine ⟨h1, h2, ?_⟩
        rintro rfl
        simp only [go, Option.some.injEq] at h1
        omega
    · simp only [hge, if_false]
      cases bs with
      | nil =>
        simp only [List.isEmpty_nil, if_true, go, Option.some.injEq]
        constructor
        · rintro rfl
          exact ⟨rfl, by omega, List.cons_ne_nil _ _⟩
        · exact fun h => h.1
      | cons b' bs' => simp [go, hge]

theorem child_false (N : Table) (nd : Nat) : child N nd false = (node N nd).1 := rfl
theorem child_true (N : Table) (nd : Nat) : child N nd true = (node N nd).2 := rfl

theorem child_mem (N : Table) (nd : Nat) (b : Bool) :
    (node N nd).1 = child N nd b ∨ (node N nd).2 = child N nd b := by
  cases b
  · exact Or.inl rfl
  · exact Or.inr rfl

theorem child_inj {N : Table} {nd : Nat} {b b' : Bool} (hne : (node N nd).1 ≠ (node N nd).2)
    (h : child N nd b = child N nd b') : b = b' := by
  cases b <;> cases b'
  · rfl
  · exact absurd h hne
  · exact absurd h.symm hne
  · rfl

theorem go_le (N : Table) (hs : N.size = 513) (hi : InnerBelow N) (p : List Bool) :
    ∀ nd m, nd < 513 → go N nd p = some m → m ≤ nd ∧ (p ≠ [] → m < nd) := by
  induction p with
  | nil =>
    intro nd m _ h
    simp only [go, Option.some.injEq] at h
    subst h
    exact ⟨Nat.le_refl _, fun h => absurd rfl h⟩
  | cons b bs ih =>
    intro nd m hnd h
    simp only [go] at h
    split at h
    · next hge =>
      have hlt := hi.child_lt hge (hs ▸ hnd) b
      have := ih _ _ (by omega) h
      exact ⟨by omega, fun _ => by omega⟩
    · cases h

theorem go_snoc (N : Table) (p : List Bool) (b : Bool) (nd j : Nat) :
    go N nd (p ++ [b]) = some j ↔ ∃ i, go N nd p = some i ∧ i ≥ NUM_SYMBOLS ∧ child N i b = j := by
  rw [go_append]
  cases go N nd p with
  | none => simp
  | some i => simp [go]

theorem go_root_nil (N : Table) (hN : Forest N) (p : List Bool)
    (h : go N ROOT_IDX p = some ROOT_IDX) : p = [] := by
  by_cases hp : p = []
  · exact hp
  · exact absurd ((go_le N hN.size hN.inner p _ _ (by decide) h).2 hp) (Nat.lt_irrefl _)

/-- Two paths from the root to `j` have the same last edge, since `j` has one parent `i` and the
children of `i` differ; `i` has the larger index, which is what the induction runs on. -/
theorem go_unique (N : Table) (hN : Forest N) (j : Nat) (p q : List Bool)
    (hp : go N ROOT_IDX p = some j) (hq : go N ROOT_IDX q = some j) : p = q := by
  induction hm : 512 - j using Nat.strongRecOn generalizing j p q with
  | ind m ih =>
    rcases List.eq_nil_or_concat p with rfl | ⟨p', b, rfl⟩
    · cases hp
      exact (go_root_nil N hN q hq).symm
    rcases List.eq_nil_or_concat q with rfl | ⟨q', b', rfl⟩
    · cases hq
      exact go_root_nil N hN _ hp
    simp only [List.concat_eq_append] at hp hq ⊢
    obtain ⟨i, gi, i1, ci⟩ := (go_snoc N p' b ROOT_IDX j).mp hp
    obtain ⟨i', gi', i1', ci'⟩ := (go_snoc N q' b' ROOT_IDX j).mp hq
    have hi512 := (go_le N hN.size hN.inner p' ROOT_IDX i (by decide) gi).1
    have hi512' := (go_le N hN.size hN.inner q' ROOT_IDX i' (by decide) gi').1
    simp only [ROOT_IDX] at hi512 hi512'
    have hchi := hN.inner i i1 (by rw [hN.size]; omega)
    have hji : j < i := ci ▸ hN.child_lt i1 (by omega) b
    obtain rfl : i = i' := hN.uniq i i' j i1 (by rw [hN.size]; omega) i1' (by rw [hN.size]; omega)
      (ci ▸ child_mem N i b) (ci' ▸ child_mem N i' b')
    rw [ih (512 - i) (by omega) i p' q' gi gi' rfl, child_inj hchi.2.2 (ci.trans ci'.symm)]

theorem reachable_from_root (N : Table) (hN : Forest N) (j : Nat) (hj : j < 513) :
    ∃ p, go N ROOT_IDX p = some j := by
  induction hm : 512 - j using Nat.strongRecOn generalizing j with
  | ind m ih =>
    rcases hN.covered j (by rw [hN.size]; exact hj) with e | ⟨i, i1, i2, i3⟩
    · rw [hN.size] at e
      exact ⟨[], e ▸ rfl⟩
    · rw [hN.size] at i2
      obtain ⟨b, hb⟩ : ∃ b, child N i b = j := by
        rcases i3 with e | e
        · exact ⟨false, e⟩
        · exact ⟨true, e⟩
      have hij : j < i := hb ▸ hN.child_lt i1 i2 b
      obtain ⟨p, hp⟩ := ih (512 - i) (by omega) i i2 rfl
      exact ⟨p ++ [b], (go_snoc N p b ROOT_IDX j).mpr ⟨i, hp, i1, hb⟩⟩

open Classical in
/-- All 257 symbols are reachable from the root.  If `r` inner nodes are reachable, their `2 r`
edges (and one into the root) must cover the `257 + r` reachable nodes, so all 256 are, and the 512
edges hit the 512 nodes below the root once each. -/
theorem WellFormed.forest {t : Table} (h : WellFormed t) : Forest t := by
  let R : Nat → Prop := fun j => ∃ p, go t ROOT_IDX p = some j
  have inv : ∀ j, R j → j ≠ 512 → ∃ i b, R i ∧ NUM_SYMBOLS ≤ i ∧ i < 513 ∧ child t i b = j := by
    rintro j ⟨p, hp⟩ hj
    rcases List.eq_nil_or_concat p with rfl | ⟨p', b, rfl⟩
    · cases hp; exact absurd rfl hj
    · obtain ⟨i, gi, i1, ci⟩ := (go_snoc t p' b ROOT_IDX j).mp (by simpa using hp)
      exact ⟨i, b, ⟨p', gi⟩, i1, Nat.lt_succ_of_le (go_le t h.1 h.inner p' _ _ (by decide) gi).1, ci⟩
  have hleaf : ∀ s, s < NUM_SYMBOLS → R s := fun s hs =>
    ⟨_, ((walk_iff_go t _ _ _ (by decide)).mp (h.walk_code hs)).1⟩
  let I := List.range' 257 256
  let A := I.filter (fun i => decide (R i))
  have hA_sub : A.Sublist I := List.filter_sublist
  have hA_nd : A.Nodup := (List.nodup_range' (step := 1)).sublist hA_sub
  have hmemA : ∀ i, NUM_SYMBOLS ≤ i → i < 513 → R i → i ∈ A := fun i h1 h2 hr =>
    List.mem_filter.mpr ⟨List.mem_range'_1.mpr ⟨h1, h2⟩, decide_eq_true hr⟩
  -- the reachable nodes, and where edges from reachable inner nodes (and one into the root) lead
  let B := List.range 257 ++ A
  let C := 512 :: (A.map (child t · false) ++ A.map (child t · true))
  have hB_nd : B.Nodup := by
    refine List.nodup_append.mpr ⟨List.nodup_range, hA_nd, fun a ha b hb => ?_⟩
    have := (List.mem_filter.mp hb).1
    simp only [I, List.mem_range'_1] at this
    have := List.mem_range.mp ha
    omega
  have hBC : B ⊆ C := by
    intro x hx
    have hx' : R x := by
      rcases List.mem_append.mp hx with hx | hx
      · exact hleaf x (List.mem_range.mp hx)
      · exact of_decide_eq_true (List.mem_filter.mp hx).2
    by_cases hr : x = 512
    · exact hr ▸ List.mem_cons_self
    · obtain ⟨i, b, ri, i1, i2, ci⟩ := inv x hx' hr
      have hi := hmemA i i1 i2 ri
      refine List.mem_cons_of_mem _ ?_
      cases b
      · exact List.mem_append_left _ (List.mem_map.mpr ⟨i, hi, ci⟩)
      · exact List.mem_append_right _ (List.mem_map.mpr ⟨i, hi, ci⟩)
  have hBlen : B.length = 257 + A.length := by
    simp only [B, List.length_append, List.length_range]
  have hClen : C.length = 1 + 2 * A.length := by
    simp only [C, List.length_cons, List.length_append, List.length_map]; omega
  have h1 := hB_nd.length_le_of_subset hBC
  have h2 : A.length ≤ 256 := by simpa [I] using hA_sub.length_le
  have hAI : A = I := hA_sub.eq_of_length (by simp only [I, List.length_range']; omega)
  have hall : ∀ i, NUM_SYMBOLS ≤ i → i < 513 → R i := fun i h1 h2 =>
    of_decide_eq_true (List.mem_filter.mp (hAI ▸ List.mem_range'_1.mpr ⟨h1, h2⟩ : i ∈ A)).2
  have hC_nd : C.Nodup := nodup_of_subset_of_length_le C B hB_nd hBC (by omega)
  simp only [C, hAI] at hC_nd
  obtain ⟨n0, n1, disj⟩ := List.nodup_append.mp (List.nodup_cons.mp hC_nd).2
  have hsz : t.size = 513 := h.1
  refine ⟨hsz, h.inner, fun j hj => ?_, fun i i' j i1 i2 i1' i2' hj hj' => ?_⟩
  · rw [hsz] at hj ⊢
    by_cases hr : j = 512
    · exact Or.inl hr
    · have : R j := by
        by_cases hs : j < NUM_SYMBOLS
        · exact hleaf j hs
        · exact hall j (by omega) hj
      obtain ⟨i, b, _, i1, i2, ci⟩ := inv j this hr
      cases b
      · exact Or.inr ⟨i, i1, i2, Or.inl ci⟩
      · exact Or.inr ⟨i, i1, i2, Or.inr ci⟩
  · rw [hsz] at i2 i2'
    have mi : i ∈ I := List.mem_range'_1.mpr ⟨i1, i2⟩
    have mi' : i' ∈ I := List.mem_range'_1.mpr ⟨i1', i2'⟩
    rcases hj with e | e <;> rcases hj' with e' | e'
    · exact inj_of_nodup_map n0 mi mi' (e.trans e'.symm)
    · exact absurd (e.trans e'.symm) (disj _ (List.mem_map_of_mem mi) _ (List.mem_map_of_mem mi'))
    · exact absurd (e'.trans e.symm) (disj _ (List.mem_map_of_mem mi') _ (List.mem_map_of_mem mi))
    · exact inj_of_nodup_map n1 mi mi' (e.trans e'.symm)

theorem lutWalk_spec (t : Table) (k : Nat) :
    ∀ (nd v : Nat), NUM_SYMBOLS ≤ nd →
      (lutWalk t k nd v < NUM_SYMBOLS →
        1 ≤ lutDepth t k nd v ∧ lutDepth t k nd v ≤ k ∧
          walk t nd (natBits (lutDepth t k nd v) v) = some (lutWalk t k nd v))
      ∧ (NUM_SYMBOLS ≤ lutWalk t k nd v →
          ∀ p, walk t nd (natBits k v ++ p) = walk t (lutWalk t k nd v) p) := by
  induction k with
  | zero =>
    intro nd v hnd
    simp only [lutWalk, lutWalkF, lutDepth, lutDepthF, natBits, List.nil_append]
    exact ⟨fun h => by omega, fun _ _ => trivial⟩
  | succ k ih =>
    intro nd v hnd
    simp only [lutWalk, lutWalkF, lutDepth, lutDepthF]
    by_cases hc : childF (node t) nd (v % 2 == 1) < NUM_SYMBOLS
    · simp only [hc, if_true]
      exact ⟨fun _ => ⟨by omega, by omega, walk_leaf hc⟩, fun h => by omega⟩
    · simp only [hc, if_false]
      have hge : NUM_SYMBOLS ≤ childF (node t) nd (v % 2 == 1) := by omega
      obtain ⟨i1, i2⟩ := ih (childF (node t) nd (v % 2 == 1)) (v / 2) hge
      simp only [lutWalk, lutDepth] at i1 i2
      constructor
      · intro hlt
        obtain ⟨j1, j2, j3⟩ := i1 hlt
        refine ⟨by omega, by omega, ?_⟩
        rw [Nat.add_comm 1, natBits, walk_inner hge]
        exact j3
      · intro hge2 p
        rw [natBits, List.cons_append, walk_inner hge]
        exact i2 hge2 p

theorem lutOk_iff (t : Table) : LutOk t ↔ ∀ i, i < LUTSIZE → lut t i < NUM_SYMBOLS →
    symLen t (lut t i) = lutDepth t LUTBITS ROOT_IDX i := by
  simp only [LutOk, lutOkAtF, decide_eq_true_eq]
  rfl

/-- root paths are unique, so a symbol the lookup finds lies as deep as its code is long -/
theorem WellFormed.lutOk {t : Table} (h : WellFormed t) : LutOk t := by
  refine (lutOk_iff t).mpr fun i _ hlt => ?_
  obtain ⟨_, _, w1⟩ := (lutWalk_spec t LUTBITS ROOT_IDX i (by decide)).1 hlt
  have g1 := ((walk_iff_go _ _ _ _ (by decide)).mp w1).1
  have g2 := ((walk_iff_go _ _ _ _ (by decide)).mp (h.walk_code hlt)).1
  have hl := congrArg List.length (go_unique _ h.forest _ _ _ g1 g2)
  rw [natBits_length, codeBits_length] at hl
  exact hl.symm

end Tw.Huffman
