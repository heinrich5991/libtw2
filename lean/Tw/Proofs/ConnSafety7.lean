import Tw.Proofs.ConnSafetyStep
import Tw.Proofs.ConnStep7

/-! C01 for 0.7: every returning call and delivery of the world is a `Conn7.Stepped` of the connection (`call_stepped`,
`recv_stepped`) and so a `GStep` of its view `Conn.g` (`call_step`, `recv_step`; `steps7 : Steps`), hence preserves `AInv`
(`sim7 : Sim`) and obeys the handshake clause (`hs7 : Hs`). -/
namespace Tw.NetSim.P7
open Tw.Conn Tw.Conn7 Tw.Time Tw.NetSim

def core (c : Conn) : Option Online := c.g.ph.core

def late (c : Conn) : Bool := c.g.ph.late

theorem view_g (p : Packet) : p.g.view = view p := by
  cases p <;> rfl

theorem acc_g (p : Packet) : (In.fed p).acc = isAccept p := by
  cases p with
  | control a t ctl => cases ctl <;> rfl
  | _ => rfl

def callIn (cl : Call) (r : Ret Conn Packet) : In :=
  match cl with
  | .connect => .connect
  | _ => .call (subOf cl r)

theorem call_stepped {now : Nat} {draws : List Nat} {c : Conn} {cl : Call} {r : Ret Conn Packet}
    (hr : P7.call now draws c cl = .ok r) :
    ∃ out, Stepped ⟨now, draws⟩ (callIn cl r) c r.conn out ∧ r.sent = out.sent ∧ r.events = out.events := by
  cases cl <;> simp only [P7.call] at hr <;> split at hr <;> cases hr
  · exact ⟨_, connect_stepped ‹_›, rfl, rfl⟩
  · exact ⟨_, send_stepped ‹_›, rfl, rfl⟩
  · exact ⟨_, sendConnless_stepped ‹_›, rfl, rfl⟩
  · exact ⟨_, flush_stepped ‹_›, rfl, rfl⟩
  · exact ⟨_, tick_stepped ‹_›, rfl, rfl⟩
  · exact ⟨_, disconnect_stepped ‹_›, rfl, rfl⟩

theorem recv_stepped {now : Nat} {draws : List Nat} {c : Conn} {p : Packet} {alt : Unit} {r : Ret Conn Packet}
    (hr : P7.recv now draws c p alt = .ok r) :
    ∃ out, Stepped ⟨now, draws⟩ (.fed p) c r.conn out ∧ r.sent = out.sent ∧ r.events = out.events := by
  unfold P7.recv at hr
  split at hr
  · cases hr
  · cases hr; exact ⟨_, feed_stepped ‹_›, rfl, rfl⟩

theorem call_step {now : Nat} {draws : List Nat} {c : Conn} {cl : Call} {r : Ret Conn Packet}
    (hr : P7.call now draws c cl = .ok r) :
    GStep Conn7.cfg now none false c.g r.conn.g (r.sent.map Packet.g) r.events (subOf cl r) := by
  obtain ⟨out, hs, h1, h2⟩ := call_stepped hr
  rw [h1, h2]
  cases cl <;> exact hs.g

theorem recv_step {now : Nat} {draws : List Nat} {c : Conn} {p : Packet} {alt : Unit} {r : Ret Conn Packet}
    (hr : P7.recv now draws c p alt = .ok r) :
    GStep Conn7.cfg now (view p) (isAccept p) c.g r.conn.g (r.sent.map Packet.g) r.events [] := by
  obtain ⟨out, hs, h1, h2⟩ := recv_stepped hr
  rw [h1, h2, ← view_g, ← acc_g]
  exact hs.g

theorem steps7 : Steps proto7 Conn.g Packet.g Conn7.cfg where
  init := rfl
  online := fun c o h => by
    obtain ⟨st, snd⟩ := c
    cases st <;> cases h
    rfl
  view := view_g
  call := call_step
  recv := fun {_ _ _ _ alt _} h => recv_step (alt := alt) h

theorem sim7 : Sim proto7 core Conn7.cfg := steps7.sim Conn7.cfg_ok
theorem hs7 : Hs proto7 late := steps7.hs

end Tw.NetSim.P7
