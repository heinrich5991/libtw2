import Tw.Proofs.Huffman

/-! C07, the decoder of the Huffman model: round trip, capacity bound, termination within the fuel, the result at a
smaller capacity as the truncation of that at a larger one, the length bounds behind the `Vec` API, and the faster
evaluation for drivers (`decompressFast_eq`). -/
namespace Tw.Huffman

theorem decStep_cases (t : Table) (cap nd : Nat) (out : List UInt8) (b : Bool) :
    (child t nd b ≥ NUM_SYMBOLS ∧ decStep t cap nd out b = .cont (child t nd b) out) ∨
    (child t nd b = EOF ∧ decStep t cap nd out b = .done out) ∨
    (child t nd b < EOF ∧ out.length ≥ cap ∧ decStep t cap nd out b = .capacity) ∨
    (child t nd b < EOF ∧ out.length < cap ∧
      decStep t cap nd out b = .cont ROOT_IDX (UInt8.ofNat (child t nd b) :: out)) := by
  simp only [decStep, NUM_SYMBOLS, EOF]
  by_cases h1 : child t nd b ≥ 257
  · left; simp [h1]
  · by_cases h2 : child t nd b = 256
    · right; left; simp [h2]
    · by_cases h3 : out.length ≥ cap
      · right; right; left; simp [h1, h2, h3]; omega
      · right; right; right; simp [h1, h2, h3]; omega

theorem walk_leaf {t : Table} {nd : Nat} {b : Bool} (h : child t nd b < NUM_SYMBOLS) :
    walk t nd [b] = some (child t nd b) :=
  if_neg (Nat.not_le.mpr h)

theorem walk_inner {t : Table} {nd : Nat} {b : Bool} (h : NUM_SYMBOLS ≤ child t nd b) (p : List Bool) :
    walk t nd (b :: p) = walk t (child t nd b) p :=
  if_pos h

theorem walk_decBits (t : Table) (cap : Nat) (bits : List Bool) :
    ∀ (nd : Nat) (out : List UInt8) (rest : List Bool) (s : Nat), walk t nd bits = some s →
      decBits t cap nd out (bits ++ rest) =
        if s = EOF then .fin (.ok out.reverse)
        else if out.length ≥ cap then .fin .capacity
        else decBits t cap ROOT_IDX (UInt8.ofNat s :: out) rest := by
  induction bits with
  | nil => intro nd out rest s h; simp [walk, walkF] at h
  | cons b bs ih =>
    intro nd out rest s h
    simp only [walk, walkF] at h
    simp only [List.cons_append, decBits, decStep, child]
    split at h
    · next hge =>
      simp only [hge, if_true]
      exact ih _ out rest s h
    · next hlt =>
      simp only [hlt, if_false]
      split at h
      · next hemp =>
        have hbs : bs = [] := by simpa using hemp
        cases h
        subst hbs
        by_cases he : childF (node t) nd b = EOF
        · simp [he]
        · by_cases hc : out.length ≥ cap
          · simp [he, hc]
          · simp [he, hc]
      · cases h

theorem decBits_stream (t : Table) (h : WellFormed t) (cap : Nat) :
    ∀ (xs : List UInt8) (out : List UInt8) (rest : List Bool), out.length + xs.length ≤ cap →
      decBits t cap ROOT_IDX out ((xs.map (·.toNat) ++ [EOF]).flatMap (codeBits t) ++ rest)
        = .fin (.ok (out.reverse ++ xs)) := by
  intro xs
  induction xs with
  | nil =>
    intro out rest _
    simp only [List.map_nil, List.nil_append, List.flatMap_cons, List.flatMap_nil, List.append_nil]
    rw [walk_decBits t cap _ _ _ _ _ (h.walk_code (s := EOF) (by decide))]
    simp
  | cons x xs ih =>
    intro out rest hlen
    simp only [List.map_cons, List.cons_append, List.flatMap_cons, List.append_assoc]
    rw [walk_decBits t cap _ _ _ _ _ (h.walk_code (Nat.lt_succ_of_lt (byte_lt_eof x)))]
    have h1 : x.toNat ≠ EOF := Nat.ne_of_lt (byte_lt_eof x)
    have h2 : ¬ out.length ≥ cap := by simp at hlen; omega
    simp only [h1, h2, if_false]
    have := ih (UInt8.ofNat x.toNat :: out) rest (by simp at hlen ⊢; omega)
    rw [this]
    simp

theorem compress_bits (t : Table) (bug : Bool) (xs : List UInt8) :
    ∃ rest, (compress t bug xs).flatMap byteBits = streamBits t xs ++ rest := by
  simp only [compress]
  rw [List.flatMap_append, packBits_bits, List.append_assoc]
  exact ⟨_, rfl⟩

theorem decompress_compress_append (t : Table) (h : WellFormed t) (bug : Bool) (xs ys : List UInt8)
    (cap : Nat) (hcap : xs.length ≤ cap) : decompress t (compress t bug xs ++ ys) cap = .ok xs := by
  obtain ⟨rest, hr⟩ := compress_bits t bug xs
  simp only [decompress]
  rw [List.flatMap_append, hr, List.append_assoc, streamBits,
    decBits_stream t h cap xs [] _ (by simpa using hcap)]
  simp

theorem decompress_compress (t : Table) (h : WellFormed t) (bug : Bool) (xs : List UInt8)
    (cap : Nat) (hcap : xs.length ≤ cap) : decompress t (compress t bug xs) cap = .ok xs := by
  simpa using decompress_compress_append t h bug xs [] cap hcap

/-! ### the zero tail is the same decoder on zero bits

`decZeros` with fuel `n` is `decBits` on `n` zero bits, where being left without a result is
`diverge`: what is proved of `decBits` by induction on the bits carries over. -/

def BitsResult.final : BitsResult → DecResult
  | .fin r => r
  | .more _ _ => .diverge

theorem decZeros_eq_decBits (t : Table) (cap fuel : Nat) : ∀ (nd : Nat) (out : List UInt8),
    decZeros t cap fuel nd out = (decBits t cap nd out (List.replicate fuel false)).final := by
  induction fuel with
  | zero => intro nd out; rfl
  | succ f ih =>
    intro nd out
    simp only [decZeros, List.replicate_succ, decBits]
    cases decStep t cap nd out false with
    | cont nd' out' => exact ih nd' out'
    | done o => rfl
    | capacity => rfl

theorem decBits_append (t : Table) (cap : Nat) (L M : List Bool) : ∀ (nd : Nat) (out : List UInt8),
    decBits t cap nd out (L ++ M) =
      match decBits t cap nd out L with
      | .more nd' out' => decBits t cap nd' out' M
      | .fin r => .fin r := by
  induction L with
  | nil => intro nd out; rfl
  | cons b bs ih =>
    intro nd out
    simp only [List.cons_append, decBits]
    cases decStep t cap nd out b with
    | cont nd' out' => exact ih nd' out'
    | done o => rfl
    | capacity => rfl

theorem decBits_final_append (t : Table) (cap nd : Nat) (out : List UInt8) (L M : List Bool)
    (h : (decBits t cap nd out L).final ≠ .diverge) :
    (decBits t cap nd out (L ++ M)).final = (decBits t cap nd out L).final := by
  rw [decBits_append]
  revert h
  cases decBits t cap nd out L with
  | fin r => intro _; rfl
  | more nd' out' => intro h; exact absurd rfl h

/-- the decoder on the explicit bits `L` followed by endless zeros -/
def run (t : Table) (cap : Nat) (nd : Nat) (out : List UInt8) (L : List Bool) : DecResult :=
  match decBits t cap nd out L with
  | .fin r => r
  | .more nd' out' => decZeros t cap (zeroFuel cap) nd' out'

theorem decompress_eq_run (t : Table) (input : List UInt8) (cap : Nat) :
    decompress t input cap = run t cap ROOT_IDX [] (input.flatMap byteBits) := rfl

theorem run_eq_final (t : Table) (cap nd : Nat) (out : List UInt8) (L : List Bool) :
    run t cap nd out L
      = (decBits t cap nd out (L ++ List.replicate (zeroFuel cap) false)).final := by
  rw [run, decBits_append]
  cases decBits t cap nd out L with
  | fin r => rfl
  | more nd' out' => exact decZeros_eq_decBits t cap _ nd' out'

theorem run_walk (t : Table) (cap : Nat) (p : List Bool) (nd : Nat) (out : List UInt8)
    (rest : List Bool) (s : Nat) (hw : walk t nd p = some s) :
    run t cap nd out (p ++ rest) =
      if s = EOF then .ok out.reverse
      else if out.length ≥ cap then .capacity
      else run t cap ROOT_IDX (UInt8.ofNat s :: out) rest := by
  simp only [run, walk_decBits t cap p nd out rest s hw]
  by_cases h1 : s = EOF
  · simp [h1]
  · by_cases h2 : out.length ≥ cap
    · simp [h1, h2]
    · simp [h1, h2]

theorem decompress_eq_final (t : Table) (input : List UInt8) (cap : Nat) :
    decompress t input cap = (decBits t cap ROOT_IDX []
      (input.flatMap byteBits ++ List.replicate (zeroFuel cap) false)).final :=
  run_eq_final t cap ROOT_IDX [] _

theorem decBits_bound (t : Table) (cap : Nat) (bits : List Bool) :
    ∀ (nd : Nat) (out : List UInt8), out.length ≤ cap →
      match decBits t cap nd out bits with
      | .more _ out' => out.length ≤ out'.length ∧ out'.length ≤ cap
      | .fin (.ok o) => out.length ≤ o.length ∧ o.length ≤ cap
      | .fin .capacity => True
      | .fin .diverge => False := by
  induction bits with
  | nil => intro nd out h; simp [decBits, h]
  | cons b bs ih =>
    intro nd out h
    rcases decStep_cases t cap nd out b with ⟨_, hs⟩ | ⟨_, hs⟩ | ⟨_, _, hs⟩ | ⟨_, hc, hs⟩ <;>
      simp only [decBits, hs]
    · exact ih _ out h
    · simp [h]
    · have := ih ROOT_IDX (UInt8.ofNat (child t nd b) :: out) (by simp; omega)
      revert this
      split <;> simp <;> omega

theorem decompress_bound (t : Table) (input : List UInt8) (cap : Nat) (out : List UInt8)
    (h : decompress t input cap = .ok out) : out.length ≤ cap := by
  rw [decompress_eq_final] at h
  have hb := decBits_bound t cap (input.flatMap byteBits ++ List.replicate (zeroFuel cap) false)
    ROOT_IDX [] (Nat.zero_le _)
  generalize decBits t cap ROOT_IDX [] _ = R at h hb
  cases R with
  | more _ _ => cases h
  | fin r => obtain rfl : r = .ok out := h; exact hb.2

theorem decBits_inner (t : Table) (h : WellFormed t) (cap : Nat) (bits : List Bool) :
    ∀ (nd : Nat) (out : List UInt8), Inner nd →
      ∀ nd' out', decBits t cap nd out bits = .more nd' out' → Inner nd' := by
  induction bits with
  | nil => intro nd out hi nd' out' heq; simp [decBits] at heq; exact heq.1 ▸ hi
  | cons b bs ih =>
    intro nd out hi nd' out'
    rcases decStep_cases t cap nd out b with ⟨hge, hs⟩ | ⟨_, hs⟩ | ⟨_, _, hs⟩ | ⟨_, hc, hs⟩ <;>
      simp only [decBits, hs]
    · exact ih _ out (hi.child h hge) nd' out'
    · simp
    · simp
    · exact ih _ _ inner_root nd' out'

theorem decZeros_terminates (t : Table) (h : WellFormed t) (cap : Nat) (fuel : Nat) :
    ∀ (nd : Nat) (out : List UInt8), Inner nd → out.length ≤ cap →
      514 * (cap - out.length) + nd < fuel → decZeros t cap fuel nd out ≠ .diverge := by
  -- a step moves to a child, which has a smaller index, or writes a byte and returns to the root (512)
  induction fuel with
  | zero => intro nd out _ _ hm; omega
  | succ f ih =>
    intro nd out hi hl hm
    have hlt := h.child_lt hi false
    rcases decStep_cases t cap nd out false with ⟨hge, hs⟩ | ⟨_, hs⟩ | ⟨_, _, hs⟩ | ⟨_, hc, hs⟩ <;>
      simp only [decZeros, hs]
    · exact ih _ out (hi.child h hge) hl (by omega)
    · simp
    · simp
    · have h1 : 257 ≤ nd := hi.1
      refine ih _ _ inner_root (by simp; omega) ?_
      have e2 : ROOT_IDX = 512 := rfl
      rw [e2, List.length_cons]
      omega

theorem decZeros_zeroFuel (t : Table) (h : WellFormed t) (cap nd : Nat) (out : List UInt8)
    (hi : Inner nd) (hl : out.length ≤ cap) : decZeros t cap (zeroFuel cap) nd out ≠ .diverge := by
  apply decZeros_terminates t h cap _ nd out hi hl
  have h2 : nd < 513 := hi.2
  have e : zeroFuel cap = 514 * (cap + 2) := by simp [zeroFuel, NUM_NODES, Nat.mul_comm]
  rw [e]
  omega

theorem run_ne_diverge (t : Table) (h : WellFormed t) (cap nd : Nat) (out : List UInt8)
    (L : List Bool) (hi : Inner nd) (hl : out.length ≤ cap) : run t cap nd out L ≠ .diverge := by
  have hb := decBits_bound t cap L nd out hl
  have hin := decBits_inner t h cap L nd out hi
  rw [run]
  revert hb hin
  cases decBits t cap nd out L with
  | fin r => intro hb _ hr; subst hr; exact hb
  | more nd' out' => intro hb hin; exact decZeros_zeroFuel t h cap nd' out' (hin _ _ rfl) hb.2

theorem decompress_terminates (t : Table) (h : WellFormed t) (input : List UInt8) (cap : Nat) :
    decompress t input cap ≠ .diverge :=
  run_ne_diverge t h cap ROOT_IDX [] _ inner_root (Nat.zero_le _)

theorem run_append_zeros (t : Table) (h : WellFormed t) (cap k : Nat) (L : List Bool) (nd : Nat)
    (out : List UInt8) (hi : Inner nd) (hl : out.length ≤ cap) :
    run t cap nd out (L ++ List.replicate k false) = run t cap nd out L := by
  have hne := run_ne_diverge t h cap nd out L hi hl
  rw [run_eq_final] at hne ⊢
  rw [run_eq_final, List.append_assoc, List.replicate_append_replicate, Nat.add_comm k,
    ← List.replicate_append_replicate, ← List.append_assoc]
  exact decBits_final_append t cap nd out _ _ hne

/-- what a decoding result becomes when only `cap` bytes may be written -/
def DecResult.trunc (cap : Nat) : DecResult → DecResult
  | .ok o => if o.length ≤ cap then .ok o else .capacity
  | r => r

def BitsResult.trunc (cap : Nat) : BitsResult → BitsResult
  | .more nd out => if out.length ≤ cap then .more nd out else .fin .capacity
  | .fin r => .fin (r.trunc cap)

theorem decBits_trunc (t : Table) (cap' cap : Nat) (hc : cap' ≤ cap) (bits : List Bool) :
    ∀ (nd : Nat) (out : List UInt8), out.length ≤ cap' →
      decBits t cap' nd out bits = (decBits t cap nd out bits).trunc cap' := by
  induction bits with
  | nil => intro nd out h; simp [decBits, BitsResult.trunc, h]
  | cons b bs ih =>
    intro nd out h
    simp only [decBits, decStep]
    by_cases h1 : child t nd b ≥ NUM_SYMBOLS
    · simp only [h1, if_true]
      exact ih _ out h
    · by_cases h2 : child t nd b = EOF
      · have h1' : ¬ EOF ≥ NUM_SYMBOLS := by decide
        simp only [h2, h1', if_true, if_false, BitsResult.trunc, DecResult.trunc, List.length_reverse, h]
      · by_cases h3 : out.length ≥ cap'
        · by_cases h4 : out.length ≥ cap
          · simp only [h1, h2, h3, h4, if_true, if_false]
            rfl
          · -- the byte fits into `cap` but not into `cap'`: whatever follows is longer than `cap'`
            simp only [h1, h2, h3, h4, if_true, if_false]
            have hb := decBits_bound t cap bs ROOT_IDX (UInt8.ofNat (child t nd b) :: out)
              (by simp only [List.length_cons]; omega)
            revert hb
            generalize decBits t cap ROOT_IDX (UInt8.ofNat (child t nd b) :: out) bs = R
            intro hb
            match R, hb with
            | .more _ o, hb =>
              simp only [List.length_cons] at hb
              simp only [BitsResult.trunc]; rw [if_neg (by omega)]
            | .fin (.ok o), hb =>
              simp only [List.length_cons] at hb
              simp only [BitsResult.trunc, DecResult.trunc]; rw [if_neg (by omega)]
            | .fin .capacity, _ => rfl
            | .fin .diverge, hb => exact hb.elim
        · have h4 : ¬ out.length ≥ cap := by omega
          simp only [h1, h2, h3, h4, if_false]
          exact ih _ _ (by simp only [List.length_cons]; omega)

theorem BitsResult.final_trunc (cap : Nat) (R : BitsResult) (h : R.final ≠ .diverge) :
    (R.trunc cap).final = R.final.trunc cap := by
  cases R with
  | more _ _ => exact absurd rfl h
  | fin r => rfl

theorem decompress_trunc (t : Table) (h : WellFormed t) (input : List UInt8) (cap' cap : Nat)
    (hc : cap' ≤ cap) : decompress t input cap' = (decompress t input cap).trunc cap' := by
  have hterm := decompress_terminates t h input cap
  have hterm' := decompress_terminates t h input cap'
  obtain ⟨k, hk⟩ : ∃ k, zeroFuel cap = zeroFuel cap' + k :=
    ⟨_, (Nat.add_sub_cancel' (Nat.mul_le_mul_right _ (Nat.add_le_add_right hc 2))).symm⟩
  rw [decompress_eq_final] at hterm hterm' ⊢
  rw [decompress_eq_final]
  -- the zero tail for `cap'` ends with a result, so it may be lengthened to that for `cap`
  rw [← decBits_final_append t cap' _ _ _ (List.replicate k false) hterm', List.append_assoc,
    List.replicate_append_replicate, ← hk, decBits_trunc t cap' cap hc _ _ _ (Nat.zero_le _)]
  exact BitsResult.final_trunc cap' _ hterm

theorem decompress_capacity_iff (t : Table) (h : WellFormed t) (input : List UInt8) (cap : Nat) :
    decompress t input cap = .capacity ↔
      ∀ cap' out, decompress t input cap' = .ok out → cap < out.length := by
  constructor
  · intro hcapacity cap' out hok
    by_cases hle : out.length ≤ cap
    · exfalso
      rcases Nat.le_total cap' cap with h1 | h1
      · have := decompress_trunc t h input cap' cap h1
        rw [hcapacity, hok] at this
        simp [DecResult.trunc] at this
      · have := decompress_trunc t h input cap cap' h1
        rw [hcapacity, hok] at this
        simp [DecResult.trunc, hle] at this
    · omega
  · intro hall
    have hterm := decompress_terminates t h input cap
    revert hterm hall
    generalize hr : decompress t input cap = r
    cases r with
    | ok o =>
      intro hall _
      have := hall cap o hr
      have := decompress_bound t input cap o hr
      omega
    | capacity => intro _ _; rfl
    | diverge => intro _ hd; exact (hd rfl).elim

theorem sum_symLen_bounds (t : Table) (h : WellFormed t) (ss : List Nat)
    (hs : ∀ s ∈ ss, s < NUM_SYMBOLS) :
    ss.length ≤ (ss.map (symLen t)).sum ∧ (ss.map (symLen t)).sum ≤ 24 * ss.length := by
  induction ss with
  | nil => simp
  | cons s ss ih =>
    have h0 := h.symLen_pos (hs s (by simp))
    have h24 := h.symLen_le (hs s (by simp))
    have := ih (fun s' hs' => hs s' (by simp [hs']))
    simp only [List.map_cons, List.sum_cons, List.length_cons]
    omega

/-- between 1 and 24 bits for every byte and for EOF -/
theorem compressedBitLen_bounds (t : Table) (h : WellFormed t) (xs : List UInt8) :
    xs.length + 1 ≤ compressedBitLen t xs ∧ compressedBitLen t xs ≤ 24 * (xs.length + 1) := by
  have := sum_symLen_bounds t h _ (stream_syms_lt xs)
  rw [← flatMap_codeBits_length, show ((xs.map (·.toNat) ++ [EOF]).flatMap (codeBits t)).length
    = compressedBitLen t xs from streamBits_length t xs] at this
  simpa using this

theorem length_le_compress (t : Table) (h : WellFormed t) (bug : Bool) (xs : List UInt8) :
    xs.length ≤ 8 * (compress t bug xs).length := by
  have h1 := (compressedBitLen_bounds t h xs).1
  have h2 : (packBits (streamBits t xs)).length ≤ (compress t bug xs).length := by
    simp [compress]
  rw [packBits_length, streamBits_length] at h2
  omega

/-- `compress_into_vec` reserves `3 * len + 3` bytes and unwraps: that always suffices -/
theorem compressedLen_le_vec (t : Table) (h : WellFormed t) (xs : List UInt8) :
    compressedLen t xs ≤ 3 * xs.length + 3 := by
  have := (compressedBitLen_bounds t h xs).2
  simp only [compressedLen]
  omega

theorem decBitsF_eq (t : Table) (cap : Nat) (bits : List Bool) :
    ∀ (rem nd : Nat) (out : List UInt8), rem + out.length = cap →
      decBitsF t rem nd out bits = decBits t cap nd out bits := by
  induction bits with
  | nil => intro rem nd out _; rfl
  | cons b bs ih =>
    intro rem nd out h
    simp only [decBitsF, decBits, decStep]
    by_cases h1 : child t nd b ≥ NUM_SYMBOLS
    · simp only [h1, if_true]
      exact ih _ _ _ h
    · by_cases h2 : child t nd b = EOF
      · have h1' : ¬ EOF ≥ NUM_SYMBOLS := by decide
        simp only [h2, h1', if_true, if_false]
      · by_cases h3 : rem = 0
        · have h4 : out.length ≥ cap := by omega
          simp only [h1, h2, h3, h4, if_true, if_false]
        · have h4 : ¬ out.length ≥ cap := by omega
          simp only [h1, h2, h3, h4, if_false]
          exact ih _ _ _ (by simp only [List.length_cons]; omega)

theorem decZerosF_eq_decBitsF (t : Table) (fuel : Nat) : ∀ (rem nd : Nat) (out : List UInt8),
    decZerosF t rem fuel nd out = (decBitsF t rem nd out (List.replicate fuel false)).final := by
  induction fuel with
  | zero => intro rem nd out; rfl
  | succ f ih =>
    intro rem nd out
    simp only [decZerosF, List.replicate_succ, decBitsF, ih, apply_ite BitsResult.final]
    rfl

theorem decompressFast_eq (t : Table) (input : List UInt8) (cap : Nat) :
    decompressFast t input cap = decompress t input cap := by
  simp only [decompressFast, decompress]
  rw [decBitsF_eq t cap _ cap ROOT_IDX [] (by simp)]
  have hb := decBits_bound t cap (input.flatMap byteBits) ROOT_IDX [] (by simp)
  revert hb
  generalize decBits t cap ROOT_IDX [] (input.flatMap byteBits) = R
  cases R with
  | fin r => intro _; rfl
  | more nd out =>
    intro hb
    simp only at hb ⊢
    rw [decZerosF_eq_decBitsF, decZeros_eq_decBits, decBitsF_eq t cap _ _ nd out (by omega)]

end Tw.Huffman
