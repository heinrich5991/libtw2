import Tw.Gen.RsConn
import Tw.Proofs.Conn

/-!
Equivalence of the functions translated from `net/src/connection.rs` / `net/src/protocol.rs`
(`Tw.Gen.RsConn`, regenerated by `tools/rs2lean` on every run) with the hand-written model
`Tw.Conn` (`seqNext`, `seqCompare`, `seqUpdate`, `chunkHeaderSize`, `PacketContents.canFit`).

Representation map: a Rust `Sequence { seq }` is the model's `Nat`; `SequenceOrdering` is the
model's `SeqOrd` via `ordMap`; a Rust `PacketContents { num_chunks, data }` corresponds to a model
`PacketContents` with `numChunks = num_chunks` and `size = data.len()`.
-/
namespace Tw.RsConn
open Tw Tw.RsSem Tw.Conn Tw.Gen.RsConn

def ordMap : SeqOrd → SequenceOrdering
  | .past => .Past
  | .current => .Current
  | .future => .Future

theorem chunk_header_size_eq (vital : Bool) :
    chunk_header_size vital = .ok (chunkHeaderSize vital) := by
  cases vital <;> simp [chunk_header_size, chunkHeaderSize, pure, Except.pure] <;> decide

theorem seq_new_eq : Sequence.new = .ok ⟨0⟩ := by
  simp [Sequence.new, pure, Except.pure]

theorem seq_from_u16_eq (s : Nat) (h : s < seqMod) : Sequence.from_u16 s = .ok ⟨s⟩ := by
  rw [seqMod_eq] at h
  simp [Sequence.from_u16, RsSem.assert, h, bind, Except.bind, pure, Except.pure]

theorem seq_from_u16_panics (s : Nat) (h : seqMod ≤ s) : ∃ p, Sequence.from_u16 s = .error p := by
  rw [seqMod_eq] at h
  have : ¬ s < 1024 := by omega
  simp [Sequence.from_u16, RsSem.assert, this, RsSem.panic, bind, Except.bind]

theorem seq_to_u16_eq (s : Sequence) : Sequence.to_u16 s = .ok s.seq := by
  simp [Sequence.to_u16, pure, Except.pure]

/-- `Sequence::next` for every `u16` value below `u16::MAX` (in particular for all `seq < 1024`) -/
theorem seq_next_eq (s : Sequence) (h : s.seq < 65535) :
    Sequence.next s = .ok (⟨seqNext s.seq⟩, ⟨seqNext s.seq⟩) := by
  have h1 : s.seq + 1 < 65536 := by omega
  simp [Sequence.next, uadd, urem, h1, seqNext, seqMod_eq, bind, Except.bind, pure, Except.pure]

/-- at `u16::MAX` the addition overflows (debug build): a panic, not a wrap -/
theorem seq_next_panics (s : Sequence) (h : s.seq = 65535) : ∃ p, Sequence.next s = .error p := by
  simp [Sequence.next, uadd, h, RsSem.panic, bind, Except.bind]

theorem seq_compare_eq (a b : Sequence) :
    Sequence.compare a b = .ok (ordMap (seqCompare a.seq b.seq)) := by
  unfold Sequence.compare seqCompare
  rw [seqMod_eq]
  rcases Nat.lt_trichotomy a.seq b.seq with h | h | h
  · have hc : Ord.compare a.seq b.seq = Ordering.lt := Nat.compare_eq_lt.mpr h
    have h' : a.seq ≤ b.seq := by omega
    by_cases hl : b.seq - a.seq < 512 <;>
      simp [hc, h, h', hl, udiv, usub, ordMap, bind, Except.bind, pure, Except.pure]
  · simp [h, udiv, ordMap, bind, Except.bind, pure, Except.pure]
  · have hc : Ord.compare a.seq b.seq = Ordering.gt := Nat.compare_eq_gt.mpr h
    have h' : b.seq ≤ a.seq := by omega
    have h'' : ¬ a.seq < b.seq := by omega
    by_cases hl : 512 < a.seq - b.seq <;>
      simp [hc, h, h', h'', hl, udiv, usub, ordMap, bind, Except.bind, pure, Except.pure]

theorem ordMap_current (o : SeqOrd) : (ordMap o = SequenceOrdering.Current) ↔ o = .current := by
  cases o <;> simp [ordMap]

theorem seq_update_eq (a b : Sequence) (h : a.seq < 65535) :
    Sequence.update a b =
      .ok (ordMap (seqUpdate a.seq b.seq).2, ⟨(seqUpdate a.seq b.seq).1⟩) := by
  unfold Sequence.update seqUpdate
  simp only [bind, Except.bind, pure, Except.pure, seq_next_eq a h, seq_compare_eq]
  by_cases hc : seqCompare (seqNext a.seq) b.seq = .current
  · simp [hc, ordMap]
  · have : ¬ ordMap (seqCompare (seqNext a.seq) b.seq) = SequenceOrdering.Current := by
      rw [ordMap_current]; exact hc
    simp [hc, this]

/-- `can_fit_chunk`, as long as the `usize` additions cannot overflow (`hlen`);
`num_chunks` is a `u8` in the Rust (`hu8`: the generated structure carries it as a `Nat`) -/
theorem can_fit_chunk_eq (p : Gen.RsConn.PacketContents) (data : List UInt8) (vital : Bool)
    (q : Conn.PacketContents) (hn : q.numChunks = p.num_chunks) (hs : q.size = p.data.length)
    (hlen : p.data.length + 3 + data.length < 2 ^ 64) (hu8 : p.num_chunks < 256) :
    PacketContents.can_fit_chunk p data vital = .ok (q.canFit data.length vital) := by
  unfold PacketContents.can_fit_chunk Conn.PacketContents.canFit
  rw [hn, hs, maxPayload_eq]
  have hv : chunkHeaderSize vital ≤ 3 := by cases vital <;> decide
  have h1 : p.data.length + chunkHeaderSize vital < 18446744073709551616 := by omega
  have h2 : p.data.length + chunkHeaderSize vital + data.length < 18446744073709551616 := by omega
  -- semantic close: whatever order the additions and the two tests are written in, after `simp`
  -- only case splits on the tests and linear arithmetic are left
  by_cases hc : p.num_chunks < 255 <;>
    simp [hc, maxNumChunks, chunk_header_size_eq, uadd, h1, h2, bind, Except.bind, pure, Except.pure] <;>
    (repeat' split) <;> (first | omega | (simp_all <;> omega) | simp_all)

end Tw.RsConn
