import Tw.Model.Snap

/-! Sorted association lists `minsert` / `mfind` / `Sorted` (model of `BTreeMap<i32, _>`) and
sorted sets `sinsert` / `SortedSet` (`BTreeSet<i32>`).  `mfind` is core's `List.lookup`
(`mfind_eq_lookup`); what is said about lookups alone comes from core.  Inserting under a key
that is not there permutes `cons` (`minsert_perm`), so what a run of such inserts does to
lengths, data lengths and membership is read off core's `List.Perm`.

Names, here and in the other `Snap*` files.  For an `f` that can fail: `f_ok` runs it forwards (`f_spec` when
facts about the result come with it); `f_eq` reads `h : f … = .ok r` backwards (without such an `h` it is a
plain equation); `f_eq_ok` / `f_eq_some` is both as an iff; `f_cases` concludes a disjunction of outcomes;
`f_elim` takes a `motive` and one premise per way `f` can end.  For a total `f`, `f_spec` is what one induction
over it gives.  Where two of `RawSnap`, `Snap`, `Builder` have an `f`, the lemmas are `RawSnap.f_…`, `Snap.f_…`,
`Builder.f_…`. -/
namespace Tw.Snap

variable {α : Type}

/-- Case split on a leading `if` without touching the branches: walking through a reader's
definition with this costs a unification per test, where `split` re-simplifies the whole term. -/
theorem ite_elim {β : Sort _} {motive : β → Prop} {c : Prop} [Decidable c] {a b : β}
    (ha : c → motive a) (hb : ¬ c → motive b) : motive (if c then a else b) := by
  split
  · exact ha ‹_›
  · exact hb ‹_›

theorem sinsert_mem {k x : Int} {l : List Int} : x ∈ sinsert k l ↔ x = k ∨ x ∈ l := by
  induction l with
  | nil => simp [sinsert]
  | cons a l ih =>
    simp only [sinsert]
    split
    · simp
    · split
      · subst_vars; simp
      · simp [ih]; constructor
        · rintro (h | h | h) <;> simp [h]
        · rintro (h | h | h) <;> simp [h]

theorem sortedSet_sinsert {k : Int} {l : List Int} (h : SortedSet l) : SortedSet (sinsert k l) := by
  unfold SortedSet at *
  induction l with
  | nil => simp [sinsert]
  | cons a l ih =>
    rw [List.pairwise_cons] at h
    simp only [sinsert]
    split
    · rw [List.pairwise_cons, List.pairwise_cons]
      refine ⟨?_, h⟩
      intro x hx
      simp at hx
      rcases hx with rfl | hx
      · assumption
      · have := h.1 x hx; omega
    · split
      · rw [List.pairwise_cons]; exact h
      · rw [List.pairwise_cons]
        refine ⟨?_, ih h.2⟩
        intro x hx
        rcases sinsert_mem.mp hx with rfl | hx
        · omega
        · exact h.1 x hx

theorem sinsert_length_of_not_mem {k : Int} {l : List Int} (h : k ∉ l) : (sinsert k l).length = l.length + 1 := by
  induction l with
  | nil => simp [sinsert]
  | cons a l ih =>
    simp at h
    simp only [sinsert]
    split
    · simp
    · have : ¬ k = a := h.1
      simp [this, ih h.2]

theorem ascending_ext {β : Type} (key : β → Int) {l1 l2 : List β} (h1 : l1.Pairwise (fun a b => key a < key b))
    (h2 : l2.Pairwise (fun a b => key a < key b)) (h : ∀ x, x ∈ l1 ↔ x ∈ l2) : l1 = l2 :=
  have nd : ∀ {l : List β}, l.Pairwise (fun a b => key a < key b) → l.Nodup := fun hl =>
    hl.imp fun hab e => by rw [e] at hab; omega
  ((List.perm_ext_iff_of_nodup (nd h1) (nd h2)).mpr h).eq_of_pairwise (fun _ _ _ _ hab hba => by omega) h1 h2

theorem sortedSet_ext {l1 l2 : List Int} (h1 : SortedSet l1) (h2 : SortedSet l2) (h : ∀ x, x ∈ l1 ↔ x ∈ l2) :
    l1 = l2 :=
  ascending_ext id h1 h2 h

theorem sinsert_length_le (k : Int) : ∀ (l : List Int), (sinsert k l).length ≤ l.length + 1 := by
  intro l
  induction l with
  | nil => simp [sinsert]
  | cons a l ih =>
    simp only [sinsert]
    split
    · simp
    · split
      · simp
      · simp; omega

theorem sinsert_append_of_lt {k : Int} {l : List Int} (h : ∀ x ∈ l, x < k) : sinsert k l = l ++ [k] := by
  induction l with
  | nil => rfl
  | cons a l ih =>
    have ha := h a (by simp)
    have h1 : ¬ k < a := by omega
    have h2 : ¬ k = a := by omega
    simp only [sinsert, h1, h2, if_false, List.cons_append]
    rw [ih (fun x hx => h x (by simp [hx]))]

theorem sorted_nil : Sorted ([] : List (Int × α)) := by simp [Sorted]

theorem sorted_cons {k : Int} {v : α} {m : List (Int × α)} :
    Sorted ((k, v) :: m) ↔ (∀ p ∈ m, k < p.1) ∧ Sorted m := by
  simp [Sorted, List.pairwise_cons]

/-- Not a `simp` lemma: the proofs about the readers unfold `mfind` on a `cons`. -/
theorem mfind_eq_lookup (k : Int) : ∀ m : List (Int × α), mfind k m = m.lookup k
  | [] => rfl
  | (k', v) :: m => by
    rw [mfind, List.lookup_cons, mfind_eq_lookup k m]
    by_cases h : k = k'
    · rw [if_pos h, beq_iff_eq.mpr h]
    · rw [if_neg h, beq_eq_false_iff_ne.mpr h]

theorem mfind_none_of_lt {k : Int} {m : List (Int × α)} (h : ∀ p ∈ m, k < p.1) : mfind k m = none := by
  rw [mfind_eq_lookup, List.lookup_eq_none_iff]
  exact fun p hp => bne_iff_ne.mpr (Int.ne_of_lt (h p hp))

theorem mem_of_mfind {k : Int} {v : α} {m : List (Int × α)} (h : mfind k m = some v) : (k, v) ∈ m := by
  rw [mfind_eq_lookup, List.lookup_eq_some_iff] at h
  obtain ⟨l₁, l₂, rfl, -⟩ := h
  simp

theorem mfind_of_mem_nodup {k : Int} {v : α} {m : List (Int × α)} (hn : (m.map Prod.fst).Nodup)
    (h : (k, v) ∈ m) : mfind k m = some v := by
  obtain ⟨l₁, l₂, rfl⟩ := List.append_of_mem h
  rw [mfind_eq_lookup, List.lookup_eq_some_iff]
  refine ⟨l₁, l₂, rfl, fun p hp => bne_iff_ne.mpr fun e => ?_⟩
  rw [List.map_append, List.nodup_append] at hn
  exact hn.2.2 p.1 (List.mem_map_of_mem hp) k (by simp) e.symm

theorem Sorted.nodup {m : List (Int × α)} (h : Sorted m) : (m.map Prod.fst).Nodup := h.imp Int.ne_of_lt

theorem Sorted.filter {m : List (Int × α)} (h : Sorted m) (Q : Int × α → Bool) : Sorted (m.filter Q) :=
  List.Pairwise.sublist (List.filter_sublist.map _) h

theorem mfind_of_mem {k : Int} {v : α} {m : List (Int × α)} (hs : Sorted m) (h : (k, v) ∈ m) :
    mfind k m = some v :=
  mfind_of_mem_nodup hs.nodup h

theorem mfind_isSome_iff_mem_keys {k : Int} {m : List (Int × α)} :
    (mfind k m).isSome ↔ k ∈ m.map Prod.fst := by
  rw [mfind_eq_lookup, List.lookup_isSome_iff, List.mem_map]
  exact ⟨fun ⟨p, hp, e⟩ => ⟨p, hp, (beq_iff_eq.mp e).symm⟩, fun ⟨p, hp, e⟩ => ⟨p, hp, beq_iff_eq.mpr e.symm⟩⟩

theorem mfind_eq_none_iff {k : Int} {m : List (Int × α)} :
    mfind k m = none ↔ k ∉ m.map Prod.fst := by
  rw [← mfind_isSome_iff_mem_keys]
  cases mfind k m <;> simp

theorem mfind_append (k : Int) (l1 l2 : List (Int × α)) :
    mfind k (l1 ++ l2) = (mfind k l1).or (mfind k l2) := by
  simp only [mfind_eq_lookup, List.lookup_append]

theorem mfind_minsert (k k' : Int) (v : α) (m : List (Int × α)) :
    mfind k' (minsert k v m) = if k' = k then some v else mfind k' m := by
  induction m with
  | nil => simp [minsert, mfind]
  | cons p r ih =>
    obtain ⟨k2, v2⟩ := p
    simp only [minsert]
    split
    · simp [mfind]
    · split
      · subst_vars
        simp only [mfind]
        split <;> simp_all
      · rename_i h1 h2
        simp only [mfind, ih]
        by_cases e1 : k' = k2
        · subst e1
          have : ¬ k' = k := fun e => h2 e.symm
          simp [this]
        · simp [e1]

theorem mfind_minsert_of_none {k k' : Int} {v w : α} {m : List (Int × α)} (hk : mfind k m = none)
    (h : mfind k' m = some w) : mfind k' (minsert k v m) = some w := by
  rw [mfind_minsert, if_neg fun e => by rw [e, hk] at h; cases h]
  exact h

theorem mfind_minsert_eq_some {k k' : Int} {v w : α} {m : List (Int × α)}
    (h : mfind k' (minsert k v m) = some w) : (k' = k ∧ w = v) ∨ (k' ≠ k ∧ mfind k' m = some w) := by
  rw [mfind_minsert] at h
  by_cases e : k' = k
  · rw [if_pos e] at h
    exact .inl ⟨e, (Option.some.inj h).symm⟩
  · rw [if_neg e] at h
    exact .inr ⟨e, h⟩

theorem mem_minsert {k : Int} {v : α} {m : List (Int × α)} {p : Int × α} (h : p ∈ minsert k v m) :
    p = (k, v) ∨ p ∈ m := by
  induction m with
  | nil => simp [minsert] at h; simp [h]
  | cons q r ih =>
    obtain ⟨k2, v2⟩ := q
    simp only [minsert] at h
    split at h
    · simp at h; rcases h with h | h | h <;> simp [h]
    · split at h
      · simp at h; rcases h with h | h <;> simp [h]
      · simp at h
        rcases h with h | h
        · simp [h]
        · rcases ih h with h | h <;> simp [h]

theorem keys_minsert (k : Int) (v : α) (m : List (Int × α)) :
    (minsert k v m).map Prod.fst = sinsert k (m.map Prod.fst) := by
  induction m with
  | nil => rfl
  | cons q r ih =>
    obtain ⟨k2, v2⟩ := q
    simp only [minsert, sinsert, List.map_cons]
    split
    · rfl
    · split
      · subst_vars; rfl
      · simp only [List.map_cons, ih]

theorem sorted_minsert {k : Int} {v : α} {m : List (Int × α)} (hs : Sorted m) : Sorted (minsert k v m) := by
  unfold Sorted
  rw [keys_minsert]
  exact sortedSet_sinsert hs

theorem sorted_ext {m1 m2 : List (Int × α)} (h1 : Sorted m1) (h2 : Sorted m2)
    (h : ∀ k, mfind k m1 = mfind k m2) : m1 = m2 :=
  ascending_ext Prod.fst (List.pairwise_map.mp h1) (List.pairwise_map.mp h2) fun p =>
    ⟨fun hp => mem_of_mfind (by rw [← h, mfind_of_mem h1 hp]),
      fun hp => mem_of_mfind (by rw [h, mfind_of_mem h2 hp])⟩

theorem minsert_append_of_lt {k : Int} {v : α} {m : List (Int × α)} (h : ∀ p ∈ m, p.1 < k) :
    minsert k v m = m ++ [(k, v)] := by
  induction m with
  | nil => rfl
  | cons a l ih =>
    obtain ⟨k2, v2⟩ := a
    have ha := h (k2, v2) (by simp)
    have h1 : ¬ k < k2 := by simp at ha; omega
    have h2 : ¬ k = k2 := by simp at ha; omega
    simp only [minsert, h1, h2, if_false, List.cons_append]
    rw [ih (fun x hx => h x (by simp [hx]))]

theorem mfind_filter_key (Q : Int → Bool) (k : Int) (m : List (Int × α)) :
    mfind k (m.filter (fun p => Q p.1)) = if Q k then mfind k m else none := by
  induction m with
  | nil => simp [mfind]
  | cons p r ih =>
    obtain ⟨k', v⟩ := p
    by_cases hq : Q k' = true
    · simp only [List.filter_cons, hq, if_true, mfind]
      by_cases hk : k = k'
      · subst hk; simp [hq]
      · simp only [hk, if_false, ih]
    · simp only [List.filter_cons, hq, mfind]
      by_cases hk : k = k'
      · subst hk; simp [hq, ih]
      · simp [hk, ih]

theorem minsert_perm {k : Int} {v : α} {m : List (Int × α)} (h : mfind k m = none) :
    (minsert k v m).Perm ((k, v) :: m) := by
  induction m with
  | nil => exact .refl _
  | cons q r ih =>
    obtain ⟨k2, v2⟩ := q
    have hk : k ≠ k2 := by intro e; simp [mfind, e] at h
    simp only [mfind, hk, if_false] at h
    simp only [minsert, hk, if_false]
    split
    · exact .refl _
    · exact ((ih h).cons _).trans (.swap _ _ _)

theorem sorted_eq_of_perm {m1 m2 : List (Int × α)} (h1 : Sorted m1) (h2 : Sorted m2) (p : m1.Perm m2) : m1 = m2 :=
  ascending_ext Prod.fst (List.pairwise_map.mp h1) (List.pairwise_map.mp h2) fun _ => p.mem_iff

theorem length_minsert_of_none {k : Int} {v : α} {m : List (Int × α)} (h : mfind k m = none) :
    (minsert k v m).length = m.length + 1 :=
  (minsert_perm h).length_eq

theorem dataLen_cons (k : Int) (d : List Int) (m : Items) : dataLen ((k, d) :: m) = d.length + dataLen m := by
  simp [dataLen]

theorem dataLen_minsert_of_none {k : Int} {v : List Int} {m : Items} (h : mfind k m = none) :
    dataLen (minsert k v m) = dataLen m + v.length := by
  rw [dataLen, ((minsert_perm h).map _).sum_nat, Nat.add_comm]
  rfl

theorem minsert_replace_measure {k : Int} {v old : List Int} {m : Items} (hs : Sorted m)
    (h : mfind k m = some old) (hl : v.length = old.length) :
    (minsert k v m).length = m.length ∧ dataLen (minsert k v m) = dataLen m := by
  induction m with
  | nil => simp [mfind] at h
  | cons q r ih =>
    obtain ⟨k2, v2⟩ := q
    rw [sorted_cons] at hs
    by_cases hk : k = k2
    · subst hk
      simp only [mfind, if_true] at h
      injection h with h
      subst h
      have : ¬ k < k := by omega
      simp [minsert, dataLen_cons, hl]
    · simp only [mfind, hk, if_false] at h
      have hlt := hs.1 _ (mem_of_mfind h)
      have h1 : ¬ k < k2 := by simp at hlt; omega
      simp only [minsert, h1, hk, if_false]
      have := ih hs.2 h
      simp [dataLen_cons, this.1, this.2]

theorem minsert_measure_le {k : Int} {v : List Int} : ∀ (m : Items),
    (minsert k v m).length ≤ m.length + 1 ∧ dataLen (minsert k v m) ≤ dataLen m + v.length := by
  intro m
  induction m with
  | nil => simp [minsert, dataLen]
  | cons q r ih =>
    obtain ⟨k2, v2⟩ := q
    simp only [minsert]
    split
    · simp [dataLen_cons]; omega
    · split
      · simp [dataLen_cons]; omega
      · simp [dataLen_cons]; omega

/-- The order along which the limits of a snapshot pass from `m2` down to `m1` (`subLe_bounds`). -/
def SubLe (m1 m2 : Items) : Prop :=
  ∀ k v, mfind k m1 = some v → ∃ v', mfind k m2 = some v' ∧ v.length ≤ v'.length

/-- What the output of `read_with_delta` is to the new snapshot while it is built up. -/
def SubLen (m1 m2 : Items) : Prop :=
  ∀ k v, mfind k m1 = some v → ∃ v', mfind k m2 = some v' ∧ v.length = v'.length

theorem SubLen.le {m1 m2 : Items} (h : SubLen m1 m2) : SubLe m1 m2 := fun k v hv =>
  let ⟨v', hv', hl⟩ := h k v hv
  ⟨v', hv', Nat.le_of_eq hl⟩

theorem subLe_bounds {m1 m2 : Items} (h1 : (m1.map Prod.fst).Nodup) (h2 : (m2.map Prod.fst).Nodup)
    (h : SubLe m1 m2) : m1.length ≤ m2.length ∧ dataLen m1 ≤ dataLen m2 := by
  induction m1 generalizing m2 with
  | nil => simp [dataLen]
  | cons p r1 ih =>
    obtain ⟨k, v⟩ := p
    rw [List.map_cons, List.nodup_cons] at h1
    -- take the item of `m2` under the first key out of `m2`
    obtain ⟨v', hv', hl⟩ := h k v (by simp [mfind])
    have hp := List.perm_cons_erase (mem_of_mfind hv')
    have h2' : ((m2.erase (k, v')).map Prod.fst).Nodup := h2.sublist (List.erase_sublist.map _)
    have := ih h1.2 h2' fun k2 w hw => by
      have hne : k2 ≠ k := fun e => h1.1 (e ▸ (List.mem_map_of_mem (mem_of_mfind hw) : k2 ∈ r1.map Prod.fst))
      obtain ⟨w', hw', hl'⟩ := h k2 w (by simpa [mfind, hne] using hw)
      exact ⟨w', mfind_of_mem_nodup h2' ((List.mem_erase_of_ne (by simp [hne])).mpr (mem_of_mfind hw')), hl'⟩
    have hd : dataLen m2 = v'.length + dataLen (m2.erase (k, v')) := (hp.map _).sum_nat
    rw [hp.length_eq, hd, dataLen_cons, List.length_cons, List.length_cons]
    omega

theorem foldl_sinsert_spec : ∀ (ks acc : List Int), SortedSet acc →
    SortedSet (ks.foldl (fun a k => sinsert k a) acc) ∧
    (∀ x, x ∈ ks.foldl (fun a k => sinsert k a) acc ↔ x ∈ acc ∨ x ∈ ks) ∧
    (ks.Nodup → (∀ k ∈ ks, k ∉ acc) → (ks.foldl (fun a k => sinsert k a) acc).length = acc.length + ks.length) := by
  intro ks
  induction ks with
  | nil => intro acc h; exact ⟨h, by simp, by simp⟩
  | cons k ks ih =>
    intro acc h
    obtain ⟨h1, h2, h3⟩ := ih (sinsert k acc) (sortedSet_sinsert h)
    simp only [List.foldl_cons]
    refine ⟨h1, ?_, ?_⟩
    · intro x
      rw [h2 x, sinsert_mem]
      simp only [List.mem_cons]
      constructor
      · rintro ((h | h) | h) <;> simp [h]
      · rintro (h | h | h) <;> simp [h]
    · intro hnd hdis
      simp only [List.nodup_cons] at hnd
      rw [h3 hnd.2 (by
        intro x hx hmem
        rcases sinsert_mem.mp hmem with e | e
        · subst e; exact hnd.1 hx
        · exact hdis x (by simp [hx]) e)]
      rw [sinsert_length_of_not_mem (hdis k (by simp))]
      simp only [List.length_cons]; omega

theorem foldl_sinsert_length_le : ∀ (ks acc : List Int),
    (ks.foldl (fun a k => sinsert k a) acc).length ≤ acc.length + ks.length := by
  intro ks
  induction ks with
  | nil => intro acc; simp
  | cons k ks ih =>
    intro acc
    have := ih (sinsert k acc)
    have := sinsert_length_le k acc
    simp only [List.foldl_cons, List.length_cons]
    omega

theorem foldl_sinsert_eq_append : ∀ (ks acc : List Int), SortedSet (acc ++ ks) →
    ks.foldl (fun a k => sinsert k a) acc = acc ++ ks := by
  intro ks
  induction ks with
  | nil => intro acc _; simp
  | cons k ks ih =>
    intro acc h
    have hlt : ∀ x ∈ acc, x < k := fun x hx => (List.pairwise_append.mp h).2.2 x hx k (by simp)
    rw [List.foldl_cons, sinsert_append_of_lt hlt, ih _ (by simpa using h), List.append_assoc]
    rfl

theorem foldl_minsert_spec : ∀ (r upd : Items), Sorted upd → (r.map Prod.fst).Nodup →
    Sorted (r.foldl (fun m p => minsert p.1 p.2 m) upd) ∧
    ∀ k, mfind k (r.foldl (fun m p => minsert p.1 p.2 m) upd) = (mfind k r).or (mfind k upd) := by
  intro r
  induction r with
  | nil => intro upd h _; exact ⟨h, by intro k; simp [mfind]⟩
  | cons p r ih =>
    obtain ⟨k0, d0⟩ := p
    intro upd h hnd
    simp only [List.map_cons, List.nodup_cons] at hnd
    obtain ⟨h1, h2⟩ := ih (minsert k0 d0 upd) (sorted_minsert h) hnd.2
    simp only [List.foldl_cons]
    refine ⟨h1, ?_⟩
    intro k
    rw [h2 k, mfind_minsert]
    by_cases hk : k = k0
    · subst hk
      have : mfind k r = none := by rw [mfind_eq_none_iff]; exact hnd.1
      simp [mfind, this]
    · simp [mfind, hk]

theorem foldl_minsert_eq_append : ∀ (r upd : Items), Sorted (upd ++ r) →
    r.foldl (fun m p => minsert p.1 p.2 m) upd = upd ++ r := by
  intro r
  induction r with
  | nil => intro upd _; simp
  | cons p r ih =>
    intro upd h
    have hlt : ∀ q ∈ upd, q.1 < p.1 := fun q hq =>
      (List.pairwise_append.mp (by simpa [Sorted] using h)).2.2 q.1 (List.mem_map_of_mem hq) p.1 (by simp)
    rw [List.foldl_cons, minsert_append_of_lt hlt, ih _ (by simpa using h), List.append_assoc]
    rfl

end Tw.Snap
