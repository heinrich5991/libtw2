import Tw.Proofs.TeehistRun

/-! The record-level reader (`recRun`) equals the reference semantics (`interp`); hence the buffered
reader produces the reference output for every callback that does not fail (`runCb_vs_reference`),
which after a complete valid header is `runWhole` of the stream behind it (`reference_of_headerOk`). -/
namespace Tw.Teehistorian

theorem recRun_norm (cfg : Cfg) (F : Nat) (rd : Reader) (v : List Rec × Tail) :
    recRun cfg F rd.norm v = recRun cfg F rd v := by
  cases F <;> rfl

/-- `interp` from the point where `Reader.pre` lets the record through. -/
def interpAt (cfg : Cfg) (rd : Reader) : List Rec → Tail → Output
  | r :: rs, t =>
    match rd.post r.item with
    | .item it rd' => (interp cfg rd' rs t).cons it
    | .finished rd' => ⟨[], .finished, rd'.access⟩
    | .err e rd' => ⟨[], .err e, rd'.access⟩
  | [], .restErr _ e => ⟨[], .err (.item e), rd.access⟩
  | [], _ => ⟨[], .err .unexpectedEnd, rd.access⟩

/-- `interp` behind the synthesised items. -/
def afterPre (cfg : Cfg) (rd : Reader) (rs : List Rec) (t : Tail) : List Item × PreEnd → Output
  | (its, .stuck) => ⟨its, .outOfFuel, rd.access⟩
  | (its, .err e rd') => ⟨its, .err e, rd'.access⟩
  | (its, .ready rd') => (interpAt cfg rd' rs t).prepend its

theorem interp_eq (cfg : Cfg) (rd : Reader) (rs : List Rec) (t : Tail) :
    interp cfg rd rs t =
      match viewKind (rs, t) with
      | .fail e => ⟨[], .err e, rd.access⟩
      | .fuel => ⟨[], .outOfFuel, rd.access⟩
      | .kind k => afterPre cfg rd rs t (preAll 4 rd k) := by
  cases rs with
  | nil =>
    cases t with
    | restEnd k =>
      simp only [interp, viewKind]
      split <;> simp [afterPre, interpAt, Output.prepend, *]
    | restErr k e =>
      simp only [interp, viewKind]
      split <;> simp [afterPre, interpAt, Output.prepend, *]
    | _ => rfl
  | cons r rs =>
    simp only [interp, viewKind]
    split
    · simp [afterPre, *]
    · simp [afterPre, *]
    · simp only [afterPre, interpAt, *]
      split <;> simp [Output.prepend, Output.cons, *]

theorem afterPre_cons (cfg : Cfg) (rd rd' : Reader) (rs : List Rec) (t : Tail) (it : Item)
    (p : List Item × PreEnd) (h : p.2 ≠ .stuck) :
    afterPre cfg rd rs t (it :: p.1, p.2) = (afterPre cfg rd' rs t p).cons it := by
  obtain ⟨its, pe⟩ := p
  cases pe with
  | stuck => exact absurd rfl h
  | _ => rfl

theorem phase_view_le (rd : Reader) (v : List Rec × Tail) :
    (match viewKind v with | .kind k => phase rd k | _ => 0) ≤ 3 := by
  split
  · exact phase_le _ _
  · omega

/-- Four calls for every record: one for the record, three for the items that may be synthesised
in front of it. -/
theorem recRun_eq_interp (cfg : Cfg) : ∀ (F : Nat) (rd : Reader) (rs : List Rec) (t : Tail),
    rd.nextKind = none →
    4 * rs.length + (match viewKind (rs, t) with | .kind k => phase rd k | _ => 0) < F →
    recRun cfg F rd (rs, t) = interp cfg rd rs t
  | 0, _, _, _, _, h => by omega
  | F + 1, rd, rs, t, hn, hF => by
    rw [recRun, recRead.eq_def, interp_eq, Reader.norm_eq_self hn]
    cases hv : viewKind (rs, t) with
    | fail e => rfl
    | fuel => rfl
    | kind k =>
      rw [hv] at hF
      simp only at hF ⊢
      cases hpre : rd.pre k with
      | err e => rw [preAll_err 3 hpre]; rfl
      | emit it rd' =>
        have hp := pre_phase hpre
        have h3 := phase_le rd k
        obtain ⟨hns, hfuel⟩ := preAll_fuel 3 rd'.norm k (by rw [phase_norm]; omega)
        have ih := recRun_eq_interp cfg F rd'.norm rs t rfl (by rw [hv]; simp only [phase_norm]; omega)
        rw [recRun_norm, interp_eq, hv] at ih
        simp only at ih ⊢
        rw [ih, preAll_emit 3 hpre, afterPre_cons cfg rd rd'.norm rs t it _ hns, hfuel]
      | proceed =>
        rw [preAll_proceed 3 hpre]
        cases rs with
        | nil => cases t <;> cases hv <;> rfl
        | cons r rs =>
          simp only [afterPre, interpAt, Output.prepend_nil]
          cases hpost : rd.post r.item with
          | finished rd' => rfl
          | err e rd' => rfl
          | item it rd' =>
            have hn' : rd'.nextKind = none := (post_nextKind hpost).trans hn
            have hle := phase_view_le rd' (rs, t)
            simp only [List.length_cons] at hF
            simp only [recRun_eq_interp cfg F rd' rs t hn' (by omega)]

theorem recRun_eq_runWhole (cfg : Cfg) (s : List UInt8) {F : Nat} (hF : 4 * s.length + 8 ≤ F) :
    recRun cfg F Reader.empty (recsOf cfg.hasEx s) = runWhole cfg s :=
  recRun_eq_interp cfg F Reader.empty _ _ rfl <| Nat.lt_of_le_of_lt
    (Nat.add_le_add (Nat.mul_le_mul_left 4 (parseAll_length cfg.hasEx (s.length + 1) s)) (phase_view_le _ _))
    (by omega)

/-- For every callback: whatever read sizes it is going to return, whether or not it reports EOF the way `file.rs`
does.  The property theorem is `Tw.Props.C17.callback_failure_prefix`. -/
theorem runCb_vs_reference (env : Env) (c : Cb) :
    runCb env c = reference env c.rem ∨
    ((runCb env c).final = .cbErr ∧ ¬ c.noFail ∧ (runCb env c).items <+: (reference env c.rem).items) := by
  have hl := parseLoop_spec (good_pHeader env.json) (c.measure + 1) Buffer.empty c (Nat.le_refl 0) (by omega)
  have hlog : logical Buffer.empty c = c.rem := rfl
  rw [hlog] at hl
  unfold runCb reference
  generalize parseLoop (pHeader env.json) (c.measure + 1) Buffer.empty c = res at hl ⊢
  cases res with
  | cbErr => exact .inr ⟨rfl, hl, List.nil_prefix⟩
  | outOfFuel => exact hl.elim
  | err e =>
    rcases hl with ⟨hr, rfl⟩ | ⟨e', hr, rfl⟩ <;> exact .inl (by rw [hr])
  | ok hres b' c' =>
    obtain ⟨hr, hw', hnf⟩ := hl
    rw [hr]
    cases hres with
    | bad e => exact .inl rfl
    | version v =>
      simp only
      cases env.cfgOf v with
      | none => exact .inl rfl
      | some cfg =>
        simp only
        have hlen := (good_pHeader env.json).rest_le hr
        have hrec : recRun cfg (readFuel c.rem.length) Reader.empty
            (viewOf cfg.hasEx Reader.empty (logical b' c')) = runWhole cfg (logical b' c') :=
          recRun_eq_runWhole cfg _ (by simp only [readFuel]; omega)
        rcases runItems_vs_recRun cfg (readFuel c.rem.length) Reader.empty b' c' hw' with heq | ⟨hf, hn, hpre⟩
        · exact .inl (heq.trans hrec)
        · exact .inr ⟨hf, fun h => hn (hnf h), hrec ▸ hpre⟩

theorem runCb_eq_reference (env : Env) (c : Cb) (hnf : c.noFail) : runCb env c = reference env c.rem := by
  rcases runCb_vs_reference env c with h | ⟨_, hn, _⟩
  · exact h
  · exact absurd hnf hn

/-- `hdr` is exactly one complete header (the magic bytes and the NUL-terminated JSON text, nothing
behind them) whose version the reader knows; the version fixes `cfg`. -/
def HeaderOk (env : Env) (hdr : List UInt8) (cfg : Cfg) : Prop :=
  ∃ v, pHeader env.json hdr = .ok (.version v) [] ∧ env.cfgOf v = some cfg

theorem reference_of_headerOk {env : Env} {hdr : List UInt8} {cfg : Cfg} (h : HeaderOk env hdr cfg)
    (s : List UInt8) : reference env (hdr ++ s) = runWhole cfg s := by
  obtain ⟨v, hp, hc⟩ := h
  have := (good_pHeader env.json).ok_append hp s
  unfold reference
  rw [this]
  simp only [List.nil_append, hc]

end Tw.Teehistorian
