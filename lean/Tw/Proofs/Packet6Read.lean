import Tw.Model.Packet6
import Tw.Proofs.Packet6Spec
import Tw.Proofs.Packet6Headers
import Tw.Proofs.PacketCommon

/-! Reader of protocol.rs (0.6): `read` and `decompress` in closed form and the ways they can end:
`read_panic_diverge` (when the reader does not return; `Props/C06` reads absence of panics and termination off
it), `read_ok_cases` (which arm accepted). -/
namespace Tw.Packet6
open Tw.Packet Tw.PacketBits Tw.Gen.Packet6

/-- the panic-free part of the reader returns; with arbitrary conclusions, so that it closes both halves of
`read_panic_diverge` at once -/
theorem lift_returns (x : Except (ReadError × List Warning) ReadOk) {P Q : Prop} :
    (∀ s, ReadResult.lift x = .panic s → P) ∧ (ReadResult.lift x = .diverge → Q) := by
  match x with
  | .ok _ => exact ⟨nofun, nofun⟩
  | .error (_, _) => exact ⟨nofun, nofun⟩

theorem lift_eq_ok {x : Except (ReadError × List Warning) ReadOk} {r : ReadOk} (h : ReadResult.lift x = .ok r) :
    x = .ok r := by
  cases x with
  | ok r' => simpa [ReadResult.lift] using h
  | error e => cases e; simp [ReadResult.lift] at h

/-- the parsed header of a datagram of at least 3 bytes, as `read`/`decompress` compute it -/
def headerOf (packet : List UInt8) : PacketHeader × List Warning :=
  PacketHeader.unpackWarn (packet.getD 0 0).toNat (packet.getD 1 0).toNat (packet.getD 2 0).toNat

theorem headerOf_lt (packet : List UInt8) :
    (headerOf packet).1.flags < 16 ∧ (headerOf packet).1.ack < 1024 ∧ (headerOf packet).1.numChunks < 256 := by
  have h1 := (packet.getD 1 0).toNat_lt
  rw [headerOf, ph_unpack_eq _ _ _ h1]
  exact ⟨Nat.mod_lt _ (by decide), join_lt _ _ 256 4 (Nat.mod_lt _ (by decide)) h1, (packet.getD 2 0).toNat_lt⟩

/-- the model takes the datagram apart by pattern (`b0 :: b1 :: b2 :: payload0`); this and `exists_cons3` are
how a proof gets from a datagram with a complete header to that form -/
theorem headerOf_cons (b0 b1 b2 : UInt8) (p : List UInt8) :
    headerOf (b0 :: b1 :: b2 :: p) = PacketHeader.unpackWarn b0.toNat b1.toNat b2.toNat := rfl

theorem exists_cons3 {bytes : List UInt8} (h : HEADER_SIZE ≤ bytes.length) :
    ∃ b0 b1 b2 p, bytes = b0 :: b1 :: b2 :: p :=
  match bytes, h with
  | b0 :: b1 :: b2 :: p, _ => ⟨b0, b1, b2, p, rfl⟩
  | [], h | [_], h | [_, _], h => absurd h (by simp [HEADER_SIZE])

theorem ofNat3_length (x : Nat × Nat × Nat) : (ofNat3 x).length = 3 := rfl

theorem ofNat3_append_length (x : Nat × Nat × Nat) (body : List UInt8) : (ofNat3 x ++ body).length = body.length + 3 := by
  rw [List.length_append, ofNat3_length, Nat.add_comm]

theorem headerOf_written (h : PacketHeader) (hf : h.flags < 16) (ha : h.ack < 1024) (hn : h.numChunks < 256)
    (body : List UInt8) :
    headerOf (ofNat3 (h.flags * 16 + h.ack / 256, h.ack % 256, h.numChunks) ++ body) = (h, []) := by
  obtain ⟨h0, h1, hu⟩ := ph_unpack_packed h hf ha
  show PacketHeader.unpackWarn (UInt8.ofNat (h.flags * 16 + h.ack / 256)).toNat (UInt8.ofNat (h.ack % 256)).toNat
    (UInt8.ofNat h.numChunks).toNat = _
  rw [UInt8.toNat_ofNat_of_lt' h0, UInt8.toNat_ofNat_of_lt' h1, UInt8.toNat_ofNat_of_lt' hn, hu]

/-- only `close` has a slice: its reason, behind the control byte -/
def ctrlLoc (c : Control) (src : Src) (off : Nat) : Option Loc :=
  match c with
  | .close _ => some { src := src, off := off + 1 }
  | _ => none

theorem controlValue_congr (p : List UInt8) (src src' : Src) (off : Nat) :
    (controlValue p src off).map (·.1) = (controlValue p src' off).map (·.1) := by
  cases p with
  | nil => rfl
  | cons c pl =>
    simp only [controlValue, apply_ite (Except.map _)]
    rfl

theorem controlValue_ok {p : List UInt8} {src : Src} {off : Nat} {c : Control} {loc : Option Loc}
    (h : controlValue p src off = .ok (c, loc)) :
    loc = ctrlLoc c src off ∧ ValidControl c ∧ ∀ m, c = .close m → ∃ c0 pl, p = c0 :: pl ∧ m <+: pl := by
  cases p with
  | nil => cases h
  | cons c0 pl =>
    simp only [controlValue] at h
    by_cases h0 : c0.toNat = CTRLMSG_KEEPALIVE
    · rw [if_pos h0] at h; cases h; exact ⟨rfl, trivial, nofun⟩
    rw [if_neg h0] at h
    by_cases h1 : c0.toNat = CTRLMSG_CONNECT
    · rw [if_pos h1] at h; cases h; exact ⟨rfl, trivial, nofun⟩
    rw [if_neg h1] at h
    by_cases h2 : c0.toNat = CTRLMSG_CONNECTACCEPT
    · rw [if_pos h2] at h; cases h; exact ⟨rfl, trivial, nofun⟩
    rw [if_neg h2] at h
    by_cases h3 : c0.toNat = CTRLMSG_ACCEPT
    · rw [if_pos h3] at h; cases h; exact ⟨rfl, trivial, nofun⟩
    rw [if_neg h3] at h
    by_cases h4 : c0.toNat = CTRLMSG_CLOSE
    · rw [if_pos h4] at h
      cases h
      exact ⟨rfl, take_min_nulPos pl _, fun m hm => by cases hm; exact ⟨c0, pl, rfl, List.take_prefix _ pl⟩⟩
    · rw [if_neg h4] at h; cases h

theorem readConnless_ok {bytes payload0 : List UInt8} {wh : List Warning} {r : ReadOk}
    (hr : readConnless bytes payload0 wh = .ok r) :
    PADDING_SIZE_CONNLESS ≤ payload0.length ∧ r.scratch = [] ∧
      r.loc = some { src := .input, off := HEADER_SIZE + PADDING_SIZE_CONNLESS } ∧
      r.pkt = .connless (payload0.drop PADDING_SIZE_CONNLESS) := by
  unfold readConnless at hr
  by_cases hl : payload0.length < PADDING_SIZE_CONNLESS
  · rw [if_pos hl] at hr; cases hr
  · rw [if_neg hl] at hr
    cases hr
    exact ⟨Nat.not_lt.mp hl, rfl, rfl, rfl⟩

def tokBytes : Option Token → List UInt8
  | some t => t.toList
  | none => []

theorem tokBytes_length (tok : Option Token) : (tokBytes tok).length = if tok.isSome then 4 else 0 := by
  cases tok <;> rfl

def rrOf (h : PacketHeader) : Bool := h.flags &&& PACKETFLAG_REQUEST_RESEND ≠ 0

/-- The model's `take`, `drop` and `getD` at the token are undone here, once; every payload that passes the token
check has this form (`exists_strip`). -/
theorem readBodyWith_strip (h : PacketHeader) (wh : List Warning) (x : List UInt8) (tok : Option Token)
    (src : Src) (scratch : List UInt8) :
    readBodyWith h wh (x ++ tokBytes tok) src scratch tok.isSome =
      if h.flags &&& PACKETFLAG_CONTROL ≠ 0 then
        match controlValue x src HEADER_SIZE with
        | .error e => .error (e, wh ++ controlWarns h tok x)
        | .ok (c, loc) =>
          .ok { pkt := .connected h.ack tok (.control c), warns := wh ++ controlWarns h tok x, loc := loc,
                scratch := scratch }
      else
        .ok { pkt := .connected h.ack tok (.chunks (rrOf h) h.numChunks x),
              warns := wh ++ (if h.numChunks = 0 ∧ ¬ rrOf h then [.chunksNoChunks] else []),
              loc := some { src := src, off := HEADER_SIZE }, scratch := scratch } := by
  unfold readBodyWith
  cases tok with
  | none =>
    simp only [tokBytes, List.append_nil, Option.isSome_none, Bool.false_eq_true, false_and, if_false]
    rfl
  | some tk =>
    have h2 : ¬ (x ++ tk.toList).length < 4 := by
      simp [Token.toList]
    have hl : (x ++ tk.toList).length - 4 = x.length := by simp [Token.toList]
    simp only [tokBytes, Option.isSome_some, true_and, if_true, TOKEN_SIZE]
    rw [hl, List.take_left' rfl, List.drop_left' rfl, if_neg h2]
    rfl

theorem readBody_some {h : PacketHeader} {wh : List Warning} {payload : List UInt8} {src : Src}
    {scratch : List UInt8} (b : Bool) (hl : payload.length ≤ READ_PAYLOAD_LIMIT) :
    readBody h wh payload src scratch (some b) = readBodyWith h wh payload src scratch b := by
  unfold readBody
  rw [if_neg (Nat.not_lt.mpr hl)]

theorem exists_strip {payload : List UInt8} {b : Bool} (h : ¬ (b = true ∧ payload.length < TOKEN_SIZE)) :
    ∃ x tok, payload = x ++ tokBytes tok ∧ tok.isSome = b := by
  cases b with
  | false => exact ⟨payload, none, (List.append_nil _).symm, rfl⟩
  | true =>
    have h4 : (payload.drop (payload.length - 4)).length = 4 := by
      rw [List.length_drop]
      exact Nat.sub_sub_self (Nat.not_lt.mp fun hlt => h ⟨rfl, hlt⟩)
    match hd : payload.drop (payload.length - 4), h4 with
    | [b0, b1, b2, b3], _ =>
      refine ⟨payload.take (payload.length - 4), some ⟨b0, b1, b2, b3⟩, ?_, rfl⟩
      rw [tokBytes, Token.toList, ← hd, List.take_append_drop]

theorem readBody_ok {h : PacketHeader} {wh : List Warning} {payload : List UInt8} {src : Src}
    {scratch : List UInt8} {hint : Option Bool} {r : ReadOk} (hr : readBody h wh payload src scratch hint = .ok r) :
    payload.length ≤ READ_PAYLOAD_LIMIT ∧ r.scratch = scratch ∧ ∃ x tok, payload = x ++ tokBytes tok ∧
      ((∃ c loc, controlValue x src HEADER_SIZE = .ok (c, loc) ∧
          r.pkt = .connected h.ack tok (.control c) ∧ r.loc = loc) ∨
       (r.pkt = .connected h.ack tok (.chunks (rrOf h) h.numChunks x) ∧
          r.loc = some { src := src, off := HEADER_SIZE })) := by
  unfold readBody at hr
  by_cases hl : payload.length > READ_PAYLOAD_LIMIT
  · rw [if_pos hl] at hr; cases hr
  rw [if_neg hl] at hr
  obtain ⟨b, hr⟩ : ∃ b, readBodyWith h wh payload src scratch b = .ok r := ⟨_, hr⟩
  by_cases htok : b = true ∧ payload.length < TOKEN_SIZE
  · rw [readBodyWith, if_pos htok] at hr; cases hr
  obtain ⟨x, tok, rfl, rfl⟩ := exists_strip htok
  rw [readBodyWith_strip] at hr
  refine ⟨Nat.not_lt.mp hl, ?_⟩
  by_cases hctl : h.flags &&& PACKETFLAG_CONTROL ≠ 0
  · rw [if_pos hctl] at hr
    cases hcv : controlValue x src HEADER_SIZE with
    | error e => rw [hcv] at hr; cases hr
    | ok cl =>
      obtain ⟨c, loc⟩ := cl
      rw [hcv] at hr
      cases hr
      exact ⟨rfl, x, tok, rfl, Or.inl ⟨c, loc, hcv, rfl, rfl⟩⟩
  · rw [if_neg hctl] at hr
    cases hr
    exact ⟨rfl, x, tok, rfl, Or.inr ⟨rfl, rfl⟩⟩

/-- the header `decompress` writes in front of the decompressed payload: the packet's header with
the compression flag cleared -/
def fakeHeader (packet : List UInt8) : List UInt8 :=
  let h := (headerOf packet).1
  ofNat3 ((h.flags &&& (255 - PACKETFLAG_COMPRESSION)) * 16 + h.ack / 256, h.ack % 256, h.numChunks)

theorem fakeHeader_length (packet : List UInt8) : (fakeHeader packet).length = 3 := rfl

theorem headerOf_decompressed (bytes out : List UInt8) :
    headerOf (fakeHeader bytes ++ out) =
      (⟨(headerOf bytes).1.flags &&& (255 - PACKETFLAG_COMPRESSION), (headerOf bytes).1.ack,
        (headerOf bytes).1.numChunks⟩, []) :=
  have hb := headerOf_lt bytes
  headerOf_written ⟨_, _, _⟩ (Nat.lt_of_le_of_lt Nat.and_le_left hb.1) hb.2.1 hb.2.2 out

theorem needsDecompression_iff (bytes : List UInt8) :
    needsDecompression bytes = true ↔
      bytes.length ≤ MAX_PACKETSIZE ∧ HEADER_SIZE ≤ bytes.length ∧
      (headerOf bytes).1.flags &&& PACKETFLAG_CONNLESS = 0 ∧
      (headerOf bytes).1.flags &&& PACKETFLAG_COMPRESSION ≠ 0 := by
  unfold needsDecompression
  by_cases h1 : bytes.length > MAX_PACKETSIZE
  · rw [if_pos h1]
    exact ⟨nofun, fun h => absurd h.1 (Nat.not_le.mpr h1)⟩
  · rw [if_neg h1]
    match bytes with
    | b0 :: b1 :: b2 :: p =>
      dsimp only
      rw [decide_eq_true_eq]
      exact ⟨fun h => ⟨Nat.not_lt.mp h1, Nat.le_add_left 3 _, h⟩, fun h => h.2.2⟩
    | [] | [_] | [_, _] => exact ⟨nofun, fun h => absurd h.2.1 (by simp [HEADER_SIZE])⟩

theorem decompress_eq (t : Huffman.Table) (packet : List UInt8) (cap : Nat)
    (hcap : MAX_PACKETSIZE ≤ cap) (hn : needsDecompression packet = true) :
    decompress t packet cap =
      match Huffman.decompress t (packet.drop 3) (cap - 3) with
      | .ok out => .ok (fakeHeader packet ++ out)
      | .capacity => .capacity
      | .diverge => .diverge := by
  obtain ⟨b0, b1, b2, payload, rfl⟩ := exists_cons3 ((needsDecompression_iff packet).mp hn).2.1
  have hb := headerOf_lt (b0 :: b1 :: b2 :: payload)
  have hw : ∀ x, bufWrite cap [] (ofNat3 x) = some (ofNat3 x) :=
    fun x => bufWrite_nil (Nat.le_trans (show 3 ≤ MAX_PACKETSIZE by decide) hcap)
  rw [headerOf_cons] at hb
  simp only [decompress, if_neg (Nat.not_lt.mpr hcap), hn, not_true_eq_false, if_false,
    ph_pack_eq ⟨_, _, _⟩ (Nat.lt_of_le_of_lt Nat.and_le_left hb.1) hb.2.1, hw, ofNat3_length]
  rfl

theorem decompressIfNeeded_eq (t : Huffman.Table) (bytes : List UInt8) (cap : Nat) (hcap : MAX_PACKETSIZE ≤ cap) :
    decompressIfNeeded t bytes cap =
      if needsDecompression bytes = true then
        match Huffman.decompress t (bytes.drop 3) (cap - 3) with
        | .ok out => .ok true (fakeHeader bytes ++ out)
        | .capacity => .err
        | .diverge => .diverge
      else .ok false [] := by
  unfold decompressIfNeeded
  rw [if_neg (Nat.not_lt.mpr hcap)]
  by_cases hn : needsDecompression bytes = true
  · rw [if_neg (not_not_intro hn), if_pos hn, decompress_eq t bytes cap hcap hn]
    cases Huffman.decompress t (bytes.drop 3) (cap - 3) <;> rfl
  · rw [if_pos hn, if_neg hn]

theorem decompressIfNeeded_cap {t : Huffman.Table} {bytes : List UInt8} {cap : Nat} {b : Bool} {s : List UInt8}
    (h : decompressIfNeeded t bytes cap = .ok b s) : MAX_PACKETSIZE ≤ cap := by
  apply Nat.not_lt.mp
  intro hcap
  rw [decompressIfNeeded, if_pos hcap] at h
  cases h

theorem decompressIfNeeded_ok {t : Huffman.Table} {bytes : List UInt8} {cap : Nat} {s : List UInt8}
    (h : decompressIfNeeded t bytes cap = .ok true s) :
    MAX_PACKETSIZE ≤ cap ∧ needsDecompression bytes = true ∧
      ∃ out, Huffman.decompress t (bytes.drop 3) (cap - 3) = .ok out ∧ s = fakeHeader bytes ++ out := by
  have hcap := decompressIfNeeded_cap h
  rw [decompressIfNeeded_eq t bytes cap hcap] at h
  split at h
  · rename_i hn
    split at h <;> cases h
    exact ⟨hcap, hn, _, ‹_›, rfl⟩
  · cases h

/-! The two-step path `decompress_if_needed` → `read_panic_on_decompression`: what the first step hands on is never a
compressed packet — its output has the compression flag cleared in the header, and it reports "nothing to do" only
for a datagram that was not compressed — so the second step meets its documented precondition and cannot panic
(`read_nobuf_ne_panic`; put together in `Props/C06`, `v6_two_step_never_panics`). -/

theorem decompressIfNeeded_output_not_compressed (t : Huffman.Table) (bytes : List UInt8) (cap : Nat) (s : List UInt8)
    (h : decompressIfNeeded t bytes cap = .ok true s) : needsDecompression s = false := by
  obtain ⟨_, _, out, _, rfl⟩ := decompressIfNeeded_ok h
  have c8 : (255 - PACKETFLAG_COMPRESSION) &&& PACKETFLAG_COMPRESSION = 0 := by decide
  apply Bool.eq_false_iff.mpr
  intro hn
  have := ((needsDecompression_iff _).mp hn).2.2.2
  rw [headerOf_decompressed, Nat.and_assoc, c8] at this
  exact this (Nat.and_zero _)

theorem decompressIfNeeded_false (t : Huffman.Table) (bytes : List UInt8) (cap : Nat)
    (h : decompressIfNeeded t bytes cap = .ok false []) : needsDecompression bytes = false := by
  rw [decompressIfNeeded_eq t bytes cap (decompressIfNeeded_cap h)] at h
  split at h
  · split at h <;> cases h
  · exact Bool.eq_false_iff.mpr ‹_›

/-- The compressed arm is that of `decompress_eq`: the `unwrap` on the decompressed header cannot fail. -/
theorem read_eq (t : Huffman.Table) (bytes : List UInt8) (hint : Option Bool) (buffer : Option Nat)
    (hs : ∀ cap, buffer = some cap → MAX_PACKETSIZE ≤ cap) (hlen : bytes.length ≤ MAX_PACKETSIZE)
    (h3 : HEADER_SIZE ≤ bytes.length) :
    read t bytes hint buffer =
      if (headerOf bytes).1.flags &&& PACKETFLAG_CONNLESS ≠ 0 then
        .lift (readConnless bytes (bytes.drop HEADER_SIZE) (headerOf bytes).2)
      else if (headerOf bytes).1.flags &&& PACKETFLAG_COMPRESSION ≠ 0 then
        match (generalizing := false) buffer with
        | none => .panic "read_panic_on_decompression called on compressed packet"
        | some cap =>
          match Huffman.decompress t (bytes.drop 3) (cap - 3) with
          | .ok out => .lift (readBody (headerOf bytes).1 (headerOf bytes).2 out .scratch (fakeHeader bytes ++ out) hint)
          | .capacity => .err .compression (headerOf bytes).2
          | .diverge => .diverge
      else .lift (readBody (headerOf bytes).1 (headerOf bytes).2 (bytes.drop HEADER_SIZE) .input [] hint) := by
  have h2 : ¬ bytes.length > MAX_PACKETSIZE := Nat.not_lt.mpr hlen
  obtain ⟨b0, b1, b2, payload0, rfl⟩ := exists_cons3 h3
  unfold read
  cases buffer with
  | none =>
    rw [if_neg Bool.false_ne_true, if_neg h2]
    rfl
  | some cap =>
    rw [if_neg fun hd => Nat.not_lt.mpr (hs cap rfl) (of_decide_eq_true hd), if_neg h2]
    dsimp only
    rw [← headerOf_cons b0 b1 b2 payload0]
    by_cases hc : (headerOf (b0 :: b1 :: b2 :: payload0)).1.flags &&& PACKETFLAG_CONNLESS ≠ 0
    · rw [if_pos hc, if_pos hc]
      rfl
    rw [if_neg hc, if_neg hc]
    by_cases hz : (headerOf (b0 :: b1 :: b2 :: payload0)).1.flags &&& PACKETFLAG_COMPRESSION ≠ 0
    · rw [if_pos hz, if_pos hz, decompress_eq t _ cap (hs cap rfl)
        ((needsDecompression_iff _).mpr ⟨hlen, h3, Decidable.not_not.mp hc, hz⟩)]
      cases Huffman.decompress t (List.drop 3 (b0 :: b1 :: b2 :: payload0)) (cap - 3) with
      | ok out =>
        dsimp only
        rw [if_neg (by rw [List.length_append, fakeHeader_length]; exact Nat.not_lt.mpr (Nat.le_add_right _ _))]
        rfl
      | capacity => rfl
      | diverge => rfl
    · rw [if_neg hz, if_neg hz]
      rfl

theorem read_panic_of_cap_lt (t : Huffman.Table) (bytes : List UInt8) (hint : Option Bool) (cap : Nat)
    (hc : cap < MAX_PACKETSIZE) :
    read t bytes hint (some cap) = .panic "read_impl: buffer.remaining() >= MAX_PACKETSIZE" :=
  if_pos (decide_eq_true hc)

theorem read_tooLong (t : Huffman.Table) (bytes : List UInt8) (hint : Option Bool) (buffer : Option Nat)
    (hs : ∀ cap, buffer = some cap → MAX_PACKETSIZE ≤ cap) (h : bytes.length > MAX_PACKETSIZE) :
    read t bytes hint buffer = .err .tooLong [] := by
  unfold read
  cases buffer with
  | none => rw [if_neg Bool.false_ne_true, if_pos h]
  | some cap => rw [if_neg fun hd => Nat.not_lt.mpr (hs cap rfl) (of_decide_eq_true hd), if_pos h]

theorem read_tooShort (t : Huffman.Table) (bytes : List UInt8) (hint : Option Bool) (buffer : Option Nat)
    (hs : ∀ cap, buffer = some cap → MAX_PACKETSIZE ≤ cap) (h : bytes.length < HEADER_SIZE) :
    read t bytes hint buffer = .err .tooShort [] := by
  have h2 : ¬ bytes.length > MAX_PACKETSIZE := Nat.not_lt.mpr (Nat.le_trans (Nat.le_of_lt h) (by decide))
  unfold read
  match bytes, h, h2 with
  | [], _, h2 | [_], _, h2 | [_, _], _, h2 =>
    cases buffer with
    | none => rw [if_neg Bool.false_ne_true, if_neg h2]
    | some cap => rw [if_neg fun hd => Nat.not_lt.mpr (hs cap rfl) (of_decide_eq_true hd), if_neg h2]
  | _ :: _ :: _ :: p, h, _ => exact absurd h (by simp [HEADER_SIZE])

theorem read_cases (t : Huffman.Table) (bytes : List UInt8) (hint : Option Bool) (buffer : Option Nat) :
    (∃ cap s, buffer = some cap ∧ cap < MAX_PACKETSIZE ∧ read t bytes hint buffer = .panic s) ∨
    (∃ e, read t bytes hint buffer = .err e []) ∨
    (bytes.length ≤ MAX_PACKETSIZE ∧ HEADER_SIZE ≤ bytes.length ∧
      ∀ cap, buffer = some cap → MAX_PACKETSIZE ≤ cap) := by
  by_cases hs : ∀ cap, buffer = some cap → MAX_PACKETSIZE ≤ cap
  · by_cases h2 : bytes.length > MAX_PACKETSIZE
    · exact Or.inr (Or.inl ⟨_, read_tooLong t bytes hint buffer hs h2⟩)
    · by_cases h3 : bytes.length < HEADER_SIZE
      · exact Or.inr (Or.inl ⟨_, read_tooShort t bytes hint buffer hs h3⟩)
      · exact Or.inr (Or.inr ⟨Nat.not_lt.mp h2, Nat.not_lt.mp h3, hs⟩)
  · cases buffer with
    | none => simp at hs
    | some cap =>
      have hc : cap < MAX_PACKETSIZE := by simpa using hs
      exact Or.inl ⟨cap, _, rfl, hc, read_panic_of_cap_lt t bytes hint cap hc⟩

theorem read_panic_diverge (t : Huffman.Table) (bytes : List UInt8) (hint : Option Bool) (buffer : Option Nat) :
    (∀ s, read t bytes hint buffer = .panic s →
      (∃ cap, buffer = some cap ∧ cap < MAX_PACKETSIZE) ∨ (buffer = none ∧ needsDecompression bytes = true)) ∧
    (read t bytes hint buffer = .diverge → ∃ input cap, Huffman.decompress t input cap = .diverge) := by
  rcases read_cases t bytes hint buffer with ⟨cap, _, hc, hlt, h⟩ | ⟨e, h⟩ | ⟨hlen, h3, hb⟩
  · rw [h]
    exact ⟨fun _ _ => Or.inl ⟨cap, hc, hlt⟩, nofun⟩
  · rw [h]
    exact ⟨nofun, nofun⟩
  · rw [read_eq t bytes hint _ hb hlen h3]
    by_cases hc : (headerOf bytes).1.flags &&& PACKETFLAG_CONNLESS = 0
    case neg =>
      rw [if_pos hc]
      exact lift_returns _
    rw [if_neg (fun h => h hc)]
    by_cases hz : (headerOf bytes).1.flags &&& PACKETFLAG_COMPRESSION ≠ 0
    case neg =>
      rw [if_neg hz]
      exact lift_returns _
    · rw [if_pos hz]
      cases buffer with
      | none => exact ⟨fun _ _ => Or.inr ⟨rfl, (needsDecompression_iff bytes).mpr ⟨hlen, h3, hc, hz⟩⟩, nofun⟩
      | some cap =>
        dsimp only
        cases hd : Huffman.decompress t (bytes.drop 3) (cap - 3) with
        | ok out => exact lift_returns _
        | capacity => exact ⟨nofun, nofun⟩
        | diverge => exact ⟨nofun, fun _ => ⟨_, _, hd⟩⟩

/-- `read_panic_on_decompression` under its documented precondition (not a compressed packet) -/
theorem read_nobuf_ne_panic (t : Huffman.Table) (bytes : List UInt8) (hint : Option Bool)
    (hn : needsDecompression bytes = false) (s : String) :
    read t bytes hint none ≠ .panic s := by
  intro h
  rcases (read_panic_diverge t bytes hint none).1 s h with ⟨_, hc, _⟩ | ⟨_, hc⟩
  · cases hc
  · exact Bool.false_ne_true (hn.symm.trans hc)

theorem read_ok_cases (t : Huffman.Table) (bytes : List UInt8) (hint : Option Bool) (buffer : Option Nat)
    (r : ReadOk) (hr : read t bytes hint buffer = .ok r) :
    bytes.length ≤ MAX_PACKETSIZE ∧ HEADER_SIZE ≤ bytes.length ∧
      (readConnless bytes (bytes.drop HEADER_SIZE) (headerOf bytes).2 = .ok r ∨
       readBody (headerOf bytes).1 (headerOf bytes).2 (bytes.drop HEADER_SIZE) .input [] hint = .ok r ∨
       ∃ cap out, buffer = some cap ∧ MAX_PACKETSIZE ≤ cap ∧
         Huffman.decompress t (bytes.drop 3) (cap - 3) = .ok out ∧
         readBody (headerOf bytes).1 (headerOf bytes).2 out .scratch (fakeHeader bytes ++ out) hint = .ok r) := by
  rcases read_cases t bytes hint buffer with ⟨_, _, _, _, h⟩ | ⟨e, h⟩ | ⟨hlen, h3, hb⟩
  · rw [h] at hr
    cases hr
  · rw [h] at hr
    cases hr
  · refine ⟨hlen, h3, ?_⟩
    rw [read_eq t bytes hint _ hb hlen h3] at hr
    split at hr
    · exact Or.inl (lift_eq_ok hr)
    split at hr
    · cases buffer with
      | none => cases hr
      | some cap =>
        dsimp only at hr
        cases hd : Huffman.decompress t (bytes.drop 3) (cap - 3) with
        | ok out =>
          rw [hd] at hr
          exact Or.inr (Or.inr ⟨cap, out, rfl, hb cap rfl, hd, lift_eq_ok hr⟩)
        | capacity => rw [hd] at hr; cases hr
        | diverge => rw [hd] at hr; cases hr
    · exact Or.inr (Or.inl (lift_eq_ok hr))

end Tw.Packet6
