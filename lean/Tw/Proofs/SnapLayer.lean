import Tw.Proofs.SnapChain

/-!
The snapshot layer as its two users see it (the exchange of C13, the demo of C15): what
`Delta::create`, `Delta::write`, `Delta::read`, `Snap::read_with_delta`, `RawSnap::write` and `Snap::read`
do to builder-made snapshots, and that none of the writing ones panics between two snapshots of one
builder chain (`Built`, `Anc`; `Anc.writes`).
-/
namespace Tw.Snap

variable {objSize : Nat → Option Nat} {size : TypeId → Nat → Nat}

/-- C09 + C10: applying a created delta reproduces a builder-made target, without a warning -/
theorem readWithDelta_createDelta {a b : Snap} (ha : a.raw.WF) (hb : ExtOk b) {d : Delta}
    (h : createDelta a.raw b.raw = some d) : a.readWithDelta d = .ok (b, []) := by
  have hag : SizesAgree a.raw b.raw := Decidable.byContradiction fun hn =>
    nomatch h.symm.trans ((createDelta_eq_none_iff _ _).mpr hn)
  obtain ⟨d', hd', hap⟩ := applyDelta_createDelta ha hb.raw_wf hag
  cases hd'.symm.trans h
  rw [Snap.readWithDelta_def, hap, thenBuild_of_extOk hb]

/-- C09: the bytes `Delta::write` packs for a well-formed delta read back as that delta -/
theorem readDelta_packInts {d : Delta} (hd : d.WF) {xs : List Int} (hxs : d.writeInts objSize = some xs) :
    readDelta objSize (.bytes (packInts xs)) = .ok (d, []) :=
  readDelta_of_writeInts true objSize hd hxs

/-- neither assertion of `RawSnap::write` fires -/
theorem writeBytes_of_WF {s : RawSnap} (hs : s.WF) (cap : Nat) :
    s.writeBytes cap = if (packInts (refSnapInts (unsignedOrder s.items))).length > cap then .capacity
      else .ok (packInts (refSnapInts (unsignedOrder s.items))) := by
  have h := writeInts_eq_reference hs
  unfold RawSnap.writeInts at h
  unfold RawSnap.writeBytes
  split at h
  · cases h
  · rename_i h1
    rw [if_neg h1]
    simp only [] at h ⊢
    split at h
    · cases h
    · rename_i h2
      rw [← Option.some.inj h]
      simp only [if_neg h2]

/-- C10: what `RawSnap::write` packs for a builder-made snapshot reads back as that snapshot -/
theorem readBytes_writeBytes {s : Snap} (hs : ExtOk s) {cap : Nat} {bs : List UInt8}
    (h : s.raw.writeBytes cap = .ok bs) : Snap.readBytes bs = .ok (s, []) := by
  rw [writeBytes_of_WF hs.raw_wf] at h
  split at h
  · cases h
  cases h
  rw [Snap.readBytes_def, RawSnap.readBytes_written hs.raw_wf, thenBuild_of_extOk hs]

def Built (size : TypeId → Nat → Nat) (s : Snap) : Prop :=
  ∃ b, Chain size Builder.new b ∧ b.snap = s

/-- the pairs `(s, t)` that `Delta::create` is called on -/
def Anc (size : TypeId → Nat → Nat) (s t : Snap) : Prop :=
  ∃ a b, Chain size Builder.new a ∧ Chain size a b ∧ a.snap = s ∧ b.snap = t

theorem Anc.built_left {s t : Snap} (h : Anc size s t) : Built size s := by
  obtain ⟨a, _, h0, _, hs, _⟩ := h; exact ⟨a, h0, hs⟩

theorem Anc.built_right {s t : Snap} (h : Anc size s t) : Built size t := by
  obtain ⟨a, b, h0, h1, _, ht⟩ := h; exact ⟨b, chain_trans h0 h1, ht⟩

theorem Anc.of_chain {a b : Builder} (h0 : Chain size Builder.new a) (h1 : Chain size a b) :
    Anc size a.snap b.snap :=
  ⟨a, b, h0, h1, rfl, rfl⟩

theorem Built.anc_self {s : Snap} (h : Built size s) : Anc size s s := by
  obtain ⟨b, h0, rfl⟩ := h; exact .of_chain h0 (.refl b)

theorem Built.anc_empty {s : Snap} (h : Built size s) : Anc size Snap.empty s := by
  obtain ⟨b, h0, rfl⟩ := h; exact .of_chain (.refl _) h0

theorem built_empty (size : TypeId → Nat → Nat) : Built size Snap.empty := ⟨Builder.new, Chain.refl _, rfl⟩

theorem Built.extOk {s : Snap} (h : Built size s) : ExtOk s := by
  obtain ⟨b, hb, rfl⟩ := h; exact (chain_inv_new hb).1.ok

/-- Between two snapshots of one builder chain, with an object-size table that agrees with the sizes the
application uses, neither `Delta::create` nor `Delta::write` panics. -/
theorem Anc.writes (ho : Tw.DemoHl.ObjSizeAgrees size objSize) {s t : Snap} (h : Anc size s t) :
    ∃ d xs, createDelta s.raw t.raw = some d ∧ d.writeInts objSize = some xs := by
  obtain ⟨a, b, h0, h1, rfl, rfl⟩ := h
  obtain ⟨_, d, hd⟩ := chain_create h0 h1
  obtain ⟨hbi, hbs⟩ := chain_inv_new (chain_trans h0 h1)
  exact ⟨d, _, hd, Delta.writeInts_eq_some.mpr ⟨sizesOk_of_lens objSize
    (createDelta_WF (chain_inv_new h0).1.ok.raw_wf hbi.ok.raw_wf hd).2 (sizesOk_of_sized ho hbs), rfl⟩⟩

end Tw.Snap
