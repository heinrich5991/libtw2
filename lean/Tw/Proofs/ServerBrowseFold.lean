import Tw.Proofs.ServerBrowse
import Tw.Proofs.ServerBrowseMerge

/-! Folding a merge over the parts of one info. `merge` and its hypothetical repair are both `mergeWith g`, and one
invariant (`Family.Inv`) with one step (`Family.inv_step`) serves both: of the mask the invariant says only how the
tests of `merge` against a part not merged so far, and that of `get_info`, come out. That gives `Family.result_nodup`
for `merge` itself on orders without repetition. On a repetition the invariant says nothing: whether a part merged
before is still recognised depends on the mask update (D10). -/
namespace Tw.ServerBrowse
open Tw.Gen.Browse

/-- the two ways of updating the mask: `merge` keeps that of the packet in front, the repaired version takes the union -/
def MaskUpdate (g : Nat → Nat → Nat) : Prop := ∀ a b, g a b = a ∨ g a b = a ||| b

theorem MaskUpdate.and_eq_zero_iff {g : Nat → Nat → Nat} (hg : MaskUpdate g) {a b m : Nat}
    (h : a &&& m ≠ 0 ∨ b &&& m = 0) : g a b &&& m = 0 ↔ a &&& m = 0 := by
  rcases hg a b with e | e
  · rw [e]
  · rw [e, Nat.and_or_distrib_right, Nat.or_eq_zero_iff]
    exact ⟨And.left, fun ha => ⟨ha, h.resolve_left (fun hn => hn ha)⟩⟩

namespace Family

/-- the header an accumulator holds after the parts `seen`: that of an `iex+` packet as long as the
main packet of an extended info is not among them -/
def hdrOf (f : Family) (seen : List Nat) : ServerInfo :=
  if f.ex = true ∧ 0 ∉ seen then moreHdr f.hdr.token else f.hdr

def mask (f : Family) (i : Nat) : Nat := (f.part i).received

theorem part_info (f : Family) (hwf : f.WellFormed) (i : Nat) (hi : i < f.size) :
    (f.part i).info = (f.hdrOf [i]).withClients (f.chunk i) := by
  unfold part hdrOf
  cases hex : f.ex with
  | false => simp
  | true =>
    have hno := hwf.no_zero hex hi
    simp only [if_true, exPart]
    by_cases h0 : i = 0
    · have : f.no i = 0 := hno.2 h0
      subst h0
      simp [this]
    · have : ¬ f.no i = 0 := fun e => h0 (hno.1 e)
      simp [this, Ne.symm h0]

theorem hdrOf_congr {f : Family} {seen seen' : List Nat} (h : (f.ex = true ∧ 0 ∉ seen) ↔ (f.ex = true ∧ 0 ∉ seen')) :
    f.hdrOf seen = f.hdrOf seen' := by
  unfold hdrOf
  simp only [h]

theorem hdrOf_token (f : Family) (seen : List Nat) : (f.hdrOf seen).token = f.hdr.token := by
  unfold hdrOf; split <;> rfl

theorem hdrOf_version (f : Family) (hwf : f.WellFormed) (seen : List Nat) :
    (f.hdrOf seen).infoVersion = f.hdr.infoVersion := by
  unfold hdrOf
  split
  · rename_i h
    have := hwf.version
    rw [this]; simp [h.1, moreHdr]
  · rfl

theorem hdr_multi (f : Family) (hwf : f.WellFormed) : f.hdr.infoVersion = .v664 ∨ f.hdr.infoVersion = .v6Ex := by
  have := hwf.version
  cases hex : f.ex <;> simp [hex] at this <;> simp [this]

theorem mask_disjoint (f : Family) (hwf : f.WellFormed) {i j : Nat} (hi : i < f.size) (hj : j < f.size) (hne : i ≠ j) :
    f.mask i &&& f.mask j = 0 := by
  unfold mask part
  cases hex : f.ex with
  | false =>
    simp only [Bool.false_eq_true, if_false]
    apply rangeMask_disjoint
    rcases Nat.lt_or_gt_of_ne hne with h | h
    · exact Or.inl (f.offset_mono h)
    · exact Or.inr (f.offset_mono h)
  | true =>
    simp only [if_true, exPart_received]
    apply two_pow_and_ne
    intro e
    exact hne (hwf.no_inj hex hi hj e)

theorem eq_of_mask_eq_zero (f : Family) {i : Nat} (h : f.mask i = 0) : f.ex = false ∧ f.chunk i = [] := by
  unfold mask part at h
  cases hex : f.ex with
  | false =>
    refine ⟨rfl, ?_⟩
    simp only [hex, Bool.false_eq_true, if_false] at h
    by_cases hl : 0 < (f.chunk i).length
    · exact absurd h (rangeMask_ne_zero hl)
    · exact List.length_eq_zero_iff.1 (by omega)
  | true =>
    simp only [hex, if_true, exPart_received] at h
    exact absurd h (Nat.pos_iff_ne_zero.1 (Nat.two_pow_pos _))

theorem mask_bit0 (f : Family) (hwf : f.WellFormed) (hex : f.ex = true) {i : Nat} (hi : i < f.size) :
    f.mask i &&& 1 = 0 ↔ i ≠ 0 := by
  unfold mask part
  simp only [hex, if_true, exPart_received]
  have hno := hwf.no_zero hex hi
  constructor
  · intro h e
    have : f.no i = 0 := hno.2 e
    rw [this] at h; simp at h
  · intro h
    exact two_pow_and_ne (b := 0) (fun e => h (hno.1 e))

theorem missing_iff_covers (f : Family) (hwf : f.WellFormed) (seen : List Nat) (hne : seen ≠ [])
    (hr : ∀ i ∈ seen, i < f.size) (hmain : f.ex = true → 0 ∈ seen) :
    (∀ i < f.size, i ∉ seen → f.chunk i = []) ↔ f.Covers seen := by
  constructor
  · intro h i hi
    apply Classical.byContradiction
    intro hni
    have he := h i hi hni
    rcases hwf.carries hi with h1 | ⟨h0, h2⟩
    · exact h1 he
    · rcases h2 with h2 | h2
      · exact hni (h0 ▸ hmain h2)
      · cases seen with
        | nil => exact hne rfl
        | cons a l =>
          have := hr a List.mem_cons_self
          have : a = i := by omega
          exact hni (this ▸ List.mem_cons_self)
  · intro h i hi hni
    exact absurd (h i hi) hni

/-- Invariant of the accumulator under either merge, `seen` = the distinct parts merged so far. Of the mask it says
only what the tests of `merge` against a part not seen so far, and `get_info`, can tell: no bit of such a part is
there, and for an extended info bit 0 is there exactly if the main packet has been seen. -/
structure Inv (f : Family) (seen : List Nat) (s : PartialInfo) : Prop where
  nodup : seen.Nodup
  range : ∀ i ∈ seen, i < f.size
  nonempty : seen ≠ []
  /-- (`cs` is `s.info.clients`; left open so that a step names the list it built instead of projecting it) -/
  info : ∃ cs, cs.Perm (seen.flatMap f.chunk) ∧ s.info = (f.hdrOf seen).withClients cs
  disj : ∀ q < f.size, q ∉ seen → s.received &&& f.mask q = 0
  main : f.ex = true → (s.received &&& 1 = 0 ↔ 0 ∉ seen)

theorem inv_start (f : Family) (hwf : f.WellFormed) (i : Nat) (hi : i < f.size) : Inv f [i] (f.part i) where
  nodup := by simp
  range := by simp [hi]
  nonempty := by simp
  info := ⟨f.chunk i, by simp, f.part_info hwf i hi⟩
  disj := fun q hq hmem => f.mask_disjoint hwf hi hq (fun e => hmem (e ▸ List.mem_singleton_self i))
  main := fun hex => (f.mask_bit0 hwf hex hi).trans (by simp [eq_comm])

theorem Inv.lacksMain_iff {f : Family} {seen : List Nat} {s : PartialInfo} (hinv : Inv f seen s) (hwf : f.WellFormed) :
    (s.info.infoVersion = .v6Ex ∧ s.received &&& 1 = 0) ↔ (f.ex = true ∧ 0 ∉ seen) := by
  obtain ⟨cs, -, hinfo⟩ := hinv.info
  have hv : s.info.infoVersion = if f.ex then Version.v6Ex else Version.v664 := by
    rw [hinfo, withClients_version, hdrOf_version f hwf, hwf.version]
  cases hex : f.ex with
  | false => simp [hv, hex]
  | true => rw [hv, hex, hinv.main hex]; simp

/-- the first three tests of `merge` pass for every part of the family -/
theorem Inv.compat {f : Family} {seen : List Nat} {s : PartialInfo} (hinv : Inv f seen s) (hwf : f.WellFormed)
    {q : Nat} (hq : q < f.size) :
    s.info.token = (f.part q).info.token ∧ s.info.infoVersion = (f.part q).info.infoVersion ∧
      (s.info.infoVersion = .v664 ∨ s.info.infoVersion = .v6Ex) := by
  obtain ⟨cs, -, hinfo⟩ := hinv.info
  rw [hinfo, f.part_info hwf q hq]
  simpa only [withClients_token, withClients_version, hdrOf_token, hdrOf_version f hwf, true_and] using f.hdr_multi hwf

theorem Inv.grow {f : Family} {seen : List Nat} {s s' : PartialInfo} (hinv : Inv f seen s) {q : Nat} (hq : q < f.size)
    (hmem : q ∉ seen) {cs : List ClientInfo} (hperm : cs.Perm (seen.flatMap f.chunk ++ f.chunk q))
    (hinfo : s'.info = (f.hdrOf (seen ++ [q])).withClients cs)
    (hdisj : ∀ q' < f.size, q' ∉ seen ++ [q] → s'.received &&& f.mask q' = 0)
    (hmain : f.ex = true → (s'.received &&& 1 = 0 ↔ 0 ∉ seen ++ [q])) : Inv f (seen ++ [q]) s' where
  nodup := List.nodup_append.2 ⟨hinv.nodup, by simp, fun a ha b hb e => hmem (List.mem_singleton.1 hb ▸ e ▸ ha)⟩
  range := fun i hi => (List.mem_append.1 hi).elim (hinv.range i) (fun h => List.mem_singleton.1 h ▸ hq)
  nonempty := by simp
  info := ⟨cs, by rw [List.flatMap_append]; simpa using hperm, hinfo⟩
  disj := hdisj
  main := hmain

theorem Inv.fresh {f : Family} {seen : List Nat} {s : PartialInfo} (hinv : Inv f seen s) (hwf : f.WellFormed)
    {q : Nat} (hq : q < f.size) (hmem : q ∉ seen) (hz : f.mask q ≠ 0) : Fresh s (f.part q) := by
  obtain ⟨htok, hver, hmulti⟩ := hinv.compat hwf hq
  have hdisj : s.received &&& (f.part q).received = 0 := hinv.disj q hq hmem
  exact ⟨htok, hver, hmulti, by rw [hdisj]; exact fun e => hz e.symm, hdisj⟩

/-- One step with a part not merged so far, for either mask update: a legacy part without clients changes nothing;
otherwise the part is appended, behind the main packet of an extended info if that is still to come. -/
theorem inv_step (f : Family) (hwf : f.WellFormed) {g : Nat → Nat → Nat} (hg : MaskUpdate g) {seen : List Nat}
    {s : PartialInfo} (hinv : Inv f seen s) {q : Nat} (hq : q < f.size) (hmem : q ∉ seen) :
    Inv f (seen ++ [q]) (mergeWith g s (f.part q)).1 := by
  have hlm := hinv.lacksMain_iff hwf
  obtain ⟨cs, hperm, hinfo⟩ := hinv.info
  have hpart := f.part_info hwf q hq
  obtain ⟨htok, hver, hmulti⟩ := hinv.compat hwf hq
  -- neither the accumulator nor the new part has a bit of a part that is still missing
  have hnew : ∀ q' < f.size, q' ∉ seen ++ [q] → s.received &&& f.mask q' = 0 ∧ f.mask q &&& f.mask q' = 0 :=
    fun q' hq' hm => ⟨hinv.disj q' hq' (fun h => hm (List.mem_append_left _ h)),
      f.mask_disjoint hwf hq hq' (fun e => hm (e ▸ List.mem_append_right _ (List.mem_singleton_self q)))⟩
  by_cases hz : f.mask q = 0
  · obtain ⟨hex, hchunk⟩ := f.eq_of_mask_eq_zero hz
    rw [mergeWith_known _ htok hver hmulti (show s.received &&& f.mask q = f.mask q by rw [hz, Nat.and_zero])]
    exact hinv.grow hq hmem (cs := cs) (by rw [hchunk, List.append_nil]; exact hperm)
      (by rw [hinfo, hdrOf_congr (seen' := seen ++ [q]) (by simp [hex])]) (fun q' h1 h2 => (hnew q' h1 h2).1)
      (fun h => by rw [hex] at h; cases h)
  rw [mergeWith_fresh _ (hinv.fresh hwf hq hmem hz)]
  by_cases hsw : s.info.infoVersion = .v6Ex ∧ s.received &&& 1 = 0
  · -- extended info, main packet not yet seen: the new part becomes the accumulator
    obtain ⟨hex, h0⟩ := hlm.1 hsw
    rw [if_pos hsw]
    exact hinv.grow hq hmem (List.perm_append_comm.trans (hperm.append_right _))
      (by rw [hpart, hinfo, hdrOf_congr (seen := seen ++ [q]) (seen' := [q]) (by simp [hex, h0])]; rfl)
      (fun q' h1 h2 => (hg.and_eq_zero_iff (Or.inr (hnew q' h1 h2).1)).2 (hnew q' h1 h2).2)
      (fun hex => (hg.and_eq_zero_iff (Or.inr hsw.2)).trans ((f.mask_bit0 hwf hex hq).trans (by simp [h0, eq_comm])))
  · -- the main packet has been seen, otherwise the swap would have happened
    have h0 : ¬ (f.ex = true ∧ 0 ∉ seen) := fun h => hsw (hlm.2 h)
    rw [if_neg hsw]
    exact hinv.grow hq hmem (hperm.append_right _)
      (by rw [hinfo, hpart, hdrOf_congr (seen := seen ++ [q]) (seen' := seen)
        ⟨fun h => absurd ⟨h.1, fun m => h.2 (List.mem_append_left _ m)⟩ h0, fun h => absurd h h0⟩]; rfl)
      (fun q' h1 h2 => (hg.and_eq_zero_iff (Or.inr (hnew q' h1 h2).2)).2 (hnew q' h1 h2).1)
      (fun hex => by
        have h0' : 0 ∈ seen := Classical.byContradiction fun h => h0 ⟨hex, h⟩
        exact (hg.and_eq_zero_iff (Or.inl fun e => (hinv.main hex).1 e h0')).trans
          ((hinv.main hex).trans (by simp [h0'])))

theorem Inv.getInfo_eq {f : Family} {seen : List Nat} {s : PartialInfo} (hinv : Inv f seen s) (hwf : f.WellFormed)
    (hreq : GET_INFO_REQUIRES_MAIN = true) :
    (getInfo s).2 = if f.Covers seen then some f.completeInfo else none := by
  have hlm := hinv.lacksMain_iff hwf
  obtain ⟨cs, hperm, hinfo⟩ := hinv.info
  by_cases hmain : f.ex = true ∧ 0 ∉ seen
  · -- extended info without its main packet: never complete
    rw [if_neg (fun h => hmain.2 (h 0 hwf.size_pos)), getInfo_result, if_pos ⟨hreq, hlm.2 hmain⟩]
  · have hh : f.hdrOf seen = f.hdr := by unfold hdrOf; rw [if_neg hmain]
    exact f.finish hwf seen hinv.nodup hinv.range _ (fun h => hmain (hlm.1 h.2)) cs hperm (by rw [hinfo, hh])
      (f.missing_iff_covers hwf seen hinv.nonempty hinv.range fun hex => Classical.byContradiction fun h0 => hmain ⟨hex, h0⟩)

theorem inv_fold (f : Family) (hwf : f.WellFormed) {g : Nat → Nat → Nat} (hg : MaskUpdate g) (rest : List Nat) :
    ∀ (seen : List Nat) (s : PartialInfo), Inv f seen s → (∀ i ∈ rest, i < f.size) → (seen ++ rest).Nodup →
      Inv f (seen ++ rest) ((rest.map f.part).foldl (fun s p => (mergeWith g s p).1) s) := by
  induction rest with
  | nil => intro seen s h _ _; rwa [List.append_nil]
  | cons q rest ih =>
    intro seen s hinv hr hnd
    obtain ⟨hq, hr'⟩ := List.forall_mem_cons.1 hr
    rw [List.append_cons] at hnd ⊢
    have hmem : q ∉ seen := fun h =>
      (List.nodup_append.1 (List.nodup_append.1 hnd).1).2.2 q h q (List.mem_singleton_self q) rfl
    exact ih _ _ (f.inv_step hwf hg hinv hq hmem) hr' hnd

theorem result_nodup (f : Family) (hwf : f.WellFormed) (hreq : GET_INFO_REQUIRES_MAIN = true) (seq : List Nat)
    (hne : seq ≠ []) (hr : ∀ i ∈ seq, i < f.size) (hnd : seq.Nodup) :
    f.result seq = if f.Covers seq then some f.completeInfo else none := by
  cases seq with
  | nil => exact absurd rfl hne
  | cons i0 rest =>
    obtain ⟨hlt, hr'⟩ := List.forall_mem_cons.1 hr
    show (getInfo ((rest.map f.part).foldl (fun s p => (merge s p).1) (f.part i0))).2 = _
    rw [merge_eq_mergeWith]
    exact (f.inv_fold hwf (fun a _ => Or.inl rfl) rest [i0] _ (f.inv_start hwf i0 hlt) hr' hnd).getInfo_eq hwf hreq

end Family

end Tw.ServerBrowse
