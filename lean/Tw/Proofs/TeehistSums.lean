import Tw.Proofs.TeehistSem

/-! Positions and inputs reported by the reference semantics, and the tables the reader exposes
after the last call, are the exact running sums of the recorded differences, reduced modulo 2^32
(`Spec.expectedItems`, `Spec.sumsAfter`). -/
namespace Tw.Teehistorian
open Tw.Packer Spec

theorem wrap32_wrap32_add (a d : Int) : wrap32 (wrap32 a + d) = wrap32 (a + d) := by
  unfold wrap32
  rw [show (a + 2147483648) % 4294967296 - 2147483648 + d + 2147483648 =
    (a + 2147483648) % 4294967296 + d by generalize (a + 2147483648) % 4294967296 = m; omega,
    Int.emod_add_emod, Int.add_right_comm]

theorem wrap32_of_inI32 {v : Int} (h : inI32 v) : wrap32 v = v := by
  have h1 : (2 : Int) ^ 31 = 2147483648 := by decide
  rw [inI32, h1] at h
  rw [wrap32, Int.emod_eq_of_lt (by omega) (by omega)]
  omega

theorem tGet_tErase {β : Type} (t : List (Nat × β)) (k k' : Nat) :
    tGet (tErase t k) k' = if k' = k then none else tGet t k' := by
  induction t with
  | nil => simp [tErase, tGet]
  | cons p t ih =>
    obtain ⟨a, v⟩ := p
    unfold tErase
    by_cases h : a = k
    · simp only [h, if_true, ih]
      by_cases h' : k' = k
      · simp [h']
      · simp only [h', if_false, tGet]
        have : ¬ k = k' := fun e => h' e.symm
        simp [this]
    · simp only [h, if_false, tGet, ih]
      by_cases h' : k' = k
      · subst h'; simp [h]
      · simp [h']

theorem tGet_tSet {β : Type} (t : List (Nat × β)) (k k' : Nat) (v : β) :
    tGet (tSet t k v) k' = if k' = k then some v else tGet t k' := by
  unfold tSet
  simp only [tGet, tGet_tErase]
  by_cases h : k' = k
  · simp [h]
  · have : ¬ k = k' := fun e => h e.symm
    simp [h, this]

theorem zipAdd_map_wrap : ∀ (v d : List Int), zipAdd (v.map wrap32) d = (addLists v d).map wrap32
  | [], _ => by simp [zipAdd, addLists]
  | _ :: _, [] => by simp [zipAdd, addLists]
  | a :: v, b :: d => by simp [zipAdd, addLists, zipAdd_map_wrap v d, wrap32_wrap32_add]

theorem map_wrap32_id {v : List Int} (h : ∀ a ∈ v, inI32 a) : v.map wrap32 = v := by
  induction v with
  | nil => rfl
  | cons a v ih =>
    rw [List.forall_mem_cons] at h
    rw [List.map_cons, wrap32_of_inI32 h.1, ih h.2]

/-- `t`: a sparse table of the reader; `F`: the specification's total map; `w` reduces the exact sums modulo 2^32 -/
def TabInv {β γ : Type} (w : γ → β) (t : List (Nat × β)) (F : Nat → Option γ) : Prop :=
  ∀ c, tGet t c = (F c).map w

theorem TabInv.set {β γ : Type} {w : γ → β} {t : List (Nat × β)} {F : Nat → Option γ}
    (h : TabInv w t F) (k : Nat) (V : γ) : TabInv w (tSet t k (w V)) (setAt F k (some V)) := by
  intro c
  rw [tGet_tSet, setAt]
  split
  · rfl
  · exact h c

theorem TabInv.erase {β γ : Type} {w : γ → β} {t : List (Nat × β)} {F : Nat → Option γ}
    (h : TabInv w t F) (k : Nat) : TabInv w (tErase t k) (setAt F k none) := by
  intro c
  rw [tGet_tErase, setAt]
  split
  · rfl
  · exact h c

theorem TabInv.get {β γ : Type} {w : γ → β} {t : List (Nat × β)} {F : Nat → Option γ}
    (h : TabInv w t F) {k : Nat} {x : β} (hg : tGet t k = some x) : ∃ X, F k = some X ∧ w X = x := by
  have := h k
  rw [hg] at this
  cases hF : F k with
  | none => rw [hF] at this; cases this
  | some X => rw [hF] at this; exact ⟨X, rfl, (Option.some.inj this).symm⟩

def wrapPos (p : Int × Int) : Int × Int := (wrap32 p.1, wrap32 p.2)

/-- The tables behind `player_pos`, `input` hold the exact sums reduced modulo 2^32. -/
def InvA (a : Access) (S : Sums) : Prop :=
  TabInv wrapPos a.players S.pos ∧ TabInv (List.map wrap32) a.inputs S.inp

theorem invA_of_tables {rd rd' : Reader} {S : Sums} (h : InvA rd.access S)
    (hp : rd'.players = rd.players) (hi : rd'.inputs = rd.inputs) : InvA rd'.access S := by
  unfold InvA Reader.access at h ⊢
  rw [hp, hi]; exact h

theorem reported_ticks {its : List Item} (h : its.all isTick = true) (b : List Item) :
    reported (its ++ b) = reported b := by
  have : its.filter (fun it => !isTick it) = [] :=
    List.filter_eq_nil_iff.mpr fun a ha => by simp [List.all_eq_true.mp h a ha]
  rw [reported, List.filter_append, this]; rfl

/-- What is claimed of an output: the reported items are the expected ones `E` — a prefix of them
if reading stopped early — and after `Finish` the accessors hold the sums `S`. -/
structure SumsOk (o : Output) (E : List (Option Item)) (S : Sums) : Prop where
  items_prefix : (reported o.items).map some <+: E
  items_eq : o.final = .finished → (reported o.items).map some = E
  tables : o.final = .finished → InvA o.access S

theorem sumsOk_ticks {its : List Item} {f : Final} {a : Access} {E : List (Option Item)} {S : Sums}
    (hall : its.all isTick = true) (hfin : f = .finished → E = [] ∧ InvA a S) :
    SumsOk ⟨its, f, a⟩ E S := by
  have h0 : reported its = [] := by simpa [reported] using reported_ticks hall []
  exact {
    items_prefix := by simp [h0]
    items_eq := fun h => by simp [h0, (hfin h).1]
    tables := fun h => (hfin h).2 }

theorem sumsOk_prepend {its : List Item} {o : Output} {E : List (Option Item)} {S : Sums}
    (hall : its.all isTick = true) (h : SumsOk o E S) : SumsOk (o.prepend its) E S := by
  have hr : reported (o.prepend its).items = reported o.items := reported_ticks hall o.items
  exact { items_prefix := hr ▸ h.items_prefix, items_eq := fun hf => hr ▸ h.items_eq hf, tables := h.tables }

theorem sumsOk_cons {it : Item} {o : Output} {E : List (Option Item)} {S : Sums}
    (hit : isTick it = false) (h : SumsOk o E S) : SumsOk (o.cons it) (some it :: E) S := by
  have hr : reported (o.cons it).items = it :: reported o.items := by simp [Output.cons_items, reported, hit]
  exact {
    items_prefix := by rw [hr]; exact (List.prefix_cons_inj _).mpr h.items_prefix
    items_eq := fun hf => by rw [hr, List.map_cons, h.items_eq hf]
    tables := h.tables }

theorem post_sums {rd rd' : Reader} {S : Sums} {m : FItem} {out : Item} {o : Output} {ms : List FItem}
    (hI : InvA rd.access S) (hrg : ItemInRange m) (h : Reports rd m out rd')
    (ih : ∀ S', InvA rd'.access S' → SumsOk o (expectedItems S' ms) (sumsAfter S' ms)) :
    SumsOk (o.cons out) (expectedItems S (m :: ms)) (sumsAfter S (m :: ms)) := by
  obtain ⟨hP, hN⟩ := hI
  cases h with
  | skipEnd => exact sumsOk_prepend (its := [_]) rfl (ih S ⟨hP, hN⟩)
  | skipStart => exact sumsOk_prepend (its := [_]) rfl (ih S ⟨hP, hN⟩)
  | @other o' =>
    obtain ⟨_, cid, _⟩ := o'
    cases cid <;> exact sumsOk_cons rfl (ih S ⟨hP, hN⟩)
  | @playerNew c x y =>
    have := hP.set c.toNat (x, y)
    rw [show wrapPos (x, y) = (x, y) by rw [wrapPos, wrap32_of_inI32 hrg.1, wrap32_of_inI32 hrg.2]] at this
    exact sumsOk_cons rfl (ih (S.step (.playerNew c x y)) ⟨this, hN⟩)
  | @playerDiff c dx dy x y hget =>
    obtain ⟨⟨X, Y⟩, hS, hw⟩ := hP.get hget
    cases hw
    have := hP.set c.toNat (X + dx, Y + dy)
    simp only [wrapPos, ← wrap32_wrap32_add X, ← wrap32_wrap32_add Y] at this
    simp only [expectedItems, sumsAfter, expectedItem, Sums.step, hS, wrap32_wrap32_add]
    exact sumsOk_cons rfl (ih _ ⟨this, hN⟩)
  | @playerOld c x y hget =>
    obtain ⟨⟨X, Y⟩, hS, hw⟩ := hP.get hget
    cases hw
    simp only [expectedItems, sumsAfter, expectedItem, Sums.step, hS]
    exact sumsOk_cons rfl (ih _ ⟨hP.erase c.toNat, hN⟩)
  | @inputNew c v =>
    have := hN.set c.toNat v
    rw [map_wrap32_id hrg] at this
    exact sumsOk_cons rfl (ih (S.step (.inputNew c v)) ⟨hP, this⟩)
  | @inputDiff c d inp hget =>
    obtain ⟨V, hS, rfl⟩ := hN.get hget
    have := hN.set c.toNat (addLists V d)
    rw [← zipAdd_map_wrap] at this
    simp only [expectedItems, sumsAfter, expectedItem, Sums.step, hS, zipAdd_map_wrap]
    exact sumsOk_cons rfl (ih _ ⟨hP, this⟩)

theorem interp_sums (cfg : Cfg) (t : Tail) (rd : Reader) (rs : List Rec) :
    ∀ S, (∀ r ∈ rs, RecWf r) → InvA rd.access S →
      SumsOk (interp cfg rd rs t) (expectedItems S (rs.map Rec.item)) (sumsAfter S (rs.map Rec.item)) := by
  refine interp_induction (P := fun rd rs o => ∀ S, (∀ r ∈ rs, RecWf r) → InvA rd.access S →
    SumsOk o (expectedItems S (rs.map Rec.item)) (sumsAfter S (rs.map Rec.item))) ?_ ?_ ?_ rd rs
  · intro rd rs n k its pe f a x hf S _ _
    have hall := preAll_allTicks n rd k
    rw [x] at hall
    exact sumsOk_ticks hall fun h => absurd h hf
  · intro rd r rs its rd' x hfin S _ hI
    have hall := preAll_allTicks 4 rd r.kind
    have hspec := preAll_ready 4 rd r.kind
    rw [x] at hall hspec
    obtain ⟨_, hp, hi⟩ := hspec rd' rfl
    refine sumsOk_ticks hall fun _ => ?_
    simp only [List.map_cons, hfin, expectedItems, sumsAfter]
    exact ⟨trivial, invA_of_tables hI hp hi⟩
  · intro rd r rs its rd' it rd'' o x hpost ih S hwf hI
    have hall := preAll_allTicks 4 rd r.kind
    have hspec := preAll_ready 4 rd r.kind
    rw [x] at hall hspec
    obtain ⟨_, hp, hi⟩ := hspec rd' rfl
    exact sumsOk_prepend hall <| post_sums (invA_of_tables hI hp hi) (hwf r (List.mem_cons_self ..)).2
      (post_reports hpost) fun S' => ih S' fun r' h => hwf r' (List.mem_cons_of_mem _ h)

theorem runWhole_sums (cfg : Cfg) (s : List UInt8) :
    SumsOk (runWhole cfg s) (expectedItems Sums.empty (messages cfg.hasEx s))
      (sumsAfter Sums.empty (messages cfg.hasEx s)) :=
  interp_sums cfg _ Reader.empty _ Sums.empty (parseAll_wf cfg.hasEx (s.length + 1) s)
    ⟨fun _ => rfl, fun _ => rfl⟩

end Tw.Teehistorian
