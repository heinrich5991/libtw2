import Tw.Proofs.ConnProgressCore

/-!
# C02 (c), online-core level: what one side's "resend, then flush" does to its core and emits
(`sendPhase`, on `Online.Resent`), the eager scan over chunks that are not accepted, and one delivery / a run
of deliveries as functions on the receiving core (`recvOnline`, `recvList`)
-/
namespace Tw.Conn
open Tw.Time

theorem Online.Resent.vitals_ne {now : Nat} {o o' : Online} {send send' : Timeout} {fl : List Flushed}
    (h : Online.Resent now o o' send send' fl) (hne : o.resendQueue ≠ []) : vitals o'.packet.chunks ≠ [] := by
  obtain ⟨ch, hch, hv⟩ := h.hasVital hne
  exact vitals_ne_nil hch hv

def sendPhase (cfg : Cfg) (o : Online) : Option (Online × List Flushed) :=
  match o.resend cfg 0 .inactive with
  | .ok (o', _, fl) => some (o'.flush.1, fl ++ o'.flush.2)
  | .error _ => none

theorem sendPhase_eq {cfg : Cfg} {o o' : Online} {send' : Timeout} {fl : List Flushed}
    (he : o.resend cfg 0 .inactive = .ok (o', send', fl)) : sendPhase cfg o = some (o'.flush.1, fl ++ o'.flush.2) := by
  simp [sendPhase, he]

theorem sendPhase_ok {cfg : Cfg} (hc : cfg.Ok) {o : Online} (hinv : o.Inv cfg) :
    ∃ o2 fls, sendPhase cfg o = some (o2, fls) := by
  obtain ⟨o', send', fl, he, _⟩ := Online.resend_spec hc hinv 0 .inactive
  exact ⟨_, _, sendPhase_eq he⟩

theorem receiveEager_fst_indep (a : Nat) (r r' : Bool) (cs : List Chunk) :
    (receiveEager a r cs).1 = (receiveEager a r' cs).1 := by
  induction cs generalizing a r r' with
  | nil => rfl
  | cons c cs ih =>
    unfold receiveEager
    cases hv : c.vital with
    | none => exact ih a r r'
    | some v => obtain ⟨s, rf⟩ := v; exact ih _ _ _

theorem receiveEager_no_vitals (a : Nat) (rr : Bool) (cs : List Chunk) (h : vitals cs = []) :
    receiveEager a rr cs = (a, rr) := by
  induction cs with
  | nil => rfl
  | cons c cs ih =>
    unfold receiveEager
    cases hv : c.vital with
    | none => simp only [vitals, hv] at h; exact ih h
    | some v => obtain ⟨s, rf⟩ := v; simp [vitals, hv] at h

theorem receiveEager_rejects (a : Nat) (cs : List Chunk)
    (h : ∀ c ∈ cs, ∀ s r, c.vital = some (s, r) → s ≠ seqNext a) :
    ∀ rr, (receiveEager a rr cs).1 = a ∧ (vitals cs ≠ [] → (receiveEager a rr cs).2 = true) ∧
      (rr = true → (receiveEager a rr cs).2 = true) := by
  induction cs with
  | nil => intro rr; exact ⟨rfl, fun h => absurd rfl h, id⟩
  | cons c cs ih =>
    intro rr
    have ih' := ih (fun c' hc' => h c' (List.mem_cons_of_mem _ hc'))
    unfold receiveEager
    cases hv : c.vital with
    | none =>
      obtain ⟨a1, a2, a3⟩ := ih' rr
      exact ⟨a1, fun hne => a2 (by simpa [vitals, hv] using hne), a3⟩
    | some v =>
      obtain ⟨s, rf⟩ := v
      have hs := h c (by simp) s rf hv
      have h2 : (seqUpdate a s).2 ≠ .current := fun hh => hs ((seqUpdate_accept_snd a s).mp hh).symm
      simp only
      rw [seqUpdate_reject_fst h2]
      have hb : (rr || (seqUpdate a s).2 != SeqOrd.current) = true := by simp [h2]
      rw [hb]
      obtain ⟨a1, _, a3⟩ := ih' true
      exact ⟨a1, fun _ => a3 rfl, fun _ => a3 rfl⟩

/-- what `step (.deliver ..)` does to the receiving core -/
def recvOnline (cfg : Cfg) (o : Online) (p : Flushed) : Option Online :=
  match o.feedAck p.ack with
  | .error _ => none
  | .ok o1 =>
    match o1.receive cfg 0 .inactive p.requestResend p.chunks with
    | .error _ => none
    | .ok (o2, _, _, _) => some o2

def recvList (cfg : Cfg) : Online → List Flushed → Option Online
  | o, [] => some o
  | o, p :: ps =>
    match recvOnline cfg o p with
    | none => none
    | some o2 => recvList cfg o2 ps

theorem recvList_append {cfg : Cfg} (a b : List Flushed) (o : Online) :
    recvList cfg o (a ++ b) = (recvList cfg o a).bind fun o1 => recvList cfg o1 b := by
  induction a generalizing o with
  | nil => rfl
  | cons p ps ih =>
    simp only [List.cons_append, recvList]
    cases recvOnline cfg o p with
    | none => rfl
    | some o2 => exact ih o2

end Tw.Conn
