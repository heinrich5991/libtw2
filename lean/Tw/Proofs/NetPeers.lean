import Tw.Proofs.NetMap

/-! The per-address simulation.  Every endpoint operation except `tick` touches at most one address
`c`; `Sim net c ref res` says that its result `res` is, seen from `c`, the result `ref` of the
single-address reference — the same failure, or the same new slot, return value and output — and
that it leaves every other address alone and keeps the peer-table invariant.  `step_spec` puts the
operations and `tick` together: what a call does, returning or failing, seen from every address;
`step_sim` is its half for a call that returns.  (`x_sim` is `x` against the reference: `Sim` for the
calls on one address, per address for `tick`, `step` and `run`.) -/
namespace Tw.Net
open Tw.Conn Tw.Conn6 Tw.Time

theorem filter_tagged {β : Type} {c : Nat} {l : List (Nat × β)} (h : ∀ x ∈ l, x.1 = c) (a : Nat) :
    l.filter (fun y => decide (y.1 = a)) = if c = a then l else [] := by
  split
  · rename_i hc
    exact List.filter_eq_self.2 fun x hx => decide_eq_true ((h x hx).trans hc)
  · rename_i hc
    exact List.filter_eq_nil_iff.2 fun x hx hp => hc ((h x hx).symm.trans (of_decide_eq_true hp))

theorem mem_tag {β γ : Type} {c : Nat} {f : β → γ} {l : List β} : ∀ x ∈ l.map (fun y => (c, f y)), x.1 = c := by
  intro x hx
  obtain ⟨_, _, rfl⟩ := List.mem_map.1 hx
  rfl

theorem tagged_nil {β : Type} (c : Nat) : ∀ x ∈ ([] : List (Nat × β)), x.1 = c := fun _ h => nomatch h

theorem filter_tag {β : Type} (c a : Nat) (l : List β) :
    (l.map (c, ·)).filter (fun y => decide (y.1 = a)) = if c = a then l.map (c, ·) else [] :=
  filter_tagged (mem_tag (f := id)) a

theorem for_tagged {c : Nat} {o : Out} (hs : ∀ x ∈ o.sent, x.1 = c) (he : ∀ x ∈ o.events, x.1 = c)
    (hw : ∀ x ∈ o.warns, x.1 = c) (a : Nat) : o.for a = if c = a then o else {} := by
  rw [Out.for, filter_tagged hs, filter_tagged he, filter_tagged hw]
  split <;> rfl

theorem liftOut_for (addr pid : Nat) (o : Conn6.Out) (a : Nat) :
    (liftOut addr pid o).for a = if addr = a then liftOut addr pid o else {} :=
  for_tagged (mem_tag (f := id)) mem_tag mem_tag a

theorem empty_for (a : Nat) : ({} : Out).for a = {} := by simp [Out.for]

theorem not_mem_sent {o : Out} {a : Nat} (h : (o.for a).sent = []) (pkt : Packet) : (a, pkt) ∉ o.sent :=
  fun hm => by simpa using List.filter_eq_nil_iff.1 h (a, pkt) hm

section
variable (acc : Bool) (a : Nat) (env : Env) (pid : Nat) (p : Peer) (rd : Option Bool → Option Packet)
  (fr : Option Nat)

theorem refStep_dgram_none : refStep acc a env none (.dgram rd fr) = refStateless acc a none false rd fr := rfl

theorem refStep_dgram_some : refStep acc a env (some (pid, p)) (.dgram rd fr) =
    if p.conn.state = .unconnected then refStateless acc a (some (pid, p)) true rd fr
    else
      match Conn6.feed env p.conn rd with
      | .error e => .error e
      | .ok (c, o) =>
        match slotOnDisconnect (some (pid, { p with conn := c })) o.events with
        | .error e => .error e
        | .ok s1 => .ok (s1, .unit, liftOut a pid o) := rfl

theorem refStep_connect_none : refStep acc a env none (.connect fr) =
    match fr with
    | none => .error .hang
    | some pid =>
      match Conn6.connect env Conn.new with
      | .error e => .error e
      | .ok (c, o) => .ok (some (pid, ⟨c, a, false⟩), .pid pid, liftOut a pid o) := rfl

theorem refStep_tick_none : refStep acc a env none .tick = .ok (none, .unit, {}) := rfl

theorem refStep_tick_some : refStep acc a env (some (pid, p)) .tick =
    match Conn6.tick env p.conn with
    | .error e => .error e
    | .ok (c, o) => .ok (some (pid, { p with conn := c }), .unit, { sent := o.sent.map (a, ·) }) := rfl

end

theorem slotModify_ok {a pid : Nat} {p : Peer} {f : Peer → Except Fail (Conn × Ret × Conn6.Out)} {s' : Slot}
    {r : Ret} {o : Out} (h : slotModify a (some (pid, p)) f = .ok (s', r, o)) :
    ∃ c o', f p = .ok (c, r, o') ∧ s' = some (pid, { p with conn := c }) ∧ o = liftOut a pid o' := by
  simp only [slotModify] at h
  cases hf : f p with
  | error e => rw [hf] at h; cases h
  | ok v => rw [hf] at h; cases h; exact ⟨_, _, rfl, rfl, rfl⟩

theorem slotRemove_ok {a pid : Nat} {p : Peer} {f : Peer → Except Fail Conn6.Out} {s' : Slot}
    {r : Ret} {o : Out} (h : slotRemove a (some (pid, p)) f = .ok (s', r, o)) :
    ∃ o', f p = .ok o' ∧ s' = none ∧ r = .unit ∧ o = liftOut a pid o' := by
  simp only [slotRemove] at h
  cases hf : f p with
  | error e => rw [hf] at h; cases h
  | ok v => rw [hf] at h; cases h; exact ⟨_, rfl, rfl, rfl, rfl⟩

theorem peerSend_ok {env : Env} {x : Bytes} {v : Bool} {p : Peer} {c : Conn} {r : Ret} {o : Conn6.Out}
    (h : peerSend env x v p = .ok (c, r, o)) : ∃ res, Conn6.send env p.conn x v = .ok (c, res, o) ∧ r = .send res := by
  unfold peerSend at h
  cases hs : Conn6.send env p.conn x v with
  | error e => rw [hs] at h; cases h
  | ok w => rw [hs] at h; cases h; exact ⟨_, rfl, rfl⟩

theorem peerFlush_ok {env : Env} {p : Peer} {c : Conn} {r : Ret} {o : Conn6.Out}
    (h : peerFlush env p = .ok (c, r, o)) : Conn6.flush env p.conn = .ok (c, o) ∧ r = .unit := by
  unfold peerFlush at h
  cases hs : Conn6.flush env p.conn with
  | error e => rw [hs] at h; cases h
  | ok w => rw [hs] at h; cases h; exact ⟨rfl, rfl⟩

theorem peerClose_ok {want : Bool} {env : Env} {reason : Bytes} {p : Peer} {o : Conn6.Out}
    (h : peerClose want env reason p = .ok o) : ∃ c, Conn6.disconnect env p.conn reason = .ok (c, o) := by
  unfold peerClose at h
  split at h
  · cases h
  · cases hs : Conn6.disconnect env p.conn reason with
    | error e => rw [hs] at h; cases h
    | ok w => rw [hs] at h; cases h; exact ⟨_, rfl⟩

theorem cannedToken_eq : cannedToken = TOKEN_NONE := by decide

theorem peerAccept_ok {env : Env} {p : Peer} {c : Conn} {r : Ret} {o : Conn6.Out}
    (h : peerAccept env p = .ok (c, r, o)) :
    p.conn.state = .unconnected ∧ Conn6.feed env p.conn (fun _ => some (connectPacket p.token)) = .ok (c, o) ∧
      r = .unit := by
  unfold peerAccept at h
  by_cases hu : p.conn.state = .unconnected
  · rw [if_neg (fun hn => hn hu)] at h
    cases hs : Conn6.feed env p.conn (fun _ => some (connectPacket p.token)) with
    | error e => rw [hs] at h; cases h
    | ok w =>
      rw [hs] at h
      cases hw : w.2.warns.isEmpty with
      | false => simp [hw] at h
      | true =>
        cases he : w.2.events.isEmpty with
        | false => simp [hw, he] at h
        | true =>
          simp only [hw, he, Bool.not_true, Bool.false_eq_true, if_false] at h
          cases h
          exact ⟨hu, rfl, rfl⟩
  · rw [if_pos hu] at h
    cases h

theorem refStep_dgram_ok {acc : Bool} {a pid : Nat} {env : Env} {p : Peer} {rd : Option Bool → Option Packet}
    {fr : Option Nat} {s' : Slot} {r : Ret} {o : Out} (hu : p.conn.state ≠ .unconnected)
    (h : refStep acc a env (some (pid, p)) (.dgram rd fr) = .ok (s', r, o)) :
    ∃ c o', Conn6.feed env p.conn rd = .ok (c, o') ∧
      slotOnDisconnect (some (pid, { p with conn := c })) o'.events = .ok s' ∧ r = .unit ∧ o = liftOut a pid o' := by
  rw [refStep_dgram_some, if_neg hu] at h
  cases hf : Conn6.feed env p.conn rd with
  | error e => rw [hf] at h; cases h
  | ok v =>
    rw [hf] at h
    cases hsd : slotOnDisconnect (some (pid, { p with conn := v.1 })) v.2.events with
    | error e => simp only [hsd] at h; cases h
    | ok s1 => simp only [hsd] at h; cases h; exact ⟨_, _, rfl, hsd, rfl, rfl⟩

/-- what an operation must do to the slot of address `a`, which it concerns (then `ref` is the
reference's result on the projected call) or not: `StepFor` with the case given as a flag instead
of computed by `projOp` -/
def SlotSpec (net net' : Net) (r : Ret) (o : Out) (a : Nat) (concerned : Bool) (ref : RRes) : Prop :=
  if concerned then ref = .ok (slot net'.peers a, r, o.for a)
  else slot net'.peers a = slot net.peers a ∧ o.for a = {}

structure Sim.Ok (net : Net) (c : Nat) (ref : RRes) (net' : Net) (r : Ret) (o : Out) : Prop where
  inv : PInv net'.peers
  acc : net'.acceptConnections = net.acceptConnections
  others : ∀ a, a ≠ c → slot net'.peers a = slot net.peers a ∧ o.for a = {}
  self : ref = .ok (slot net'.peers c, r, o.for c)

def Sim (net : Net) (c : Nat) (ref : RRes) : Res → Prop
  | .ok (net', r, o) => Sim.Ok net c ref net' r o
  | .error e => ref = .error e

theorem Sim.ok {net net' : Net} {c : Nat} {ref : RRes} {res : Res} {r : Ret} {o : Out}
    (h : Sim net c ref res) (hr : res = .ok (net', r, o)) : Sim.Ok net c ref net' r o := by
  subst hr; exact h

theorem sim_at {net net' : Net} {c : Nat} {s : Slot} {r : Ret} {o : Out} (u : Upd net.peers net'.peers c s)
    (hacc : net'.acceptConnections = net.acceptConnections)
    (ho : ∀ a, o.for a = if c = a then o else {}) : Sim net c (.ok (s, r, o)) (.ok (net', r, o)) :=
  ⟨u.inv, hacc, fun a ha => ⟨by rw [u.slot, if_neg ha.symm], by rw [ho, if_neg ha.symm]⟩,
    by rw [u.slot, ho, if_pos rfl, if_pos rfl]⟩

theorem sim_stay {net : Net} {c : Nat} {r : Ret} {o : Out} (hi : PInv net.peers)
    (ho : ∀ a, o.for a = if c = a then o else {}) :
    Sim net c (.ok (slot net.peers c, r, o)) (.ok (net, r, o)) :=
  sim_at (upd_refl hi c) rfl ho

theorem modifyPeer_none {net : Net} {pid : Nat} {f : Peer → Except Fail (Conn × Ret × Conn6.Out)}
    (h : lookup net.peers pid = none) : modifyPeer net pid f = .error (.panic "invalid pid") := by
  simp only [modifyPeer, h]

theorem modifyPeer_sim {net : Net} {pid : Nat} {p : Peer} {f : Peer → Except Fail (Conn × Ret × Conn6.Out)}
    (hi : PInv net.peers) (hl : lookup net.peers pid = some p) :
    Sim net p.addr (slotModify p.addr (slot net.peers p.addr) f) (modifyPeer net pid f) := by
  simp only [modifyPeer, hl, slotModify, lookup_slot hi hl]
  cases f p with
  | error e => rfl
  | ok v =>
    obtain ⟨c, r, o⟩ := v
    exact sim_at (upd_update hi hl rfl) rfl (liftOut_for _ _ _)

theorem removePeer_none {net : Net} {pid : Nat} {f : Peer → Except Fail Conn6.Out}
    (h : lookup net.peers pid = none) : removePeer net pid f = .error (.panic "invalid pid") := by
  simp only [removePeer, h]

theorem removePeer_sim {net : Net} {pid : Nat} {p : Peer} {f : Peer → Except Fail Conn6.Out}
    (hi : PInv net.peers) (hl : lookup net.peers pid = some p) :
    Sim net p.addr (slotRemove p.addr (slot net.peers p.addr) f) (removePeer net pid f) := by
  obtain ⟨ps', hrm, hu, _⟩ := upd_remove hi hl
  simp only [removePeer, hl, slotRemove, lookup_slot hi hl, hrm]
  cases f p with
  | error e => rfl
  | ok o => exact sim_at hu rfl (liftOut_for _ _ _)

theorem removeOnDisconnect_absent {ps : Peers} {pid : Nat} (h : lookup ps pid = none) (evs : List Event) :
    match removeOnDisconnect ps pid evs with
    | .ok ps' => ps' = ps ∧ slotOnDisconnect none evs = .ok none
    | .error e => slotOnDisconnect none evs = .error e := by
  induction evs with
  | nil => exact ⟨rfl, rfl⟩
  | cons e es ih =>
    cases e with
    | disconnect r => simp only [removeOnDisconnect, remove_none h, slotOnDisconnect]
    | _ => simpa only [removeOnDisconnect, slotOnDisconnect] using ih

theorem removeOnDisconnect_sim {ps : Peers} {pid : Nat} {p : Peer} (hi : PInv ps) (h : lookup ps pid = some p)
    (evs : List Event) :
    match removeOnDisconnect ps pid evs with
    | .ok ps' => ∃ s', slotOnDisconnect (some (pid, p)) evs = .ok s' ∧ Upd ps ps' p.addr s'
    | .error e => slotOnDisconnect (some (pid, p)) evs = .error e := by
  induction evs with
  | nil => exact ⟨_, rfl, lookup_slot hi h ▸ upd_refl hi p.addr⟩
  | cons e es ih =>
    cases e with
    | disconnect r =>
      obtain ⟨ps1, hrm, hu, hl1⟩ := upd_remove hi h
      have := removeOnDisconnect_absent hl1 es
      simp only [removeOnDisconnect, hrm, slotOnDisconnect]
      split
      · rename_i ps' heq
        simp only [heq] at this
        obtain ⟨rfl, h2⟩ := this
        exact ⟨none, h2, hu⟩
      · rename_i e heq
        simpa only [heq] using this
    | _ => simpa only [removeOnDisconnect, slotOnDisconnect] using ih

theorem feedPeer_sim {env : Env} {net : Net} {addr pid : Nat} {p : Peer} {rd : Option Bool → Option Packet}
    {fr : Option Nat} (hi : PInv net.peers) (hs : slot net.peers addr = some (pid, p))
    (hu : p.conn.state ≠ .unconnected) :
    Sim net addr (refStep net.acceptConnections addr env (some (pid, p)) (.dgram rd fr))
      (feedPeer env net addr pid rd) := by
  rw [refStep_dgram_some, if_neg hu]
  have hl := slot_lookup hi hs
  cases (slot_mem hs).2
  simp only [feedPeer, hl]
  cases Conn6.feed env p.conn rd with
  | error e => rfl
  | ok v =>
    obtain ⟨c, o⟩ := v
    have hup := upd_update hi hl (p' := { p with conn := c }) rfl
    have := removeOnDisconnect_sim hup.inv (lookup_update_self hl) o.events
    cases heq : removeOnDisconnect (update net.peers pid { p with conn := c }) pid o.events with
    | error e =>
      simp only [heq] at this
      simp only [heq, this]
      rfl
    | ok ps' =>
      simp only [heq] at this
      obtain ⟨s', hself, hrm⟩ := this
      simp only [heq, hself]
      exact sim_at (hup.trans hrm) rfl (liftOut_for _ _ _)

/-- The stateless path of `feed_impl` (unknown address, or peer pending acceptance) and the
reference's, side by side: a warning (read error, unexpected packet), a connless payload, a
retransmitted connect request that is dropped, or a connect request that creates a peer. -/
theorem stateless_cases (net : Net) (addr : Nat) (pending : Bool) (rd : Option Bool → Option Packet) :
    (∃ w, feedUnknown net addr pending rd = .ok (net, .unit, { warns := [(addr, .connless addr w)] }) ∧
      ∀ s fresh, refStateless net.acceptConnections addr s pending rd fresh =
        .ok (s, .unit, { warns := [(addr, .connless addr w)] })) ∨
    (∃ d, rd none = some (.connless d) ∧
      feedUnknown net addr pending rd = .ok (net, .unit, { events := [(addr, .connless addr none d)] }) ∧
      ∀ s fresh, refStateless net.acceptConnections addr s pending rd fresh =
        .ok (s, .unit, { events := [(addr, .connless addr none d)] })) ∨
    (pending = true ∧ feedUnknown net addr pending rd = .ok (net, .unit, {}) ∧
      ∀ s fresh, refStateless net.acceptConnections addr s pending rd fresh = .ok (s, .unit, {})) ∨
    (pending = false ∧ net.acceptConnections = true ∧ ∃ ack tok, rd none = some (.control ack tok .connect) ∧
      feedUnknown net addr pending rd =
        (match newPeer net addr tok.isSome with
         | .error e => .error e
         | .ok (net1, pid) => .ok (net1, .unit, { events := [(addr, .connect pid)] })) ∧
      ∀ s fresh, refStateless net.acceptConnections addr s pending rd fresh =
        (match fresh with
         | none => .error .hang
         | some pid => .ok (some (pid, Peer.new addr tok.isSome), .unit, { events := [(addr, .connect pid)] }))) := by
  unfold feedUnknown refStateless
  cases rd none with
  | none => exact .inl ⟨.read, rfl, fun _ _ => rfl⟩
  | some pkt =>
    cases pkt with
    | connless d => exact .inr (.inl ⟨d, rfl, rfl, fun _ _ => rfl⟩)
    | chunks ack t rr n cs => exact .inl ⟨.unexpected, rfl, fun _ _ => rfl⟩
    | control ack tok ctl =>
      cases ctl with
      | connect =>
        cases pending with
        | true => exact .inr (.inr (.inl ⟨rfl, rfl, fun _ _ => rfl⟩))
        | false =>
          cases net.acceptConnections with
          | false => exact .inl ⟨.unexpected, rfl, fun _ _ => rfl⟩
          | true => exact .inr (.inr (.inr ⟨rfl, rfl, ack, tok, rfl, rfl, fun _ _ => rfl⟩))
      | _ => exact .inl ⟨.unexpected, rfl, fun _ _ => rfl⟩

theorem feedUnknown_sim {net : Net} {addr : Nat} {pending : Bool} {rd : Option Bool → Option Packet}
    (hi : PInv net.peers) (hp : pending = false → slot net.peers addr = none) :
    Sim net addr (refStateless net.acceptConnections addr (slot net.peers addr) pending rd (freshPid net))
      (feedUnknown net addr pending rd) := by
  rcases stateless_cases net addr pending rd with ⟨w, e, e'⟩ | ⟨d, _, e, e'⟩ | ⟨_, e, e'⟩ |
    ⟨hpend, _, ack, tok, _, e, e'⟩ <;> rw [e, e']
  · exact sim_stay hi (for_tagged (tagged_nil _) (tagged_nil _) (List.forall_mem_singleton.2 rfl))
  · exact sim_stay hi (for_tagged (tagged_nil _) (List.forall_mem_singleton.2 rfl) (tagged_nil _))
  · exact sim_stay hi (for_tagged (tagged_nil _) (tagged_nil _) (tagged_nil _))
  · cases hnp : newPeer net addr tok.isSome with
    | error e =>
      obtain ⟨hf, rfl⟩ := newPeer_error hnp
      rw [hf]
      rfl
    | ok v =>
      obtain ⟨net1, pid⟩ := v
      obtain ⟨hfresh, hlk, hps, hac⟩ := newPeer_ok hnp
      have hnone := hp hpend
      rw [hfresh]
      exact sim_at (hps ▸ upd_push hi hlk hnone) hac (for_tagged (tagged_nil _) (List.forall_mem_singleton.2 rfl) (tagged_nil _))

/-- the reference's half of `stateless_cases`, which does not look at the endpoint: `Net.new acc` only
supplies `acceptConnections = acc` -/
theorem refStateless_ok {acc : Bool} {a : Nat} {s s' : Slot} {pending : Bool}
    {rd : Option Bool → Option Packet} {fresh : Option Nat} {r : Ret} {o : Out}
    (h : refStateless acc a s pending rd fresh = .ok (s', r, o)) :
    o.sent = [] ∧
      (o.events = [] ∨ (∃ d, o.events = [(a, .connless a none d)]) ∨ ∃ pid, o.events = [(a, .connect pid)]) ∧
      (s' = s ∨ (pending = false ∧ ∃ ack tok pid, rd none = some (.control ack tok .connect) ∧
        s' = some (pid, Peer.new a tok.isSome))) := by
  rcases stateless_cases (Net.new acc) a pending rd with ⟨w, _, e⟩ | ⟨d, _, _, e⟩ | ⟨_, _, e⟩ |
    ⟨hp, _, ack, tok, hrd, _, e⟩ <;> rw [show refStateless acc a s pending rd fresh = _ from e s fresh] at h
  · cases h; exact ⟨rfl, .inl rfl, .inl rfl⟩
  · cases h; exact ⟨rfl, .inr (.inl ⟨d, rfl⟩), .inl rfl⟩
  · cases h; exact ⟨rfl, .inl rfl, .inl rfl⟩
  · cases fresh with
    | none => cases h
    | some pid => cases h; exact ⟨rfl, .inr (.inr ⟨pid, rfl⟩), .inr ⟨hp, ack, tok, pid, hrd, rfl⟩⟩

theorem slotOnDisconnect_ok {evs : List Event} {s s' : Slot} (h : slotOnDisconnect s evs = .ok s') :
    (s' = none ∨ s' = s) ∧ ∀ r, Event.disconnect r ∈ evs → s' = none := by
  induction evs generalizing s with
  | nil => cases h; exact ⟨.inr rfl, nofun⟩
  | cons e es ih =>
    cases e with
    | disconnect r0 =>
      cases s with
      | none => cases h
      | some v =>
        have : s' = none := (ih h).1.elim id id
        exact ⟨.inl this, fun _ _ => this⟩
    | _ => exact ⟨(ih h).1, fun r hm => (ih h).2 r (by simpa using hm)⟩

theorem ref_dgram_disconnect {acc : Bool} {a : Nat} {env : Env} {s s' : Slot}
    {rd : Option Bool → Option Packet} {fresh : Option Nat} {r : Ret} {o : Out}
    (h : refStep acc a env s (.dgram rd fresh) = .ok (s', r, o)) {pid : Nat} {reason : Bytes}
    (hm : (a, NEvent.disconnect pid reason) ∈ o.events) : s' = none ∧ ∃ p, s = some (pid, p) := by
  have stateless : ∀ {s0 pending}, refStateless acc a s0 pending rd fresh = .ok (s', r, o) → False := by
    intro s0 pending h0
    rcases (refStateless_ok h0).2.1 with he | ⟨d, he⟩ | ⟨q, he⟩ <;> rw [he] at hm <;> simp at hm
  cases s with
  | none => exact (stateless h).elim
  | some e =>
    obtain ⟨pid', p⟩ := e
    by_cases hu : p.conn.state = .unconnected
    · rw [refStep_dgram_some, if_pos hu] at h
      exact (stateless h).elim
    · obtain ⟨c, o', _, hsd, _, rfl⟩ := refStep_dgram_ok hu h
      simp only [liftOut, List.mem_map] at hm
      obtain ⟨ev, hev, hevq⟩ := hm
      simp only [Prod.mk.injEq, true_and] at hevq
      cases ev <;> simp [mapEvent] at hevq
      exact ⟨(slotOnDisconnect_ok hsd).2 _ hev, p, by rw [hevq.1]⟩

theorem feed_unknown {env : Env} {net : Net} {addr : Nat} (rd : Option Bool → Option Packet)
    (hs : slot net.peers addr = none) : feed env net addr rd = feedUnknown net addr false rd := by
  unfold feed
  rw [pidFromAddr_eq, hs]
  rfl

theorem feed_pending {env : Env} {net : Net} {addr pid : Nat} {p : Peer} (rd : Option Bool → Option Packet)
    (hi : PInv net.peers) (hs : slot net.peers addr = some (pid, p)) (hp : p.conn.state = .unconnected) :
    feed env net addr rd = feedUnknown net addr true rd := by
  unfold feed
  rw [pidFromAddr_eq, hs]
  simp only [Option.map_some, slot_lookup hi hs, hp, if_true]

theorem feed_live {env : Env} {net : Net} {addr pid : Nat} {p : Peer} (rd : Option Bool → Option Packet)
    (hi : PInv net.peers) (hs : slot net.peers addr = some (pid, p)) (hp : p.conn.state ≠ .unconnected) :
    feed env net addr rd = feedPeer env net addr pid rd := by
  unfold feed
  rw [pidFromAddr_eq, hs]
  simp only [Option.map_some, slot_lookup hi hs, if_neg hp]

theorem feed_sim {env : Env} {net : Net} {addr : Nat} {rd : Option Bool → Option Packet} (hi : PInv net.peers) :
    Sim net addr (refStep net.acceptConnections addr env (slot net.peers addr) (.dgram rd (freshPid net)))
      (feed env net addr rd) := by
  cases hs : slot net.peers addr with
  | none =>
    rw [feed_unknown rd hs, refStep_dgram_none, ← hs]
    exact feedUnknown_sim hi (fun _ => hs)
  | some e =>
    obtain ⟨pid, p⟩ := e
    by_cases hu : p.conn.state = .unconnected
    · rw [feed_pending rd hi hs hu, refStep_dgram_some, if_pos hu, ← hs]
      exact feedUnknown_sim hi nofun
    · rw [feed_live rd hi hs hu]
      exact feedPeer_sim hi hs hu

theorem connect_sim {env : Env} {net : Net} {addr : Nat} (hi : PInv net.peers)
    (hok : slot net.peers addr = none) :
    Sim net addr (refStep net.acceptConnections addr env (slot net.peers addr) (.connect (freshPid net)))
      (connect env net addr) := by
  rw [hok, refStep_connect_none, connect]
  cases hnp : newPeer net addr false with
  | error e =>
    obtain ⟨hf, rfl⟩ := newPeer_error hnp
    simp only [hf]
    rfl
  | ok v =>
    obtain ⟨net1, pid⟩ := v
    obtain ⟨hfresh, hlk, hps, hac⟩ := newPeer_ok hnp
    simp only [hfresh]
    cases Conn6.connect env Conn.new with
    | error e => rfl
    | ok w =>
      obtain ⟨c, o⟩ := w
      simp only [hps, update_append_fresh hlk]
      exact sim_at (upd_push hi hlk hok) hac (liftOut_for _ _ _)

theorem sendConnless_sim {net : Net} {addr : Nat} {d : Bytes} (hi : PInv net.peers) (env : Env) :
    Sim net addr (refStep net.acceptConnections addr env (slot net.peers addr) (.sendConnless d))
      (sendConnless net addr d) := by
  simp only [sendConnless, refStep]
  split
  · exact sim_stay hi (for_tagged (tagged_nil _) (tagged_nil _) (tagged_nil _))
  · cases emit [Packet.connless d] with
    | error e => rfl
    | ok ps => exact sim_stay hi (for_tagged (mem_tag (f := id)) (tagged_nil _) (tagged_nil _))

theorem tickPeers_sim {env : Env} {ps : Peers} (acc : Bool) (hn : (addrs ps).Nodup) :
    match tickPeers env ps with
    | .ok (ps', sent) => pids ps' = pids ps ∧ addrs ps' = addrs ps ∧
        ∀ a, refStep acc a env (slot ps a) .tick = .ok (slot ps' a, .unit, ({ sent := sent } : Out).for a)
    | .error f => ∃ a, refStep acc a env (slot ps a) .tick = .error f := by
  induction ps with
  | nil => exact ⟨rfl, rfl, fun a => rfl⟩
  | cons e es ih =>
    obtain ⟨pid, p⟩ := e
    simp only [addrs, List.map_cons, List.nodup_cons] at hn
    -- nobody behind the head has its address
    have hnone : slot es p.addr = none := slot_none_iff.2 fun x hx hxa => hn.1 (List.mem_map.2 ⟨x, hx, hxa⟩)
    have ih := ih hn.2
    simp only [tickPeers]
    cases hc : Conn6.tick env p.conn with
    | error f => exact ⟨p.addr, by simp only [slot, if_true, refStep_tick_some, hc]⟩
    | ok v =>
      obtain ⟨c, o⟩ := v
      cases hes : tickPeers env es with
      | error f =>
        simp only [hes] at ih
        obtain ⟨a, ha⟩ := ih
        refine ⟨a, ?_⟩
        rw [slot, if_neg, ha]
        intro hpa
        rw [← hpa, hnone] at ha
        cases ha
      | ok w =>
        obtain ⟨es1, sent1⟩ := w
        simp only [hes] at ih
        obtain ⟨ih1, ih2, ih3⟩ := ih
        refine ⟨congrArg (pid :: ·) ih1, congrArg (p.addr :: ·) ih2, fun a => ?_⟩
        have := ih3 a
        simp only [Out.for, List.filter_append, filter_tag, slot]
        by_cases hea : p.addr = a
        · subst hea
          simp only [hnone, refStep_tick_none, Out.for, Except.ok.injEq, Prod.mk.injEq, Out.mk.injEq] at this
          simp only [if_true, refStep_tick_some, hc, ← this.2.2.1, List.append_nil]
          rfl
        · simpa only [hea, if_false, List.nil_append, Out.for] using this

theorem tick_sim {env : Env} {net : Net} (hi : PInv net.peers) :
    match tick env net with
    | .ok (net', r, o) => (PInv net'.peers ∧ net'.acceptConnections = net.acceptConnections) ∧
        ∀ a, refStep net.acceptConnections a env (slot net.peers a) .tick = .ok (slot net'.peers a, r, o.for a)
    | .error f => ∃ a, refStep net.acceptConnections a env (slot net.peers a) .tick = .error f := by
  have := tickPeers_sim (env := env) net.acceptConnections hi.addr
  unfold tick
  cases ht : tickPeers env net.peers with
  | error f => simpa only [ht] using this
  | ok v =>
    simp only [ht] at this
    exact ⟨⟨⟨this.1 ▸ hi.pid, this.2.1 ▸ hi.addr⟩, rfl⟩, this.2.2⟩

def StepFor (env : Env) (net net' : Net) (op : Op) (r : Ret) (o : Out) (a : Nat) : Prop :=
  match projOp net a op with
  | some lop => refStep net.acceptConnections a env (slot net.peers a) lop = .ok (slot net'.peers a, r, o.for a)
  | none => slot net'.peers a = slot net.peers a ∧ o.for a = {}

section
variable {env : Env} {net net' : Net} {op : Op} {r : Ret} {o : Out} {a : Nat}

theorem StepFor.of_none (hp : projOp net a op = none) (h : StepFor env net net' op r o a) :
    slot net'.peers a = slot net.peers a ∧ o.for a = {} := by
  unfold StepFor at h
  rwa [hp] at h

theorem StepFor.of_some {lop : LOp} (hp : projOp net a op = some lop) (h : StepFor env net net' op r o a) :
    refStep net.acceptConnections a env (slot net.peers a) lop = .ok (slot net'.peers a, r, o.for a) := by
  unfold StepFor at h
  rwa [hp] at h

end

structure StepOk (env : Env) (net : Net) (op : Op) (net' : Net) (r : Ret) (o : Out) : Prop where
  inv : PInv net'.peers
  acc : net'.acceptConnections = net.acceptConnections
  perAddr : ∀ a, StepFor env net net' op r o a

/-- What a call does, seen from every address: a call that returns is the reference's step on the
projected call wherever it is concerned and a no-op elsewhere; a call that fails names a dead id or
fails the way the reference does for some address it concerns. -/
def StepSpec (env : Env) (net : Net) (op : Op) : Res → Prop
  | .ok (net', r, o) => StepOk env net op net' r o
  | .error f => invalidPid net op = true ∨
      ∃ a lop, projOp net a op = some lop ∧ refStep net.acceptConnections a env (slot net.peers a) lop = .error f

theorem Sim.spec {env : Env} {net : Net} {op : Op} {c : Nat} {lop : LOp} {res : Res}
    (hproj : ∀ a, projOp net a op = if c = a then some lop else none)
    (h : Sim net c (refStep net.acceptConnections c env (slot net.peers c) lop) res) : StepSpec env net op res := by
  cases res with
  | error f => exact .inr ⟨c, lop, by rw [hproj, if_pos rfl], h⟩
  | ok v =>
    have h := h.ok rfl
    refine ⟨h.inv, h.acc, fun a => ?_⟩
    unfold StepFor
    rw [hproj]
    by_cases ha : c = a
    · subst ha; rw [if_pos rfl]; exact h.self
    · rw [if_neg ha]; exact h.others a (Ne.symm ha)

/-- The calls that name a peer id: "invalid pid" if it is dead, else `Sim` at the peer's address. -/
theorem spec_pid {env : Env} {net : Net} {op : Op} {lop : LOp} (pid : Nat)
    (hinv : invalidPid net op = (lookup net.peers pid).isNone)
    (hproj : ∀ a, projOp net a op = if addrOf net pid = some a then some lop else none)
    (hnone : lookup net.peers pid = none → step env net op = .error (.panic "invalid pid"))
    (hsim : ∀ p, lookup net.peers pid = some p →
      Sim net p.addr (refStep net.acceptConnections p.addr env (slot net.peers p.addr) lop) (step env net op)) :
    StepSpec env net op (step env net op) := by
  cases hl : lookup net.peers pid with
  | none => rw [hnone hl]; exact .inl (by rw [hinv, hl]; rfl)
  | some p => exact (hsim p hl).spec fun a => by simp only [hproj, addrOf, hl, Option.map_some, Option.some.injEq]

theorem step_spec {env : Env} {net : Net} {op : Op} (hi : PInv net.peers) (hok : opOk net op = true) :
    StepSpec env net op (step env net op) := by
  cases op with
  | feed a rd => exact (feed_sim hi).spec fun _ => rfl
  | connect a => exact (connect_sim hi (by simpa [opOk] using hok)).spec fun _ => rfl
  | sendConnless a d => exact (sendConnless_sim hi env).spec fun _ => rfl
  | accept pid | send pid d v | flush pid =>
    exact spec_pid pid rfl (fun _ => rfl) modifyPeer_none fun _ => modifyPeer_sim hi
  | reject pid x | disconnect pid x =>
    exact spec_pid pid rfl (fun _ => rfl) removePeer_none fun _ => removePeer_sim hi
  | ignore pid =>
    exact spec_pid pid rfl (fun _ => rfl) (removePeer_none (f := fun _ => .ok {})) fun _ =>
      removePeer_sim (f := fun _ => .ok {}) hi
  | tick =>
    have := tick_sim (env := env) hi
    show StepSpec env net .tick (tick env net)
    cases ht : tick env net with
    | error f => rw [ht] at this; exact .inr (this.imp fun a ha => ⟨.tick, rfl, ha⟩)
    | ok v => rw [ht] at this; exact ⟨this.1.1, this.1.2, this.2⟩

theorem step_sim {env : Env} {net net' : Net} {op : Op} {r : Ret} {o : Out} (hi : PInv net.peers)
    (hok : opOk net op = true) (h : step env net op = .ok (net', r, o)) :
    StepOk env net op net' r o := by
  have := step_spec (env := env) hi hok
  rwa [h] at this

theorem run_cons_ok {env : Env} {op : Op} {h : History} {net net' : Net} {outs : List (Ret × Out)}
    (hr : run net ((env, op) :: h) = .ok (net', outs)) :
    ∃ net1 r o outs1, step env net op = .ok (net1, r, o) ∧ run net1 h = .ok (net', outs1) ∧
      outs = (r, o) :: outs1 := by
  simp only [run] at hr
  cases hst : step env net op with
  | error f => simp [hst] at hr
  | ok v =>
    obtain ⟨net1, r, o⟩ := v
    simp only [hst] at hr
    cases hrest : run net1 h with
    | error f => simp [hrest] at hr
    | ok w =>
      obtain ⟨net2, outs2⟩ := w
      simp only [hrest, Except.ok.injEq, Prod.mk.injEq] at hr
      exact ⟨net1, r, o, outs2, rfl, hr.1 ▸ hrest, hr.2.symm⟩

theorem runFor_cons_ok {a : Nat} {env : Env} {op : Op} {h : History} {net net' : Net} {tr : List (Ret × Out)}
    (hr : runFor a net ((env, op) :: h) = .ok (net', tr)) :
    ∃ net1 r o tr1, step env net op = .ok (net1, r, o) ∧ runFor a net1 h = .ok (net', tr1) ∧
      tr = ((if (projOp net a op).isSome then r else .unit), o.for a) :: tr1 := by
  simp only [runFor] at hr
  cases hst : step env net op with
  | error f => simp [hst] at hr
  | ok v =>
    obtain ⟨net1, r, o⟩ := v
    simp only [hst] at hr
    cases hrest : runFor a net1 h with
    | error f => simp [hrest] at hr
    | ok w =>
      obtain ⟨net2, tr2⟩ := w
      simp only [hrest, Except.ok.injEq, Prod.mk.injEq] at hr
      exact ⟨net1, r, o, tr2, rfl, hr.1 ▸ hrest, hr.2.symm⟩

theorem histOk_cons {env : Env} {op : Op} {h : History} {net net1 : Net} {r : Ret} {o : Out}
    (hok : histOk net ((env, op) :: h) = true) (hst : step env net op = .ok (net1, r, o)) :
    opOk net op = true ∧ histOk net1 h = true := by
  simpa only [histOk, hst, Bool.and_eq_true] using hok

theorem run_sim (a : Nat) (h : History) : ∀ (net net' : Net) (tr : List (Ret × Out)),
    PInv net.peers → histOk net h = true → runFor a net h = .ok (net', tr) →
    PInv net'.peers ∧
      refRun net.acceptConnections a (slot net.peers a) (projHist a net h) = .ok (slot net'.peers a, tr) := by
  induction h with
  | nil =>
    intro net net' tr hi _ hr
    cases hr
    exact ⟨hi, rfl⟩
  | cons x xs ih =>
    obtain ⟨env, op⟩ := x
    intro net net' tr hi hok hr
    obtain ⟨net1, r, o, tr1, hst, hrest, rfl⟩ := runFor_cons_ok hr
    obtain ⟨hok1, hok2⟩ := histOk_cons hok hst
    have hstep := step_sim hi hok1 hst
    obtain ⟨hi2, href⟩ := ih net1 net' tr1 hstep.inv hok2 hrest
    refine ⟨hi2, ?_⟩
    rw [hstep.acc] at href
    simp only [projHist, hst]
    cases hp : projOp net a op with
    | none =>
      have hs := (hstep.perAddr a).of_none hp
      simp only [refRun, ← hs.1, href, hs.2]
      simp
    | some lop =>
      simp only [refRun, (hstep.perAddr a).of_some hp, href]
      simp

end Tw.Net
