import Tw.Proofs.ConnStep6
import Tw.Proofs.ConnStep7

/-!
# The sequence-range invariant: every ack and every sequence number the connection stores or sends
is below `SEQUENCE_MODULUS`

Independent of the packet invariant `Online.Inv`: it holds for the result of every call that
returns, from every state that satisfies it (no API precondition needed).  Together with
`Packet.valid` (0.7: and `Wire7.tokRange`) it is the packet writer's full precondition (`Props/C04`, composition with C05).
One lemma per operation of the online core (`Online.Did.seq`), lifted to the returning calls of both variants by
`GStep.lift` (`GStep.seq`, `step_seq`).
-/
namespace Tw.Conn
open Tw.Time

def Chunk.seqOk (c : Chunk) : Prop := ∀ s r, c.vital = some (s, r) → s < seqMod

structure Online.SeqInv (o : Online) : Prop where
  ack : o.ack < seqMod
  seq : o.sequence < seqMod
  pk : ∀ c ∈ o.packet.chunks, c.seqOk
  pnv : ∀ c ∈ o.packetNonvital.chunks, c.seqOk
  rq : ∀ c ∈ o.resendQueue, c.seq < seqMod

def Flushed.SeqOk (f : Flushed) : Prop := f.ack < seqMod ∧ ∀ c ∈ f.chunks, c.seqOk

theorem seqNext_lt (a : Nat) : seqNext a < seqMod := Nat.mod_lt _ (by decide)

theorem Online.new_seqInv : Online.new.SeqInv := by
  refine ⟨by decide, by decide, ?_, ?_, ?_⟩ <;> intro c hc <;> simp [Online.new, PacketContents.empty] at hc

theorem Online.flush_seq {o : Online} (h : o.SeqInv) : o.flush.1.SeqInv ∧ ∀ f ∈ o.flush.2, f.SeqOk := by
  unfold Online.flush
  split
  · exact ⟨h, by simp⟩
  · refine ⟨⟨h.ack, h.seq, ?_, ?_, h.rq⟩, ?_⟩
    · intro c hc; simp [PacketContents.empty] at hc
    · intro c hc; simp [PacketContents.empty] at hc
    · intro f hf; simp at hf; subst hf; exact ⟨h.ack, h.pk⟩

theorem seqOk_snoc {cs : List Chunk} {c0 : Chunk} (h : ∀ c ∈ cs, c.seqOk) (h0 : c0.seqOk) :
    ∀ c ∈ cs ++ [c0], c.seqOk := by
  intro c hc
  rcases List.mem_append.mp hc with hc | hc
  · exact h c hc
  · simp at hc; subst hc; exact h0

theorem Online.SeqInv.queued {o : Online} (h : o.SeqInv) (now : Nat) (d : Bytes) (v : Bool) : (o.queued now d v).SeqInv := by
  unfold Online.queued
  split
  · refine ⟨h.ack, seqNext_lt _, seqOk_snoc h.pk ?_, h.pnv, List.forall_mem_cons.mpr ⟨seqNext_lt _, h.rq⟩⟩
    intro s r hv; cases hv; exact seqNext_lt _
  · exact ⟨h.ack, h.seq, seqOk_snoc h.pk (fun _ _ hv => nomatch hv),
      seqOk_snoc h.pnv (fun _ _ hv => nomatch hv), h.rq⟩

theorem Online.send_seq {cfg : Cfg} {now : Nat} {o o' : Online} {d : Bytes} {v : Bool} {r : SendRes} {fl : List Flushed}
    (he : o.send cfg now d v = .ok (o', r, fl)) (h : o.SeqInv) : o'.SeqInv ∧ ∀ f ∈ fl, f.SeqOk := by
  rcases Online.send_cases he with ⟨_, _, rfl, rfl⟩ | ⟨_, _, ⟨_, rfl, rfl⟩ | ⟨rfl, rfl⟩⟩
  · exact ⟨h, fun _ hf => nomatch hf⟩
  · exact ⟨h.queued now d v, fun _ hf => nomatch hf⟩
  · exact ⟨(Online.flush_seq h).1.queued now d v, (Online.flush_seq h).2⟩

theorem Online.resend_seq {cfg : Cfg} {now : Nat} {o o' : Online} {send send' : Timeout} {fl : List Flushed}
    (he : o.resend cfg now send = .ok (o', send', fl)) (h : o.SeqInv) : o'.SeqInv ∧ ∀ f ∈ fl, f.SeqOk := by
  have hr := Online.resend_eq he
  by_cases hemp : o.resendQueue = []
  · obtain ⟨rfl, _, rfl⟩ := hr.idle hemp
    exact ⟨h, fun _ hf => nomatch hf⟩
  obtain ⟨hp, hfl⟩ := hr.chunks hemp Chunk.seqOk h.pnv fun c hc s r hv => by cases hv; exact h.rq c hc
  refine ⟨⟨hr.ack ▸ h.ack, hr.sequence ▸ h.seq, hp, ?_, ?_⟩, fun f hf => ⟨(hfl f hf).1 ▸ h.ack, (hfl f hf).2⟩⟩
  · rcases hr.nonvital with hn | hn <;> rw [hn]
    · exact h.pnv
    · exact fun _ h => nomatch h
  · rw [hr.queue]
    intro c hc
    obtain ⟨c0, hc0, rfl⟩ := List.mem_map.mp hc
    exact h.rq c0 hc0

theorem Online.ackChunks_seq {o : Online} (h : o.SeqInv) (a : Nat) : (o.ackChunks a).SeqInv := by
  unfold Online.ackChunks
  split
  · exact ⟨h.ack, h.seq, h.pk, h.pnv, fun c hc => h.rq c (List.mem_of_mem_take hc)⟩
  · exact h

theorem receiveEager_lt (cs : List Chunk) : ∀ (ack : Nat) (rr : Bool), ack < seqMod → (receiveEager ack rr cs).1 < seqMod := by
  induction cs with
  | nil => intro ack rr h; exact h
  | cons c cs ih =>
    intro ack rr h
    unfold receiveEager
    cases hv : c.vital with
    | none => exact ih ack rr h
    | some v =>
      obtain ⟨s, r⟩ := v
      simp only
      apply ih
      rw [seqUpdate_accept_fst]
      split
      · rename_i hs; rw [← hs]; exact seqNext_lt _
      · exact h

theorem Online.receive_seq {cfg : Cfg} {now : Nat} {o o' : Online} {send send' : Timeout} {rr : Bool} {cs : List Chunk}
    {fl : List Flushed} {evs : List Event}
    (he : o.receive cfg now send rr cs = .ok (o', send', fl, evs)) (h : o.SeqInv) :
    o'.SeqInv ∧ ∀ f ∈ fl, f.SeqOk := by
  obtain ⟨o2, hres, rfl, _⟩ := Online.receive_eq he
  have h2 : o2.SeqInv ∧ ∀ f ∈ fl, f.SeqOk := by
    rcases hres with ⟨_, rfl, _, rfl⟩ | ⟨_, hrs⟩
    · exact ⟨h, fun _ h => nomatch h⟩
    · exact Online.resend_seq hrs h
  exact ⟨⟨receiveEager_lt cs _ _ h2.1.ack, h2.1.seq, h2.1.pk, h2.1.pnv, h2.1.rq⟩, h2.2⟩

theorem Online.Did.seq {cfg : Cfg} {now : Nat} {fed : Option (Nat × List Chunk)} {o o' : Online} {s s' : Timeout}
    {fl : List Flushed} {evs : List Event} {sub : List (Bytes × Bool)}
    (h : Online.Did cfg now fed o s o' s' fl evs sub) (ho : o.SeqInv) : o'.SeqInv ∧ ∀ f ∈ fl, f.SeqOk := by
  cases h with
  | flush => exact Online.flush_seq ho
  | send h => exact Online.send_seq h ho
  | resend h => exact Online.resend_seq h ho
  | receive _ h => exact Online.receive_seq h ho

def GPkt.seqOk : GPkt → Prop := GPkt.All (· < seqMod) Flushed.SeqOk

theorem GStep.seq {cfg : Cfg} {now : Nat} {fed : Option (Nat × List Chunk)} {acc : Bool} {x x' : GConn}
    {ps : List GPkt} {evs : List Event} {sub : List (Bytes × Bool)} (h : GStep cfg now fed acc x x' ps evs sub)
    (hx : ∀ o, x.ph.core = some o → o.SeqInv) : (∀ o, x'.ph.core = some o → o.SeqInv) ∧ ∀ p ∈ ps, p.seqOk :=
  h.lift (fun hd => hd.seq) (fun _ a h => Online.ackChunks_seq h a)
    (fun _ h => h.ack) hx

end Tw.Conn

namespace Tw.Conn6
open Tw.Conn Tw.Time

def Packet.seqOk : Packet → Prop
  | .connless _ => True
  | .control ack _ _ => ack < seqMod
  | .chunks ack _ _ _ cs => ack < seqMod ∧ ∀ c ∈ cs, c.seqOk

def Conn.SeqInv (c : Conn) : Prop := ∀ o, c.g.ph.core = some o → o.SeqInv

theorem Conn.new_seqInv : Conn.new.SeqInv := fun _ h => by cases h; exact Online.new_seqInv

theorem step_seq {env : Env} {c c' : Conn} {op : Op} {out : Out} (h : step env c op = .ok (c', out))
    (hc : c.SeqInv) : c'.SeqInv ∧ ∀ p ∈ out.sent, p.seqOk := by
  obtain ⟨a, b⟩ := (step_g h).seq hc
  refine ⟨a, fun p hp => ?_⟩
  have := b p.g (List.mem_map_of_mem hp)
  cases p <;> exact this

theorem run_seq (sched : List (Env × Op)) (c c' : Conn) (outs : List Out) (h : c.SeqInv)
    (he : run c sched = .ok (c', outs)) : c'.SeqInv ∧ ∀ out ∈ outs, ∀ p ∈ out.sent, p.seqOk :=
  run_invariant (G := fun _ => True) (fun _ _ _ _ _ _ hs hc => step_seq hs hc) sched c c' outs
    (fun _ _ => trivial) h he

end Tw.Conn6

namespace Tw.Conn7
open Tw.Conn Tw.Time

def Packet.seqOk : Packet → Prop
  | .connless _ _ _ => True
  | .control ack _ _ => ack < seqMod
  | .chunks ack _ _ _ cs => ack < seqMod ∧ ∀ c ∈ cs, c.seqOk

def Conn.SeqInv (c : Conn) : Prop := ∀ o, c.g.ph.core = some o → o.SeqInv

theorem Conn.new_seqInv : Conn.new.SeqInv := fun _ h => by cases h; exact Online.new_seqInv

theorem step_seq {env : Env} {c c' : Conn} {op : Op} {out : Out} (h : step env c op = .ok (c', out))
    (hc : c.SeqInv) : c'.SeqInv ∧ ∀ p ∈ out.sent, p.seqOk := by
  obtain ⟨a, b⟩ := (step_g h).seq hc
  refine ⟨a, fun p hp => ?_⟩
  have := b p.g (List.mem_map_of_mem hp)
  cases p <;> exact this

theorem run_seq (sched : List (Env × Op)) (c c' : Conn) (outs : List Out) (h : c.SeqInv)
    (he : run c sched = .ok (c', outs)) : c'.SeqInv ∧ ∀ out ∈ outs, ∀ p ∈ out.sent, p.seqOk :=
  run_invariant (G := fun _ => True) (fun _ _ _ _ _ _ hs hc => step_seq hs hc) sched c c' outs
    (fun _ _ => trivial) h he

end Tw.Conn7
