import Tw.Proofs.ConnFair

/-!
# C02 (c): rounds of the fair suffix in which a side is not yet online or pending

In a handshake round a side has no shape (`GIface.Sh`) yet, so nothing says that its calls return: such a round is given by
what each of its calls returns (`Recvs`, `fairRoundT_calls`), and only the invariants are carried through it, whatever the
connection objects are (`blockAny` of `ConnTimed`, `fairRoundT_of`).  The variants' handshake rounds (`ConnFairH6/7`) are
instances; once the connector is online and told `Ready`, `PendIface.opened` adds the four rounds of `fair_progressH`.
-/
namespace Tw.NetSim
open Tw.Conn Tw.Time

variable {P : Proto} {core : P.Conn → Option Online} {cfg : Cfg} {S : Nat → P.Conn → Prop}

theorem step_events {w w' : World P} (m : Move P) (h : step w m = some w') (s : Side) :
    ∃ ev, (w'.get s).events = (w.get s).events ++ ev := by
  cases step_cases h with
  | advance dt => exact ⟨[], by cases s <;> simp [World.get]⟩
  | call x draws c r hr => cases x <;> cases s <;> simp [World.get, World.set, End.book]
  | deliver to i draws alt dg r _ hr => cases to <;> cases s <;> simp [World.get, World.set, End.book]

theorem run_events (ms : List (Move P)) (w w' : World P) (h : NetSim.run w ms = some w') (s : Side) :
    ∃ ev, (w'.get s).events = (w.get s).events ++ ev :=
  run_induction (I := fun x => ∃ ev, (x.get s).events = (w.get s).events ++ ev)
    (fun _ m _ ⟨e1, h1⟩ he =>
      let ⟨e2, h2⟩ := step_events m he s
      ⟨e1 ++ e2, by rw [h2, h1, List.append_assoc]⟩) ms w w' ⟨[], by simp⟩ h

theorem fairRoundT_events {draws : List Nat} {alt : P.Alt} {s s' : FairState P}
    (h : fairRoundT draws alt s = some s') (x : Side) : ∃ ev, (s'.w.get x).events = (s.w.get x).events ++ ev := by
  simp only [fairRoundT] at h
  cases h1 : NetSim.run s.w tickMoves with
  | none => rw [h1] at h; cases h
  | some w1 =>
    rw [h1] at h; simp only at h
    cases h2 : NetSim.run w1 (deliverRangeD .b s.ca w1.a.out.length draws alt) with
    | none => rw [h2] at h; cases h
    | some w2 =>
      rw [h2] at h; simp only at h
      cases h3 : NetSim.run w2 (deliverRangeD .a s.cb w2.b.out.length draws alt) with
      | none => rw [h3] at h; cases h
      | some w3 =>
        rw [h3] at h; injection h with h; subst h
        obtain ⟨e1, g1⟩ := run_events _ _ _ h1 x
        obtain ⟨e2, g2⟩ := run_events _ _ _ h2 x
        obtain ⟨e3, g3⟩ := run_events _ _ _ h3 x
        exact ⟨e1 ++ e2 ++ e3, by rw [g3, g2, g1]; simp⟩

theorem fairRoundsT_succ (draws : List Nat) (alt : P.Alt) (k : Nat) (s : FairState P) :
    fairRoundsT draws alt (k + 1) s = (fairRoundT draws alt s).bind (fairRoundsT draws alt k) := by
  simp only [fairRoundsT]
  cases fairRoundT draws alt s <;> rfl

theorem fairRoundsT_events {draws : List Nat} {alt : P.Alt} : ∀ (k : Nat) {s s' : FairState P},
    fairRoundsT draws alt k s = some s' → ∀ x : Side, ∃ ev, (s'.w.get x).events = (s.w.get x).events ++ ev := by
  intro k
  induction k with
  | zero => intro s s' h x; simp [fairRoundsT] at h; subst h; exact ⟨[], by simp⟩
  | succ k ih =>
    intro s s' h x
    rw [fairRoundsT_succ] at h
    cases h1 : fairRoundT draws alt s with
    | none => rw [h1] at h; cases h
    | some s1 =>
      rw [h1] at h
      obtain ⟨e1, g1⟩ := fairRoundT_events h1 x
      obtain ⟨e2, g2⟩ := ih h x
      exact ⟨e1 ++ e2, by rw [g2, g1, List.append_assoc]⟩

theorem fairRoundsT_add {draws : List Nat} {alt : P.Alt} (j k : Nat) (s : FairState P) :
    fairRoundsT draws alt (j + k) s = (fairRoundsT draws alt j s).bind (fairRoundsT draws alt k) := by
  induction j generalizing s with
  | zero => simp [fairRoundsT]
  | succ j ih =>
    rw [Nat.succ_add, fairRoundsT_succ, fairRoundsT_succ]
    cases fairRoundT draws alt s with
    | none => rfl
    | some s1 => exact ih s1

theorem fairRoundsT_one {draws : List Nat} {alt : P.Alt} {s s1 : FairState P}
    (e1 : fairRoundT draws alt s = some s1) : fairRoundsT draws alt 1 s = some s1 := by
  simp [fairRoundsT, e1]

theorem fairRoundsT_then {draws : List Nat} {alt : P.Alt} {j k : Nat} {s s1 s2 : FairState P}
    (e1 : fairRoundsT draws alt j s = some s1) (e2 : fairRoundsT draws alt k s1 = some s2) :
    fairRoundsT draws alt (j + k) s = some s2 := by
  rw [fairRoundsT_add, e1]; exact e2

/-- `Lb` is what `a` has sent from the cursor on, `b2` is `b` after its delivery; `La` likewise what `b2` has sent -/
theorem fairRoundT_of (hs : Sim P core cfg) (hl : LocT P S) (draws : List Nat) (alt : P.Alt)
    {s : FairState P} (hW : WInv P core cfg s.w) (hT : TInv S s.w) {w1 : World P}
    (hrun : NetSim.run s.w tickMoves = some w1)
    {prea Lb : List (Sent P.Packet)} (houta : w1.a.out = prea ++ Lb) (hprea : prea.length = s.ca)
    (hLb : ∀ sn ∈ Lb, sn.nStamp = w1.a.nAbs ∧ w1.b.nAbs ≤ sn.dStamp + 512)
    {b2 : End P} (hB : recvEndsD w1.now draws alt w1.b (Lb.map (·.pkt)) = some b2)
    {preb La : List (Sent P.Packet)} (houtb : b2.out = preb ++ La) (hpreb : preb.length = s.cb)
    (hLa : ∀ sn ∈ La, sn.nStamp = b2.nAbs ∧ w1.a.nAbs ≤ sn.dStamp + 512)
    {a2 : End P} (hA : recvEndsD w1.now draws alt w1.a (La.map (·.pkt)) = some a2) :
    fairRoundT draws alt s = some ⟨(w1.set .b b2).set .a a2, w1.a.out.length, b2.out.length⟩ ∧
      AInv cfg (absEnd P core a2) (absEnd P core b2) ∧ S w1.now a2.conn ∧ S w1.now b2.conn := by
  have hW1 : WInv P core cfg w1 := run_inv hs tickMoves s.w w1 hW (admissible_ticks hrun) hrun
  have hT1 : TInv S w1 := run_loct hl tickMoves s.w w1 hT hrun
  have kb := blockAny hs hl (now := w1.now) (draws := draws) alt w1.a Lb w1.b b2
    (fun sn hsn => ⟨by rw [houta]; exact List.mem_append_right _ hsn, (hLb sn hsn).1, (hLb sn hsn).2⟩)
    hW1.symm hT1.2 hB
  have ka := blockAny hs hl (now := w1.now) (draws := draws) alt b2 La w1.a a2
    (fun sn hsn => ⟨by rw [houtb]; exact List.mem_append_right _ hsn, (hLa sn hsn).1, (hLa sn hsn).2⟩)
    kb.ainv.symm hT1.1 hA
  have hrun1 : NetSim.run w1 (deliverRangeD .b s.ca w1.a.out.length draws alt) = some (w1.set .b b2) :=
    hprea ▸ run_deliverRest .b draws alt houta hB
  have hrun2 : NetSim.run (w1.set .b b2) (deliverRangeD .a s.cb (w1.set .b b2).b.out.length draws alt) =
      some ((w1.set .b b2).set .a a2) :=
    hpreb ▸ run_deliverRest .a draws alt (w := w1.set .b b2) houtb hA
  refine ⟨?_, ka.ainv, ka.timed, kb.timed⟩
  simp only [fairRoundT, hrun, hrun1]
  simp only [World.set] at hrun2 ⊢
  rw [hrun2]

/-- deliveries of `pks`, one after the other, take the connection object `c` to `c'`; `sent` and `evs`
are what these calls send and yield -/
inductive Recvs (now : Nat) (draws : List Nat) (alt : P.Alt) :
    P.Conn → List P.Packet → P.Conn → List P.Packet → List Event → Prop where
  | nil (c : P.Conn) : Recvs now draws alt c [] c [] []
  | cons {c c' : P.Conn} {pk : P.Packet} {pks sent : List P.Packet} {evs : List Event} {r : Ret P.Conn P.Packet} :
      P.recv now draws c pk alt = .ok r → Recvs now draws alt r.conn pks c' sent evs →
      Recvs now draws alt c (pk :: pks) c' (r.sent ++ sent) (r.events ++ evs)

namespace Recvs

variable {now : Nat} {draws : List Nat} {alt : P.Alt}

theorem replicate {c : P.Conn} {pk : P.Packet} (h : P.recv now draws c pk alt = .ok { conn := c }) :
    ∀ n, Recvs now draws alt c (List.replicate n pk) c [] []
  | 0 => .nil c
  | n + 1 => .cons h (replicate h n)

/-- the endpoint after the deliveries (no vital chunk is handed over: the stamps stay) -/
theorem ends {c c' : P.Conn} {pks sent : List P.Packet} {evs : List Event}
    (h : Recvs now draws alt c pks c' sent evs) : ∀ e : End P, e.conn = c → vitalPayloads evs = [] →
    ∃ e', recvEndsD now draws alt e pks = some e' ∧ e'.conn = c' ∧
      e'.out = e.out ++ sent.map (fun p => ⟨p, e.nAbs, e.dAbs⟩) ∧ e'.submitted = e.submitted ∧
      e'.events = e.events ++ evs := by
  induction h with
  | nil c => intro e he _; exact ⟨e, rfl, he, by simp, rfl, by simp⟩
  | @cons c c' pk pks sent evs r hr _ ih =>
    intro e he hv
    subst he
    rw [vitalPayloads_append, List.append_eq_nil_iff] at hv
    obtain ⟨e', h1, h2, h3, h4, h5⟩ := ih (e.book r []) rfl hv.2
    have hd : (e.book r []).dAbs = e.dAbs := by
      simp [End.book, End.dAbs, End.deliveredVital, vitalPayloads_append, hv.1]
    refine ⟨e', by simp only [recvEndsD, recvEndD, hr]; exact h1, h2, ?_, by rw [h4]; simp [End.book],
      by rw [h5]; simp [End.book]⟩
    rw [h3, book_nAbs, hd]
    simp [End.book]

end Recvs

/-- `ra`, `a`'s answers, are what is left over; `hcb`, `hca`, `fresh` as in `OnlineFH` -/
structure CalledRound (core : P.Conn → Option Online) (cfg : Cfg) (S : Nat → P.Conn → Prop) (s s' : FairState P)
    (ca3 cb3 : P.Conn) (ra : List P.Packet) (ea : List Event) : Prop where
  winv : WInv P core cfg s'.w
  tinv : TInv S s'.w
  connA : s'.w.a.conn = ca3
  connB : s'.w.b.conn = cb3
  hcb : s'.cb = s'.w.b.out.length
  hca : ∃ pre', s'.w.a.out = pre' ++ ra.map (fun p => ⟨p, s'.w.a.nAbs, s.w.a.dAbs⟩) ∧ pre'.length = s'.ca
  fresh : s'.w.b.nAbs ≤ s.w.a.dAbs + 512
  evA : s'.w.a.events = s.w.a.events ++ ea

/-- **a round in which every call is known**: the four ticks and the two chains of deliveries (to `b`:
the leftovers `L` and `a`'s tick datagrams; to `a`: `b`'s tick datagrams and its answers) given by what
they return, no vital chunk handed over. -/
theorem fairRoundT_calls (hs : Sim P core cfg) (hl : LocT P S) (draws : List Nat) (alt : P.Alt)
    {s : FairState P} (hW : WInv P core cfg s.w) (hT : TInv S s.w) (hcb : s.cb = s.w.b.out.length)
    {pre L : List (Sent P.Packet)} (hout : s.w.a.out = pre ++ L) (hpre : pre.length = s.ca)
    (hL : ∀ sn ∈ L, sn.nStamp = s.w.a.nAbs ∧ s.w.b.nAbs ≤ sn.dStamp + 512)
    {T1 T2 : Nat} (hT1 : T1 = s.w.now + resendUs) (hT2 : T2 = T1 + sendUs)
    {ca1 cb1 ca2 cb2 ca3 cb3 : P.Conn} {pa1 pb1 pa2 pb2 ra rb : List P.Packet} {ea eb : List Event}
    (ta1 : P.call T1 [] s.w.a.conn .tick = .ok (tickRet ca1 pa1))
    (tb1 : P.call T1 [] s.w.b.conn .tick = .ok (tickRet cb1 pb1))
    (ta2 : P.call T2 [] ca1 .tick = .ok (tickRet ca2 pa2))
    (tb2 : P.call T2 [] cb1 .tick = .ok (tickRet cb2 pb2))
    (hB : Recvs T2 draws alt cb2 (L.map (·.pkt) ++ (pa1 ++ pa2)) cb3 rb eb) (hvb : vitalPayloads eb = [])
    (hA : Recvs T2 draws alt ca2 (pb1 ++ pb2 ++ rb) ca3 ra ea) (hva : vitalPayloads ea = []) :
    ∃ s', fairRoundT draws alt s = some s' ∧ CalledRound core cfg S s s' ca3 cb3 ra ea := by
  obtain ⟨w1, t, w1now, a1conn, b1conn⟩ := ticks_world s.w hT1 hT2 ta1 tb1 ta2 tb2
  have nAa := nAbs_of_submitted t.subA
  have nAb := nAbs_of_submitted t.subB
  have dAb := dAbs_of_events t.evB
  have hwinv : AInv cfg (absEnd P core s.w.a) (absEnd P core s.w.b) := hW
  rw [← w1now] at hB hA
  obtain ⟨b2, hb2, b2conn, b2out, b2sub, _⟩ := hB.ends w1.b b1conn hvb
  obtain ⟨a2, ha2, a2conn, a2out, a2sub, a2ev⟩ := hA.ends w1.a a1conn hva
  obtain ⟨hround, hA3, hS3, hS2⟩ :=
    fairRoundT_of hs hl draws alt hW hT t.run (prea := pre)
      (Lb := L ++ (pa1 ++ pa2).map (fun p => ⟨p, s.w.a.nAbs, s.w.a.dAbs⟩))
      (by rw [t.outA, hout, List.append_assoc]) hpre
      (by
        intro sn hsn
        rcases List.mem_append.mp hsn with h | h
        · exact ⟨by rw [nAa]; exact (hL sn h).1, by rw [nAb]; exact (hL sn h).2⟩
        · obtain ⟨p, _, rfl⟩ := List.mem_map.mp h
          exact ⟨nAa.symm, by rw [nAb]; exact hwinv.2.win⟩)
      (b2 := b2) (by simpa [List.map_map, Function.comp_def] using hb2)
      (preb := s.w.b.out)
      (La := (pb1 ++ pb2).map (fun p => ⟨p, s.w.b.nAbs, s.w.b.dAbs⟩) ++ rb.map (fun p => ⟨p, w1.b.nAbs, w1.b.dAbs⟩))
      (by rw [b2out, t.outB, List.append_assoc]) hcb.symm
      (by
        intro sn hsn
        have hwin : w1.a.nAbs ≤ s.w.b.dAbs + 512 := by rw [nAa]; exact hwinv.1.win
        rcases List.mem_append.mp hsn with h | h
        · obtain ⟨p, _, rfl⟩ := List.mem_map.mp h
          exact ⟨by rw [nAbs_of_submitted b2sub, nAb], hwin⟩
        · obtain ⟨p, _, rfl⟩ := List.mem_map.mp h
          exact ⟨(nAbs_of_submitted b2sub).symm, by rw [dAb]; exact hwin⟩)
      (a2 := a2) (by simpa [List.map_map, Function.comp_def] using ha2)
  refine ⟨_, hround, hA3, ⟨hS3, hS2⟩, a2conn, b2conn, rfl, ⟨w1.a.out, ?_, rfl⟩, ?_, ?_⟩
  · show a2.out = w1.a.out ++ ra.map (fun p => ⟨p, a2.nAbs, s.w.a.dAbs⟩)
    rw [a2out, nAbs_of_submitted a2sub, dAbs_of_events t.evA]
  · show b2.nAbs ≤ s.w.a.dAbs + 512
    rw [nAbs_of_submitted b2sub, nAb]; exact hwinv.2.win
  · show a2.events = _
    rw [a2ev, t.evA]

theorem PendIface.opened {I : OnlineIface P core cfg S} (X : PendIface I) (hc : cfg.Ok) (hs : Sim P core cfg)
    (hl : LocT P S) (draws : List Nat) (alt : P.Alt) {w : World P} {j : Nat} {s1 : FairState P} {ta : I.Tok}
    {tb : I.Tok × Bool} {La : List (DgH × Nat)} (e1 : fairRoundsT draws alt j (FairState.start w) = some s1)
    (hF : OnlineFH (X.toG hc) (ta, true) tb s1 La) (hr : Event.ready ∈ s1.w.a.events) :
    ∃ s', fairRoundsT draws alt (j + 4) (FairState.start w) = some s' ∧ s'.w.quiescentH ∧
      (∃ o s, s'.w.a.conn = I.mkc ta o s) ∧ Event.ready ∈ s'.w.a.events := by
  obtain ⟨s', La', e4, hq, hF'⟩ := fair_progressH (X.toG hc) hs hl draws alt hF
  obtain ⟨o, ho⟩ := hF'.on.ca
  obtain ⟨ev, hev⟩ := fairRoundsT_events 4 e4 .a
  refine ⟨s', fairRoundsT_then e1 e4, hq, ⟨o, X.online_of_sh ho⟩, ?_⟩
  rw [show s'.w.a.events = s1.w.a.events ++ ev from hev]
  exact List.mem_append_left _ hr

end Tw.NetSim
