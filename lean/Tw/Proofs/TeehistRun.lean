import Tw.Proofs.TeehistParse
import Tw.Proofs.TeehistStep

/-! C17: the refill loop of the buffered reader returns what the parser returns on the whole remaining stream
(`logical`), whatever the read schedule, or the callback fails (`parseLoop_spec`; the callbacks of the theorems do not
fail, `noFail_*`); the records of a stream do not depend on the fuel; one `Reader.read` call is simulated by one call of
the reader over pre-parsed records (`recRead`, `StepSim`).  So `runItems` agrees with `recRun` on the records of the
logical stream for every read schedule. -/
namespace Tw.Teehistorian

/-- `Vec` invariant: `len ≤ capacity`. -/
def Buffer.wf (b : Buffer) : Prop := b.len ≤ b.cap

/-- The bytes the reader has still to parse: a refill moves bytes from `c.rem` to `b.unread` and
leaves this unchanged (`readMore_spec`). -/
def logical (b : Buffer) (c : Cb) : List UInt8 := b.unread ++ c.rem

theorem makeRoom_spec (b : Buffer) (h : b.wf) :
    b.makeRoom.unread = b.unread ∧ b.makeRoom.len < b.makeRoom.cap := by
  have : 0 < Gen.Teehistorian.BUFFER_SIZE := by decide
  unfold Buffer.wf at h
  unfold Buffer.makeRoom
  split
  · exact ⟨rfl, by omega⟩
  · split
    · exact ⟨rfl, by simp only [Buffer.len] at *; omega⟩
    · refine ⟨rfl, ?_⟩
      simp only [Buffer.len] at *
      by_cases hlt : b.offset + b.unread.length < Gen.Teehistorian.BUFFER_SIZE <;>
        simp only [hlt, if_true, if_false] <;> omega

theorem Cb.read_spec (c : Cb) (space : Nat) :
    match c.read space with
    | .fail => ¬ c.noFail
    | .eof => c.rem = []
    | .data bytes c' => bytes ++ c'.rem = c.rem ∧ bytes.length ≤ space ∧
        (0 < space → c'.measure < c.measure) ∧ (c.noFail → c'.noFail) := by
  unfold Cb.read
  cases hds : c.ds with
  | nil =>
    by_cases hc : c.rem.isEmpty = true
    · rw [if_pos hc]; exact List.isEmpty_iff.mp hc
    · have : c.rem.length ≠ 0 := fun h => hc (by simp [List.eq_nil_of_length_eq_zero h])
      rw [if_neg hc]
      refine ⟨List.take_append_drop _ _, ?_, fun _ => ?_, fun _ => List.not_mem_nil⟩
      · exact Nat.le_trans (List.length_take_le _ _) (Nat.min_le_left _ _)
      · simp only [Cb.measure, hds, List.length_drop, List.length_nil]; omega
  | cons e ds' =>
    cases e with
    | fail => exact fun hnf => hnf (hds ▸ List.mem_cons_self ..)
    | size d =>
      dsimp only
      by_cases hc : c.strictEof = true ∧ d ≠ 0 ∧ c.rem.isEmpty = true
      · rw [if_pos hc]; exact List.isEmpty_iff.mp hc.2.2
      · rw [if_neg hc]
        refine ⟨List.take_append_drop _ _, ?_, fun _ => ?_, fun hnf h => ?_⟩
        · exact Nat.le_trans (List.length_take_le _ _)
            (Nat.le_trans (Nat.min_le_right _ _) (Nat.min_le_left _ _))
        · simp only [Cb.measure, hds, List.length_cons, List.length_drop]; omega
        · exact hnf (hds ▸ List.mem_cons_of_mem _ h)

theorem noFail_sizes (total : List UInt8) (ds : List Nat) (strict : Bool) :
    ({ rem := total, ds := ds.map CbEv.size, strictEof := strict } : Cb).noFail := by
  simp [Cb.noFail]

theorem noFail_ofChunks (cs : List (List UInt8)) : (Cb.ofChunks cs).noFail := by
  simp [Cb.noFail, Cb.ofChunks]

theorem noFail_fileCb {total : List UInt8} {evs : List OsRead} (h : OsRead.eio ∉ evs) : (fileCb total evs).noFail := by
  simp only [Cb.noFail, fileCb, List.mem_map, not_exists, not_and]
  intro e he hev
  cases e with
  | data n pos => simp [OsRead.ev] at hev
  | eintr => simp [OsRead.ev] at hev
  | eio => exact h he

/-- `h` is what the callback contract demands: a chunk fits into the buffer space it is offered. -/
theorem ofChunks_read_fits (ch : List UInt8) (cs : List (List UInt8)) (space : Nat) (h : ch.length ≤ space) :
    (Cb.ofChunks (ch :: cs)).read space = .data ch (Cb.ofChunks cs) := by
  have hn : min ch.length (min space (ch ++ cs.flatten).length) = ch.length := by
    simp only [List.length_append]; omega
  have ht : (ch ++ cs.flatten).take ch.length = ch := by
    rw [List.take_append_of_le_length (Nat.le_refl _), List.take_length]
  have hd : (ch ++ cs.flatten).drop ch.length = cs.flatten := by
    rw [List.drop_append_of_le_length (Nat.le_refl _), List.drop_length, List.nil_append]
  simp only [Cb.ofChunks, Cb.read, List.map_cons, List.flatten_cons, hn, ht, hd]
  simp

theorem ofChunks_read_eof (space : Nat) : (Cb.ofChunks []).read space = .eof := by
  simp [Cb.ofChunks, Cb.read]

theorem readMore_spec {b : Buffer} (c : Cb) (hw : b.wf) :
    match readMore b c with
    | .fail => ¬ c.noFail
    | .eof => c.rem = []
    | .more b' c' => logical b' c' = logical b c ∧ b'.wf ∧ c'.measure < c.measure ∧
        (c.noFail → c'.noFail) := by
  obtain ⟨hun, hsp⟩ := makeRoom_spec b hw
  have hr := c.read_spec (b.makeRoom.cap - b.makeRoom.len)
  simp only [readMore]
  generalize c.read (b.makeRoom.cap - b.makeRoom.len) = res at hr ⊢
  cases res with
  | fail => exact hr
  | eof => exact hr
  | data bytes c' =>
    obtain ⟨h1, h2, h3, h4⟩ := hr
    refine ⟨?_, ?_, h3 (by omega), h4⟩
    · simp only [logical, hun, List.append_assoc, h1]
    · simp only [Buffer.wf, Buffer.len, List.length_append] at hsp h2 ⊢
      omega

theorem parseLoop_spec {α : Type} {p : Parser α} (hp : Good p) :
    ∀ (fuel : Nat) (b : Buffer) (c : Cb), b.wf → c.measure < fuel →
      match parseLoop p fuel b c with
      | .ok x b' c' => p (logical b c) = .ok x (logical b' c') ∧ b'.wf ∧ (c.noFail → c'.noFail)
      | .err e => p (logical b c) = .needMore ∧ e = .unexpectedEnd ∨
          ∃ e', p (logical b c) = .err e' ∧ e = .item e'
      | .cbErr => ¬ c.noFail
      | .outOfFuel => False
  | 0, _, _, _, h => by omega
  | fuel + 1, b, c, hw, hm => by
    unfold parseLoop
    cases hpu : p b.unread with
    | ok x r =>
      obtain ⟨pre, hpre⟩ := hp.ok_prefix hpu
      refine ⟨hp.ok_append hpu c.rem, ?_, id⟩
      simp only [Buffer.wf, Buffer.len] at hw ⊢
      rw [hpre] at hw ⊢
      simp only [List.length_append] at hw ⊢
      omega
    | err e => exact .inr ⟨e, hp.err_append hpu c.rem, rfl⟩
    | needMore =>
      have hr := readMore_spec c hw
      generalize readMore b c = more at hr ⊢
      cases more with
      | fail => exact hr
      | eof => exact .inl ⟨by simpa [logical, hr] using hpu, rfl⟩
      | more b' c' =>
        obtain ⟨hl, hw', hm', hnf⟩ := hr
        have ih := parseLoop_spec hp fuel b' c' hw' (by omega)
        rw [hl] at ih
        simp only
        generalize parseLoop p fuel b' c' = res at ih ⊢
        cases res with
        | ok x b2 c2 => exact ⟨ih.1, ih.2.1, fun h => ih.2.2 (hnf h)⟩
        | err e => exact ih
        | cbErr => exact fun h => ih (hnf h)
        | outOfFuel => exact ih

theorem parseRest_finish (s : List UInt8) : parseRest .finish s = .ok .finish s := rfl

theorem parseAll_fuel (hasEx : Bool) : ∀ (f1 : Nat) (s : List UInt8) (f2 : Nat), s.length < f1 → s.length < f2 →
    parseAll hasEx f1 s = parseAll hasEx f2 s
  | 0, _, _, h, _ => by omega
  | _, _, 0, _, h => by omega
  | f1 + 1, s, f2 + 1, h1, h2 => by
    unfold parseAll
    cases hk : parseKind hasEx s with
    | needMore => rfl
    | err e => rfl
    | ok k rest =>
      have hlt := parseKind_consumes hk
      simp only
      cases hr : parseRest k rest with
      | needMore => rfl
      | err e => rfl
      | ok it rest' =>
        have hle := (good_parseRest k).rest_le hr
        simp only
        rw [parseAll_fuel hasEx f1 rest' f2 (by omega) (by omega)]

theorem parseAll_length (hasEx : Bool) (f : Nat) (s : List UInt8) :
    (parseAll hasEx f s).1.length ≤ s.length := by
  fun_induction parseAll hasEx f s
  case case6 f s rest it rest' hk hr =>
    have := parseKind_consumes hk
    simp only [List.length_cons, List.length_nil]; omega
  case case7 f s k rest hk it rest' hr hfin r ih =>
    have := parseKind_consumes hk
    have := (good_parseRest k).rest_le hr
    simp only [List.length_cons, r]; omega
  all_goals exact Nat.zero_le _

def recsOf (hasEx : Bool) (s : List UInt8) : List Rec × Tail := parseAll hasEx (s.length + 1) s

/-- The records of a stream whose first item id has been read already. -/
def recsAfter (hasEx : Bool) (k : Kind) (s : List UInt8) : List Rec × Tail :=
  parseAfterKind hasEx (s.length + 1) k s

theorem recsAfter_needMore {hasEx : Bool} {k : Kind} {s : List UInt8} (h : parseRest k s = .needMore) :
    recsAfter hasEx k s = ([], .restEnd k) := by
  simp only [recsAfter, parseAfterKind, h]

theorem recsAfter_err {hasEx : Bool} {k : Kind} {s : List UInt8} {e : ItemErr} (h : parseRest k s = .err e) :
    recsAfter hasEx k s = ([], .restErr k e) := by
  simp only [recsAfter, parseAfterKind, h]

theorem recsAfter_ok {hasEx : Bool} {k : Kind} {s rest : List UInt8} {it : FItem}
    (h : parseRest k s = .ok it rest) :
    ∃ rs t, recsAfter hasEx k s = (⟨k, it⟩ :: rs, t) ∧ (it ≠ .finish → (rs, t) = recsOf hasEx rest) := by
  have hle := (good_parseRest k).rest_le h
  by_cases hk : k = .finish
  · subst hk
    refine ⟨[], .afterFinish, by simp only [recsAfter, parseAfterKind, h, if_true], fun hne => ?_⟩
    rw [parseRest_finish] at h
    cases h
    exact absurd rfl hne
  · refine ⟨(parseAll hasEx (s.length + 1) rest).1, (parseAll hasEx (s.length + 1) rest).2,
      by simp only [recsAfter, parseAfterKind, h, hk, if_false], fun _ => ?_⟩
    rw [recsOf, parseAll_fuel hasEx (s.length + 1) rest (rest.length + 1) (by omega) (by omega)]

theorem recsOf_ok {hasEx : Bool} {s rest : List UInt8} {k : Kind} (h : parseKind hasEx s = .ok k rest) :
    recsOf hasEx s = recsAfter hasEx k rest := by
  have hlt := parseKind_consumes h
  unfold recsOf recsAfter parseAll parseAfterKind
  rw [h]
  simp only
  cases hr : parseRest k rest with
  | needMore => rfl
  | err e => rfl
  | ok it rest' =>
    have hle := (good_parseRest k).rest_le hr
    simp only
    rw [parseAll_fuel hasEx s.length rest' (rest.length + 1) (by omega) (by omega)]

/-- What the reader meets first on a stream given as records: the item id of the next record, the
error of reading the id, or neither (`fuel`: `parseAll` was given too little fuel, `parseAll_ends`). -/
inductive VK where
  | kind (k : Kind)
  | fail (e : Err)
  | fuel

def viewKind : List Rec × Tail → VK
  | (r :: _, _) => .kind r.kind
  | ([], .restEnd k) => .kind k
  | ([], .restErr k _) => .kind k
  | ([], .kindEnd) => .fail .unexpectedEnd
  | ([], .kindErr e) => .fail (.item e)
  | ([], .afterFinish) => .fuel
  | ([], .outOfFuel) => .fuel

/-- `ReadRes` for a stream given as records; there is no callback to fail. -/
inductive RecRes where
  | item (it : Item) (rd : Reader) (v : List Rec × Tail)
  | finished (rd : Reader)
  | err (e : Err) (rd : Reader)
  | outOfFuel

/-- One `Reader::read` call on a stream given as records.  `_cfg` is carried so that `recRead`,
`recRun` and `interp` take the arguments of `Reader.read` and `runItems`. -/
def recRead (_cfg : Cfg) (rd : Reader) (v : List Rec × Tail) : RecRes :=
  match viewKind v with
  | .fail e => .err e rd.norm
  | .fuel => .outOfFuel
  | .kind k =>
    match rd.norm.pre k with
    | .emit it rd' => .item it rd' v
    | .err e => .err e rd.norm
    | .proceed =>
      match v with
      | (r :: rs, t) =>
        match rd.norm.post r.item with
        | .item it rd' => .item it rd' (rs, t)
        | .finished rd' => .finished rd'
        | .err e rd' => .err e rd'
      | ([], .restErr _ e) => .err (.item e) rd.norm
      | ([], _) => .err .unexpectedEnd rd.norm

/-- `runItems` for a stream given as records. -/
def recRun (cfg : Cfg) : Nat → Reader → List Rec × Tail → Output
  | 0, rd, _ => ⟨[], .outOfFuel, rd.access⟩
  | fuel + 1, rd, v =>
    match recRead cfg rd v with
    | .item it rd' v' => (recRun cfg fuel rd' v').cons it
    | .finished rd' => ⟨[], .finished, rd'.access⟩
    | .err e rd' => ⟨[], .err e, rd'.access⟩
    | .outOfFuel => ⟨[], .outOfFuel, rd.access⟩

/-- The records the reader is going to see, given its look-ahead. -/
def viewOf (hasEx : Bool) (rd : Reader) (s : List UInt8) : List Rec × Tail :=
  match rd.nextKind with
  | none => recsOf hasEx s
  | some k => recsAfter hasEx k s

theorem viewKind_recsAfter (hasEx : Bool) (k : Kind) (s : List UInt8) :
    viewKind (recsAfter hasEx k s) = .kind k := by
  cases hr : parseRest k s with
  | needMore => rw [recsAfter_needMore hr]; rfl
  | err e => rw [recsAfter_err hr]; rfl
  | ok it rest =>
    obtain ⟨rs, t, h, _⟩ := recsAfter_ok (hasEx := hasEx) hr
    rw [h]; rfl

theorem cidsEnd_norm (rd : Reader) : rd.norm.access = rd.access := rfl

theorem Output.cons_items (it : Item) (o : Output) : (o.cons it).items = it :: o.items := rfl

def Output.prepend (its : List Item) (o : Output) : Output := { o with items := its ++ o.items }

theorem Output.prepend_nil (o : Output) : o.prepend [] = o := rfl

theorem Output.cons_prepend (it : Item) (its : List Item) (o : Output) :
    (o.prepend its).cons it = o.prepend (it :: its) := rfl

/-- One `read` call of the buffered reader against one call of the record-level reader on the
records of the remaining stream: the same result, and the record-level reader goes on with the
records of what then remains — or the callback failed. -/
inductive StepSim (hasEx : Bool) (c : Cb) : ReadRes → RecRes → Prop
  | item {it : Item} {rd : Reader} {b' : Buffer} {c' : Cb} : b'.wf → (c.noFail → c'.noFail) →
      StepSim hasEx c (.item it rd b' c') (.item it rd (viewOf hasEx rd (logical b' c')))
  | finished {rd : Reader} : StepSim hasEx c (.finished rd) (.finished rd)
  | err {e : Err} {rd : Reader} : StepSim hasEx c (.err e rd) (.err e rd)
  | cbErr {rd : Reader} {r : RecRes} : ¬ c.noFail → StepSim hasEx c (.cbErr rd) r

theorem StepSim.mono {hasEx : Bool} {c c1 : Cb} {x : ReadRes} {y : RecRes} (h : c.noFail → c1.noFail) :
    StepSim hasEx c1 x y → StepSim hasEx c x y
  | .item hw hnf => .item hw fun hc => hnf (h hc)
  | .finished => .finished
  | .err => .err
  | .cbErr hn => .cbErr fun hc => hn (h hc)

theorem readWithKind_sim (cfg : Cfg) (rd : Reader) (k : Kind) (b : Buffer) (c : Cb) (hw : b.wf)
    (hn : rd.nextKind = none) :
    StepSim cfg.hasEx c (Reader.readWithKind cfg rd k b c)
      (recRead cfg rd (recsAfter cfg.hasEx k (logical b c))) := by
  unfold Reader.readWithKind recRead
  rw [viewKind_recsAfter, Reader.norm_eq_self hn]
  simp only
  cases hpre : rd.pre k with
  | emit it rd' =>
    have hnk : rd'.nextKind = some k := by
      cases pre_emit hpre <;> rfl
    have hv : viewOf cfg.hasEx rd' (logical b c) = recsAfter cfg.hasEx k (logical b c) := by
      simp only [viewOf, hnk]
    rw [← hv]
    exact .item hw id
  | err e => exact .err
  | proceed =>
    simp only
    have hl := parseLoop_spec (good_parseRest k) (c.measure + 1) b c hw (by omega)
    generalize parseLoop (parseRest k) (c.measure + 1) b c = res at hl ⊢
    cases res with
    | cbErr => exact .cbErr hl
    | outOfFuel => exact hl.elim
    | err e =>
      rcases hl with ⟨hr, rfl⟩ | ⟨e', hr, rfl⟩
      · rw [recsAfter_needMore hr]; exact .err
      · rw [recsAfter_err hr]; exact .err
    | ok fit b' c' =>
      obtain ⟨hr, hw', hnf⟩ := hl
      obtain ⟨rs, t, hv, hrest⟩ := recsAfter_ok (hasEx := cfg.hasEx) hr
      rw [hv]
      simp only
      cases hpost : rd.post fit with
      | finished rd' => exact .finished
      | err e rd' => exact .err
      | item it rd' =>
        have hk : fit ≠ .finish := fun hf => by rw [hf, post_finish] at hpost; cases hpost
        have hnk : rd'.nextKind = none := (post_nextKind hpost).trans hn
        have hv' : (rs, t) = viewOf cfg.hasEx rd' (logical b' c') := by
          rw [viewOf, hnk]; exact hrest hk
        rw [hv']
        exact .item hw' hnf

theorem read_sim (cfg : Cfg) (rd : Reader) (b : Buffer) (c : Cb) (hw : b.wf) :
    StepSim cfg.hasEx c (rd.read cfg b c) (recRead cfg rd (viewOf cfg.hasEx rd (logical b c))) := by
  unfold Reader.read viewOf
  cases hnk : rd.nextKind with
  | some k => exact readWithKind_sim cfg rd.norm k b c hw rfl
  | none =>
    simp only
    have hl := parseLoop_spec (good_parseKind cfg.hasEx) (c.measure + 1) b c hw (by omega)
    generalize parseLoop (parseKind cfg.hasEx) (c.measure + 1) b c = res at hl ⊢
    cases res with
    | cbErr => exact .cbErr hl
    | outOfFuel => exact hl.elim
    | err e =>
      rcases hl with ⟨hr, rfl⟩ | ⟨e', hr, rfl⟩
      · rw [recsOf, parseAll, hr]; exact .err
      · rw [recsOf, parseAll, hr]; exact .err
    | ok k b' c' =>
      obtain ⟨hr, hw', hnf⟩ := hl
      rw [recsOf_ok hr]
      exact (readWithKind_sim cfg rd.norm k b' c' hw' rfl).mono hnf

theorem runItems_vs_recRun (cfg : Cfg) : ∀ (F : Nat) (rd : Reader) (b : Buffer) (c : Cb), b.wf →
    runItems cfg F rd b c = recRun cfg F rd (viewOf cfg.hasEx rd (logical b c)) ∨
    ((runItems cfg F rd b c).final = .cbErr ∧ ¬ c.noFail ∧
      (runItems cfg F rd b c).items <+: (recRun cfg F rd (viewOf cfg.hasEx rd (logical b c))).items)
  | 0, _, _, _, _ => .inl rfl
  | F + 1, rd, b, c, hw => by
    have hs := read_sim cfg rd b c hw
    unfold runItems recRun
    generalize rd.read cfg b c = x at hs
    generalize recRead cfg rd _ = y at hs
    cases hs with
    | finished => exact .inl rfl
    | err => exact .inl rfl
    | cbErr h => exact .inr ⟨rfl, h, List.nil_prefix⟩
    | @item it rd' b' c' hw' hnf =>
      rcases runItems_vs_recRun cfg F rd' b' c' hw' with heq | ⟨hf, hn, hp⟩
      · exact .inl (congrArg (Output.cons it) heq)
      · exact .inr ⟨hf, fun h => hn (hnf h), (List.prefix_cons_inj _).mpr hp⟩

theorem runItems_eq_recRun (cfg : Cfg) (F : Nat) (rd : Reader) (b : Buffer) (c : Cb) (hw : b.wf)
    (hnf : c.noFail) :
    runItems cfg F rd b c = recRun cfg F rd (viewOf cfg.hasEx rd (logical b c)) := by
  rcases runItems_vs_recRun cfg F rd b c hw with h | ⟨_, hn, _⟩
  · exact h
  · exact absurd hnf hn

end Tw.Teehistorian
