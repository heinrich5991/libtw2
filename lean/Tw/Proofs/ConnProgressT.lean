import Tw.Proofs.ConnProgressV

/-!
# C02 (c): four rounds of the fair suffix that delivers *every* datagram

`RoundT`: a round in which side `b` is handed what was left over from the previous round (`La`: the
answers `a` emitted while it processed deliveries) followed by `a`'s tick datagrams, and side `a` is
handed `b`'s tick datagrams followed by the answers `b` emitted in this round.  Every tick phase emits
at least one datagram (flush or keep-alive), so the acks always travel: the queues are empty after the second round
(`u2`; in a `RoundV` after the third), and the third is spent on the leftovers running dry (`u3`).
-/
namespace Tw.Conn
open Tw.Time

theorem resend_seqs {cfg : Cfg} {now : Nat} {o o' : Online} {send send' : Timeout} {fl : List Flushed}
    (he : o.resend cfg now send = .ok (o', send', fl)) :
    o'.resendQueue.map (·.seq) = o.resendQueue.map (·.seq) := by
  rw [(Online.resend_eq he).queue, List.map_map]; rfl

theorem RecvRel.rq {cfg : Cfg} {o o2 : Online} {p : Flushed} (h : RecvRel cfg o p o2) :
    (∃ i, o2.resendQueue.map (·.seq) = ((o.resendQueue.map (·.seq)).take i)) ∧
    (o.resendQueue = [] → o2.resendQueue = []) := by
  obtain ⟨now, send, send2, o1, fl, evs, hfa, hrc⟩ := h
  have ho1 := (Online.feedAck_eq hfa).2
  obtain ⟨i, hq⟩ := o.ackChunks_resendQueue p.ack
  rw [← ho1] at hq
  have key : o2.resendQueue.map (·.seq) = o1.resendQueue.map (·.seq) := by
    obtain ⟨o1', h1, rfl, _⟩ := Online.receive_eq hrc
    rcases h1 with ⟨_, rfl, _⟩ | ⟨_, hrs⟩
    · rfl
    · exact (resend_seqs hrs :)
  have hseq : o2.resendQueue.map (·.seq) = (o.resendQueue.map (·.seq)).take i := by
    rw [key, hq, List.map_take]
  refine ⟨⟨i, hseq⟩, ?_⟩
  intro hemp
  rw [hemp] at hseq
  simpa using hseq

theorem RecvListRel.acked_later {cfg : Cfg} : ∀ (pre : List Flushed) {o o' : Online} {p : Flushed} {post : List Flushed}
    {sq : Nat} {tl : List Nat}, RecvListRel cfg o (pre ++ p :: post) o' →
    o.resendQueue.map (·.seq) = sq :: tl → p.ack = sq → o'.resendQueue = [] := by
  intro pre
  induction pre with
  | nil =>
    intro o o' p post sq tl h hq hp
    cases hqc : o.resendQueue with
    | nil => rw [hqc] at hq; cases hq
    | cons c rest =>
      rw [hqc] at hq
      simp only [List.map_cons, List.cons.injEq] at hq
      exact (h.acked hqc (by rw [hp, hq.1])).1
  | cons q pre ih =>
    intro o o' p post sq tl h hq hp
    cases h with
    | @cons _ o1 _ _ _ hr hrest =>
      obtain ⟨⟨i, hi⟩, _⟩ := hr.rq
      rw [hq] at hi
      cases i with
      | zero =>
        have : o1.resendQueue = [] := by simpa using hi
        exact (hrest.idle this).1
      | succ i =>
        simp only [List.take_succ_cons] at hi
        exact ih hrest hi hp

/-- a round of the fair suffix that delivers every datagram, on the two cores (`true` = side a) -/
structure RoundT (cfg : Cfg) (v : View) (La : List Flushed) (vb v' : View) (La' : List Flushed) : Prop where
  inv0 : VInv cfg v
  invb : VInv cfg vb
  inv' : VInv cfg v'
  subb : vb.sub = v.sub
  delb : vb.del = v.del
  sub' : v'.sub = v.sub
  body : ∃ (Ta Tb Rb : List Flushed) (midB midA : Online) (dmB dmA : Nat),
    PhaseSpec cfg (v.ep true) (vb.ep true) Ta ∧ Ta ≠ [] ∧
    PhaseSpec cfg (v.ep false) (vb.ep false) Tb ∧ Tb ≠ [] ∧
    RecvListRel cfg (vb.ep false) La midB ∧ RecvListRel cfg midB Ta (v'.ep false) ∧
    midB.ack = dmB % 1024 ∧ (v.del false).length ≤ dmB ∧ dmB ≤ (v'.del false).length ∧
    RecvListRel cfg (vb.ep true) Tb midA ∧ RecvListRel cfg midA Rb (v'.ep true) ∧
    midA.ack = dmA % 1024 ∧ (v.del true).length ≤ dmA ∧ dmA ≤ (v'.del true).length ∧
    ((vb.ep false).resendQueue = [] → Rb = []) ∧ ((vb.ep true).resendQueue = [] → La' = [])

variable {cfg : Cfg} {v vb v' : View} {La La' : List Flushed}

/-- round 1 (and every later round): everything submitted has been handed over -/
theorem RoundT.u1 (R : RoundT cfg v La vb v' La') (x : Bool) : VStage1 v' x := by
  obtain ⟨Ta, Tb, Rb, midB, midA, dmB, dmA, pa, _, pb, _, _, rb2, mb1, mb2, mb3, ra1, _, ma1, ma2, ma3, _, _⟩ := R.body
  have hdle' : (v'.del (!x)).length ≤ (v.sub x).length := by rw [← R.sub']; exact R.inv'.dle x
  unfold VStage1
  rw [R.sub']
  cases x with
  | true =>
    -- b is handed the leftovers, then a's tick datagrams
    exact pa.caught_up (R.inv0.q true) (R.inv0.qlen true)
      (Nat.le_trans (R.inv0.qwin true) (Nat.add_le_add_right mb2 _)) rb2 mb1 (R.inv'.ack true) mb3 hdle'
  | false =>
    -- a is handed b's tick datagrams, then b's answers
    have := pb.caught_up (R.inv0.q false) (R.inv0.qlen false) (R.inv0.qwin false) ra1
      ((R.invb.ack false).trans (by rw [R.delb])) ma1 ma2 (Nat.le_trans ma3 hdle')
    exact Nat.le_antisymm hdle' (this ▸ ma3)

def VU2 (v : View) : Prop := ∀ x, VStage1 v x ∧ (v.ep x).resendQueue = []
def VU3 (v : View) (La : List Flushed) : Prop :=
  (∀ x, VStage1 v x ∧ (v.ep x).resendQueue = [] ∧ (v.ep x).packet.chunks = []) ∧ La = []

/-- side `y`, all of whose chunks have been handed over, is handed (among others) the tick datagrams
`T` of its peer: the first of them acknowledges its newest chunk, so its queue is emptied -/
theorem RoundT.acked (R : RoundT cfg v La vb v' La') {y : Bool} (h1 : VStage1 v y) {o2 o' : Online}
    {pre T post : List Flushed} (hps : PhaseSpec cfg (v.ep (!y)) o2 T) (hT : T ≠ [])
    (hrl : RecvListRel cfg (vb.ep y) (pre ++ (T ++ post)) o') : o'.resendQueue = [] := by
  cases hqc : (vb.ep y).resendQueue with
  | nil => exact (hrl.idle hqc).1
  | cons c rest =>
    cases T with
    | nil => exact absurd rfl hT
    | cons p ps =>
      have hqs := Tw.NetSim.QueueOk.newest (hqc ▸ R.invb.q y)
      rw [R.subb] at hqs
      refine RecvListRel.acked_later pre hrl (sq := c.seq) (tl := rest.map (·.seq)) (by rw [hqc]; rfl) ?_
      rw [hps.acks p (by simp), R.inv0.ack y, h1, hqs]

/-- round 2: every side is handed a tick datagram carrying the full ack: both queues are emptied -/
theorem RoundT.u2 (R : RoundT cfg v La vb v' La') (h1 : ∀ x, VStage1 v x) : VU2 v' := by
  obtain ⟨Ta, Tb, Rb, midB, midA, dmB, dmA, pa, hTa, pb, hTb, rb1, rb2, _, _, _, ra1, ra2, _, _, _, _, _⟩ := R.body
  intro x
  refine ⟨R.u1 x, ?_⟩
  cases x with
  | true => exact R.acked (h1 true) (pre := []) pb hTb (ra1.append ra2)
  | false => exact R.acked (h1 false) (post := []) pa hTa (by rw [List.append_nil]; exact rb1.append rb2)

/-- round 3: the packets are flushed and, with empty queues, nobody answers a delivery any more -/
theorem RoundT.u3 (R : RoundT cfg v La vb v' La') (h2 : VU2 v) : VU3 v' La' := by
  obtain ⟨Ta, Tb, Rb, midB, midA, dmB, dmA, pa, _, pb, _, rb1, rb2, _, _, _, ra1, ra2, _, _, _, _, hLa⟩ := R.body
  have hqa := pa.queue_nil (h2 true).2
  have hqb := pb.queue_nil (h2 false).2
  refine ⟨?_, hLa hqa⟩
  intro x
  cases x with
  | true =>
    obtain ⟨a, b⟩ := (ra1.append ra2).idle hqa
    exact ⟨R.u1 true, a, by rw [b]; exact pa.pk⟩
  | false =>
    obtain ⟨a, b⟩ := (rb1.append rb2).idle hqb
    exact ⟨R.u1 false, a, by rw [b]; exact pb.pk⟩

/-- round 4: no vital chunk travels any more; the resend requests flushed by the ticks stay cleared -/
theorem RoundT.u4 (R : RoundT cfg v La vb v' La') (h3 : VU3 v La) : v'.quiescent := by
  obtain ⟨Ta, Tb, Rb, midB, midA, dmB, dmA, pa, _, pb, _, rb1, rb2, _, _, _, ra1, ra2, _, _, _, hRb, hLa⟩ := R.body
  obtain ⟨h3v, hLa0⟩ := h3
  have hTa := pa.no_vitals (h3v true).2.1 (h3v true).2.2
  have hTb := pb.no_vitals (h3v false).2.1 (h3v false).2.2
  have hRb0 := hRb (pb.queue_nil (h3v false).2.1)
  subst hLa0 hRb0
  have u3 := R.u3 (fun x => ⟨(h3v x).1, (h3v x).2.1⟩)
  intro x
  have hpre := R.inv'.pre x
  have h1 := R.u1 x
  unfold VStage1 at h1
  refine ⟨by rw [hpre, h1, List.take_length], (u3.1 x).2.1, (u3.1 x).2.2, ?_⟩
  cases x with
  | true => exact (ra1.append ra2).rr_false pa.rr (by intro p hp; simp at hp; exact hTb p hp)
  | false => exact (rb1.append rb2).rr_false pb.rr (by intro p hp; simp at hp; exact hTa p hp)

theorem four_roundsT {v0 b1 v1 b2 v2 b3 v3 b4 v4 : View} {L0 L1 L2 L3 L4 : List Flushed}
    (R1 : RoundT cfg v0 L0 b1 v1 L1) (R2 : RoundT cfg v1 L1 b2 v2 L2) (R3 : RoundT cfg v2 L2 b3 v3 L3)
    (R4 : RoundT cfg v3 L3 b4 v4 L4) : v4.quiescent :=
  R4.u4 (R3.u3 (R2.u2 (fun x => R1.u1 x)))

end Tw.Conn
