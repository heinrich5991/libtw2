import Tw.Model.SnapXfer

/-!
C12, one message at a time: what the receiver does with a message in any state, and with the messages of
one transfer `delta_chunks(tick, base, data, crc)` — the single message `oneMsg` of a transfer of at most
one part, or the parts `partMsg` of a longer one, whose progress is the state predicate `Mid`.
-/
namespace Tw.SnapXfer

theorem partSize_pos : 0 < partSize := by decide

theorem wrapSub_wrapSub (tick base : Int) (h : inI32 base) : wrapSub tick (wrapSub tick base) = base := by
  unfold wrapSub wrap32 inI32 at *; omega

theorem numParts_spec (len : Nat) : len ≤ partSize * numParts len ∧ partSize * numParts len < len + partSize := by
  simp only [numParts, partSize, Tw.Gen.SnapXfer.MAX_SNAPSHOT_PACKSIZE]; omega

theorem numParts_cover (len : Nat) : len ≤ partSize * numParts len := (numParts_spec len).1

theorem numParts_le (len : Nat) (h : len ≤ maxParts * partSize) : numParts len ≤ maxParts := by
  have := (numParts_spec len).2
  simp only [partSize, maxParts, Tw.Gen.SnapXfer.MAX_SNAPSHOT_PACKSIZE] at *; omega

theorem numParts_eq_zero (len : Nat) : numParts len = 0 ↔ len = 0 := by
  have := numParts_spec len
  simp only [partSize, Tw.Gen.SnapXfer.MAX_SNAPSHOT_PACKSIZE] at this; omega

theorem numParts_le_self (len : Nat) : numParts len ≤ len := by
  have := (numParts_spec len).2
  simp only [partSize, Tw.Gen.SnapXfer.MAX_SNAPSHOT_PACKSIZE] at this; omega

theorem Parts.insert_nil (k : Nat) (d : List UInt8) :
    Parts.insert [] k d = List.replicate k none ++ [some d] := by
  rw [Parts.insert, if_neg (show ¬ k < ([] : Parts).length from Nat.not_lt_zero k)]
  rfl

theorem Parts.insert_cons_zero (a : Option (List UInt8)) (ps : Parts) (d : List UInt8) :
    Parts.insert (a :: ps) 0 d = some d :: ps := by
  rw [Parts.insert, if_pos (show 0 < (a :: ps).length from Nat.succ_pos _)]
  rfl

theorem Parts.insert_cons_succ (a : Option (List UInt8)) (ps : Parts) (k : Nat) (d : List UInt8) :
    Parts.insert (a :: ps) (k + 1) d = a :: Parts.insert ps k d := by
  unfold Parts.insert
  by_cases h : k < ps.length
  · rw [if_pos (show k + 1 < (a :: ps).length from Nat.succ_lt_succ h), if_pos h]; rfl
  · rw [if_neg (show ¬ k + 1 < (a :: ps).length from fun h' => h (Nat.lt_of_succ_lt_succ h')), if_neg h,
      List.length_cons, Nat.succ_sub_succ]
    rfl

theorem getD_replicate_none_append (n : Nat) (d : List UInt8) (j : Nat) :
    (List.replicate n (none : Option (List UInt8)) ++ [some d]).getD j none = if j = n then some d else none := by
  induction n generalizing j with
  | zero => cases j <;> rfl
  | succ n ih =>
    cases j with
    | zero => rfl
    | succ j =>
      rw [List.replicate_succ, List.cons_append, List.getD_cons_succ, ih]
      simp only [Nat.succ_inj]

theorem Parts.getD_insert (ps : Parts) (k : Nat) (d : List UInt8) (i : Nat) :
    (ps.insert k d).getD i none = if i = k then some d else ps.getD i none := by
  induction ps generalizing k i with
  | nil => rw [Parts.insert_nil, getD_replicate_none_append]; rfl
  | cons a ps ih =>
    cases k with
    | zero => rw [Parts.insert_cons_zero]; cases i <;> rfl
    | succ k =>
      rw [Parts.insert_cons_succ]
      cases i with
      | zero => rfl
      | succ i =>
        rw [List.getD_cons_succ, List.getD_cons_succ, ih]
        simp only [Nat.succ_inj]

theorem Parts.length_insert (ps : Parts) (k : Nat) (d : List UInt8) :
    (ps.insert k d).length = max ps.length (k + 1) := by
  unfold Parts.insert
  split
  · next h => rw [List.length_set, Nat.max_eq_left h]
  · simp only [List.length_append, List.length_replicate, List.length_singleton]; omega

theorem Parts.count_le (ps : Parts) : ps.count ≤ ps.length := List.countP_le_length

/-- With at most `n` slots, `VecMap::len() == n` says exactly that slots `0..n` are all occupied. -/
theorem Parts.count_eq_iff (ps : Parts) (n : Nat) (h : ps.length ≤ n) :
    ps.count = n ↔ ∀ i, i < n → ps.contains i = true := by
  constructor
  · intro hc i hi
    have hl : ps.length = n := by have := ps.count_le; omega
    have hall := (List.countP_eq_length (l := ps) (p := Option.isSome)).mp (by unfold Parts.count at hc; omega)
    have hi' : i < ps.length := by omega
    unfold Parts.contains
    rw [List.getD_eq_getElem?_getD, List.getElem?_eq_getElem hi']
    exact hall _ (List.getElem_mem hi')
  · intro hall
    have hl : ps.length = n := by
      by_cases hlt : ps.length < n
      · have := hall ps.length hlt
        unfold Parts.contains at this
        simp [List.getD_eq_getElem?_getD] at this
      · omega
    unfold Parts.count
    rw [← hl]
    apply List.countP_eq_length.mpr
    intro a ha
    obtain ⟨i, hi, rfl⟩ := List.getElem_of_mem ha
    have := hall i (by omega)
    unfold Parts.contains at this
    rw [List.getD_eq_getElem?_getD, List.getElem?_eq_getElem hi] at this
    exact this

theorem Parts.concat_full (ps : Parts) (n : Nat) (f : Nat → List UInt8) (hl : ps.length = n)
    (hf : ∀ i, i < n → ps.getD i none = some (f i)) :
    ps.concat = ((List.range n).map f).flatten := by
  have : ps = (List.range n).map (fun i => some (f i)) := by
    refine List.ext_getElem (by simp [hl]) fun i h1 _ => ?_
    have := hf i (hl ▸ h1)
    rw [List.getD_eq_getElem?_getD, List.getElem?_eq_getElem h1, Option.getD_some] at this
    simp [this]
  rw [Parts.concat, this, List.filterMap_map]
  exact congrArg List.flatten (congrFun List.filterMap_eq_map _)

theorem flatten_chunks (data : List UInt8) (n : Nat) :
    ((List.range n).map (chunk data)).flatten = data.take (partSize * n) := by
  induction n with
  | zero => simp
  | succ n ih =>
    rw [List.range_succ, List.map_append, List.flatten_append, ih]
    simp [chunk, Nat.mul_succ, List.take_add]

theorem flatten_all_chunks (data : List UInt8) :
    ((List.range (numParts data.length)).map (chunk data)).flatten = data := by
  rw [flatten_chunks]
  exact List.take_of_length_le (numParts_cover _)

theorem after_snoc (r : Receiver) (pre : List Msg) (m : Msg) :
    r.after (pre ++ [m]) = ((r.after pre).step m).1 := by
  induction pre generalizing r with
  | nil => rfl
  | cons a l ih => simp [Receiver.after, ih]

theorem run_snoc (r : Receiver) (pre : List Msg) (m : Msg) :
    r.run (pre ++ [m]) = r.run pre ++ [((r.after pre).step m).2] := by
  induction pre generalizing r with
  | nil => rfl
  | cons a l ih => simp [Receiver.run, Receiver.after, ih]

theorem step_of_not_canReceive (r : Receiver) (m : Msg) (h : r.canReceive m.tick = false) :
    r.step m = (r, .error .oldDelta, []) := by
  cases m <;> exact if_pos (Bool.eq_false_iff.mp h)

theorem canReceive_newest_le (r : Receiver) (t : Int) (h : r.canReceive t = true) :
    ∀ n, r.newest = some n → n ≤ t := by
  intro n hn
  unfold Receiver.canReceive at h
  unfold Receiver.newest at hn
  cases hcur : r.current with
  | some c => simp [hcur] at h hn; omega
  | none => simp [hcur] at h hn; simp [hn] at h; omega

theorem older_rejected (r : Receiver) (m : Msg) (t : Int) (hn : r.newest = some t) (h : m.tick < t) :
    r.step m = (r, .error .oldDelta, []) :=
  step_of_not_canReceive r m (Bool.eq_false_iff.mpr fun hc => by
    have := canReceive_newest_le r _ hc t hn; omega)

theorem step_of_completed (r : Receiver) (m : Msg) (tick : Int) (hc : r.current = none)
    (hp : r.previousTick = some tick) (h : m.tick ≤ tick) :
    r.step m = (r, .error .oldDelta, []) := by
  apply step_of_not_canReceive
  simp [Receiver.canReceive, hc, hp]; omega

/-- passes the argument checks of `DeltaReceiver::snap` -/
def Msg.wellFormed : Msg → Prop
  | .snap _ _ n p _ _ => 0 ≤ n ∧ n ≤ (maxParts : Int) ∧ 0 ≤ p ∧ p < n
  | _ => True

theorem enter_spec (r : Receiver) (t dt n c : Int) :
    (r.enter t dt n c).1.current = some (r.enter t dt n c).2 ∧ (r.enter t dt n c).2.tick = t := by
  unfold Receiver.enter
  cases hcur : r.current with
  | none => simp
  | some c0 => by_cases hct : c0.tick = t <;> simp [hct, hcur]

theorem step_newest_of_accept (r : Receiver) (m : Msg) (hc : r.canReceive m.tick = true)
    (hwf : m.wellFormed) : (r.step m).1.newest = some m.tick := by
  cases m with
  | empty t dt => exact congrArg (fun x : StepResult => x.1.newest) (if_neg (not_not_intro hc))
  | single t dt c d => exact congrArg (fun x : StepResult => x.1.newest) (if_neg (not_not_intro hc))
  | snap t dt n p c d =>
    replace hc : r.canReceive t = true := hc
    obtain ⟨he1, he2⟩ := enter_spec r t dt n c
    show (r.snap t dt n p c d).1.newest = some t
    rw [Receiver.snap, if_neg (not_not_intro hc), if_neg (not_not_intro ⟨hwf.1, hwf.2.1⟩),
      if_neg (not_not_intro hwf.2.2)]
    generalize r.enter t dt n c = e at he1 he2 ⊢
    obtain ⟨r', cur⟩ := e
    dsimp only at he1 he2 ⊢
    -- duplicate, completing part, further part: `current` is the transfer for `t`, or `t` is completed
    by_cases hcon : r'.parts.contains p.toNat = true
    · rw [if_pos hcon]; simp only [Receiver.newest, he1, he2]
    · rw [if_neg hcon]
      by_cases hcnt : ((r'.parts.insert p.toNat d).count : Int) = cur.numParts
      · rw [if_neg (not_not_intro hcnt)]; simp only [Receiver.newest, he2]
      · rw [if_pos hcnt]; simp only [Receiver.newest, he1, he2]

theorem step_of_not_wellFormed (r : Receiver) (m : Msg) (h : ¬ m.wellFormed) :
    ∃ e, r.step m = (r, .error e, []) := by
  cases m with
  | empty t dt => exact (h trivial).elim
  | single t dt c d => exact (h trivial).elim
  | snap t dt n p c d =>
    show ∃ e, r.snap t dt n p c d = (r, .error e, [])
    unfold Receiver.snap
    by_cases hc : r.canReceive t = true
    · by_cases h1 : 0 ≤ n ∧ n ≤ (maxParts : Int)
      · exact ⟨_, by rw [if_neg (not_not_intro hc), if_neg (not_not_intro h1), if_pos fun h2 => h ⟨h1.1, h1.2, h2⟩]⟩
      · exact ⟨_, by rw [if_neg (not_not_intro hc), if_pos h1]⟩
    · exact ⟨_, if_pos hc⟩

theorem step_newest (r : Receiver) (m : Msg) :
    (r.step m).1.newest = r.newest ∨
      (r.canReceive m.tick = true ∧ (r.step m).1.newest = some m.tick) := by
  by_cases hc : r.canReceive m.tick = true
  · by_cases hwf : m.wellFormed
    · exact .inr ⟨hc, step_newest_of_accept r m hc hwf⟩
    · exact .inl (by obtain ⟨e, he⟩ := step_of_not_wellFormed r m hwf; rw [he])
  · exact .inl (by rw [step_of_not_canReceive r m (Bool.eq_false_iff.mpr hc)])

/-- `tick` is newer than everything the receiver knows of: it can be received, and no transfer for
`tick` itself is in progress. -/
def Fresh (r : Receiver) (tick : Int) : Prop := ∀ t, r.newest = some t → t < tick

def optMax : Option Int → Int → Option Int
  | none, t => some t
  | some a, t => some (max a t)

/-- the newest tick the receiver has heard of once `pre` has arrived, whatever it did with the messages -/
def newestSeen (r : Receiver) (pre : List Msg) : Option Int :=
  pre.foldl (fun a m => optMax a m.tick) r.newest

def SeenAll (msgs pre : List Msg) : Prop := ∀ x, x ∈ msgs → x ∈ pre

/-- Admissible message sequences: each message is one of the transfer's messages `msgs`, or a
message whose tick is older than the newest tick seen so far at the moment it arrives. -/
def Admissible (r : Receiver) (msgs : List Msg) (ms : List Msg) : Prop :=
  ∀ pre m post, ms = pre ++ m :: post →
    m ∈ msgs ∨ ∃ t, newestSeen r pre = some t ∧ m.tick < t

theorem optMax_self (t : Int) : optMax (some t) t = some t := by simp [optMax]

theorem newestSeen_snoc (r : Receiver) (pre : List Msg) (m : Msg) :
    newestSeen r (pre ++ [m]) = optMax (newestSeen r pre) m.tick := by
  simp [newestSeen, List.foldl_append]

theorem fresh_iff {r : Receiver} {tick : Int} :
    Fresh r tick ↔ r.canReceive tick = true ∧ ∀ c, r.current = some c → c.tick ≠ tick := by
  unfold Fresh Receiver.newest Receiver.canReceive
  cases r.current with
  | some c => simp only [Option.some.injEq, forall_eq', decide_eq_true_eq]; omega
  | none => cases r.previousTick <;> simp

theorem Fresh.canReceive {r : Receiver} {tick : Int} (h : Fresh r tick) : r.canReceive tick = true :=
  (fresh_iff.mp h).1

theorem Fresh.dupWarn {r : Receiver} {tick : Int} (h : Fresh r tick) : r.dupWarn tick = [] := by
  unfold Receiver.dupWarn
  cases hcur : r.current with
  | some c => exact if_neg ((fresh_iff.mp h).2 c hcur)
  | none => rfl

theorem Fresh.optMax {r : Receiver} {tick : Int} (h : Fresh r tick) : optMax r.newest tick = some tick := by
  unfold Fresh at h
  cases hn : r.newest with
  | none => rfl
  | some t => have := h t hn; simp [Tw.SnapXfer.optMax]; omega

/-- message `i` of the multi-part form of `delta_chunks(tick, base, data, crc)` -/
def partMsg (tick base crc : Int) (data : List UInt8) (i : Nat) : Msg :=
  Msg.snap tick (wrapSub tick base) (numParts data.length : Nat) (i : Nat) crc (chunk data i)

/-- the `CurrentDelta` the receiver keeps while the transfer is in progress -/
def curOf (tick base crc : Int) (data : List UInt8) : Current :=
  { tick := tick, deltaTick := base, numParts := (numParts data.length : Nat), crc := crc }

/-- the `ReceivedDelta` that `delta_chunks(tick, base, data, crc)` must end in (no data for `SnapEmpty`) -/
def delivery (tick base crc : Int) (data : List UInt8) : Received :=
  { deltaTick := base, tick := tick, dataCrc := if data = [] then none else some (data, crc) }

theorem delivery_of_part {data : List UInt8} {k : Nat} (hk : k < numParts data.length) (tick base crc : Int) :
    delivery tick base crc data = { deltaTick := base, tick := tick, dataCrc := some (data, crc) } := by
  have hd : data ≠ [] := fun e => by subst e; exact Nat.not_lt_zero k hk
  rw [delivery, if_neg hd]

/-- the single message of a transfer of at most one part: `SnapEmpty` for no data, else `SnapSingle` -/
def oneMsg (tick base crc : Int) (data : List UInt8) : Msg :=
  if data = [] then .empty tick (wrapSub tick base) else .single tick (wrapSub tick base) crc data

theorem oneMsg_tick (tick base crc : Int) (data : List UInt8) : (oneMsg tick base crc data).tick = tick := by
  unfold oneMsg; split <;> rfl

section
variable {tick base crc : Int} {data : List UInt8} {seen : Nat → Prop} {r : Receiver} {k : Nat}

theorem partMsg_inj {i j : Nat}
    (h : partMsg tick base crc data i = partMsg tick base crc data j) : i = j := by
  unfold partMsg at h
  injection h with _ _ _ h4
  exact_mod_cast h4

theorem partMsg_tick (tick base crc : Int) (data : List UInt8) (i : Nat) :
    (partMsg tick base crc data i).tick = tick := rfl

theorem Fresh.enter (hb : inI32 base) (hf : Fresh r tick) (n : Int) :
    r.enter tick (wrapSub tick base) n crc
      = ({ r with current := some ⟨tick, base, n, crc⟩, parts := [] }, ⟨tick, base, n, crc⟩) := by
  unfold Receiver.enter
  rw [wrapSub_wrapSub tick base hb]
  cases hcur : r.current with
  | some c => exact if_neg ((fresh_iff.mp hf).2 c hcur)
  | none => rfl

theorem step_oneMsg (hb : inI32 base) (r : Receiver) :
    r.step (oneMsg tick base crc data) =
      if ¬ r.canReceive tick then (r, .error .oldDelta, [])
      else ({ r with parts := [], current := none, previousTick := some tick },
         .ok (some (delivery tick base crc data)), r.dupWarn tick) := by
  unfold oneMsg delivery
  split <;> simp [Receiver.step, Receiver.snapEmpty, Receiver.snapSingle, wrapSub_wrapSub tick base hb, *]

theorem step_fresh_oneMsg (hb : inI32 base) (hf : Fresh r tick) :
    r.step (oneMsg tick base crc data)
      = ({ r with parts := [], current := none, previousTick := some tick },
         .ok (some (delivery tick base crc data)), []) := by
  rw [step_oneMsg hb, if_neg (by simp [hf.canReceive]), hf.dupWarn]

/-- Receiver state in the middle of the transfer; `seen i` says whether part `i` has arrived. -/
structure Mid (tick base crc : Int) (data : List UInt8) (seen : Nat → Prop) (r : Receiver) : Prop where
  cur : r.current = some (curOf tick base crc data)
  len : r.parts.length ≤ numParts data.length
  got : ∀ i, seen i → r.parts.getD i none = some (chunk data i)
  free : ∀ i, ¬ seen i → r.parts.getD i none = none

theorem Mid.contains (hm : Mid tick base crc data seen r) (hs : seen k) : r.parts.contains k = true := by
  unfold Parts.contains; rw [hm.got k hs]; rfl

theorem Mid.not_contains (hm : Mid tick base crc data seen r) (hs : ¬ seen k) :
    r.parts.contains k = false := by
  unfold Parts.contains; rw [hm.free k hs]; rfl

theorem Mid.congr {seen' : Nat → Prop}
    (hm : Mid tick base crc data seen r) (h : ∀ i, seen' i ↔ seen i) : Mid tick base crc data seen' r where
  cur := hm.cur
  len := hm.len
  got := fun i hi => hm.got i ((h i).mp hi)
  free := fun i hi => hm.free i (fun hs => hi ((h i).mpr hs))

theorem Mid.canReceive (hm : Mid tick base crc data seen r) : r.canReceive tick = true := by
  simp [Receiver.canReceive, hm.cur, curOf]

theorem Mid.newest (hm : Mid tick base crc data seen r) : r.newest = some tick := by
  simp [Receiver.newest, hm.cur, curOf]

theorem Mid.enter (hm : Mid tick base crc data seen r) :
    r.enter tick (wrapSub tick base) (numParts data.length : Nat) crc = (r, curOf tick base crc data) := by
  simp [Receiver.enter, hm.cur, curOf]

theorem Mid.insert (hm : Mid tick base crc data seen r) (hk : k < numParts data.length) :
    Mid tick base crc data (fun i => i = k ∨ seen i)
      { r with parts := r.parts.insert k (chunk data k) } where
  cur := hm.cur
  len := by
    have := hm.len
    simp only [Parts.length_insert]; omega
  got := fun i hi => by
    rw [Parts.getD_insert]
    split
    · next h => rw [h]
    · next h => exact hm.got i (hi.resolve_left h)
  free := fun i hi => by
    rw [Parts.getD_insert, if_neg fun e => hi (.inl e)]
    exact hm.free i fun h => hi (.inr h)

theorem Mid.count_iff (hm : Mid tick base crc data seen r) :
    r.parts.count = numParts data.length ↔ ∀ i, i < numParts data.length → seen i := by
  rw [Parts.count_eq_iff _ _ hm.len]
  refine forall₂_congr fun i _ => ⟨fun h => Classical.byContradiction fun hs => ?_, hm.contains⟩
  rw [hm.not_contains hs] at h
  cases h

theorem Mid.concat_all (hm : Mid tick base crc data seen r)
    (hall : ∀ i, i < numParts data.length → seen i) : r.parts.concat = data := by
  have hl : r.parts.length = numParts data.length := by
    have h1 := (hm.count_iff).mpr hall
    have h2 := r.parts.count_le
    have h3 := hm.len
    omega
  rw [Parts.concat_full r.parts _ (chunk data) hl (fun i hi => hm.got i (hall i hi))]
  exact flatten_all_chunks data

/-- the state right after the first part of a new transfer was accepted, minus that part -/
def startOf (tick base crc : Int) (data : List UInt8) (r : Receiver) : Receiver :=
  { r with current := some (curOf tick base crc data), parts := [] }

theorem startOf_mid : Mid tick base crc data (fun _ => False) (startOf tick base crc data r) where
  cur := rfl
  len := by simp [startOf]
  got := by intro i hi; exact hi.elim
  free := by intro i _; simp [startOf]

/-- `DeltaReceiver::snap` on part `k`, in a state in which `snap` continues with `r1` and the transfer's
`CurrentDelta`: `r1 = r` while the transfer is in progress, `r1 = startOf … r` when the part starts it. -/
theorem step_part_of_enter {r1 : Receiver} (hb : inI32 base) (hn : numParts data.length ≤ maxParts)
    (hk : k < numParts data.length) (hc : r.canReceive tick = true)
    (he : r.enter tick (wrapSub tick base) (numParts data.length : Nat) crc = (r1, curOf tick base crc data)) :
    r.step (partMsg tick base crc data k) =
      if r1.parts.contains k then (r1, .error .duplicatePart, [])
      else if (r1.parts.insert k (chunk data k)).count = numParts data.length then
        ({ r1 with parts := r1.parts.insert k (chunk data k), current := none, previousTick := some tick },
         .ok (some { deltaTick := base, tick := tick,
                     dataCrc := some ((r1.parts.insert k (chunk data k)).concat, crc) }), [])
      else ({ r1 with parts := r1.parts.insert k (chunk data k) }, .ok none, []) := by
  have h1 : ((numParts data.length : Nat) : Int) ≤ (maxParts : Nat) := by exact_mod_cast hn
  have h2 : ((k : Nat) : Int) < (numParts data.length : Nat) := by exact_mod_cast hk
  simp [Receiver.step, partMsg, Receiver.snap, hc, he, h1, h2, curOf, wrapSub_wrapSub tick base hb,
    Int.natCast_inj]

theorem Mid.step_part (hb : inI32 base) (hn : numParts data.length ≤ maxParts)
    (hm : Mid tick base crc data seen r) (hk : k < numParts data.length) :
    (seen k ∧ r.step (partMsg tick base crc data k) = (r, .error .duplicatePart, [])) ∨
    (¬ seen k ∧ (∀ i, i < numParts data.length → i = k ∨ seen i) ∧
      r.step (partMsg tick base crc data k) =
        ({ r with parts := r.parts.insert k (chunk data k), current := none, previousTick := some tick },
          .ok (some (delivery tick base crc data)), [])) ∨
    (¬ seen k ∧ (¬ ∀ i, i < numParts data.length → i = k ∨ seen i) ∧
      r.step (partMsg tick base crc data k) =
        ({ r with parts := r.parts.insert k (chunk data k) }, .ok none, [])) := by
  rw [step_part_of_enter hb hn hk hm.canReceive hm.enter]
  by_cases hs : seen k
  · exact .inl ⟨hs, if_pos (hm.contains hs)⟩
  rw [hm.not_contains hs, if_neg Bool.false_ne_true]
  by_cases hall : ∀ i, i < numParts data.length → i = k ∨ seen i
  · refine .inr (.inl ⟨hs, hall, ?_⟩)
    rw [if_pos ((hm.insert hk).count_iff.mpr hall), (hm.insert hk).concat_all hall, delivery_of_part hk]
  · exact .inr (.inr ⟨hs, hall, if_neg fun h => hall ((hm.insert hk).count_iff.mp h)⟩)

theorem step_fresh_part (hb : inI32 base) (hn : numParts data.length ≤ maxParts)
    (hk : k < numParts data.length) (hf : Fresh r tick) :
    r.step (partMsg tick base crc data k) = (startOf tick base crc data r).step (partMsg tick base crc data k) := by
  rw [step_part_of_enter hb hn hk hf.canReceive (hf.enter hb _),
    step_part_of_enter hb hn hk startOf_mid.canReceive startOf_mid.enter]
  rfl

end

end Tw.SnapXfer
