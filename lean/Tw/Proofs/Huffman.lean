import Tw.Model.Huffman

/-! Lemmas about the Huffman model (`Tw.Model.Huffman`): bit lists, packing, the bits a byte writer's state denotes
(`written`; `compress_of_written`: what `compress` returns once a writer has produced the whole stream), code and output
lengths, and what `WellFormed` says of a symbol and of an inner node. -/
namespace Tw.Huffman

theorem lt_two_pow_of_le {x a b : Nat} (h : x < 2 ^ a) (hab : a ≤ b) : x < 2 ^ b :=
  Nat.lt_of_lt_of_le h (Nat.pow_le_pow_right (by decide) hab)

theorem div_two_pow_lt {x a b : Nat} (h : x < 2 ^ (a + b)) : x / 2 ^ b < 2 ^ a := by
  rw [Nat.pow_add] at h
  exact Nat.div_lt_of_lt_mul (by rw [Nat.mul_comm]; exact h)

@[simp] theorem natBits_length (k n : Nat) : (natBits k n).length = k := by
  induction k generalizing n with
  | zero => simp [natBits]
  | succ k ih => simp [natBits, ih]

theorem bitsToNat_lt (bs : List Bool) : bitsToNat bs < 2 ^ bs.length := by
  induction bs with
  | nil => simp [bitsToNat]
  | cons b bs ih =>
    simp only [bitsToNat, List.length_cons, Nat.pow_succ]
    split <;> omega

theorem bitsToNat_append (p q : List Bool) :
    bitsToNat (p ++ q) = bitsToNat p + 2 ^ p.length * bitsToNat q := by
  induction p with
  | nil => simp [bitsToNat]
  | cons b p ih =>
    simp only [List.cons_append, bitsToNat, ih, List.length_cons, Nat.pow_succ]
    rw [Nat.mul_add, Nat.mul_comm (2 ^ p.length) 2, Nat.mul_assoc]
    omega

theorem bitsToNat_append_or (p q : List Bool) :
    bitsToNat (p ++ q) = bitsToNat p ||| (bitsToNat q <<< p.length) := by
  rw [Nat.or_comm, ← Nat.shiftLeft_add_eq_or_of_lt (bitsToNat_lt p), Nat.shiftLeft_eq,
    bitsToNat_append, Nat.add_comm, Nat.mul_comm]

theorem bitsToNat_snoc (p : List Bool) (b : Bool) :
    bitsToNat (p ++ [b]) = bitsToNat p + (if b then 2 ^ p.length else 0) := by
  rw [bitsToNat_append]
  cases b <;> simp [bitsToNat]

theorem natBits_zero (k : Nat) : natBits k 0 = List.replicate k false := by
  induction k with
  | zero => simp [natBits]
  | succ k ih => simp [natBits, ih, List.replicate_succ]

theorem natBits_bitsToNat (k : Nat) (bs : List Bool) (h : bs.length ≤ k) :
    natBits k (bitsToNat bs) = bs ++ List.replicate (k - bs.length) false := by
  induction bs generalizing k with
  | nil => simp [bitsToNat, natBits_zero]
  | cons b bs ih =>
    cases k with
    | zero => simp at h
    | succ k =>
      simp only [List.length_cons, Nat.succ_le_succ_iff] at h
      have h1 : ((if b then 1 else 0) + 2 * bitsToNat bs) / 2 = bitsToNat bs := by
        split <;> omega
      have h2 : (((if b then 1 else 0) + 2 * bitsToNat bs) % 2 == 1) = b := by
        cases b <;> simp <;> omega
      have h3 : k + 1 - (bs.length + 1) = k - bs.length := by omega
      simp only [bitsToNat, natBits, h1, h2, ih k h, List.length_cons, List.cons_append, h3]

theorem bitsToNat_natBits (k n : Nat) : bitsToNat (natBits k n) = n % 2 ^ k := by
  induction k generalizing n with
  | zero => simp [natBits, bitsToNat, Nat.mod_one]
  | succ k ih =>
    simp only [natBits, bitsToNat, ih, Nat.pow_succ]
    have : n % (2 ^ k * 2) = n % 2 + 2 * (n / 2 % 2 ^ k) := by
      rw [Nat.mul_comm, Nat.mod_mul]
    rw [this]
    rcases Nat.mod_two_eq_zero_or_one n with h | h <;> simp [h]

theorem bitsToNat_natBits_of_lt (k n : Nat) (h : n < 2 ^ k) : bitsToNat (natBits k n) = n := by
  rw [bitsToNat_natBits, Nat.mod_eq_of_lt h]

theorem natBits_add (a b v : Nat) : natBits (a + b) v = natBits a v ++ natBits b (v / 2 ^ a) := by
  induction a generalizing v with
  | zero => simp [natBits]
  | succ a ih =>
    have : a + 1 + b = (a + b) + 1 := by omega
    rw [this]
    simp only [natBits, ih, List.cons_append, Nat.div_div_eq_div_mul, Nat.pow_succ]
    rw [Nat.mul_comm 2 (2 ^ a)]

theorem natBits_self (L : List Bool) : natBits L.length (bitsToNat L) = L := by
  simpa using natBits_bitsToNat L.length L (Nat.le_refl _)

theorem natBits_mod (d m x : Nat) (h : d ≤ m) : natBits d (x % 2 ^ m) = natBits d x := by
  have h1 := natBits_self (natBits d (x % 2 ^ m))
  have h2 := natBits_self (natBits d x)
  rw [natBits_length, bitsToNat_natBits] at h1 h2
  have : x % 2 ^ m % 2 ^ d = x % 2 ^ d := Nat.mod_mod_of_dvd _ (Nat.pow_dvd_pow 2 h)
  rw [this] at h1
  rw [← h1, ← h2]

/-- `W` is put above the `n` bits of `V` (`Bits |= W << n`): its bits follow those of `V` -/
theorem natBits_or_shift (n V k W : Nat) (hV : V < 2 ^ n) (hW : W < 2 ^ k) :
    V ||| (W <<< n) < 2 ^ (n + k)
      ∧ natBits (n + k) (V ||| (W <<< n)) = natBits n V ++ natBits k W := by
  have hl : (natBits n V ++ natBits k W).length = n + k := by
    rw [List.length_append, natBits_length, natBits_length]
  have e : V ||| (W <<< n) = bitsToNat (natBits n V ++ natBits k W) := by
    rw [bitsToNat_append_or, bitsToNat_natBits_of_lt _ _ hV, bitsToNat_natBits_of_lt _ _ hW,
      natBits_length]
  rw [e, ← hl]
  exact ⟨bitsToNat_lt _, natBits_self _⟩

theorem byteBits_ofNat (n : Nat) (h : n < 256) : byteBits (UInt8.ofNat n) = natBits 8 n := by
  simp [byteBits, UInt8.toNat_ofNat', Nat.mod_eq_of_lt h]

theorem byteBits_val (b : UInt8) : bitsToNat (byteBits b) = b.toNat := by
  simp only [byteBits]
  exact bitsToNat_natBits_of_lt 8 _ b.toNat_lt

theorem packGo_pend (B : List Bool) (P : List Bool) :
    ∀ Q : List Bool, Q.length + P.length < 8 →
      packGo (P ++ B) Q.length (bitsToNat Q) = packGo B (Q.length + P.length) (bitsToNat (Q ++ P)) := by
  induction P with
  | nil => intro Q _; simp
  | cons p P ih =>
    intro Q h
    simp only [List.length_cons] at h
    have hk : ¬ Q.length ≥ 7 := by omega
    simp only [List.cons_append, packGo, hk, if_false]
    rw [← bitsToNat_snoc]
    have := ih (Q ++ [p]) (by simp; omega)
    simp only [List.length_append, List.length_cons, List.length_nil, List.append_assoc,
      List.cons_append, List.nil_append] at this
    rw [this]
    simp only [List.length_cons]
    congr 1
    omega

theorem packBits_pend (P B : List Bool) (h : P.length < 8) :
    packBits (P ++ B) = packGo B P.length (bitsToNat P) := by
  have := packGo_pend B P [] (by simpa using h)
  simpa [packBits, bitsToNat] using this

theorem packBits_chunk (c rest : List Bool) (h : c.length = 8) :
    packBits (c ++ rest) = UInt8.ofNat (bitsToNat c) :: packBits rest := by
  rcases List.eq_nil_or_concat c with rfl | ⟨c', l, rfl⟩
  · simp at h
  · simp only [List.concat_eq_append, List.length_append, List.length_cons, List.length_nil] at h ⊢
    have h7 : c'.length = 7 := by omega
    rw [List.append_assoc, packBits_pend c' _ (by omega), h7]
    simp only [List.cons_append, List.nil_append, packGo, ge_iff_le, Nat.le_refl, if_true]
    rw [bitsToNat_snoc, h7]
    rfl

theorem packBits_small (P : List Bool) (h0 : 0 < P.length) (h : P.length < 8) :
    packBits P = [UInt8.ofNat (bitsToNat P)] := by
  have := packBits_pend P [] h
  rw [List.append_nil] at this
  rw [this]
  simp only [packGo]
  rw [if_neg (by omega)]

theorem packBits_flush (P : List Bool) (h : P.length < 8) :
    packBits P ++ (if P.length = 0 then [0] else []) = [UInt8.ofNat (bitsToNat P)] := by
  rcases Nat.eq_zero_or_pos P.length with h0 | h0
  · rw [List.length_eq_zero_iff.mp h0]; rfl
  · rw [packBits_small P h0 h, if_neg (Nat.ne_of_gt h0), List.append_nil]

/-- the bits a writer has produced: the bytes `out` (latest first) and the low `n` bits of its
register `V` -/
def written (out : List UInt8) (n V : Nat) : List Bool :=
  out.reverse.flatMap byteBits ++ natBits n V

theorem written_length (out : List UInt8) (n V : Nat) :
    (written out n V).length = 8 * out.length + n := by
  have : ∀ l : List UInt8, (l.flatMap byteBits).length = 8 * l.length := by
    intro l
    induction l with
    | nil => rfl
    | cons b l ih =>
      rw [List.flatMap_cons, List.length_append, ih, List.length_cons, byteBits, natBits_length]
      omega
  rw [written, List.length_append, this, List.length_reverse, natBits_length]

theorem written_cons (out : List UInt8) (X : Nat) (hX : X < 256) (n V : Nat) :
    written (UInt8.ofNat X :: out) n V = written out 8 X ++ natBits n V := by
  simp only [written, List.reverse_cons, List.flatMap_append, List.flatMap_cons, List.flatMap_nil,
    List.append_nil, List.append_assoc]
  rw [byteBits_ofNat _ hX]

theorem written_byte (out : List UInt8) (n V : Nat) :
    written (UInt8.ofNat (V % 256) :: out) n (V / 256) = written out (8 + n) V := by
  rw [written_cons _ _ (Nat.mod_lt _ (by decide)), written, written, List.append_assoc,
    (natBits_mod 8 8 V (Nat.le_refl _) : natBits 8 (V % 256) = _), natBits_add]

theorem written_or_shift (out : List UInt8) (n V k W : Nat) (hV : V < 2 ^ n) (hW : W < 2 ^ k) :
    V ||| (W <<< n) < 2 ^ (n + k)
      ∧ written out (n + k) (V ||| (W <<< n)) = written out n V ++ natBits k W :=
  have ⟨hlt, hb⟩ := natBits_or_shift n V k W hV hW
  ⟨hlt, by rw [written, hb, written, List.append_assoc]⟩

theorem packBits_bytes_append (bs : List UInt8) (X : List Bool) :
    packBits (bs.flatMap byteBits ++ X) = bs ++ packBits X := by
  induction bs with
  | nil => rfl
  | cons b bs ih =>
    rw [List.flatMap_cons, List.append_assoc,
      packBits_chunk _ _ (show (byteBits b).length = 8 from natBits_length 8 _), ih, byteBits_val,
      UInt8.ofNat_toNat, List.cons_append]

theorem compress_of_written (t : Table) (bug : Bool) (xs out : List UInt8) (n V : Nat)
    (h : streamBits t xs = written out n V) (hn : n < 8) (hV : V < 2 ^ n) :
    compress t bug xs = out.reverse ++ (if n > 0 ∨ bug = true then [UInt8.ofNat V] else []) := by
  have hflush := packBits_flush (natBits n V) (by rw [natBits_length]; exact hn)
  rw [natBits_length, bitsToNat_natBits_of_lt _ _ hV] at hflush
  rw [compress]
  simp only [h, written_length, Nat.mul_add_mod, Nat.mod_eq_of_lt hn]
  rw [written, packBits_bytes_append, List.append_assoc, ← hflush]
  by_cases h0 : n = 0
  · cases bug <;> simp [h0, natBits, packBits, packGo]
  · simp [h0, Nat.pos_of_ne_zero h0]

theorem chunk_induction {motive : List Bool → Prop} (small : ∀ l, l.length < 8 → motive l)
    (chunk : ∀ c rest, c.length = 8 → motive rest → motive (c ++ rest)) (l : List Bool) :
    motive l := by
  have : ∀ n (l : List Bool), l.length ≤ n → motive l := by
    intro n
    induction n with
    | zero => intro l h; exact small l (by omega)
    | succ n ih =>
      intro l h
      by_cases h8 : l.length < 8
      · exact small l h8
      · rw [← List.take_append_drop 8 l]
        exact chunk _ _ (by simp; omega) (ih _ (by simp; omega))
  exact this _ l (Nat.le_refl _)

theorem packBits_length (bs : List Bool) : (packBits bs).length = (bs.length + 7) / 8 := by
  induction bs using chunk_induction with
  | small l h =>
    rcases Nat.eq_zero_or_pos l.length with h0 | h0
    · rw [List.length_eq_zero_iff.mp h0]; rfl
    · rw [packBits_small l h0 h, List.length_singleton]; omega
  | chunk c rest h ih =>
    rw [packBits_chunk c rest h, List.length_cons, ih, List.length_append, h]
    omega

theorem packBits_bits (bs : List Bool) :
    (packBits bs).flatMap byteBits = bs ++ List.replicate ((8 - bs.length % 8) % 8) false := by
  induction bs using chunk_induction with
  | small l h =>
    rcases Nat.eq_zero_or_pos l.length with h0 | h0
    · rw [List.length_eq_zero_iff.mp h0]; rfl
    · have hlt : bitsToNat l < 256 := lt_two_pow_of_le (b := 8) (bitsToNat_lt l) (Nat.le_of_lt h)
      rw [packBits_small l h0 h, List.flatMap_singleton, byteBits_ofNat _ hlt,
        natBits_bitsToNat 8 l (by omega), Nat.mod_eq_of_lt h,
        Nat.mod_eq_of_lt (Nat.sub_lt (by decide) h0)]
  | chunk c rest h ih =>
    have hlt := bitsToNat_lt c
    have hc : natBits 8 (bitsToNat c) = c := by rw [← h]; exact natBits_self c
    rw [h] at hlt
    rw [packBits_chunk c rest h, List.flatMap_cons, ih, byteBits_ofNat _ hlt, hc,
      List.length_append, h, List.append_assoc, Nat.add_mod_left]

theorem codeBits_length (t : Table) (s : Nat) : (codeBits t s).length = symLen t s := by
  simp [codeBits, codeBitsF, symLen]

theorem bitsToNat_codeBits (t : Table) (s : Nat) (h : symBits t s < 2 ^ symLen t s) :
    bitsToNat (codeBits t s) = symBits t s := by
  simp only [codeBits, codeBitsF, bitsToNat_natBits]
  exact Nat.mod_eq_of_lt h

theorem flatMap_codeBits_length (t : Table) (ss : List Nat) :
    (ss.flatMap (codeBits t)).length = (ss.map (symLen t)).sum := by
  induction ss with
  | nil => simp
  | cons s ss ih => simp [codeBits_length, ih]

theorem streamBits_length (t : Table) (xs : List UInt8) :
    (streamBits t xs).length = compressedBitLen t xs := by
  simp [streamBits, compressedBitLen, codeBits_length, Function.comp_def]

theorem compress_length_false (t : Table) (xs : List UInt8) :
    (compress t false xs).length = compressedLen t xs := by
  simp [compress, compressedLen, packBits_length, streamBits_length]

theorem compress_length_true (t : Table) (xs : List UInt8) :
    (compress t true xs).length = compressedLenBug t xs := by
  simp only [compress, compressedLenBug, List.length_append, packBits_length, streamBits_length,
    true_and]
  split <;> simp <;> omega

/-! `WellFormed t` is a sweep of the Boolean `okAt` over all 513 indices; the proofs read it through these lemmas. -/

theorem okAt_leaf (t : Table) {s : Nat} (hs : s < NUM_SYMBOLS) :
    okAt t s = true ↔ 0 < symLen t s ∧ symLen t s ≤ 24 ∧ symBits t s < 2 ^ symLen t s
      ∧ walk t ROOT_IDX (codeBits t s) = some s := by
  simp only [okAt, okAtF, hs, if_true, leafOkF, Bool.and_eq_true, decide_eq_true_eq, beq_iff_eq,
    and_assoc]
  rfl

theorem okAt_inner (t : Table) {i : Nat} (hi : NUM_SYMBOLS ≤ i) :
    okAt t i = true ↔ (node t i).1 < i ∧ (node t i).2 < i ∧ (node t i).1 ≠ (node t i).2 := by
  simp only [okAt, okAtF, Nat.not_lt.mpr hi, if_false, innerOkF, Bool.and_eq_true,
    decide_eq_true_eq, and_assoc]

theorem WellFormed.leaf {t : Table} (h : WellFormed t) {s : Nat} (hs : s < NUM_SYMBOLS) :
    0 < symLen t s ∧ symLen t s ≤ 24 ∧ symBits t s < 2 ^ symLen t s
      ∧ walk t ROOT_IDX (codeBits t s) = some s :=
  (okAt_leaf t hs).mp (h.2 s (Nat.lt_trans hs (by decide)))

theorem WellFormed.symLen_pos {t : Table} (h : WellFormed t) {s : Nat} (hs : s < NUM_SYMBOLS) :
    0 < symLen t s := (h.leaf hs).1

theorem WellFormed.symLen_le {t : Table} (h : WellFormed t) {s : Nat} (hs : s < NUM_SYMBOLS) :
    symLen t s ≤ 24 := (h.leaf hs).2.1

theorem WellFormed.symBits_lt {t : Table} (h : WellFormed t) {s : Nat} (hs : s < NUM_SYMBOLS) :
    symBits t s < 2 ^ symLen t s := (h.leaf hs).2.2.1

theorem WellFormed.walk_code {t : Table} (h : WellFormed t) {s : Nat} (hs : s < NUM_SYMBOLS) :
    walk t ROOT_IDX (codeBits t s) = some s := (h.leaf hs).2.2.2

/-- what `WellFormed` asks of the inner nodes, for a table of any size (`buildTree` keeps it while the table grows) -/
def InnerBelow (nodes : Table) : Prop :=
  ∀ i, NUM_SYMBOLS ≤ i → i < nodes.size →
    (node nodes i).1 < i ∧ (node nodes i).2 < i ∧ (node nodes i).1 ≠ (node nodes i).2

theorem InnerBelow.child_lt {N : Table} (h : InnerBelow N) {n : Nat} (hge : NUM_SYMBOLS ≤ n)
    (hn : n < N.size) (b : Bool) : child N n b < n := by
  have hch := h n hge hn
  cases b
  · exact hch.1
  · exact hch.2.1

theorem WellFormed.inner {t : Table} (h : WellFormed t) : InnerBelow t :=
  fun i h1 h2 => (okAt_inner t h1).mp (h.2 i (h.1 ▸ h2))

def Inner (nd : Nat) : Prop := NUM_SYMBOLS ≤ nd ∧ nd < NUM_NODES

theorem inner_root : Inner ROOT_IDX := by unfold Inner; decide

theorem WellFormed.child_lt {t : Table} (h : WellFormed t) {i : Nat} (hi : Inner i) (b : Bool) :
    child t i b < i :=
  h.inner.child_lt hi.1 (h.1 ▸ hi.2) b

theorem Inner.child {t : Table} (h : WellFormed t) {nd : Nat} (hi : Inner nd) {b : Bool}
    (hge : NUM_SYMBOLS ≤ child t nd b) : Inner (child t nd b) :=
  ⟨hge, Nat.lt_trans (h.child_lt hi b) hi.2⟩

theorem byte_lt_eof (x : UInt8) : x.toNat < EOF := x.toNat_lt

theorem stream_syms_lt (xs : List UInt8) : ∀ s ∈ xs.map (·.toNat) ++ [EOF], s < NUM_SYMBOLS := by
  intro s hs
  simp only [List.mem_append, List.mem_map, List.mem_singleton] at hs
  rcases hs with ⟨x, _, rfl⟩ | rfl
  · exact Nat.lt_succ_of_lt (byte_lt_eof x)
  · decide

theorem WellFormed.stream_codes {t : Table} (h : WellFormed t) (xs : List UInt8) :
    ∀ s ∈ xs.map (·.toNat) ++ [EOF], symLen t s ≤ 24 ∧ symBits t s < 2 ^ symLen t s :=
  fun s hs => ⟨h.symLen_le (stream_syms_lt xs s hs), h.symBits_lt (stream_syms_lt xs s hs)⟩

end Tw.Huffman
