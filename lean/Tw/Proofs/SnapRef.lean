import Tw.Proofs.SnapRaw

/-! C09: the delta the model of the bundled C++ reference produces (`CreateDelta`, on snapshots handed
to `CSnapshotBuilder` in ascending unsigned key order), read by the Rust side, is a `RefDelta`. -/
namespace Tw.Snap

/-- the items the reference lists in its delta: new items with their data, changed items with
their difference; unchanged items are omitted -/
def refChanged (from_ : Items) : Items → Items
  | [] => []
  | (k, d) :: r =>
    match mfind k from_ with
    | none => (k, d) :: refChanged from_ r
    | some f =>
      if (List.zipWith wrapSub d f).all (· == 0) then refChanged from_ r
      else (k, List.zipWith wrapSub d f) :: refChanged from_ r

theorem wrapSub_eq_zero {x y : Int} (hx : I32 x) (hy : I32 y) (h : wrapSub x y = 0) : x = y := by
  have h2 := wrap_emod (x - y)
  unfold I32 at hx hy; unfold wrapSub at h
  rw [h] at h2
  omega

theorem zip_sub_all_zero : ∀ (d f : List Int), d.length = f.length → (∀ x ∈ d, I32 x) → (∀ x ∈ f, I32 x) →
    (List.zipWith wrapSub d f).all (· == 0) = true → d = f := by
  intro d
  induction d with
  | nil => intro f hl _ _ _; cases f <;> simp_all
  | cons a d ih =>
    intro f hl hd hf h
    cases f with
    | nil => simp at hl
    | cons b f =>
      simp at hl h
      have := wrapSub_eq_zero (hd a (by simp)) (hf b (by simp)) h.1
      subst this
      congr 1
      apply ih f hl (fun x hx => hd x (by simp [hx])) (fun x hx => hf x (by simp [hx]))
      simpa using h.2

theorem refChanged_spec (from_ : Items) : ∀ (to : Items),
    (∀ p ∈ to, lenAgree (mfind p.1 from_) p.2.length = true) →
    (∀ p ∈ refChanged from_ to, ∃ d, (p.1, d) ∈ to ∧ createItemDelta (mfind p.1 from_) d = some p.2 ∧
        p.2.length = d.length) ∧
    List.Sublist ((refChanged from_ to).map Prod.fst) (to.map Prod.fst) ∧
    dataLen (refChanged from_ to) ≤ dataLen to ∧
    (∀ k d, (k, d) ∈ to → k ∉ (refChanged from_ to).map Prod.fst → (∀ x ∈ d, I32 x) →
        (∀ f, mfind k from_ = some f → ∀ x ∈ f, I32 x) → mfind k from_ = some d) := by
  intro to
  induction to with
  | nil => intro _; simp [refChanged, dataLen]
  | cons q r ih =>
    obtain ⟨k, d⟩ := q
    intro hag
    obtain ⟨h1, h2, h3, h4⟩ := ih (fun p hp => hag p (by simp [hp]))
    have hk := hag (k, d) (by simp)
    simp only [refChanged]
    cases hf : mfind k from_ with
    | none =>
      simp only
      refine ⟨?_, ?_, ?_, ?_⟩
      · intro p hp
        simp only [List.mem_cons] at hp
        rcases hp with rfl | hp
        · exact ⟨d, by simp, by simp [hf, createItemDelta], rfl⟩
        · obtain ⟨d', hd', hc⟩ := h1 p hp
          exact ⟨d', by simp [hd'], hc⟩
      · simp only [List.map_cons]; exact List.Sublist.cons_cons _ h2
      · simp only [dataLen_cons]; omega
      · intro k' d' hm hnk hI hfI
        simp only [List.mem_cons, Prod.mk.injEq] at hm
        rcases hm with ⟨e1, e2⟩ | hm
        · exfalso; apply hnk; simp [e1]
        · exact h4 k' d' hm (fun hmem => hnk (by simp [hmem])) hI hfI
    | some f =>
      simp only [hf, lenAgree] at hk
      simp at hk
      simp only
      split
      · rename_i hz
        refine ⟨?_, ?_, ?_, ?_⟩
        · intro p hp
          obtain ⟨d', hd', hc⟩ := h1 p hp
          exact ⟨d', by simp [hd'], hc⟩
        · simp only [List.map_cons]; exact List.Sublist.cons _ h2
        · simp only [dataLen_cons]; omega
        · intro k' d' hm hnk hI hfI
          simp only [List.mem_cons, Prod.mk.injEq] at hm
          rcases hm with ⟨e1, e2⟩ | hm
          · subst e1 e2
            rw [hf]
            congr 1
            exact (zip_sub_all_zero d' f hk.symm hI (hfI f hf) hz).symm
          · exact h4 k' d' hm hnk hI hfI
      · refine ⟨?_, ?_, ?_, ?_⟩
        · intro p hp
          simp only [List.mem_cons] at hp
          rcases hp with rfl | hp
          · refine ⟨d, by simp, ?_, by simp [hk]⟩
            simp only [hf, createItemDelta]
            have : ¬ f.length ≠ d.length := by omega
            simp [this]
          · obtain ⟨d', hd', hc⟩ := h1 p hp
            exact ⟨d', by simp [hd'], hc⟩
        · simp only [List.map_cons]; exact List.Sublist.cons_cons _ h2
        · simp only [dataLen_cons, List.length_zipWith]; omega
        · intro k' d' hm hnk hI hfI
          simp only [List.mem_cons, Prod.mk.injEq] at hm
          rcases hm with ⟨e1, e2⟩ | hm
          · exfalso; apply hnk; simp [e1]
          · exact h4 k' d' hm (fun hmem => hnk (by simp [hmem])) hI hfI

theorem refUpdates_eq (objSize : Nat → Option Nat) (from_ : Items) : ∀ (to : Items),
    (∀ p ∈ to, lenAgree (mfind p.1 from_) p.2.length = true) →
    refUpdates objSize from_ to = (updInts objSize (refChanged from_ to), (refChanged from_ to).length) := by
  intro to
  induction to with
  | nil => intro _; rfl
  | cons q r ih =>
    obtain ⟨k, d⟩ := q
    intro hag
    have hk := hag (k, d) (by simp)
    simp only [refChanged, refUpdates, ih fun p hp => hag p (by simp [hp])]
    cases hf : mfind k from_ with
    | none => simp [updInts]
    | some f =>
      simp only [hf, lenAgree, beq_iff_eq] at hk
      simp only
      split
      · rfl
      · simp [updInts, hk]

/-- C09, reference deltas: what `CSnapshotDelta::CreateDelta` writes for `a → b` (both given to the
reference builder in ascending unsigned key order; the empty output stands for the empty delta) is
read by `Delta::read_from_ints` without warning, and the delta read is a `RefDelta a b`. -/
theorem refCreateDelta_refDelta (objSize : Nat → Option Nat) {a b : RawSnap} (ha : a.WF) (hb : b.WF)
    (hag : SizesAgree a b) (hok : SizesOk objSize b.items) :
    ∃ d, readDelta objSize (.ints
        (if (refCreateDelta objSize (unsignedOrder a.items) (unsignedOrder b.items)).isEmpty then [0, 0, 0]
         else refCreateDelta objSize (unsignedOrder a.items) (unsignedOrder b.items))) = .ok (d, []) ∧
      RefDelta a b d := by
  have hla := (WF_limits ha).1
  obtain ⟨hlb, hzb⟩ := WF_limits hb
  obtain ⟨haS, haI, haN, haZ⟩ := ha
  obtain ⟨hbS, hbI, hbN, hbZ⟩ := hb
  have hagU : ∀ p ∈ unsignedOrder b.items, lenAgree (mfind p.1 (unsignedOrder a.items)) p.2.length = true := by
    intro p hp
    rw [mfind_unsignedOrder]
    exact hag p (mem_unsignedOrder.mp hp)
  have hokU : SizesOk objSize (unsignedOrder b.items) := fun p hp => hok p (mem_unsignedOrder.mp hp)
  obtain ⟨hc1, hc2, hc3, hc4⟩ := refChanged_spec (unsignedOrder a.items) (unsignedOrder b.items) hagU
  have hru := refUpdates_eq objSize (unsignedOrder a.items) (unsignedOrder b.items) hagU
  -- a listed item has the key and the length of an item of `b`
  have hokC : SizesOk objSize (refChanged (unsignedOrder a.items) (unsignedOrder b.items)) := fun p hp => by
    obtain ⟨d', hd', _, hl⟩ := hc1 p hp
    rw [hl]
    exact hokU _ hd'
  generalize hdel : ((unsignedOrder a.items).filter (fun p => (mfind p.1 (unsignedOrder b.items)).isNone)).map Prod.fst = del
  generalize hch : refChanged (unsignedOrder a.items) (unsignedOrder b.items) = ch at hru hokC hc1 hc2 hc3 hc4
  have hrd : (if (refCreateDelta objSize (unsignedOrder a.items) (unsignedOrder b.items)).isEmpty then [0, 0, 0]
         else refCreateDelta objSize (unsignedOrder a.items) (unsignedOrder b.items))
      = (del.length : Int) :: (ch.length : Int) :: 0 :: (del ++ updInts objSize ch) := by
    unfold refCreateDelta
    simp only [hdel, hru]
    by_cases he : del.isEmpty ∧ ch.length = 0
    · obtain ⟨e1, e2⟩ := he
      have e1' : del = [] := by simpa using e1
      have e2' : ch = [] := by simpa using e2
      simp [e1', e2', updInts]
    · simp only [he, if_false]
      simp
  rw [hrd]
  have hdelmem : ∀ x, x ∈ del ↔ ((mfind x a.items).isSome ∧ mfind x b.items = none) := by
    intro x
    rw [← hdel, mem_deletedKeys, mfind_unsignedOrder, mfind_unsignedOrder]
  have hdelnd : del.Nodup := by
    rw [← hdel]
    exact (nodup_keys_unsignedOrder haS).sublist (List.Sublist.map _ List.filter_sublist)
  have hdelI : ∀ k ∈ del, I32 k := by
    intro k hk
    rw [← hdel] at hk
    obtain ⟨p, hp, rfl⟩ := List.mem_map.mp hk
    exact (haI p (mem_unsignedOrder.mp (List.mem_filter.mp hp).1)).1
  have hdellen : del.length ≤ 1024 := by
    rw [← hdel, List.length_map]
    have := List.length_filter_le (fun p => (mfind p.1 (unsignedOrder b.items)).isNone) (unsignedOrder a.items)
    rw [unsignedOrder_length] at this
    omega
  obtain ⟨hks1, hks2, _⟩ := foldl_sinsert_spec del [] (by simp [SortedSet])
  have hchnd : (ch.map Prod.fst).Nodup := (nodup_keys_unsignedOrder hbS).sublist hc2
  have hchlen : ch.length ≤ 1024 := by
    have := hc2.length_le
    simp only [List.length_map, unsignedOrder_length] at this
    omega
  have hchdata : dataLen ch < 2147483648 := by
    rw [unsignedOrder_dataLen] at hc3
    omega
  have hchI : ∀ p ∈ ch, I32 p.1 ∧ (∀ x ∈ p.2, I32 x) ∧ p.1 ∉ del := by
    intro p hp
    obtain ⟨d', hd', hcd, _⟩ := hc1 p hp
    have hmb := mem_unsignedOrder.mp hd'
    refine ⟨(hbI _ hmb).1, ?_, ?_⟩
    · exact createItemDelta_I32 hcd (hbI _ hmb).2
    · intro hmem
      have := ((hdelmem p.1).mp hmem).2
      rw [mfind_of_mem hbS hmb] at this
      cases this
  obtain ⟨hus, huf⟩ := foldl_minsert_spec ch [] sorted_nil hchnd
  refine ⟨⟨del.foldl (fun a k => sinsert k a) [], ch.foldl (fun m p => minsert p.1 p.2 m) []⟩, ?_, ?_⟩
  · exact readDelta_enc false objSize hokC hdelI hdelnd (by omega) hchnd hchI (by omega) hchdata
  · refine ⟨?_, hus, ?_, ?_⟩
    · apply sortedSet_ext hks1
      · exact haS.filter _
      · intro x
        rw [hks2, hdelmem, mem_deletedKeys]
        simp
    · intro p hp
      obtain ⟨pk, pv⟩ := p
      have hp' : (pk, pv) ∈ ch.foldl (fun m p => minsert p.1 p.2 m) [] := hp
      have hfind := mfind_of_mem hus hp'
      rw [huf] at hfind
      simp only [mfind, Option.or_none] at hfind
      have hpm := mem_of_mfind hfind
      obtain ⟨d', hd', hcd, _⟩ := hc1 (pk, pv) hpm
      refine ⟨d', mfind_of_mem hbS (mem_unsignedOrder.mp hd'), ?_⟩
      rw [← mfind_unsignedOrder]; exact hcd
    · intro p hp hnone
      show mfind p.1 a.items = some p.2
      rw [huf] at hnone
      simp only [mfind, Option.or_none] at hnone
      rw [mfind_eq_none_iff] at hnone
      have := hc4 p.1 p.2 (mem_unsignedOrder.mpr (by obtain ⟨pk, pv⟩ := p; exact hp)) hnone (hbI p hp).2
        (by
          intro f hf
          rw [mfind_unsignedOrder] at hf
          exact (haI _ (mem_of_mfind hf)).2)
      rw [← mfind_unsignedOrder]; exact this
end Tw.Snap
