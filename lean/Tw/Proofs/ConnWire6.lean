import Tw.Model.Conn6
import Tw.Model.Packet6
import Tw.Proofs.Packet6Spec
import Tw.Proofs.Packet6Chunks
import Tw.Proofs.Conn6
import Tw.Proofs.ConnSeq

/-!
# C04 ∘ C05 (0.6): the structured packets the connection model emits, on the byte level

`Wire6.encChunk` is the byte form of one chunk as `protocol::write_chunk` produces it (the packet
model's `Packet6.writeChunk` appends exactly these bytes: `Props/C04.conn6_write_chunk_bytes`), `toWire` maps a
structured connection-layer packet to the packet model's packet (chunk list ↦ payload bytes).  For
every packet that is `valid` and `seqOk` (what `Props/C04` proves of everything sent), `toWire p` meets the
precondition of the packet model's write → read round trip (`toWire_valid`; C05 is applied to it in `Props/C04`),
and the chunk iterator over the payload yields exactly the queued chunks — bit-identical payloads, as many as the
header count says — without a warning (`drain_encChunks`).
-/
namespace Tw.Wire6
open Tw.Packet Tw.Packet6

/-- chunk flags byte value: `CHUNKFLAG_VITAL | CHUNKFLAG_RESEND` -/
def flagsOf : Option (Nat × Bool) → Nat
  | none => 0
  | some (_, false) => 1
  | some (_, true) => 3

def encHeader (len : Nat) : Option (Nat × Bool) → List UInt8
  | none => ofNat2 (len / 16, len % 16)
  | some (s, r) =>
    ofNat3 (flagsOf (some (s, r)) * 64 + len / 16, s / 256 * 64 + s / 64 % 4 * 16 + len % 16, s % 256)

def encChunk (c : Tw.Conn.Chunk) : List UInt8 := encHeader c.data.length c.vital ++ c.data

def encChunks : List Tw.Conn.Chunk → List UInt8
  | [] => []
  | c :: cs => encChunk c ++ encChunks cs

theorem encHeader_length (len : Nat) (v : Option (Nat × Bool)) :
    (encHeader len v).length = Tw.Conn.chunkHeaderSize v.isSome := by
  cases v with
  | none => rfl
  | some x => obtain ⟨s, r⟩ := x; rfl

theorem encChunk_length (c : Tw.Conn.Chunk) : (encChunk c).length = c.size := by
  simp [encChunk, encHeader_length, Tw.Conn.Chunk.size]

theorem encChunks_length (cs : List Tw.Conn.Chunk) : (encChunks cs).length = Tw.Conn.chunksSize cs := by
  induction cs with
  | nil => rfl
  | cons c cs ih => simp [encChunks, Tw.Conn.chunksSize, encChunk_length, ih]

theorem encHeader_eq (d : List UInt8) (v : Option (Nat × Bool)) : encHeader d.length v = chunkHdr d v := by
  cases v with
  | none => rfl
  | some x =>
    obtain ⟨s, r⟩ := x
    cases r <;>
      simp [encHeader, chunkHdr, flagsOf, chunkFlagsOf, Tw.Gen.Packet6.CHUNKFLAG_VITAL, Tw.Gen.Packet6.CHUNKFLAG_RESEND]

def ChunkEnc (c : Tw.Conn.Chunk) : Prop := c.data.length < 1024 ∧ ∀ s r, c.vital = some (s, r) → s < 1024

def proj (ch : Tw.Packet.Chunk) : List UInt8 × Option (Nat × Bool) := (ch.data, ch.vital)
def projC (c : Tw.Conn.Chunk) : List UInt8 × Option (Nat × Bool) := (c.data, c.vital)

theorem encChunks_eq (cs : List Tw.Conn.Chunk) : encChunks cs = encodeChunks chunkHdr (cs.map projC) := by
  induction cs with
  | nil => rfl
  | cons c cs ih => simp [encChunks, encChunk, encodeChunks, projC, encHeader_eq, ih] at *

/-- `ChunksIter::new(payload, num_chunks)` drained: the queued chunks (same payload bytes, same vital /
sequence / resend information), no warning -/
theorem drain_encChunks (cs : List Tw.Conn.Chunk) (hcs : ∀ c ∈ cs, ChunkEnc c) :
    ∃ chs it', Iter.drain codec (Iter.new (encChunks cs) cs.length) = (chs, [], it', false) ∧
      chs.map proj = cs.map projC := by
  obtain ⟨h1, h2, h3⟩ := Iter.drain_encoded codec chunkHdr ChunkOk chunkEnc (cs.map projC)
    (fun x hx => by obtain ⟨c, hc, rfl⟩ := List.mem_map.mp hx; exact hcs c hc)
    (Iter.new (encChunks cs) cs.length) (encChunks_eq cs) (by simp [Iter.new]) rfl _ (Nat.lt_succ_self _)
  generalize hr : Iter.drainFuel codec _ (Iter.new (encChunks cs) cs.length) = r at h1 h2 h3
  obtain ⟨chs, ws, it', b⟩ := r
  cases h2
  cases h3
  exact ⟨chs, it', hr, h1⟩

def tok (n : Nat) : Token :=
  ⟨UInt8.ofNat (n / 2 ^ 24), UInt8.ofNat (n / 2 ^ 16), UInt8.ofNat (n / 2 ^ 8), UInt8.ofNat n⟩

def ctl : Tw.Conn6.Control → Packet6.Control
  | .keepAlive => .keepAlive
  | .connect => .connect
  | .connectAccept => .connectAccept
  | .accept => .accept
  | .close r => .close r

def toWire : Tw.Conn6.Packet → Packet6.Packet
  | .connless d => .connless d
  | .control ack t c => .connected ack (t.map tok) (.control (ctl c))
  | .chunks ack t rr n cs => .connected ack (t.map tok) (.chunks rr n (encChunks cs))

theorem toWire_valid (p : Tw.Conn6.Packet) (hv : p.valid = true) (hs : p.seqOk) :
    Packet6.Valid (toWire p) ∧ Packet6.expectedWarnings (toWire p) = [] := by
  cases p with
  | connless d =>
    simp only [Tw.Conn6.Packet.valid, decide_eq_true_eq] at hv
    have e : Tw.Gen.Conn.P6.connlessMax = Tw.Gen.Packet6.CONNLESS_WRITE_LIMIT := rfl
    rw [e] at hv
    exact ⟨hv, rfl⟩
  | control ack t c =>
    have ha : ack < 1024 := hs
    cases c with
    | close r =>
      simp only [Tw.Conn6.Packet.valid, Bool.and_eq_true, decide_eq_true_eq, List.all_eq_true] at hv
      refine ⟨⟨ha, hv.2.1, ?_⟩, rfl⟩
      intro b hb; simpa using hv.2.2 b hb
    | _ => exact ⟨ha, rfl⟩
  | chunks ack t rr n cs =>
    have hw := Tw.Conn6.valid_wire hv
    simp only [Tw.Conn6.Packet.valid, Bool.and_eq_true, decide_eq_true_eq, Bool.or_eq_true] at hv
    obtain ⟨⟨⟨⟨_, hn⟩, hcnt⟩, _⟩, hne⟩ := hv
    refine ⟨⟨hs.1, ?_, ?_⟩, ?_⟩
    · rw [hn]; have := Tw.Conn.maxNumChunks_eq; omega
    · simp only [encChunks_length]
      simp only [Tw.Conn6.Packet.wireSize, Tw.Conn.maxPacketSize_eq] at hw
      have h1 : Tw.Gen.Conn.P6.HEADER_SIZE = 3 := rfl
      have h2 : Tw.Gen.Conn.P6.TOKEN_SIZE = 4 := rfl
      have h3 : Tw.Gen.Packet6.TOKEN_SIZE = 4 := rfl
      have h4 : Tw.Gen.Packet6.READ_PAYLOAD_LIMIT = 1397 := rfl
      cases t <;> simp [h1, h2, h3, h4] at hw ⊢ <;> omega
    · simp only [toWire, Packet6.expectedWarnings]
      cases rr with
      | true => rfl
      | false =>
        cases n with
        | zero => rcases hne with hne | hne <;> simp at hne
        | succ n => rfl

theorem chunkEnc_of_valid {ack : Nat} {t : Option Nat} {rr : Bool} {n : Nat} {cs : List Tw.Conn.Chunk}
    (hv : (Tw.Conn6.Packet.chunks ack t rr n cs).valid = true) (hs : (Tw.Conn6.Packet.chunks ack t rr n cs).seqOk) :
    ∀ c ∈ cs, ChunkEnc c := by
  intro c hc
  simp only [Tw.Conn6.Packet.valid, Bool.and_eq_true, decide_eq_true_eq, List.all_eq_true] at hv
  exact ⟨Tw.Conn6.cfg_ok _ (hv.1.2 c hc), fun s r hvv => hs.2 c hc s r hvv⟩

end Tw.Wire6
