import Tw.Model.PacketCommon

/-! The chunk iterator: it stays inside the payload, every call either ends or strictly shortens the
remaining data (so `drain`'s fuel suffices), and the chunks it returns are located where it says. -/
namespace Tw.Packet

/-- what the iterator lemmas need to know about a protocol's `read_chunk_header` -/
structure ChunkCodec.Sane (c : ChunkCodec) : Prop where
  hs : 0 < c.headerSize
  hv : 0 < c.headerSizeVital
  hlen : ∀ data h seq ws, c.readHeader data = some (h, seq, ws) → c.hdrLen seq.isSome ≤ data.length

/-- the iterator state describes a suffix of `payload` -/
structure Iter.Inv (payload : List UInt8) (it : Iter) : Prop where
  hi : it.initialLen = payload.length
  hle : it.data.length ≤ payload.length
  hd : it.data = payload.drop (payload.length - it.data.length)

theorem Iter.inv_new (payload : List UInt8) (nc : Nat) : (Iter.new payload nc).Inv payload :=
  ⟨rfl, Nat.le_refl _, by simp [Iter.new]⟩

def Chunk.Located (payload : List UInt8) (ch : Chunk) : Prop :=
  ch.off + ch.data.length ≤ payload.length ∧ (payload.drop ch.off).take ch.data.length = ch.data

theorem hdrLen_pos (c : ChunkCodec) (hc : c.Sane) (v : Bool) : 0 < c.hdrLen v := by
  unfold ChunkCodec.hdrLen
  cases v
  · exact hc.hs
  · exact hc.hv

theorem Iter.next_none {c : ChunkCodec} {payload : List UInt8} {it : Iter} (hinv : it.Inv payload)
    {ws : List Warning} {it' : Iter} (h : it.next c = (none, ws, it')) :
    it'.Inv payload ∧ it'.data = [] := by
  obtain ⟨hi, hle, hd⟩ := hinv
  unfold Iter.next at h
  split at h
  · rename_i hdat
    split at h
    · simp only [Prod.mk.injEq, true_and] at h
      obtain ⟨_, rfl⟩ := h
      exact ⟨⟨hi, hle, hd⟩, hdat⟩
    · simp only [Prod.mk.injEq, true_and] at h
      obtain ⟨_, rfl⟩ := h
      exact ⟨⟨hi, hle, hd⟩, hdat⟩
  · split at h
    · simp only [Prod.mk.injEq, true_and] at h
      obtain ⟨_, rfl⟩ := h
      exact ⟨⟨hi, by simp, by simp⟩, rfl⟩
    · dsimp only at h
      split at h
      · simp only [Prod.mk.injEq, true_and] at h
        obtain ⟨_, rfl⟩ := h
        exact ⟨⟨hi, by simp, by simp⟩, rfl⟩
      · simp at h

theorem Iter.next_some {c : ChunkCodec} (hc : c.Sane) {payload : List UInt8} {it : Iter}
    (hinv : it.Inv payload) {ch : Chunk} {ws : List Warning} {it' : Iter}
    (hn : it.next c = (some ch, ws, it')) :
    it'.Inv payload ∧ it'.data.length < it.data.length ∧ ch.Located payload := by
  obtain ⟨data, il, nr, ck⟩ := it
  obtain ⟨hi, hle, hd⟩ := hinv
  -- the remaining data is `payload.drop k`
  simp only at hi hle hd
  generalize hk : payload.length - data.length = k at hd
  subst hd hi
  simp only [List.length_drop] at hk
  unfold Iter.next at hn
  split at hn
  · split at hn <;> cases hn
  · split at hn
    · cases hn
    · rename_i h seq ws' hrh
      have hl := hc.hlen _ h seq ws' hrh
      have hpos := hdrLen_pos c hc seq.isSome
      dsimp only at hn hl hrh
      generalize c.hdrLen seq.isSome = a at hn hl hpos
      split at hn
      · cases hn
      · rename_i hsz
        cases hn
        simp only [List.length_drop] at hsz hl
        refine ⟨⟨rfl, ?_, ?_⟩, ?_, ?_, ?_⟩
        · simp only [List.length_drop]; omega
        · simp only [List.drop_drop, List.length_drop]
          congr 1
          omega
        · simp only [List.length_drop]; omega
        · simp only [Iter.pos, List.length_take, List.length_drop]; omega
        · simp only [Iter.pos, List.length_take, List.length_drop, List.drop_drop]
          congr 1
          · omega
          · congr 1
            omega

/-- `.2.2.2` is `fuelOut`: with more fuel than remaining bytes the drain ends by itself. -/
theorem Iter.drainFuel_spec (c : ChunkCodec) (hc : c.Sane) (payload : List UInt8) :
    ∀ (fuel : Nat) (it : Iter), it.Inv payload → it.data.length < fuel →
      (∀ ch ∈ (Iter.drainFuel c fuel it).1, ch.Located payload) ∧
      (Iter.drainFuel c fuel it).2.2.2 = false ∧
      (Iter.drainFuel c fuel it).2.2.1.data = [] := by
  intro fuel
  induction fuel with
  | zero => intro it _ h; omega
  | succ n ih =>
    intro it hinv hlt
    unfold Iter.drainFuel
    match hnx : it.next c with
    | (none, ws, it') =>
      simp only
      exact ⟨by simp, trivial, (Iter.next_none hinv hnx).2⟩
    | (some ch, ws, it') =>
      simp only
      obtain ⟨hinv', hshort, hloc⟩ := Iter.next_some hc hinv hnx
      obtain ⟨h1, h2, h3⟩ := ih it' hinv' (by omega)
      refine ⟨?_, h2, h3⟩
      intro x hx
      simp only [List.mem_cons] at hx
      rcases hx with rfl | hx
      · exact hloc
      · exact h1 x hx

theorem Iter.drain_spec (c : ChunkCodec) (hc : c.Sane) (payload : List UInt8) (nc : Nat) :
    (∀ ch ∈ ((Iter.new payload nc).drain c).1, ch.Located payload) ∧
    ((Iter.new payload nc).drain c).2.2.2 = false :=
  let h := Iter.drainFuel_spec c hc payload _ (Iter.new payload nc) (Iter.inv_new payload nc) (Nat.lt_succ_self _)
  ⟨h.1, h.2.1⟩

end Tw.Packet
