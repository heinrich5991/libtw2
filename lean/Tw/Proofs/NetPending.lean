import Tw.Proofs.NetPeers

/-! A peer between `Connect(pid)` and the application's decision: its connection answers the canned
packet of `accept` whatever arrived in between, and until then nothing is sent to the client. -/
namespace Tw.Net
open Tw.Conn Tw.Conn6 Tw.Time

theorem tickAction_pending (env : Env) (t : Option Nat) (sd : Timeout) :
    tickAction env ⟨.pending t, sd⟩ =
      .ok (⟨.pending t, Timeout.after env.now sendUs⟩, { sent := [.control 0 t .connectAccept] }) := by
  cases t <;> rfl

theorem feed_canned_unconnected (env : Env) (c : Conn6.Conn) (hc : c.state = .unconnected) (tok : Bool)
    (hd : tok = true → tokenRandom env.draws ≠ none) :
    Conn6.feed env c (fun _ => some (connectPacket tok)) =
      .ok (⟨.pending (if tok then tokenRandom env.draws else none), Timeout.after env.now sendUs⟩,
        { sent := [.control 0 (if tok then tokenRandom env.draws else none) .connectAccept] }) := by
  obtain ⟨st, sd⟩ := c
  cases hc
  cases tok with
  | false => exact tickAction_pending env none sd
  | true =>
    cases hr : tokenRandom env.draws with
    | none => exact absurd hr (hd rfl)
    | some nt =>
      -- the canned packet carries `TOKEN_NONE`: the connection draws its own token and answers
      have : Conn6.feed env ⟨.unconnected, sd⟩ (fun _ => some (connectPacket true)) =
          match tokenRandom env.draws with
          | none => .error (.panic "secure_random: source exhausted")
          | some nt => tickAction env ⟨.pending (some nt), sd⟩ := rfl
      rw [this, hr]
      exact tickAction_pending env _ sd

theorem tick_fresh (env : Env) : Conn6.tick env Conn6.Conn.new = .ok (Conn6.Conn.new, {}) := rfl

theorem pending_silent_on_tick {env : Env} {net net' : Net} {r : Ret} {o : Out} {a pid : Nat} {tok : Bool}
    (hi : PInv net.peers) (hs : slot net.peers a = some (pid, Peer.new a tok))
    (h : tick env net = .ok (net', r, o)) :
    slot net'.peers a = some (pid, Peer.new a tok) ∧ o.for a = {} := by
  have := tick_sim (env := env) hi
  rw [h] at this
  obtain ⟨_, h3⟩ := this
  have := h3 a
  simp only [hs, refStep_tick_some, Peer.new, tick_fresh] at this
  simp only [Except.ok.injEq, Prod.mk.injEq] at this
  refine ⟨by rw [← this.1]; rfl, by rw [← this.2.2]; simp⟩

theorem pending_step {env : Env} {net net' : Net} {op : Op} {r : Ret} {o : Out} {a pid : Nat} {tok : Bool}
    (hi : PInv net.peers) (hok : opOk net op = true)
    (hs : slot net.peers a = some (pid, Peer.new a tok)) (hq : quietFor a pid op = true)
    (h : step env net op = .ok (net', r, o)) :
    slot net'.peers a = some (pid, Peer.new a tok) ∧ (o.for a).sent = [] := by
  have hst := (step_sim hi hok h).perAddr a
  cases hp : projOp net a op with
  | none =>
    have hst := hst.of_none hp
    rw [hst.1, hst.2]
    exact ⟨hs, rfl⟩
  | some lop =>
    have hst := hst.of_some hp
    rw [hs] at hst
    -- of the calls that concern `a`, only a datagram from `a` and a tick are quiet for it
    cases op with
    | feed addr rd =>
      obtain ⟨rfl, hl⟩ := Option.ite_none_right_eq_some.1 hp
      cases hl
      rw [refStep_dgram_some, if_pos (show (Peer.new addr tok).conn.state = .unconnected from rfl)] at hst
      obtain ⟨hsent, _, hslot⟩ := refStateless_ok hst
      exact ⟨hslot.elim id (fun hf => nomatch hf.1), hsent⟩
    | connect addr =>
      cases (Option.ite_none_right_eq_some.1 hp).2
      cases hst
    | sendConnless addr d => exact absurd (Option.ite_none_right_eq_some.1 hp).1 (bne_iff_ne.1 hq)
    | tick =>
      have := pending_silent_on_tick hi hs h
      exact ⟨this.1, by rw [this.2]⟩
    | accept p | reject p x | disconnect p x | ignore p | send p x y | flush p =>
      exact absurd (pid_of_addrOf hi hs (Option.ite_none_right_eq_some.1 hp).1) (bne_iff_ne.1 hq)

theorem pending_run (a pid : Nat) (tok : Bool) (h : History) : ∀ (net net' : Net) (outs : List (Ret × Out)),
    PInv net.peers → histOk net h = true → slot net.peers a = some (pid, Peer.new a tok) →
    (∀ x ∈ h, quietFor a pid x.2 = true) → run net h = .ok (net', outs) →
    slot net'.peers a = some (pid, Peer.new a tok) ∧ ∀ ro ∈ outs, (ro.2.for a).sent = [] := by
  induction h with
  | nil =>
    intro net net' outs _ _ hs _ hr
    cases hr
    exact ⟨hs, by simp⟩
  | cons x xs ih =>
    obtain ⟨env, op⟩ := x
    intro net net' outs hi hok hs hq hr
    obtain ⟨net1, r, o, outs1, hst, hrest, rfl⟩ := run_cons_ok hr
    obtain ⟨hok1, hok2⟩ := histOk_cons hok hst
    have hstep := pending_step hi hok1 hs (hq (env, op) (by simp)) hst
    have := ih net1 net' outs1 (step_sim hi hok1 hst).inv hok2 hstep.1
      (fun y hy => hq y (List.mem_cons_of_mem _ hy)) hrest
    refine ⟨this.1, fun ro hro => ?_⟩
    rcases List.mem_cons.1 hro with rfl | hro
    · exact hstep.2
    · exact this.2 ro hro

end Tw.Net
