import Tw.Model.ServerBrowse
import Tw.Model.ServerBrowseEnc
import Tw.Proofs.Packer
import Tw.Proofs.ServerBrowse
import Tw.Proofs.ServerBrowseMerge

/-! The round trip `parse (encode x) = x` through the reference encoder of `Model/ServerBrowseEnc.lean`
(what a well-behaved server puts on the wire), for all seven info kinds.  The encoder is
specification-level: the library has no writer for these packets.  At the end, soundness of the
model's executable checkers (`*B_sound`) and, through them, encodability of every family that passes. -/
namespace Tw.ServerBrowse
open Tw.Gen.Browse
open Tw.Packer (readString readInt writeInt inI32 inI32_natCast)

theorem readString_putStr (s rest : List UInt8) (h : ∀ b ∈ s, b ≠ 0) :
    readString (putStr s rest) = some (s, rest) :=
  Tw.Packer.readString_append s (Tw.Packer.any_nul_eq_false h) rest

structure GoodStr (cap : Nat) (s : List UInt8) : Prop where
  noNul : ∀ b ∈ s, b ≠ 0
  utf8 : utf8Valid s = true
  fits : s.length ≤ cap

theorem readStr_putStr {cap : Nat} {s : List UInt8} (h : GoodStr cap s) (rest : List UInt8) :
    readStr (putStr s rest) = some (s, rest) := by
  unfold readStr
  rw [readString_putStr s rest h.noNul]
  simp [h.utf8]

theorem truncated_good {cap : Nat} {s : List UInt8} (h : GoodStr cap s) : truncated cap s = s := by
  unfold truncated; simp [h.fits]

theorem goodStr_nil (cap : Nat) : GoodStr cap [] := ⟨by simp, rfl, by simp⟩

theorem utf8Valid_ascii : ∀ (s : List UInt8), (∀ b ∈ s, b.toNat < 128) → utf8Valid s = true
  | [], _ => rfl
  | b :: s, h => by
    unfold utf8Valid
    have := h b List.mem_cons_self
    simp [this, utf8Valid_ascii s (fun x hx => h x (List.mem_cons_of_mem _ hx))]

theorem digit_toNat (n : Nat) : (digit n).toNat = 48 + n % 10 := by
  unfold digit
  rw [UInt8.toNat_ofNat']
  omega

theorem digitsVal_append : ∀ (l r : List UInt8) (acc : Nat),
    digitsVal (l ++ r) acc = (digitsVal l acc).bind (digitsVal r)
  | [], r, acc => by simp [digitsVal]
  | b :: l, r, acc => by
    simp only [List.cons_append, digitsVal]
    split
    · exact digitsVal_append l r _
    · rfl

theorem digitsVal_digit (n acc : Nat) : digitsVal [digit n] acc = some (acc * 10 + n % 10) := by
  have h1 : 48 ≤ 48 + n % 10 := by omega
  have h2 : 48 + n % 10 ≤ 57 := by omega
  simp [digitsVal, isDigit, digit_toNat, h2]

theorem natDigits_spec : ∀ (f n : Nat), n < f →
    digitsVal (natDigits f n) 0 = some n ∧ natDigits f n ≠ [] ∧ ∀ b ∈ natDigits f n, 48 ≤ b.toNat ∧ b.toNat ≤ 57
  | 0, n, h => by omega
  | f + 1, n, h => by
    have hd : ∀ b ∈ [digit n], 48 ≤ b.toNat ∧ b.toNat ≤ 57 := fun b hb => by
      rw [List.mem_singleton.1 hb, digit_toNat]; omega
    unfold natDigits
    by_cases h10 : n < 10
    · rw [if_pos h10]
      exact ⟨by rw [digitsVal_digit, Nat.zero_mul, Nat.zero_add, Nat.mod_eq_of_lt h10], List.cons_ne_nil _ _, hd⟩
    · rw [if_neg h10]
      obtain ⟨ih1, -, ih3⟩ := natDigits_spec f (n / 10) (by omega)
      refine ⟨?_, List.append_ne_nil_of_right_ne_nil _ (List.cons_ne_nil _ _),
        fun b hb => (List.mem_append.1 hb).elim (ih3 b) (hd b)⟩
      rw [digitsVal_append, ih1, Option.bind_some, digitsVal_digit, Nat.div_add_mod']

theorem decimal_bytes (v : Int) : ∀ b ∈ decimal v, b.toNat < 128 ∧ b ≠ 0 := by
  intro b hb
  unfold decimal at hb
  have key : ∀ f n, n < f → ∀ b ∈ natDigits f n, b.toNat < 128 ∧ b ≠ 0 := by
    intro f n h b hb
    have := (natDigits_spec f n h).2.2 b hb
    refine ⟨by omega, ?_⟩
    intro e; rw [e] at this; simp at this
  split at hb
  · rcases List.mem_cons.1 hb with rfl | hb
    · exact ⟨by decide, by decide⟩
    · exact key _ _ (by omega) b hb
  · exact key _ _ (by omega) b hb

theorem parseI32_minus {d : List UInt8} {v : Nat} (hne : d ≠ []) (hv : digitsVal d 0 = some v) (hle : v ≤ 2 ^ 31) :
    parseI32 (45 :: d) = some (-(v : Int)) := by
  cases d with
  | nil => exact absurd rfl hne
  | cons c t =>
    simp only [parseI32, show (45 : UInt8).toNat = 45 from rfl, if_true, List.isEmpty_cons, Bool.false_eq_true,
      if_false, hv, hle]

theorem parseI32_digits {d : List UInt8} {v : Nat} (hne : d ≠ []) (hd : ∀ b ∈ d, 48 ≤ b.toNat ∧ b.toNat ≤ 57)
    (hv : digitsVal d 0 = some v) (hlt : v < 2 ^ 31) : parseI32 d = some (v : Int) := by
  cases d with
  | nil => exact absurd rfl hne
  | cons c t =>
    have hc := hd c List.mem_cons_self
    simp only [parseI32, show ¬ c.toNat = 45 by omega, show ¬ c.toNat = 43 by omega, if_false, List.isEmpty_cons,
      Bool.false_eq_true, hv, hlt, if_true]

theorem parseI32_decimal (v : Int) (h : inI32 v) : parseI32 (decimal v) = some v := by
  obtain ⟨hlo, hhi⟩ := h
  unfold decimal
  by_cases hneg : v < 0
  · have sp := natDigits_spec (v.natAbs + 1) v.natAbs (by omega)
    rw [if_pos hneg, parseI32_minus sp.2.1 sp.1 (by omega)]
    congr 1; omega
  · have sp := natDigits_spec (v.toNat + 1) v.toNat (by omega)
    rw [if_neg hneg, parseI32_digits sp.2.1 sp.2.2 sp.1 (by omega)]
    congr 1; omega

theorem readIntV5_decimal (v : Int) (h : inI32 v) (rest : List UInt8) :
    readIntV5 (putStr (decimal v) rest) = some (v, rest) := by
  unfold readIntV5
  rw [readString_putStr _ _ (fun b hb => (decimal_bytes v b hb).2)]
  simp [utf8Valid_ascii _ (fun b hb => (decimal_bytes v b hb).1), parseI32_decimal v h]

theorem reader_putInt (k : InfoKind) (v : Int) (h : inI32 v) (rest : List UInt8) :
    k.reader (putInt k v rest) = some (v, rest) := by
  cases k <;> first
    | exact readIntV5_decimal v h rest
    | (show readIntV7 (writeInt v ++ rest) = some (v, rest)
       unfold readIntV7
       rw [Tw.Packer.readInt_writeInt v h rest])

/-! ### a field at a time

Reader and encoder both go through the fields in wire order, so the round trip is proved one field
at a time: the reader's next step applied to the encoder's output yields the field and the rest of
the output, and the steps are chained by the two lemmas below (`bind_of_eq` for `readHead`, which is
written in `do` notation, `andThen_of_eq` for `readClientTail`). A field that only some versions
have is `if b then put x else id` on the encoder's side; its lemma is about an arbitrary flag `b`,
so nothing here depends on the contents of the regenerated feature tables. -/

theorem bind_of_eq {α β : Type} {x : Option α} {a : α} {f : α → Option β} {res : Option β}
    (h : x = some a) (h2 : f a = res) : (x >>= f) = res := by subst h; exact h2

/-- the shape `do` notation gives an `if` whose branches continue with the same code `f` -/
theorem ite_bind_of_eq {α β : Type} {c : Prop} [Decidable c] {x y : Option α} {a : α} {f : α → Option β}
    {res : Option β} (h : (if c then x else y) = some a) (h2 : f a = res) :
    (if c then x >>= f else y >>= f) = res := by
  by_cases hc : c
  · rw [if_pos hc] at h ⊢; exact bind_of_eq h h2
  · rw [if_neg hc] at h ⊢; exact bind_of_eq h h2

theorem andThen_of_eq {α β : Type} {r : Reader α} {f : α → Reader β} {bs mid : List UInt8} {a : α}
    {res : Option (β × List UInt8)} (h : r bs = some (a, mid)) (h2 : f a mid = res) : r.andThen f bs = res := by
  unfold Reader.andThen; rw [h]; exact h2

theorem ite_reads {α : Type} {b : Bool} {r r' : Reader α} {put : List UInt8 → List UInt8} {a : α}
    {m : List UInt8} (h : b = true → r (put m) = some (a, m)) (h' : b = false → r' m = some (a, m)) :
    (if b = true then r else r') ((if b = true then put else id) m) = some (a, m) := by
  cases b
  · exact h' rfl
  · exact h rfl

@[simp] theorem hasFullClientFlags_v5 : Version.v5.hasFullClientFlags = false := by decide

@[simp] theorem version_info5 : InfoKind.info5.received.version = .v5 := rfl
@[simp] theorem version_info6 : InfoKind.info6.received.version = .v6 := rfl
@[simp] theorem version_info6Ddper : InfoKind.info6Ddper.received.version = .v6Ddper := rfl
@[simp] theorem version_info664 : InfoKind.info664.received.version = .v664 := rfl
@[simp] theorem version_info6Ex : InfoKind.info6Ex.received.version = .v6Ex := rfl
@[simp] theorem version_info6ExMore : InfoKind.info6ExMore.received.version = .v6Ex := rfl
@[simp] theorem version_info7 : InfoKind.info7.received.version = .v7 := rfl

structure ClientOk (k : InfoKind) (c : ClientInfo) : Prop where
  name : GoodStr CAP_CLIENT_NAME c.name
  score : inI32 c.score
  ext : k.received.version.hasExtendedPlayerInfo = true →
    GoodStr CAP_CLIENT_CLAN c.clan ∧ inI32 c.country ∧
      (if k.received.version.hasFullClientFlags = true then inI32 c.flags else (c.flags = 0 ∨ c.flags = 1))
  plain : k.received.version.hasExtendedPlayerInfo = false → c.clan = [] ∧ c.country = -1 ∧ c.flags = 0

section clientFields
variable (k : InfoKind) (m : List UInt8) {b : Bool}

theorem readClan_put {clan : List UInt8} {country : Int}
    (h : b = true → GoodStr CAP_CLIENT_CLAN clan ∧ inI32 country) (h' : b = false → clan = [] ∧ country = -1) :
    (if b = true then
        readStr.andThen fun clan => k.reader.andThen fun country => Reader.ret (truncated CAP_CLIENT_CLAN clan, country)
      else Reader.ret ([], -1)) ((if b = true then fun r => putStr clan (putInt k country r) else id) m)
      = some ((clan, country), m) :=
  ite_reads
    (fun hb => andThen_of_eq (readStr_putStr (h hb).1 _) <| andThen_of_eq (reader_putInt k _ (h hb).2 _) <| by
      rw [truncated_good (h hb).1]; rfl)
    (fun hb => by rw [(h' hb).1, (h' hb).2]; rfl)

/-- where the wire only carries `is_player`, flags 0 / 1 (spectator) travel as 1 / 0 -/
theorem readFlags_put {full : Bool} {flags : Int}
    (h : b = true → if full = true then inI32 flags else (flags = 0 ∨ flags = 1)) (h' : b = false → flags = 0) :
    (if b = true then
        if full = true then k.reader
        else k.reader.andThen fun isPlayer => Reader.ret (if isPlayer = 0 then (CLIENTINFO_FLAG_SPECTATOR : Int) else 0)
      else Reader.ret 0)
      ((if b = true then (if full = true then putInt k flags else putInt k (if flags = 1 then 0 else 1)) else id) m)
      = some (flags, m) := by
  refine ite_reads (fun hb => ?_) (fun hb => by rw [h' hb]; rfl)
  have hf := h hb
  cases full
  · rcases hf with rfl | rfl
    · exact andThen_of_eq (reader_putInt k 1 (by decide) _) rfl
    · exact andThen_of_eq (reader_putInt k 0 (by decide) _) rfl
  · exact reader_putInt k _ hf _

theorem readExtra_put :
    (if b = true then readStr.andThen fun _ => Reader.ret () else Reader.ret ()) ((if b = true then putStr [] else id) m)
      = some ((), m) :=
  ite_reads (fun _ => andThen_of_eq (readStr_putStr (goodStr_nil 0) _) rfl) (fun _ => rfl)

end clientFields

theorem readClient_encClient (k : InfoKind) (c : ClientInfo) (h : ClientOk k c) (rest : List UInt8) :
    readClient k.reader k.received.version (encClient k c rest) = .client c rest := by
  unfold readClient encClient
  simp only [readStr_putStr h.name, readClientTail]
  rw [andThen_of_eq
    (readClan_put k _ (fun hb => ⟨(h.ext hb).1, (h.ext hb).2.1⟩) (fun hb => ⟨(h.plain hb).1, (h.plain hb).2.1⟩))
    (andThen_of_eq (reader_putInt k _ h.score _)
    (andThen_of_eq (readFlags_put k _ (fun hb => (h.ext hb).2.2) (fun hb => (h.plain hb).2.2))
    (andThen_of_eq (readExtra_put _) rfl)))]
  simp only [truncated_good h.name]
  rfl

theorem readClient_nil (ri : Reader Int) (ver : Version) : readClient ri ver [] = .stop := by
  simp [readClient, readStr, readString]

/-- every client takes at least one byte, so more fuel than bytes (what `parseBody` gives the loop) suffices -/
theorem parseClients_encClients (hs : SLOT_SKIP_FROM = RECEIVED_BITS) (k : InfoKind) :
    ∀ (cs : List ClientInfo), (∀ c ∈ cs, ClientOk k c) →
    ∀ (fuel j : Nat) (acc : List ClientInfo) (recv : Nat), (encClients k cs []).length < fuel →
      (k.received.version = .v664 → j + cs.length ≤ RECEIVED_BITS) →
      parseClients k.reader k.received.version fuel j (encClients k cs []) acc recv
        = .ok (some (acc ++ cs, if k.received.version = .v664 then recv ||| rangeMask j cs.length else recv)) := by
  intro cs
  induction cs with
  | nil =>
    intro _ fuel j acc recv hf _
    cases fuel with
    | zero => simp at hf
    | succ f =>
      unfold parseClients
      simp only [encClients, readClient_nil, List.append_nil, List.length_nil, rangeMask_zero, Nat.or_zero, ite_self]
  | cons c cs ih =>
    intro hok fuel j acc recv hf hj
    cases fuel with
    | zero => simp at hf
    | succ f =>
      have hc := readClient_encClient k c (hok c List.mem_cons_self) (encClients k cs [])
      have hlen := readClient_rest_lt k.reader_consuming hc
      simp only [List.length_cons] at hj
      simp only [encClients] at hf
      -- every recursive call is on the encoding of `cs`
      have ih' := fun acc' recv' => ih (fun x hx => hok x (List.mem_cons_of_mem _ hx)) f (j + 1) acc' recv'
        (by omega) (fun hv => by have := hj hv; omega)
      unfold parseClients
      simp only [encClients, hc, ih', List.append_assoc]
      by_cases hv : k.received.version = .v664
      · have hnj : ¬ j ≥ SLOT_SKIP_FROM := by have := hj hv; omega
        simp only [hv, if_true, hnj, if_false, shl1_ok (show j < RECEIVED_BITS by omega), Nat.one_shiftLeft, Nat.or_assoc,
          rangeMask_succ]
        rfl
      · simp only [hv, if_false]
        rfl

theorem crcWire_inI32 {c : Nat} (h : c < 2 ^ 32) : inI32 (crcWire c) := by
  unfold crcWire inI32
  by_cases hc : c < 2 ^ 31
  · rw [if_pos hc]; omega
  · rw [if_neg hc]; omega

/-- the wire value differs from the crc by a multiple of `2^32` -/
theorem asU32_crcWire {c : Nat} (h : c < 2 ^ 32) : asU32 (crcWire c) = c := by
  unfold crcWire asU32
  by_cases hc : c < 2 ^ 31
  · rw [if_pos hc, Int.emod_eq_of_lt (Int.natCast_nonneg c) (by omega), Int.toNat_natCast]
  · rw [if_neg hc, show ((c : Int) - 2 ^ 32) = c - 1 * 4294967296 from rfl, Int.sub_mul_emod_self_right,
      Int.emod_eq_of_lt (Int.natCast_nonneg c) (by omega), Int.toNat_natCast]

/-- what the head of an info must satisfy to be representable on the wire of kind `k` and to pass
the receiver's sanity checks -/
structure HeadOk (k : InfoKind) (i : ServerInfo) (offset : Nat) : Prop where
  ver : i.infoVersion = k.received.version
  token : inI32 i.token
  version : GoodStr CAP_VERSION i.version
  name : GoodStr CAP_NAME i.name
  map : GoodStr CAP_MAP i.map
  gameType : GoodStr CAP_GAME_TYPE i.gameType
  flags : inI32 i.flags
  hostname : if k.received.version.hasHostname = true then ∃ h, i.hostname = some h ∧ GoodStr CAP_HOSTNAME h
    else i.hostname = none
  mapInfo : if k.received.version.hasExtendedMapInfo = true then
      ∃ c sz, i.mapCrc = some c ∧ c < 2 ^ 32 ∧ i.mapSize = some sz ∧ sz < 2 ^ 31
    else i.mapCrc = none ∧ i.mapSize = none
  progression : if k.received.version.hasProgression = true then ∃ p, i.progression = some p ∧ inI32 p
    else i.progression = none
  skill : if k.received.version.hasSkillLevel = true then ∃ p, i.skillLevel = some p ∧ inI32 p
    else i.skillLevel = none
  counts : CountsSane i
  maxClients : inI32 i.maxClients
  plainCounts : k.received.version.hasExtendedPlayerInfo = false →
    i.numClients = i.numPlayers ∧ i.maxClients = i.maxPlayers
  offset : if k.received.version.hasOffset = true then offset < 2 ^ 31 else offset = 0

section headFields
variable (k : InfoKind) (m : List UInt8) {b : Bool}

theorem readStr_putOpt {cap : Nat} {o : Option (List UInt8)}
    (h : if b = true then ∃ s, o = some s ∧ GoodStr cap s else o = none) :
    (if b = true then (do
        let (s, bs) ← readStr ((if b = true then putStr (o.getD []) else id) m)
        pure (some (truncated cap s), bs))
      else pure (none, (if b = true then putStr (o.getD []) else id) m)) = some (o, m) := by
  cases b
  · rw [show o = none from h]; rfl
  · obtain ⟨s, rfl, g⟩ := h
    exact bind_of_eq (readStr_putStr g _) (congrArg (fun t => some (some t, m)) (truncated_good g))

theorem reader_putOpt {o : Option Int} (h : if b = true then ∃ p, o = some p ∧ inI32 p else o = none) :
    (if b = true then (do let (p, bs) ← k.reader ((if b = true then putInt k (o.getD 0) else id) m); pure (some p, bs))
      else pure (none, (if b = true then putInt k (o.getD 0) else id) m)) = some (o, m) := by
  cases b
  · rw [show o = none from h]; rfl
  · obtain ⟨p, rfl, g⟩ := h
    exact bind_of_eq (reader_putInt k _ g _) rfl

/-- the crc travels as the `i32` with the same bits; a negative size is refused -/
theorem reader_putMapInfo {crc size : Option Nat}
    (h : if b = true then ∃ x sz, crc = some x ∧ x < 2 ^ 32 ∧ size = some sz ∧ sz < 2 ^ 31
      else crc = none ∧ size = none) :
    (if b = true then (do
        let (x, bs) ← k.reader ((if b = true then fun r =>
          putInt k (crcWire (crc.getD 0)) (putInt k ((size.getD 0 : Nat) : Int) r) else id) m)
        let (sz, bs) ← k.reader bs
        if sz < 0 then none else pure (some (asU32 x), some sz.toNat, bs))
      else pure (none, none, (if b = true then fun r =>
        putInt k (crcWire (crc.getD 0)) (putInt k ((size.getD 0 : Nat) : Int) r) else id) m))
      = some (crc, size, m) := by
  cases b
  · rw [show crc = none from h.1, show size = none from h.2]; rfl
  · obtain ⟨x, sz, rfl, hx, rfl, hsz⟩ := h
    refine bind_of_eq (reader_putInt k _ (crcWire_inI32 hx) _) ?_
    refine bind_of_eq (reader_putInt k _ (inI32_natCast hsz) _) ?_
    show (if (sz : Int) < 0 then none else _) = _
    rw [if_neg (by omega), asU32_crcWire hx]
    rfl

theorem reader_putCounts {np mp nc mc : Int} (hnc : inI32 nc) (hmc : inI32 mc)
    (h : b = false → nc = np ∧ mc = mp) :
    (if b = true then (do
        let (x, bs) ← k.reader ((if b = true then fun r => putInt k nc (putInt k mc r) else id) m)
        let (y, bs) ← k.reader bs
        pure (x, y, bs))
      else pure (np, mp, (if b = true then fun r => putInt k nc (putInt k mc r) else id) m)) = some (nc, mc, m) := by
  cases b
  · rw [(h rfl).1, (h rfl).2]; rfl
  · exact bind_of_eq (reader_putInt k _ hnc _) (bind_of_eq (reader_putInt k _ hmc _) rfl)

theorem reader_putOffset {off : Nat} (h : if b = true then off < 2 ^ 31 else off = 0) :
    (if b = true then k.reader ((if b = true then putInt k (off : Int) else id) m)
      else pure (0, (if b = true then putInt k (off : Int) else id) m)) = some ((off : Int), m) := by
  cases b
  · rw [show off = 0 from h]; rfl
  · exact reader_putInt k _ (inI32_natCast h) _

end headFields

theorem readHead_encHead (k : InfoKind) (i : ServerInfo) (offset : Nat) (h : HeadOk k i offset) (rest : List UInt8) :
    readHead k.reader k.received.version (encHead k i offset rest)
      = some ({ version := i.version, name := i.name, hostname := i.hostname, map := i.map, mapCrc := i.mapCrc,
                mapSize := i.mapSize, gameType := i.gameType, flags := i.flags, progression := i.progression,
                skillLevel := i.skillLevel, numPlayers := i.numPlayers, maxPlayers := i.maxPlayers,
                numClients := i.numClients, maxClients := i.maxClients, rawOffset := offset }, rest) := by
  obtain ⟨c1, c2, c3, c4, c5, -⟩ := h.counts
  have hmc := h.maxClients
  have inNp : inI32 i.numPlayers := by unfold inI32 at hmc ⊢; omega
  have inMp : inI32 i.maxPlayers := by unfold inI32 at hmc ⊢; omega
  have inNc : inI32 i.numClients := by unfold inI32 at hmc ⊢; omega
  unfold readHead encHead
  refine bind_of_eq (readStr_putStr h.version _) ?_
  refine bind_of_eq (readStr_putStr h.name _) ?_
  refine ite_bind_of_eq (readStr_putOpt _ h.hostname) ?_
  refine bind_of_eq (readStr_putStr h.map _) ?_
  refine ite_bind_of_eq (reader_putMapInfo k _ h.mapInfo) ?_
  refine bind_of_eq (readStr_putStr h.gameType _) ?_
  refine bind_of_eq (reader_putInt k _ h.flags _) ?_
  refine ite_bind_of_eq (reader_putOpt k _ h.progression) ?_
  refine ite_bind_of_eq (reader_putOpt k _ h.skill) ?_
  refine bind_of_eq (reader_putInt k _ inNp _) ?_
  refine bind_of_eq (reader_putInt k _ inMp _) ?_
  refine ite_bind_of_eq (reader_putCounts k _ inNc hmc h.plainCounts) ?_
  refine ite_bind_of_eq (reader_putOffset k _ h.offset) ?_
  simp only [truncated_good h.version, truncated_good h.name, truncated_good h.map, truncated_good h.gameType]
  rfl

theorem exceedsMax_eq_false {v : Version} {x : Int} (h : ∀ m, v.maxClients = some m → x ≤ (m : Int)) :
    v.exceedsMax x = false := by
  unfold Version.exceedsMax
  cases hm : v.maxClients with
  | none => rfl
  | some m => exact decide_eq_false (Int.not_lt.2 (h m hm))

theorem parseHeadNormal_encHead (k : InfoKind) (i : ServerInfo) (offset : Nat) (h : HeadOk k i offset)
    (rest : List UInt8) :
    parseHeadNormal k.reader k.received.version i.token (encHead k i offset rest)
      = some ({ i with clients := [] }, offset, rest) := by
  obtain ⟨c1, c2, c3, c4, c5, c6⟩ := h.counts
  have hx := exceedsMax_eq_false (h.ver ▸ c6)
  simp only [parseHeadNormal, readHead_encHead k i offset h rest, checkHead]
  rw [if_neg (by simp only [hx, Bool.false_eq_true, false_or]; omega), if_neg (by omega)]
  simp only [Int.toNat_natCast, ← h.ver]

theorem serverInfo_eta (i : ServerInfo) : { i with clients := i.clients } = i := by cases i; rfl

theorem skipExtra_put (ver : Version) (bs : List UInt8) :
    skipExtra ver ((if ver.hasExtraInfo then putStr [] else id) bs) = some bs := by
  unfold skipExtra
  generalize ver.hasExtraInfo = b
  cases b
  · rfl
  · simp only [if_true, readStr_putStr (goodStr_nil 0)]

theorem parseBody_enc (hs : SLOT_SKIP_FROM = RECEIVED_BITS) (k : InfoKind) (info : ServerInfo) (packetNo offset : Nat)
    (cs : List ClientInfo) (hc : ∀ c ∈ cs, ClientOk k c) (hp : packetNo < RECEIVED_BITS)
    (hslots : k.received.version = .v664 → offset + cs.length ≤ RECEIVED_BITS) :
    parseBody k.reader k.received.version info packetNo offset
        ((if k.received.version.hasExtraInfo then putStr [] else id) (encClients k cs []))
      = .ok (some { info := { info with clients := cs },
                    received := if k.received.version = .v664 then rangeMask offset cs.length
                                else if k.received.version = .v6Ex then 1 <<< packetNo else 0 }) := by
  have hloop := fun recv => parseClients_encClients hs k cs hc ((encClients k cs []).length + 1) offset [] recv
    (Nat.lt_succ_self _) hslots
  simp only [parseBody, skipExtra_put, shl1_ite_ok hp, hloop, List.nil_append]
  by_cases h664 : k.received.version = .v664
  · simp [h664]
  · simp [h664]

theorem received_normal {k : InfoKind} (hk : k ≠ .info6ExMore) : k.received = .normal k.received.version := by
  cases k <;> first | rfl | exact absurd rfl hk

theorem parsePartial_encInfo (hs : SLOT_SKIP_FROM = RECEIVED_BITS) (k : InfoKind) (hk : k ≠ .info6ExMore) (i : ServerInfo)
    (offset : Nat) (h : HeadOk k i offset) (hc : ∀ c ∈ i.clients, ClientOk k c)
    (hslots : k = .info664 → offset + i.clients.length ≤ RECEIVED_BITS) :
    parsePartial k (encInfo k i offset) = .ok (some { info := i, received := maskFor k offset i.clients.length }) := by
  have hb := parseBody_enc hs k { i with clients := [] } 0 offset i.clients hc (by decide)
    (fun hv => hslots (by cases k <;> first | rfl | cases hv))
  unfold parsePartial
  rw [received_normal hk]
  simp only [parseServerInfo, encInfo, reader_putInt k i.token h.token, parseHeadNormal_encHead k i offset h, hb]
  cases k <;> first | exact absurd rfl hk | rfl

theorem parsePartial_encMore (hs : SLOT_SKIP_FROM = RECEIVED_BITS) (hg : PACKET_NO_REJECT_FROM ≤ RECEIVED_BITS)
    (token : Int) (htok : inI32 token) (no : Nat) (hlo : PACKET_NO_MIN ≤ no) (hhi : no < PACKET_NO_REJECT_FROM)
    (cs : List ClientInfo) (hc : ∀ c ∈ cs, ClientOk .info6ExMore c) :
    parsePartial .info6ExMore (encMore token no cs)
      = .ok (some { info := (moreHdr token).withClients cs, received := 1 <<< no }) := by
  have hb := parseBody_enc hs .info6ExMore { infoVersion := .v6Ex, token := token } no 0 cs hc (by omega)
    (fun hv => by cases hv)
  have hno : inI32 (no : Int) := inI32_natCast (by have : RECEIVED_BITS = 64 := rfl; omega)
  have hcond : ¬ ((no : Int) < (PACKET_NO_MIN : Int) ∨ (no : Int) ≥ (PACKET_NO_REJECT_FROM : Int)) := by omega
  unfold parsePartial parseServerInfo encMore
  rw [reader_putInt .info6ExMore token htok]
  simp only [InfoKind.received, parseHeadMore, reader_putInt .info6ExMore (no : Int) hno, Option.bind_eq_bind,
    Option.bind_some, hcond, if_false, Option.pure_def, Int.toNat_natCast]
  exact hb

/-- `HeadOk` does not look at the clients, and at the offset only through its bound -/
theorem HeadOk.change {k : InfoKind} {i : ServerInfo} {o : Nat} (h : HeadOk k i o) (cs : List ClientInfo) {o' : Nat}
    (ho : if k.received.version.hasOffset = true then o' < 2 ^ 31 else o' = 0) : HeadOk k (i.withClients cs) o' :=
  ⟨h.ver, h.token, h.version, h.name, h.map, h.gameType, h.flags, h.hostname, h.mapInfo, h.progression, h.skill,
    h.counts, h.maxClients, h.plainCounts, ho⟩

namespace Family

def kind (f : Family) (i : Nat) : InfoKind :=
  if f.ex then (if i = 0 then .info6Ex else .info6ExMore) else .info664

def encodePart (f : Family) (i : Nat) : List UInt8 :=
  if f.ex then
    (if i = 0 then encInfo .info6Ex (f.hdr.withClients (f.chunk i)) 0 else encMore f.hdr.token (f.no i) (f.chunk i))
  else encInfo .info664 (f.hdr.withClients (f.chunk i)) (f.offset i)

structure Encodable (f : Family) : Prop where
  head : ∀ i < f.size, HeadOk (if f.ex then .info6Ex else .info664) f.hdr (if f.ex then 0 else f.offset i)
  clients : ∀ i < f.size, ∀ c ∈ f.chunk i, ClientOk (f.kind i) c

theorem parse_encodePart (hs : SLOT_SKIP_FROM = RECEIVED_BITS) (hg : PACKET_NO_REJECT_FROM = RECEIVED_BITS)
    (hmin : PACKET_NO_MIN = 1) (f : Family) (hwf : f.WellFormed) (henc : f.Encodable) (i : Nat) (hi : i < f.size) :
    parsePartial (f.kind i) (f.encodePart i) = .ok (some (f.part i)) := by
  obtain ⟨hhead, hclients⟩ := henc
  have hh := hhead i hi
  have hcl := hclients i hi
  unfold kind encodePart part at *
  cases hex : f.ex with
  | false =>
    simp only [hex, Bool.false_eq_true, if_false] at hh hcl ⊢
    have hslot : f.offset i + (f.chunk i).length ≤ RECEIVED_BITS :=
      Nat.le_trans (f.offset_add_le hi) (hwf.slots hex)
    rw [parsePartial_encInfo hs .info664 (by decide) (f.hdr.withClients (f.chunk i)) (f.offset i) (hh.change _ hh.offset) hcl (fun _ => hslot)]
    rfl
  | true =>
    simp only [hex, if_true] at hh hcl ⊢
    by_cases h0 : i = 0
    · subst h0
      simp only [if_true] at hcl ⊢
      rw [parsePartial_encInfo hs .info6Ex (by decide) (f.hdr.withClients (f.chunk 0)) 0 (hh.change _ hh.offset) hcl (fun h => by cases h)]
      have : f.no 0 = 0 := (hwf.no_zero hex hi).2 rfl
      simp [exPart, this, maskFor]
    · simp only [h0, if_false] at hcl ⊢
      have hne : f.no i ≠ 0 := fun e => h0 ((hwf.no_zero hex hi).1 e)
      have hlt := hwf.no_lt hex hi
      rw [parsePartial_encMore hs (by omega) f.hdr.token hh.token (f.no i) (by omega) (by omega) (f.chunk i) hcl]
      simp [exPart, hne]

end Family

theorem goodStrB_sound {cap : Nat} {s : List UInt8} (h : goodStrB cap s = true) : GoodStr cap s := by
  unfold goodStrB at h
  simp only [Bool.and_eq_true, List.all_eq_true, bne_iff_ne, ne_eq, decide_eq_true_eq] at h
  exact ⟨h.1.1, h.1.2, h.2⟩

theorem inI32B_sound {v : Int} (h : inI32B v = true) : inI32 v := by
  unfold inI32B at h
  simp only [Bool.and_eq_true, decide_eq_true_eq] at h
  exact h

theorem clientOkB_sound {k : InfoKind} {c : ClientInfo} (h : clientOkB k c = true) : ClientOk k c := by
  unfold clientOkB at h
  simp only [Bool.and_eq_true] at h
  obtain ⟨⟨h1, h2⟩, h3⟩ := h
  refine ⟨goodStrB_sound h1, inI32B_sound h2, ?_, ?_⟩
  · intro he
    simp only [he, if_true, Bool.and_eq_true] at h3
    refine ⟨goodStrB_sound h3.1.1, inI32B_sound h3.1.2, ?_⟩
    by_cases hf : k.received.version.hasFullClientFlags = true
    · simp only [hf, if_true] at h3 ⊢
      exact inI32B_sound h3.2
    · simp only [hf, if_false, Bool.false_eq_true, Bool.or_eq_true, beq_iff_eq] at h3 ⊢
      exact h3.2
  · intro he
    simp only [he, Bool.false_eq_true, if_false, Bool.and_eq_true, beq_iff_eq] at h3
    exact ⟨h3.1.1, h3.1.2, h3.2⟩

theorem countsSaneB_sound {i : ServerInfo} (h : countsSaneB i = true) : CountsSane i := by
  unfold countsSaneB at h
  simp only [Bool.and_eq_true, decide_eq_true_eq] at h
  obtain ⟨⟨⟨⟨⟨h1, h2⟩, h3⟩, h4⟩, h5⟩, h6⟩ := h
  refine ⟨h1, h2, h3, h4, h5, ?_⟩
  intro m hm
  rw [hm] at h6
  simpa using h6

/-- a test of the shape `if b then x else o.isNone` (a field only some versions have) -/
theorem optB_sound {α : Type} {b x : Bool} {o : Option α} {Q : Prop} (hx : x = true → Q)
    (h : (if b = true then x else o.isNone) = true) : if b = true then Q else o = none := by
  cases b
  · exact Option.isNone_iff_eq_none.1 h
  · exact hx h

theorem headOkB_sound {k : InfoKind} {i : ServerInfo} {offset : Nat} (h : headOkB k i offset = true) :
    HeadOk k i offset := by
  unfold headOkB at h
  simp only [Bool.and_eq_true] at h
  obtain ⟨⟨⟨⟨⟨⟨⟨⟨⟨⟨⟨⟨⟨⟨hv, ht⟩, h1⟩, h2⟩, h3⟩, h4⟩, h5⟩, hh⟩, hm⟩, hp⟩, hs⟩, hc⟩, hmc⟩, hpl⟩, ho⟩ := h
  refine ⟨by simpa using hv, inI32B_sound ht, goodStrB_sound h1, goodStrB_sound h2, goodStrB_sound h3,
    goodStrB_sound h4, inI32B_sound h5, optB_sound (fun hx => ?_) hh, ?_, optB_sound (fun hx => ?_) hp,
    optB_sound (fun hx => ?_) hs, countsSaneB_sound hc, inI32B_sound hmc, fun he => ?_, ?_⟩
  · cases ho : i.hostname with
    | none => rw [ho] at hx; cases hx
    | some a => rw [ho] at hx; exact ⟨a, rfl, goodStrB_sound hx⟩
  · cases hb : k.received.version.hasExtendedMapInfo with
    | false =>
      simpa only [hb, Bool.false_eq_true, if_false, Bool.and_eq_true, Option.isNone_iff_eq_none] using hm
    | true =>
      rw [hb, if_pos rfl] at hm
      cases hc1 : i.mapCrc with
      | none => rw [hc1] at hm; cases hm
      | some c =>
        cases hc2 : i.mapSize with
        | none => rw [hc1, hc2] at hm; cases hm
        | some sz =>
          simp only [hc1, hc2, Bool.and_eq_true, decide_eq_true_eq] at hm
          exact ⟨c, sz, rfl, hm.1, rfl, hm.2⟩
  · cases ho : i.progression with
    | none => rw [ho] at hx; cases hx
    | some a => rw [ho] at hx; exact ⟨a, rfl, inI32B_sound hx⟩
  · cases ho : i.skillLevel with
    | none => rw [ho] at hx; cases hx
    | some a => rw [ho] at hx; exact ⟨a, rfl, inI32B_sound hx⟩
  · simpa only [he, Bool.false_eq_true, if_false, Bool.and_eq_true, decide_eq_true_eq] using hpl
  · cases hb : k.received.version.hasOffset <;>
      simpa only [hb, Bool.false_eq_true, if_false, if_true, decide_eq_true_eq] using ho

theorem representableB_sound {k : InfoKind} {i : ServerInfo} {offset : Nat} (h : representableB k i offset = true) :
    k ≠ .info6ExMore ∧ HeadOk k i offset ∧ (∀ c ∈ i.clients, ClientOk k c) ∧
      (k = .info664 → offset + i.clients.length ≤ RECEIVED_BITS) := by
  unfold representableB at h
  simp only [Bool.and_eq_true, bne_iff_ne, ne_eq, List.all_eq_true] at h
  obtain ⟨⟨⟨hk, hh⟩, hc⟩, hs⟩ := h
  refine ⟨hk, headOkB_sound hh, fun c hc' => clientOkB_sound (hc c hc'), ?_⟩
  intro hk'
  simp only [hk', beq_self_eq_true, if_true, decide_eq_true_eq] at hs
  exact hs

theorem representableMoreB_sound {token : Int} {no : Nat} {cs : List ClientInfo}
    (h : representableMoreB token no cs = true) :
    inI32 token ∧ 1 ≤ no ∧ no < 64 ∧ ∀ c ∈ cs, ClientOk .info6ExMore c := by
  unfold representableMoreB at h
  simp only [Bool.and_eq_true, decide_eq_true_eq, List.all_eq_true] at h
  exact ⟨inI32B_sound h.1.1.1, h.1.1.2, h.1.2, fun c hc => clientOkB_sound (h.2 c hc)⟩

namespace Family

def representableB (f : Family) : Bool :=
  headOkB (if f.ex then .info6Ex else .info664) f.hdr 0 &&
    f.chunks.all (fun cs => cs.all (clientOkB (if f.ex then .info6Ex else .info664)))

theorem encodable_of_representableB (f : Family) (hwf : f.WellFormed) (h : f.representableB = true) : f.Encodable := by
  unfold representableB at h
  simp only [Bool.and_eq_true, List.all_eq_true] at h
  obtain ⟨hh, hc⟩ := h
  have hhead := headOkB_sound hh
  constructor
  · intro i hi
    cases hex : f.ex with
    | true => simp only [hex, if_true] at hhead ⊢; exact hhead
    | false =>
      simp only [hex, Bool.false_eq_true, if_false] at hhead ⊢
      have h1 := hwf.slots hex
      have h2 := f.offset_add_le hi
      have : RECEIVED_BITS = 64 := rfl
      exact hhead.change f.hdr.clients (by rw [if_pos (by decide)]; omega)
  · intro i hi c hcm
    have hok := clientOkB_sound (hc _ (f.chunk_mem hi) c hcm)
    unfold kind
    cases hex : f.ex with
    | false => simp only [hex, Bool.false_eq_true, if_false] at hok ⊢; exact hok
    | true =>
      simp only [hex, if_true] at hok ⊢
      split
      · exact hok
      · -- a part other than the main one is of kind `info6ExMore`, which has the same version `.v6Ex`
        exact ⟨hok.name, hok.score, hok.ext, hok.plain⟩

end Family

/-- the info of the repository's test `parse_info_v7` -/
def witnessV7 : ServerInfo :=
  { infoVersion := .v7, token := 1, version := [116, 119, 111], name := [116, 104, 114, 101, 101], hostname := some [102, 111, 117, 114], map := [102, 105, 118, 101],
    gameType := [115, 105, 120], flags := 7, skillLevel := some 8, numPlayers := 1, maxPlayers := 2, numClients := 2, maxClients := 3,
    clients := [{ name := [116, 104, 105, 114, 116, 101, 101, 110], clan := [102, 111, 117, 114, 116, 101, 101, 110], country := 15, score := 16, flags := 17 },
                { name := [101, 105, 103, 104, 116, 101, 101, 110], clan := [110, 105, 110, 101, 116, 101, 101, 110], country := 20, score := 21, flags := 22 }] }

/-- the payload bytes of that test -/
def witnessV7Bytes : List UInt8 := [1, 116, 119, 111, 0, 116, 104, 114, 101, 101, 0, 102, 111, 117, 114, 0, 102, 105, 118, 101, 0, 115, 105, 120, 0, 7, 8, 1, 2, 2, 3, 116, 104, 105, 114, 116, 101, 101, 110, 0, 102, 111, 117, 114, 116, 101, 101, 110, 0, 15, 16, 17, 101, 105, 103, 104, 116, 101, 101, 110, 0, 110, 105, 110, 101, 116, 101, 101, 110, 0, 20, 21, 22]

theorem witnessEx_encodable : witnessEx.Encodable :=
  witnessEx.encodable_of_representableB (by decide) (by decide)

theorem witnessLegacy_encodable : witnessLegacy.Encodable :=
  witnessLegacy.encodable_of_representableB (by decide) (by decide)

end Tw.ServerBrowse
