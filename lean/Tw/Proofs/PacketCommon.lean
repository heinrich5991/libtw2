import Tw.Model.PacketCommon
import Tw.Model.Huffman

/-! Facts about the pieces both packet models (`Tw.Packet6`, `Tw.Packet7`) share: the bounded buffer, `nulPos`,
slices located in a prefix, and the writer's compression choice `useComp`.

Names in the packet modules: `f_eq` is `f` in closed form under the stated hypotheses (a rewrite rule); `f_ok` goes
backwards, from `f … = .ok r` to what `r` is; `f_cases` goes backwards with a disjunction over the ways to return. -/
namespace Tw.Packet

theorem bufWrite_of_le {cap : Nat} {acc bs : List UInt8} (h : acc.length + bs.length ≤ cap) :
    bufWrite cap acc bs = some (acc ++ bs) :=
  if_pos h

theorem bufWrite_nil {cap : Nat} {bs : List UInt8} (h : bs.length ≤ cap) : bufWrite cap [] bs = some bs := by
  rw [bufWrite_of_le (by simpa using h)]
  rfl

theorem bufWrite_eq_some {cap : Nat} {acc bs r : List UInt8} (h : bufWrite cap acc bs = some r) :
    r = acc ++ bs ∧ acc.length + bs.length ≤ cap := by
  unfold bufWrite at h
  split at h
  · exact ⟨(Option.some.inj h).symm, by assumption⟩
  · cases h

/-- the reader lemmas' hypothesis on the optional scratch buffer, for a buffer that is there (`nofun` without one) -/
theorem cap_of_some {n cap : Nat} (h : n ≤ cap) : ∀ c, some cap = some c → n ≤ c :=
  fun _ hc => Option.some.inj hc ▸ h

theorem bufWrite2 {α : Type} (ok : List UInt8 → α) (capacity : α) (cap : Nat) (acc hb d : List UInt8) :
    (match bufWrite cap acc hb with
      | none => capacity
      | some b1 =>
        match bufWrite cap b1 d with
        | none => capacity
        | some b2 => ok b2) =
    if acc.length + hb.length + d.length ≤ cap then ok (acc ++ hb ++ d) else capacity := by
  unfold bufWrite
  by_cases h1 : acc.length + hb.length ≤ cap
  · rw [if_pos h1]
    simp only [List.length_append]
    by_cases h2 : acc.length + hb.length + d.length ≤ cap
    · rw [if_pos h2, if_pos h2]
    · rw [if_neg h2, if_neg h2]
  · rw [if_neg h1, if_neg (by omega)]

theorem any_zero_false (m : List UInt8) (h : ∀ b ∈ m, b ≠ 0) : (m.any fun x => decide (x = 0)) = false := by
  simp only [List.any_eq_false, decide_eq_true_eq]
  exact h

theorem nulPos_append_zero (r : List UInt8) (h : ∀ b ∈ r, b ≠ 0) (rest : List UInt8) :
    nulPos (r ++ 0 :: rest) = r.length := by
  induction r with
  | nil => simp [nulPos]
  | cons b bs ih =>
    have hb : b ≠ 0 := h b (by simp)
    simp only [List.cons_append, nulPos, hb, if_false, List.length_cons]
    rw [ih (fun x hx => h x (by simp [hx]))]

theorem take_nulPos_nonzero (l : List UInt8) : ∀ b ∈ l.take (nulPos l), b ≠ 0 := by
  induction l with
  | nil => simp [nulPos]
  | cons b bs ih =>
    simp only [nulPos]
    split
    · simp
    · rename_i hb
      intro x hx
      simp only [List.take_succ_cons, List.mem_cons] at hx
      rcases hx with rfl | hx
      · exact hb
      · exact ih x hx

/-- the close reason the readers extract: NUL-free and at most `n` bytes -/
theorem take_min_nulPos (l : List UInt8) (n : Nat) :
    (l.take (min (nulPos l) n)).length ≤ n ∧ ∀ b ∈ l.take (min (nulPos l) n), b ≠ 0 := by
  refine ⟨by simp only [List.length_take]; omega, fun b hb => take_nulPos_nonzero l b ?_⟩
  exact (List.take_subset_take_left l (Nat.min_le_left _ _)) hb

theorem located_of_prefix (buf sl : List UInt8) (off : Nat) (hoff : off ≤ buf.length) (hp : sl <+: buf.drop off) :
    off + sl.length ≤ buf.length ∧ (buf.drop off).take sl.length = sl := by
  have hl := hp.length_le
  simp only [List.length_drop] at hl
  exact ⟨by omega, (List.prefix_iff_eq_take.mp hp).symm⟩

/-- `write_impl`'s choice of the compressed form: the model's `chooseCompression` without its 2048-byte buffer,
which cannot matter for a payload of at most 2048 bytes (`chooseCompression_eq`) -/
def useComp (t : Huffman.Table) (p : List UInt8) : Bool :=
  decide ((Huffman.compress t false p).length < p.length)

theorem sent_length_le (t : Huffman.Table) (p : List UInt8) :
    (if useComp t p then Huffman.compress t false p else p).length ≤ p.length := by
  split
  · exact Nat.le_of_lt (of_decide_eq_true ‹_›)
  · exact Nat.le_refl _

theorem ite_some_none {α : Type} (b : Bool) (x y : α) :
    (if b = true then some x else none).isSome = b ∧ (if b = true then some x else none).getD y = if b then x else y := by
  cases b <;> exact ⟨rfl, rfl⟩

end Tw.Packet
