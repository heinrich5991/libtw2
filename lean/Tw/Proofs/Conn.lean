import Tw.Model.Conn

/-! The shared online core (`Tw/Model/Conn.lean`), each operation described twice: forwards under the packet invariant
`Online.Inv` behind C04, and backwards with no invariant assumed (what a call that returned did).  The other files reason
about the core's operations through these.

Suffixes of the lemmas about a call `f` that may fail, here and in the files on top: `f_ok` forwards (under the hypotheses
stated, `f …` is `.ok` of a given value); `f_eq` backwards (from `f … = .ok r`, what `r` is; `f_cases` where that is a
disjunction); `f_spec` forwards under the invariant (the call returns, keeps the invariant, emits only `Flushed.Valid`
packets); `f_nohang` (the result is not `.error .hang`). -/
namespace Tw.Conn
open Tw.Time

/-! ## Constants (these are also the ties to the regenerated `Tw.Gen.Conn`) -/

theorem seqMod_eq : seqMod = 1024 := rfl
theorem maxPayload_eq : maxPayload = 1390 := rfl
theorem maxPacketSize_eq : maxPacketSize = 1400 := rfl
theorem arrayCap_eq : arrayCap = 2048 := rfl
theorem maxNumChunks_eq : maxNumChunks = 255 := rfl
theorem sendUs_eq : sendUs = 500000 := by decide
theorem resendUs_eq : resendUs = 1000000 := by decide

theorem chunkHeaderSize_le (v : Bool) : chunkHeaderSize v ≤ 3 := by
  cases v <;> decide

theorem chunkHeaderSize_true : chunkHeaderSize true = 3 := rfl
theorem chunkHeaderSize_false : chunkHeaderSize false = 2 := rfl

theorem chunksSize_append (a b : List Chunk) : chunksSize (a ++ b) = chunksSize a + chunksSize b := by
  induction a with
  | nil => simp [chunksSize]
  | cons c cs ih => simp [chunksSize, ih]; omega

theorem chunksSize_filter_le (f : Chunk → Bool) (l : List Chunk) : chunksSize (l.filter f) ≤ chunksSize l := by
  induction l with
  | nil => simp [chunksSize]
  | cons c cs ih =>
    by_cases h : f c <;> simp [List.filter, h, chunksSize] <;> omega

theorem chunksSize_singleton (c : Chunk) : chunksSize [c] = c.size := by simp [chunksSize]

/-- what `send` accepts, `write_chunk` can pack -/
def Cfg.Ok (cfg : Cfg) : Prop := ∀ n, cfg.accepts n = true → n < cfg.chunkLim

theorem Cfg.accepts_le (cfg : Cfg) {n : Nat} (h : cfg.accepts n = true) : n ≤ maxPayload := by
  simp [Cfg.accepts] at h; omega

def nonvital (c : Chunk) : Bool := c.vital.isNone

/-- what `flush` needs to emit a `Flushed.Valid` packet and `write_chunk` not to panic -/
structure Online.Inv (cfg : Cfg) (o : Online) : Prop where
  pn : o.packet.numChunks = o.packet.chunks.length
  pnv : o.packetNonvital.numChunks = o.packetNonvital.chunks.length
  nv : o.packetNonvital.chunks = o.packet.chunks.filter nonvital
  cnt : o.packet.chunks.length ≤ maxNumChunks
  /-- `+ 3`: after a flush `send` queues without asking `canFit`, so the empty packet takes a chunk of up to `maxPayload`
  bytes plus its header of up to 3 -/
  size : o.packet.size ≤ maxPayload + 3
  data : ∀ c ∈ o.packet.chunks, cfg.accepts c.data.length = true
  rq : ∀ c ∈ o.resendQueue, cfg.accepts c.data.length = true

theorem Online.new_inv (cfg : Cfg) : Online.new.Inv cfg := by
  constructor <;> simp [Online.new, PacketContents.empty, PacketContents.size, chunksSize]

/-- a flushed packet as C04 wants it -/
structure Flushed.Valid (cfg : Cfg) (f : Flushed) : Prop where
  num : f.numChunks = f.chunks.length
  cnt : f.chunks.length ≤ maxNumChunks
  size : chunksSize f.chunks ≤ maxPayload + 3
  data : ∀ c ∈ f.chunks, cfg.accepts c.data.length = true
  nonempty : f.numChunks ≠ 0 ∨ f.requestResend = true

theorem Online.flush_inv {cfg : Cfg} {o : Online} (h : o.Inv cfg) : o.flush.1.Inv cfg := by
  unfold Online.flush
  split
  · exact h
  · constructor <;> simp [PacketContents.empty, PacketContents.size, chunksSize]
    exact h.rq

theorem Online.flush_valid {cfg : Cfg} {o : Online} (h : o.Inv cfg) : ∀ f ∈ o.flush.2, f.Valid cfg := by
  unfold Online.flush
  split
  · simp
  · rename_i hcs
    intro f hf
    simp at hf
    subst hf
    refine ⟨h.pn, h.cnt, h.size, h.data, ?_⟩
    simp [Online.canSend] at hcs
    by_cases h0 : o.packet.numChunks = 0
    · exact Or.inr (hcs h0)
    · exact Or.inl h0

/-- needs the invariant: a flush that has nothing to send returns the core as it is, and its packet is empty only
because `numChunks` counts the chunks (`Inv.pn`) -/
theorem Online.flush_packet_nil {cfg : Cfg} {o : Online} (h : o.Inv cfg) : o.flush.1.packet.chunks = [] := by
  unfold Online.flush
  split
  · rename_i hc
    simp [Online.canSend] at hc
    have := h.pn
    rw [hc.1] at this
    exact List.length_eq_zero_iff.mp this.symm
  · simp [PacketContents.empty]

theorem Online.flush_packetNonvital_nil {cfg : Cfg} {o : Online} (h : o.Inv cfg) :
    o.flush.1.packetNonvital.chunks = [] := by
  have h1 := (Online.flush_inv h).nv
  rw [Online.flush_packet_nil h] at h1
  simpa using h1

theorem Online.flush_resendQueue (o : Online) : o.flush.1.resendQueue = o.resendQueue := by
  unfold Online.flush; split <;> rfl

theorem Online.flush_ack (o : Online) : o.flush.1.ack = o.ack := by
  unfold Online.flush; split <;> rfl

theorem Online.flush_sequence (o : Online) : o.flush.1.sequence = o.sequence := by
  unfold Online.flush; split <;> rfl

theorem Online.flush_packet (o : Online) : o.flush.1.packet = o.packet ∨ o.flush.1.packet = .empty := by
  unfold Online.flush
  split
  · exact .inl rfl
  · exact .inr rfl

theorem Online.flush_rr_false (o : Online) : o.flush.1.requestResend = false := by
  unfold Online.flush
  split
  · rename_i h
    simp [Online.canSend] at h
    exact h.2
  · rfl

theorem Online.flush_canSend_false (o : Online) : o.flush.1.canSend = false := by
  unfold Online.flush
  split
  · rename_i h; simpa using h
  · simp [Online.canSend, PacketContents.empty]

theorem Online.flush_emits (o : Online) (h : o.canSend = true) :
    o.flush.2 = [⟨o.ack, o.requestResend, o.packet.numChunks, o.packet.chunks⟩] := by
  unfold Online.flush; simp [h]

theorem Online.flush_silent (o : Online) (h : o.canSend = false) : o.flush.2 = [] ∧ o.flush.1 = o := by
  unfold Online.flush; simp [h]

theorem Online.flush_mem {o : Online} {f : Flushed} (h : f ∈ o.flush.2) :
    f = ⟨o.ack, o.requestResend, o.packet.numChunks, o.packet.chunks⟩ := by
  cases hc : o.canSend
  · rw [(Online.flush_silent o hc).1] at h; cases h
  · rw [Online.flush_emits o hc] at h; exact List.mem_singleton.mp h

theorem Online.flush_acks (o : Online) : ∀ f ∈ o.flush.2, f.ack = o.ack := fun _ hf => Online.flush_mem hf ▸ rfl

theorem canFit_iff (p : PacketContents) (len : Nat) (v : Bool) :
    p.canFit len v = true ↔ p.numChunks < maxNumChunks ∧ p.size + chunkHeaderSize v + len ≤ maxPayload := by
  unfold PacketContents.canFit
  rw [Bool.and_eq_true, decide_eq_true_eq, decide_eq_true_eq]

theorem canFit_mono {p q : PacketContents} {len : Nat} {v : Bool} (hn : q.numChunks ≤ p.numChunks)
    (hs : q.size ≤ p.size) (h : p.canFit len v = true) : q.canFit len v = true := by
  rw [canFit_iff] at h ⊢
  omega

theorem PacketContents.writeChunk_ok {cfg : Cfg} (hc : cfg.Ok) (p : PacketContents) (data : Bytes)
    (vital : Option (Nat × Bool)) (hacc : cfg.accepts data.length = true)
    (hn : p.numChunks = p.chunks.length)
    (hfit : p.canFit data.length vital.isSome = true ∨ p.chunks = []) :
    p.writeChunk cfg data vital = .ok ⟨p.numChunks + 1, p.chunks ++ [⟨vital, data⟩]⟩ := by
  have h1 := hc _ hacc
  have h2 := cfg.accepts_le hacc
  have h3 := chunkHeaderSize_le vital.isSome
  unfold PacketContents.writeChunk
  rw [if_neg (by omega)]
  rcases hfit with hfit | hfit
  · rw [canFit_iff] at hfit
    rw [if_neg (by rw [arrayCap_eq]; rw [maxPayload_eq] at hfit; omega)]
    rw [if_neg (by omega)]
  · have : p.size = 0 := by simp [PacketContents.size, hfit, chunksSize]
    rw [if_neg (by rw [arrayCap_eq, this]; rw [maxPayload_eq] at h2; omega)]
    rw [if_neg (by rw [hn, hfit, maxNumChunks_eq]; simp)]

/-- what `o.queue cfg now data vital` returns when it returns -/
def Online.queued (now : Nat) (o : Online) (data : Bytes) (vital : Bool) : Online :=
  if vital then
    { o with
      sequence := seqNext o.sequence
      resendQueue := ⟨Timeout.after now resendUs, seqNext o.sequence, data⟩ :: o.resendQueue
      packet := ⟨o.packet.numChunks + 1, o.packet.chunks ++ [⟨some (seqNext o.sequence, false), data⟩]⟩ }
  else
    { o with
      packet := ⟨o.packet.numChunks + 1, o.packet.chunks ++ [⟨none, data⟩]⟩
      packetNonvital := ⟨o.packetNonvital.numChunks + 1, o.packetNonvital.chunks ++ [⟨none, data⟩]⟩ }

theorem Online.queue_ok {cfg : Cfg} (hc : cfg.Ok) {o : Online} (h : o.Inv cfg) (now : Nat) (data : Bytes)
    (vital : Bool) (hacc : cfg.accepts data.length = true)
    (hfit : o.packet.canFit data.length vital = true ∨ o.packet.chunks = []) :
    o.queue cfg now data vital = .ok (o.queued now data vital) := by
  have h2 := cfg.accepts_le hacc
  unfold Online.queue Online.queued
  cases vital with
  | true =>
    simp only [if_true]
    rw [if_neg (by rw [arrayCap_eq]; rw [maxPayload_eq] at h2; omega)]
    rw [PacketContents.writeChunk_ok hc _ _ _ hacc h.pn (by simpa using hfit)]
  | false =>
    simp only [Bool.false_eq_true, if_false]
    have hfit' : o.packetNonvital.canFit data.length false = true ∨ o.packetNonvital.chunks = [] := by
      rcases hfit with hfit | hfit
      · left
        refine canFit_mono ?_ ?_ hfit
        · rw [h.pn, h.pnv, h.nv]; exact List.length_filter_le _ _
        · simp only [PacketContents.size]; rw [h.nv]; exact chunksSize_filter_le _ _
      · right; rw [h.nv, hfit]; rfl
    rw [PacketContents.writeChunk_ok hc _ _ _ hacc h.pnv (by simpa using hfit')]
    simp only
    rw [PacketContents.writeChunk_ok hc _ _ _ hacc h.pn (by simpa using hfit)]

theorem append_size_le {p : PacketContents} {len : Nat} {v : Bool} {c : Chunk}
    (hfit : p.canFit len v = true ∨ p.chunks = []) (hn : p.numChunks = p.chunks.length)
    (hl : len ≤ maxPayload) (hc : c.size = chunkHeaderSize v + len) :
    chunksSize (p.chunks ++ [c]) ≤ maxPayload + 3 ∧ p.chunks.length + 1 ≤ maxNumChunks := by
  have h3 := chunkHeaderSize_le v
  rw [chunksSize_append, chunksSize_singleton, hc]
  rcases hfit with hfit | hfit
  · rw [canFit_iff] at hfit
    unfold PacketContents.size at hfit
    omega
  · simp [hfit, chunksSize, maxNumChunks_eq]; omega

theorem Online.Inv.appendVital {cfg : Cfg} {o : Online} (h : o.Inv cfg) (v : Nat × Bool) (data : Bytes)
    (hacc : cfg.accepts data.length = true)
    (hfit : o.packet.canFit data.length true = true ∨ o.packet.chunks = []) :
    Online.Inv cfg { o with packet := ⟨o.packet.numChunks + 1, o.packet.chunks ++ [⟨some v, data⟩]⟩ } := by
  have h2 := cfg.accepts_le hacc
  have hsz := append_size_le (c := ⟨some v, data⟩) hfit h.pn h2 (by simp [Chunk.size])
  refine ⟨by simp [h.pn], h.pnv, ?_, by simpa using hsz.2, hsz.1, ?_, h.rq⟩
  · simp [List.filter_append, List.filter, nonvital, h.nv]
  · intro c hcm
    simp at hcm
    rcases hcm with hcm | hcm
    · exact h.data c hcm
    · subst hcm; exact hacc

theorem Online.queued_inv {cfg : Cfg} {o : Online} (h : o.Inv cfg) (now : Nat) (data : Bytes)
    (vital : Bool) (hacc : cfg.accepts data.length = true)
    (hfit : o.packet.canFit data.length vital = true ∨ o.packet.chunks = []) :
    (o.queued now data vital).Inv cfg := by
  have h2 := cfg.accepts_le hacc
  cases vital with
  | true =>
    have a := h.appendVital (seqNext o.sequence, false) data hacc hfit
    exact ⟨a.pn, a.pnv, a.nv, a.cnt, a.size, a.data, List.forall_mem_cons.mpr ⟨hacc, h.rq⟩⟩
  | false =>
    have hsz := append_size_le (c := ⟨none, data⟩) hfit h.pn h2 (by simp [Chunk.size])
    unfold Online.queued
    simp only [Bool.false_eq_true, if_false]
    refine ⟨by simp [h.pn], by simp [h.pnv], ?_, by simpa using hsz.2, hsz.1, ?_, h.rq⟩
    · simp [List.filter_append, List.filter, nonvital, h.nv]
    · intro c hcm
      simp at hcm
      rcases hcm with hcm | hcm
      · exact h.data c hcm
      · subst hcm; exact hacc

theorem Online.send_ok {cfg : Cfg} (hc : cfg.Ok) {o : Online} (h : o.Inv cfg) (now : Nat) (data : Bytes)
    (vital : Bool) :
    (cfg.accepts data.length = false ∧ o.send cfg now data vital = .ok (o, .tooLongData, [])) ∨
    (cfg.accepts data.length = true ∧
      o.send cfg now data vital =
        .ok ((if o.packet.canFit data.length vital then o else o.flush.1).queued now data vital, .ok,
             if o.packet.canFit data.length vital then [] else o.flush.2)) := by
  unfold Online.send
  cases hacc : cfg.accepts data.length with
  | false => left; simp
  | true =>
    right
    refine ⟨rfl, ?_⟩
    simp only [Bool.not_true, Bool.false_eq_true, if_false]
    cases hf : o.packet.canFit data.length vital with
    | true =>
      simp only [Bool.not_true, Bool.false_eq_true, if_false, if_true]
      rw [Online.queue_ok hc h now data vital hacc (Or.inl hf)]
    | false =>
      simp only [Bool.not_false, if_true, Bool.false_eq_true, if_false]
      rw [Online.queue_ok hc (Online.flush_inv h) now data vital hacc (Or.inr (Online.flush_packet_nil h))]

theorem PacketContents.writeChunk_eq {cfg : Cfg} {p p' : PacketContents} {d : Bytes} {v : Option (Nat × Bool)}
    (h : p.writeChunk cfg d v = .ok p') :
    p' = ⟨p.numChunks + 1, p.chunks ++ [⟨v, d⟩]⟩ ∧ p.numChunks < maxNumChunks := by
  unfold PacketContents.writeChunk at h
  split at h
  · cases h
  · split at h
    · cases h
    · split at h <;> cases h
      exact ⟨rfl, by omega⟩

theorem Online.queue_eq {cfg : Cfg} {now : Nat} {o o' : Online} {d : Bytes} {v : Bool}
    (he : o.queue cfg now d v = .ok o') : o' = o.queued now d v := by
  unfold Online.queue at he
  unfold Online.queued
  cases v
  · simp only [Bool.false_eq_true, if_false] at he ⊢
    split at he
    · cases he
    · rename_i pn hn
      split at he <;> cases he
      rename_i p hp
      rw [(PacketContents.writeChunk_eq hn).1, (PacketContents.writeChunk_eq hp).1]
  · simp only [if_true] at he ⊢
    split at he
    · cases he
    · split at he <;> cases he
      rename_i p hp
      rw [(PacketContents.writeChunk_eq hp).1]

theorem Online.send_cases {cfg : Cfg} {now : Nat} {o o' : Online} {d : Bytes} {v : Bool} {r : SendRes} {fl : List Flushed}
    (he : o.send cfg now d v = .ok (o', r, fl)) :
    (r = .tooLongData ∧ cfg.accepts d.length = false ∧ o' = o ∧ fl = []) ∨
    (r = .ok ∧ cfg.accepts d.length = true ∧
      ((o.packet.canFit d.length v = true ∧ o' = o.queued now d v ∧ fl = []) ∨
       (o' = o.flush.1.queued now d v ∧ fl = o.flush.2))) := by
  unfold Online.send at he
  split at he
  · rename_i hacc
    cases he; exact .inl ⟨rfl, by simpa using hacc, rfl, rfl⟩
  · rename_i hacc
    simp only at he
    split at he
    · cases he
    · rename_i o2 hq
      cases he
      refine .inr ⟨rfl, by simpa using hacc, ?_⟩
      cases hf : o.packet.canFit d.length v <;> simp only [hf, Bool.not_false, Bool.not_true, if_true,
        Bool.false_eq_true, if_false] at hq ⊢
      · exact .inr ⟨Online.queue_eq hq, trivial⟩
      · exact .inl ⟨trivial, Online.queue_eq hq, trivial⟩

theorem Online.send_res {cfg : Cfg} {now : Nat} {o o' : Online} {d : Bytes} {v : Bool} {r : SendRes} {fl : List Flushed}
    (h : o.send cfg now d v = .ok (o', r, fl)) : (r == .ok) = cfg.accepts d.length := by
  rcases Online.send_cases h with ⟨rfl, ha, _⟩ | ⟨rfl, ha, _⟩ <;> rw [ha] <;> rfl

theorem Online.send_inv {cfg : Cfg} {now : Nat} {o o' : Online} {data : Bytes} {vital : Bool} {r : SendRes}
    {fl : List Flushed} (h : o.Inv cfg) (hs : o.send cfg now data vital = .ok (o', r, fl)) :
    o'.Inv cfg ∧ ∀ f ∈ fl, f.Valid cfg := by
  rcases Online.send_cases hs with ⟨_, _, rfl, rfl⟩ | ⟨_, hacc, ⟨hf, rfl, rfl⟩ | ⟨rfl, rfl⟩⟩
  · exact ⟨h, fun _ hf => nomatch hf⟩
  · exact ⟨Online.queued_inv h now data vital hacc (.inl hf), fun _ hf => nomatch hf⟩
  · exact ⟨Online.queued_inv (Online.flush_inv h) now data vital hacc (.inr (Online.flush_packet_nil h)),
      Online.flush_valid h⟩

theorem Online.send_spec {cfg : Cfg} (hc : cfg.Ok) {o : Online} (h : o.Inv cfg) (now : Nat) (data : Bytes)
    (vital : Bool) :
    ∃ o' r fl, o.send cfg now data vital = .ok (o', r, fl) ∧ o'.Inv cfg ∧ ∀ f ∈ fl, f.Valid cfg := by
  rcases Online.send_ok hc h now data vital with ⟨_, he⟩ | ⟨_, he⟩ <;> exact ⟨_, _, _, he, Online.send_inv h he⟩

/-- one turn of `resendLoop`: `c` written into the packet, flagged as resent -/
def Online.place (o : Online) (c : ResendChunk) : Online :=
  { o with packet := ⟨o.packet.numChunks + 1, o.packet.chunks ++ [⟨some (c.seq, true), c.data⟩]⟩ }

/-- Invariant rule of the resend loop: `P todo o send acc` (chunks still to place, core, send timer, packets flushed so
far) kept by making room (`room`: flush, re-arm the send timer) and by placing a chunk (`place`) holds at the end of a loop
that returns.  Partial-correctness facts about `resendLoop` are instances. -/
theorem resendLoop_rule {cfg : Cfg} {now : Nat} {P : List ResendChunk → Online → Timeout → List Flushed → Prop}
    (room : ∀ c rest o s acc, P (c :: rest) o s acc → o.packet.canFit c.data.length true = false →
      P (c :: rest) o.flush.1 (Timeout.after now sendUs) (acc ++ o.flush.2))
    (place : ∀ c rest o s acc, P (c :: rest) o s acc → o.packet.numChunks < maxNumChunks → P rest (o.place c) s acc) :
    ∀ (todo : List ResendChunk) (o : Online) (s : Timeout) (acc : List Flushed) o' s' fl,
      resendLoop cfg now todo o s acc = .ok (o', s', fl) → P todo o s acc → P [] o' s' fl := by
  intro todo
  induction todo with
  | nil =>
    intro o s acc o' s' fl he h
    cases he; exact h
  | cons c rest ih =>
    intro o s acc o' s' fl he h
    unfold resendLoop at he
    simp only at he
    split at he
    · cases he
    · rename_i p hw
      obtain ⟨rfl, hn⟩ := PacketContents.writeChunk_eq hw
      refine ih _ _ _ _ _ _ he ?_
      by_cases hf : o.packet.canFit c.data.length true = true
      · simp only [hf, if_true] at hn ⊢; exact place _ _ _ _ _ h hn
      · simp only [hf, Bool.false_eq_true, if_false] at hn ⊢
        exact place _ _ _ _ _ (room _ _ _ _ _ h (by simpa using hf)) hn

theorem resendLoop_all {cfg : Cfg} {now : Nat} {Q : Chunk → Prop} {todo : List ResendChunk} {o o' : Online}
    {s s' : Timeout} {acc fl : List Flushed} (he : resendLoop cfg now todo o s acc = .ok (o', s', fl))
    (hp : ∀ ch ∈ o.packet.chunks, Q ch) (htodo : ∀ c ∈ todo, Q ⟨some (c.seq, true), c.data⟩)
    (hacc : ∀ f ∈ acc, f.ack = o.ack ∧ ∀ ch ∈ f.chunks, Q ch) :
    (∀ ch ∈ o'.packet.chunks, Q ch) ∧ ∀ f ∈ fl, f.ack = o.ack ∧ ∀ ch ∈ f.chunks, Q ch := by
  have h := resendLoop_rule
    (P := fun td o1 _ acc1 => o1.ack = o.ack ∧ (∀ ch ∈ o1.packet.chunks, Q ch) ∧
      (∀ c ∈ td, Q ⟨some (c.seq, true), c.data⟩) ∧ ∀ f ∈ acc1, f.ack = o.ack ∧ ∀ ch ∈ f.chunks, Q ch)
    (fun c rest o1 _ acc1 ⟨ha, hp1, htd, hacc1⟩ _ => by
      refine ⟨by rw [Online.flush_ack, ha], ?_, htd, fun f hf => ?_⟩
      · rcases o1.flush_packet with h | h <;> rw [h]
        · exact hp1
        · exact fun _ h => nomatch h
      · rcases List.mem_append.mp hf with hf | hf
        · exact hacc1 f hf
        · cases Online.flush_mem hf; exact ⟨ha, hp1⟩)
    (fun c rest o1 _ acc1 ⟨ha, hp1, htd, hacc1⟩ _ =>
      ⟨ha, fun ch hch => (List.mem_append.mp hch).elim (hp1 ch)
          fun h => by cases List.mem_singleton.mp h; exact htd c List.mem_cons_self,
        fun c' hc' => htd c' (List.mem_cons_of_mem _ hc'), hacc1⟩)
    todo o s acc o' s' fl he ⟨rfl, hp, htodo, hacc⟩
  exact ⟨h.2.1, h.2.2.2⟩

structure Online.Resent (now : Nat) (o o' : Online) (send send' : Timeout) (fl : List Flushed) : Prop where
  ack : o'.ack = o.ack
  sequence : o'.sequence = o.sequence
  queue : o'.resendQueue = o.resendQueue.map (ResendChunk.restart now)
  rr : o'.requestResend = true → o.requestResend = true
  timer : send' = send ∨ send' = Timeout.after now sendUs
  nonvital : o'.packetNonvital = o.packetNonvital ∨ o'.packetNonvital = .empty
  idle : o.resendQueue = [] → o' = o ∧ send' = send ∧ fl = []
  hasVital : o.resendQueue ≠ [] → ∃ ch ∈ o'.packet.chunks, ch.vital.isSome
  /-- Quantifies over `Q` to say where chunks come from: every chunk sent or left in the packet is a retained non-vital
  chunk or a chunk of the queue (flagged as resent), so has whatever property those have. -/
  chunks : o.resendQueue ≠ [] → ∀ Q : Chunk → Prop, (∀ ch ∈ o.packetNonvital.chunks, Q ch) →
    (∀ c ∈ o.resendQueue, Q ⟨some (c.seq, true), c.data⟩) →
    (∀ ch ∈ o'.packet.chunks, Q ch) ∧ ∀ f ∈ fl, f.ack = o.ack ∧ ∀ ch ∈ f.chunks, Q ch

theorem Online.resend_eq {cfg : Cfg} {now : Nat} {o o' : Online} {send send' : Timeout} {fl : List Flushed}
    (he : o.resend cfg now send = .ok (o', send', fl)) : Online.Resent now o o' send send' fl := by
  unfold Online.resend at he
  split at he
  · rename_i hemp
    have hemp : o.resendQueue = [] := by simpa using hemp
    cases he
    exact ⟨rfl, rfl, by rw [hemp]; rfl, id, .inl rfl, .inl rfl, fun _ => ⟨rfl, rfl, rfl⟩, fun h => absurd hemp h,
      fun h => absurd hemp h⟩
  · rename_i hne
    have hne : o.resendQueue ≠ [] := by simpa using hne
    obtain ⟨ha, hs, hq, hr, ht, hn, hv⟩ := resendLoop_rule (P := fun td o1 s1 _ => o1.ack = o.ack ∧
        o1.sequence = o.sequence ∧ o1.resendQueue = o.resendQueue.map (ResendChunk.restart now) ∧
        (o1.requestResend = true → o.requestResend = true) ∧ (s1 = send ∨ s1 = Timeout.after now sendUs) ∧
        (o1.packetNonvital = o.packetNonvital ∨ o1.packetNonvital = .empty) ∧
        (td = [] → ∃ ch ∈ o1.packet.chunks, ch.vital.isSome))
      (fun _ _ o1 _ _ ⟨ha, hs, hq, hr, _, hn, _⟩ _ => by
        rw [Online.flush_ack, Online.flush_sequence, Online.flush_resendQueue]
        refine ⟨ha, hs, hq, ?_, .inr rfl, ?_, nofun⟩ <;> unfold Online.flush <;> split
        · exact hr
        · exact nofun
        · exact hn
        · exact .inr rfl)
      (fun c _ _ _ _ ⟨ha, hs, hq, hr, ht, hn, _⟩ _ => ⟨ha, hs, hq, hr, ht, hn,
        fun _ => ⟨_, List.mem_append_right _ (List.mem_singleton_self _), rfl⟩⟩)
      _ _ _ _ _ _ _ he ⟨rfl, rfl, rfl, id, .inl rfl, .inl rfl, fun h => absurd (by simpa [Online.resendStart] using h) hne⟩
    refine ⟨ha, hs, hq, hr, ht, hn, fun h => absurd h hne, fun _ => hv rfl, fun _ Q hpn hrq => ?_⟩
    refine resendLoop_all (o := o.resendStart now) (acc := []) he hpn (fun c hc => ?_) (fun _ h => nomatch h)
    obtain ⟨c0, hc0, rfl⟩ := List.mem_map.mp (List.mem_reverse.mp hc)
    exact hrq c0 hc0

theorem Online.Resent.length {now : Nat} {o o' : Online} {send send' : Timeout} {fl : List Flushed}
    (h : Online.Resent now o o' send send' fl) : o'.resendQueue.length = o.resendQueue.length := by
  rw [h.queue, List.length_map]

theorem Online.Resent.acks {now : Nat} {o o' : Online} {send send' : Timeout} {fl : List Flushed}
    (h : Online.Resent now o o' send send' fl) : ∀ f ∈ fl, f.ack = o.ack := by
  intro f hf
  by_cases hq : o.resendQueue = []
  · rw [(h.idle hq).2.2] at hf; cases hf
  · exact ((h.chunks hq (fun _ => True) (fun _ _ => trivial) (fun _ _ => trivial)).2 f hf).1

/-- A chunk that does not fit is written after a flush, into the empty packet, without asking `canFit` again; the loop
before the repair of defect D4 (`Unfixed.resendLoop`) asks again and can hang. -/
theorem resendLoop_spec {cfg : Cfg} (hc : cfg.Ok) (now : Nat) :
    ∀ (todo : List ResendChunk) (o : Online) (send : Timeout) (acc : List Flushed),
      o.Inv cfg → (∀ c ∈ todo, cfg.accepts c.data.length = true) → (∀ f ∈ acc, f.Valid cfg) →
      ∃ o' send' fl, resendLoop cfg now todo o send acc = .ok (o', send', fl) ∧ o'.Inv cfg ∧
        (∀ f ∈ fl, f.Valid cfg) := by
  intro todo
  induction todo with
  | nil =>
    intro o send acc h _ hacc
    exact ⟨o, send, acc, rfl, h, hacc⟩
  | cons c rest ih =>
    intro o send acc h htodo hacc
    have hcacc := htodo c (by simp)
    unfold resendLoop
    simp only
    -- the state the chunk is written into
    have key : ∃ o1 : Online, o1 = (if o.packet.canFit c.data.length true = true then o else o.flush.1) ∧
        o1.Inv cfg ∧ (o1.packet.canFit c.data.length true = true ∨ o1.packet.chunks = []) := by
      by_cases hf : o.packet.canFit c.data.length true = true
      · exact ⟨o, by simp [hf], h, Or.inl hf⟩
      · exact ⟨o.flush.1, by simp [hf], Online.flush_inv h, Or.inr (Online.flush_packet_nil h)⟩
    obtain ⟨o1, ho1, hinv1, hfit1⟩ := key
    rw [← ho1]
    rw [PacketContents.writeChunk_ok hc _ _ _ hcacc hinv1.pn (by simpa using hfit1)]
    simp only
    have hacc' : ∀ f ∈ (if o.packet.canFit c.data.length true = true then acc else acc ++ o.flush.2), f.Valid cfg := by
      split
      · exact hacc
      · intro f hf
        rcases List.mem_append.mp hf with hf | hf
        · exact hacc f hf
        · exact Online.flush_valid h f hf
    exact ih _ (if o.packet.canFit c.data.length true = true then send else Timeout.after now sendUs) _
      (hinv1.appendVital (c.seq, true) c.data hcacc hfit1) (fun c' hc' => htodo c' (by simp [hc'])) hacc'

theorem Online.resendStart_inv {cfg : Cfg} {o : Online} (h : o.Inv cfg) (now : Nat) : (o.resendStart now).Inv cfg := by
  unfold Online.resendStart
  have hall : ∀ c ∈ o.packetNonvital.chunks, nonvital c = true := by
    intro c hcm; rw [h.nv] at hcm; exact (List.mem_filter.mp hcm).2
  have h1 : o.packetNonvital.chunks.length ≤ o.packet.chunks.length := by
    rw [h.nv]; exact List.length_filter_le _ _
  have h2 : o.packetNonvital.size ≤ o.packet.size := by
    simp only [PacketContents.size]; rw [h.nv]; exact chunksSize_filter_le _ _
  refine ⟨h.pnv, h.pnv, (List.filter_eq_self.mpr hall).symm, Nat.le_trans h1 h.cnt, Nat.le_trans h2 h.size, ?_, ?_⟩
  · intro c hcm
    simp only at hcm
    rw [h.nv] at hcm
    exact h.data c (List.mem_filter.mp hcm).1
  · intro c hcm
    simp only [List.mem_map] at hcm
    obtain ⟨c0, hc0, rfl⟩ := hcm
    exact h.rq c0 hc0

theorem Online.resend_spec {cfg : Cfg} (hc : cfg.Ok) {o : Online} (h : o.Inv cfg) (now : Nat) (send : Timeout) :
    ∃ o' send' fl, o.resend cfg now send = .ok (o', send', fl) ∧ o'.Inv cfg ∧ ∀ f ∈ fl, f.Valid cfg := by
  unfold Online.resend
  split
  · exact ⟨o, send, [], rfl, h, by simp⟩
  · have hinv1 := Online.resendStart_inv h now
    exact resendLoop_spec hc now _ _ send [] hinv1 (fun c hcm => hinv1.rq c (List.mem_reverse.mp hcm)) (by simp)

theorem Online.ackChunks_inv {cfg : Cfg} {o : Online} (h : o.Inv cfg) (ack : Nat) : (o.ackChunks ack).Inv cfg := by
  unfold Online.ackChunks
  split
  · exact ⟨h.pn, h.pnv, h.nv, h.cnt, h.size, h.data, fun c hc => h.rq c (List.mem_of_mem_take hc)⟩
  · exact h

theorem Online.ackChunks_ack (o : Online) (a : Nat) : (o.ackChunks a).ack = o.ack := by
  unfold Online.ackChunks; split <;> rfl

theorem Online.ackChunks_sequence (o : Online) (a : Nat) : (o.ackChunks a).sequence = o.sequence := by
  unfold Online.ackChunks; split <;> rfl

theorem Online.ackChunks_packet (o : Online) (a : Nat) : (o.ackChunks a).packet = o.packet := by
  unfold Online.ackChunks; split <;> rfl

theorem Online.ackChunks_packetNonvital (o : Online) (a : Nat) : (o.ackChunks a).packetNonvital = o.packetNonvital := by
  unfold Online.ackChunks; split <;> rfl

theorem Online.ackChunks_requestResend (o : Online) (a : Nat) : (o.ackChunks a).requestResend = o.requestResend := by
  unfold Online.ackChunks; split <;> rfl

theorem Online.ackChunks_resendQueue (o : Online) (a : Nat) :
    ∃ i, (o.ackChunks a).resendQueue = o.resendQueue.take i := by
  unfold Online.ackChunks
  split
  · exact ⟨_, rfl⟩
  · exact ⟨o.resendQueue.length, by simp⟩

theorem Online.ackChunks_length_le (o : Online) (a : Nat) :
    (o.ackChunks a).resendQueue.length ≤ o.resendQueue.length := by
  obtain ⟨i, h⟩ := o.ackChunks_resendQueue a
  rw [h, List.length_take]
  exact Nat.min_le_right _ _

theorem Online.feedAck_spec {cfg : Cfg} {o : Online} (h : o.Inv cfg) {ack : Nat} (ha : ack < seqMod) :
    o.feedAck ack = .ok (o.ackChunks ack) ∧ (o.ackChunks ack).Inv cfg := by
  unfold Online.feedAck
  rw [if_neg (by omega)]
  exact ⟨rfl, Online.ackChunks_inv h ack⟩

theorem Online.feedAck_eq {o o1 : Online} {a : Nat} (h : o.feedAck a = .ok o1) : a < seqMod ∧ o1 = o.ackChunks a := by
  unfold Online.feedAck at h
  split at h
  · cases h
  · cases h; exact ⟨by omega, rfl⟩

theorem Online.new_feedAck {a : Nat} (h : a < seqMod) : Online.new.feedAck a = .ok .new := by
  simp [Online.feedAck, Nat.not_le.mpr h, Online.ackChunks, Online.new]

theorem Online.receive_eq {cfg : Cfg} {now : Nat} {o o' : Online} {snd s' : Timeout} {rr : Bool} {cs : List Chunk}
    {fl : List Flushed} {evs : List Event} (h : o.receive cfg now snd rr cs = .ok (o', s', fl, evs)) :
    ∃ o2, (rr = false ∧ o2 = o ∧ s' = snd ∧ fl = [] ∨ rr = true ∧ o.resend cfg now snd = .ok (o2, s', fl)) ∧
      o' = { o2 with ack := (receiveEager o2.ack o2.requestResend cs).1,
                     requestResend := (receiveEager o2.ack o2.requestResend cs).2 } ∧
      evs = receiveLazy o2.ack cs := by
  unfold Online.receive at h
  cases rr with
  | false =>
    simp only [Bool.false_eq_true, if_false] at h
    split at h
    · cases h
    · cases h; exact ⟨o, .inl ⟨rfl, rfl, rfl, rfl⟩, rfl, rfl⟩
  | true =>
    simp only [if_true] at h
    split at h
    · cases h
    · rename_i o2 s2 fl2 hr
      split at h
      · cases h
      · cases h; exact ⟨o2, .inr ⟨rfl, hr⟩, rfl, rfl⟩

theorem Online.receive_nil {cfg : Cfg} (now : Nat) (o : Online) (s : Timeout) :
    o.receive cfg now s false [] = .ok (o, s, [], []) := by
  cases o
  simp [Online.receive, chunksSeqOk, receiveEager, receiveLazy]

/-- `hseq` is what the packet reader guarantees of every packet it returns. -/
theorem Online.receive_spec {cfg : Cfg} (hc : cfg.Ok) {o : Online} (h : o.Inv cfg) (now : Nat) (send : Timeout)
    (rr : Bool) (chunks : List Chunk) (hseq : chunksSeqOk chunks = true) :
    ∃ o' send' fl evs, o.receive cfg now send rr chunks = .ok (o', send', fl, evs) ∧ o'.Inv cfg ∧
      ∀ f ∈ fl, f.Valid cfg := by
  unfold Online.receive
  cases rr with
  | false =>
    simp only [Bool.false_eq_true, if_false, hseq, Bool.not_true]
    exact ⟨_, _, _, _, rfl, ⟨h.pn, h.pnv, h.nv, h.cnt, h.size, h.data, h.rq⟩, by simp⟩
  | true =>
    obtain ⟨o2, send2, fl, he, hinv, hfl⟩ := Online.resend_spec hc h now send
    simp only [if_true, he, hseq, Bool.not_true, Bool.false_eq_true, if_false]
    exact ⟨_, _, _, _, rfl, ⟨hinv.pn, hinv.pnv, hinv.nv, hinv.cnt, hinv.size, hinv.data, hinv.rq⟩, hfl⟩

/-! ## C02: no call hangs; the send timer stays armed -/

def NoHang {α : Type} (r : Except Fail α) : Prop := r ≠ .error .hang

theorem NoHang.ok {α : Type} (a : α) : NoHang (.ok a : Except Fail α) := fun h => nomatch h

theorem NoHang.panic {α : Type} (s : String) : NoHang (.error (.panic s) : Except Fail α) := fun h => nomatch h

theorem NoHang.err {α β : Type} {x : Except Fail α} {e : Fail} (h : NoHang x) (he : x = .error e) :
    NoHang (.error e : Except Fail β) := by
  intro h'; cases h'; exact h he

theorem PacketContents.writeChunk_nohang (cfg : Cfg) (p : PacketContents) (d : Bytes) (v : Option (Nat × Bool)) :
    NoHang (p.writeChunk cfg d v) := by
  unfold PacketContents.writeChunk
  split
  · exact .panic _
  · split
    · exact .panic _
    · split
      · exact .panic _
      · exact .ok _

theorem Online.queue_nohang (cfg : Cfg) (now : Nat) (o : Online) (d : Bytes) (v : Bool) : NoHang (o.queue cfg now d v) := by
  unfold Online.queue
  cases v with
  | true =>
    simp only [if_true]
    split
    · exact .panic _
    · split
      · exact (PacketContents.writeChunk_nohang _ _ _ _).err ‹_›
      · exact .ok _
  | false =>
    simp only [Bool.false_eq_true, if_false]
    split
    · exact (PacketContents.writeChunk_nohang _ _ _ _).err ‹_›
    · split
      · exact (PacketContents.writeChunk_nohang _ _ _ _).err ‹_›
      · exact .ok _

theorem Online.send_nohang (cfg : Cfg) (now : Nat) (o : Online) (d : Bytes) (v : Bool) : NoHang (o.send cfg now d v) := by
  unfold Online.send
  split
  · exact .ok _
  · simp only
    split
    · exact (Online.queue_nohang _ _ _ _ _).err ‹_›
    · exact .ok _

theorem resendLoop_nohang (cfg : Cfg) (now : Nat) :
    ∀ (todo : List ResendChunk) (o : Online) (send : Timeout) (acc : List Flushed),
      NoHang (resendLoop cfg now todo o send acc) := by
  intro todo
  induction todo with
  | nil => exact fun _ _ _ => .ok _
  | cons c rest ih =>
    intro o send acc
    unfold resendLoop
    simp only
    split
    · exact (PacketContents.writeChunk_nohang cfg _ _ _).err ‹_›
    · exact ih _ _ _

theorem Online.resend_nohang (cfg : Cfg) (now : Nat) (o : Online) (send : Timeout) : NoHang (o.resend cfg now send) := by
  unfold Online.resend
  split
  · exact .ok _
  · exact resendLoop_nohang cfg now _ _ send []

theorem Online.resend_active {cfg : Cfg} {now : Nat} {o o' : Online} {send send' : Timeout} {fl : List Flushed}
    (he : o.resend cfg now send = .ok (o', send', fl)) (hs : send.isActive = true) : send'.isActive = true := by
  rcases (Online.resend_eq he).timer with rfl | rfl
  · exact hs
  · rfl

theorem Online.receive_nohang (cfg : Cfg) (now : Nat) (o : Online) (send : Timeout) (rr : Bool) (cs : List Chunk) :
    NoHang (o.receive cfg now send rr cs) := by
  unfold Online.receive
  cases rr with
  | false =>
    simp only [Bool.false_eq_true, if_false]
    split
    · exact .panic _
    · exact .ok _
  | true =>
    simp only [if_true]
    split
    · exact (Online.resend_nohang _ _ _ _).err ‹_›
    · split
      · exact .panic _
      · exact .ok _

theorem Online.receive_active {cfg : Cfg} {now : Nat} {o o' : Online} {send send' : Timeout} {rr : Bool} {cs : List Chunk}
    {fl : List Flushed} {evs : List Event} (he : o.receive cfg now send rr cs = .ok (o', send', fl, evs))
    (hs : send.isActive = true) : send'.isActive = true := by
  obtain ⟨o2, hres, _, _⟩ := Online.receive_eq he
  rcases hres with ⟨_, _, rfl, _⟩ | ⟨_, hr⟩
  · exact hs
  · exact Online.resend_active hr hs

theorem Online.feedAck_nohang (o : Online) (ack : Nat) : NoHang (o.feedAck ack) := by
  unfold Online.feedAck
  split
  · exact .panic _
  · exact .ok _

/-! ## C01: which sequence number `seqUpdate` accepts -/

theorem seqNext_eq (a : Nat) : seqNext a = (a + 1) % 1024 := rfl

theorem seqCompare_current_iff (a b : Nat) : seqCompare a b = .current ↔ a = b := by
  unfold seqCompare
  simp only
  constructor
  · intro h
    by_cases h1 : a < b
    · simp [h1] at h; split at h <;> cases h
    · by_cases h2 : b < a
      · simp [h1, h2] at h; split at h <;> cases h
      · omega
  · intro h; subst h; simp

theorem seqUpdate_accept_fst (a s : Nat) : (seqUpdate a s).1 = if seqNext a = s then s else a := by
  unfold seqUpdate
  simp only
  by_cases h : seqNext a = s
  · simp [h, (seqCompare_current_iff _ _).mpr]
  · have : seqCompare (seqNext a) s ≠ .current := fun hc => h ((seqCompare_current_iff _ _).mp hc)
    simp [h, this]

theorem seqUpdate_accept_snd (a s : Nat) : (seqUpdate a s).2 = .current ↔ seqNext a = s := by
  unfold seqUpdate
  simp only
  exact seqCompare_current_iff _ _

theorem seqUpdate_reject_fst {a s : Nat} (h : (seqUpdate a s).2 ≠ .current) : (seqUpdate a s).1 = a := by
  rw [seqUpdate_accept_fst, if_neg (mt (seqUpdate_accept_snd a s).mpr h)]

end Tw.Conn
