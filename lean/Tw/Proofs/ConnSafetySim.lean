import Tw.Proofs.ConnSafetyAbs

/-! C01, from the two-endpoint network model to the protocol-independent invariant.  `absEnd` is the `AEnd` view of a
concrete endpoint; a variant whose returning calls and deliveries preserve `AInv` of these views under H1 / H2 is a
`Sim`, and then `WInv` holds in every world an admissible schedule reaches (`run_inv`).  Every other invariant of
reachable worlds is a `Rel` (`Rel.run`): the handshake clause (`Hs`) and the local predicates on connection objects and
datagrams, without and with the clock (`Loc`, `LocT`), are instances. -/
namespace Tw.NetSim
open Tw.Conn Tw.Time

theorem vitalOf_append (a b : List (Bytes × Bool)) : vitalOf (a ++ b) = vitalOf a ++ vitalOf b := by
  induction a with
  | nil => rfl
  | cons x xs ih => obtain ⟨d, v⟩ := x; cases v <;> simp [vitalOf, ih]

theorem nonvitalOf_append (a b : List (Bytes × Bool)) : nonvitalOf (a ++ b) = nonvitalOf a ++ nonvitalOf b := by
  induction a with
  | nil => rfl
  | cons x xs ih => obtain ⟨d, v⟩ := x; cases v <;> simp [nonvitalOf, ih]

theorem vitalPayloads_append (a b : List Event) : vitalPayloads (a ++ b) = vitalPayloads a ++ vitalPayloads b := by
  induction a with
  | nil => rfl
  | cons x xs ih =>
    cases x with
    | chunk d v => cases v <;> simp [vitalPayloads, ih]
    | _ => simp [vitalPayloads, ih]

theorem nonvitalPayloads_append (a b : List Event) :
    nonvitalPayloads (a ++ b) = nonvitalPayloads a ++ nonvitalPayloads b := by
  induction a with
  | nil => rfl
  | cons x xs ih =>
    cases x with
    | chunk d v => cases v <;> simp [nonvitalPayloads, ih]
    | _ => simp [nonvitalPayloads, ih]

theorem readyCount_append (a b : List Event) : readyCount (a ++ b) = readyCount a + readyCount b := by
  induction a with
  | nil => simp [readyCount]
  | cons x xs ih =>
    cases x <;> simp [readyCount, ih] <;> omega

def absEnt (P : Proto) (s : Sent P.Packet) : Option AEnt :=
  (P.view s.pkt).map fun v => ⟨v.1, v.2, s.nStamp, s.dStamp⟩

def absEnd (P : Proto) (core : P.Conn → Option Online) (e : End P) : AEnd :=
  ⟨core e.conn, e.out.filterMap (absEnt P), e.submittedVital, e.submittedNonvital, e.deliveredVital,
    e.deliveredNonvital⟩

/-- the entries for the datagrams with the given (ack, chunks) views, emitted now -/
def mkEnts (x : AEnd) (vs : List (Nat × List Chunk)) : List AEnt :=
  vs.map fun v => ⟨v.1, v.2, x.sub.length, x.del.length⟩

variable {P : Proto} {core : P.Conn → Option Online}

theorem absEnd_book (e : End P) (r : Ret P.Conn P.Packet) (sub : List (Bytes × Bool)) :
    (absEnd P core (e.book r sub)).st = core r.conn ∧
    (absEnd P core (e.book r sub)).out = (absEnd P core e).out ++ mkEnts (absEnd P core e) (r.sent.filterMap P.view) ∧
    (absEnd P core (e.book r sub)).sub = (absEnd P core e).sub ++ vitalOf sub ∧
    (absEnd P core (e.book r sub)).nv = (absEnd P core e).nv ++ nonvitalOf sub ∧
    (absEnd P core (e.book r sub)).del = (absEnd P core e).del ++ vitalPayloads r.events ∧
    (absEnd P core (e.book r sub)).nvDel = (absEnd P core e).nvDel ++ nonvitalPayloads r.events := by
  refine ⟨rfl, ?_, ?_, ?_, ?_, ?_⟩
  · simp only [absEnd, End.book, List.filterMap_append, mkEnts, List.filterMap_map, List.map_filterMap]
    rfl
  · simp [absEnd, End.book, End.submittedVital, vitalOf_append]
  · simp [absEnd, End.book, End.submittedNonvital, nonvitalOf_append]
  · simp [absEnd, End.book, End.deliveredVital, vitalPayloads_append]
  · simp [absEnd, End.book, End.deliveredNonvital, nonvitalPayloads_append]

theorem mem_absEnd_out {peer : End P} {dg : Sent P.Packet} (hdg : dg ∈ peer.out) {ack : Nat} {cs : List Chunk}
    (hv : P.view dg.pkt = some (ack, cs)) : (⟨ack, cs, dg.nStamp, dg.dStamp⟩ : AEnt) ∈ (absEnd P core peer).out := by
  simp only [absEnd, List.mem_filterMap]
  exact ⟨dg, hdg, by simp [absEnt, hv]⟩

/-- the chunks a call submits (as `step` books them) -/
def subOf {C Pk : Type} (c : Call) (r : Ret C Pk) : List (Bytes × Bool) :=
  match c with
  | .send d v => if r.accepted then [(d, v)] else []
  | _ => []

inductive WStep (w : World P) : Move P → World P → Prop
  | advance (dt : Nat) : WStep w (.advance dt) { w with now := w.now + dt }
  | call (s : Side) (draws : List Nat) (c : Call) (r : Ret P.Conn P.Packet)
      (hr : P.call w.now draws (w.get s).conn c = .ok r) :
      WStep w (.call s draws c) (w.set s ((w.get s).book r (subOf c r)))
  | deliver (to : Side) (i : Nat) (draws : List Nat) (alt : P.Alt) (dg : Sent P.Packet) (r : Ret P.Conn P.Packet)
      (hdg : dg ∈ (w.get to.other).out) (hr : P.recv w.now draws (w.get to).conn dg.pkt alt = .ok r)
      (hi : (w.get to.other).out[i]? = some dg) :
      WStep w (.deliver to i draws alt) (w.set to ((w.get to).book r []))

theorem step_cases {w w' : World P} {m : Move P} (he : step w m = some w') : WStep w m w' := by
  cases m with
  | advance dt => cases he; exact .advance dt
  | call s draws c =>
    simp only [step] at he
    split at he
    · cases he
    · rename_i r hr
      cases he
      exact .call s draws c r hr
  | deliver to i draws alt =>
    simp only [step] at he
    split at he
    · cases he
    · rename_i dg hdg
      split at he
      · cases he
      · rename_i r hr
        cases he
        exact .deliver to i draws alt dg r (List.mem_of_getElem? hdg) hr hdg

theorem run_induction {I : World P → Prop} (hstep : ∀ w m w', I w → step w m = some w' → I w') :
    ∀ (ms : List (Move P)) (w w' : World P), I w → run w ms = some w' → I w' := by
  intro ms
  induction ms with
  | nil => intro w w' h he; cases he; exact h
  | cons m ms ih =>
    intro w w' h he
    simp only [run] at he
    split at he
    · cases he
    · rename_i w1 hst
      exact ih w1 w' (hstep w m w1 h hst) he

/-- a relation between an endpoint and its peer, at a time, that calls and deliveries on the endpoint preserve (a
delivery may use the relation the other way round) and that survives the clock advancing and the peer's history
growing -/
structure Rel (P : Proto) (G : Nat → End P → End P → Prop) : Prop where
  adv : ∀ {now now' : Nat} {e peer : End P}, now ≤ now' → G now e peer → G now' e peer
  call : ∀ {now : Nat} {draws : List Nat} {e peer : End P} {c : Call} {r : Ret P.Conn P.Packet}
    (sub : List (Bytes × Bool)), P.call now draws e.conn c = .ok r → G now e peer → G now (e.book r sub) peer
  recv : ∀ {now : Nat} {draws : List Nat} {e peer : End P} {dg : Sent P.Packet} {alt : P.Alt} {r : Ret P.Conn P.Packet},
    dg ∈ peer.out → P.recv now draws e.conn dg.pkt alt = .ok r → G now e peer → G now peer e → G now (e.book r []) peer
  mono : ∀ {now : Nat} {e peer : End P} (r : Ret P.Conn P.Packet) (sub : List (Bytes × Bool)),
    G now e peer → G now e (peer.book r sub)

def Both (G : Nat → End P → End P → Prop) (w : World P) : Prop := G w.now w.a w.b ∧ G w.now w.b w.a

theorem Both.side {G : Nat → End P → End P → Prop} {w : World P} (h : Both G w) (s : Side) :
    G w.now (w.get s) (w.get s.other) := by
  cases s
  · exact h.1
  · exact h.2

theorem Rel.step {G : Nat → End P → End P → Prop} (hG : Rel P G) {w w' : World P} {m : Move P}
    (h : Both G w) (he : step w m = some w') : Both G w' := by
  cases step_cases he with
  | advance dt => exact ⟨hG.adv (Nat.le_add_right _ _) h.1, hG.adv (Nat.le_add_right _ _) h.2⟩
  | call s draws c r hr =>
    cases s with
    | a => exact ⟨hG.call _ hr h.1, hG.mono _ _ h.2⟩
    | b => exact ⟨hG.mono _ _ h.1, hG.call _ hr h.2⟩
  | deliver to i draws alt dg r hdg hr =>
    cases to with
    | a => exact ⟨hG.recv hdg hr h.1 h.2, hG.mono _ _ h.2⟩
    | b => exact ⟨hG.mono _ _ h.1, hG.recv hdg hr h.2 h.1⟩

theorem Rel.run {G : Nat → End P → End P → Prop} (hG : Rel P G) (ms : List (Move P)) (w w' : World P)
    (h : Both G w) (he : run w ms = some w') : Both G w' :=
  run_induction (I := Both G) (fun _ _ _ h he => hG.step h he) ms w w' h he

/-- The third hypothesis of `call` is H1 and that of `recv` is H2, as the schedule's admissibility supplies them: H1 speaks
of `P.online`, the model's own reading of the core, not of `core` (`Steps.online` of `ConnSafetyStep.lean` connects the
two). -/
structure Sim (P : Proto) (core : P.Conn → Option Online) (cfg : Cfg) : Prop where
  init : core P.init = some .new
  call : ∀ (now : Nat) (draws : List Nat) (e : End P) (c : Call) (r : Ret P.Conn P.Packet) (y : AEnd),
    P.call now draws e.conn c = .ok r → AInv cfg (absEnd P core e) y →
    (∀ d, c = .send d true → ∀ o, P.online e.conn = some o → o.resendQueue.length < 512) →
    AInv cfg (absEnd P core (e.book r (subOf c r))) y
  recv : ∀ (now : Nat) (draws : List Nat) (e peer : End P) (dg : Sent P.Packet) (alt : P.Alt)
    (r : Ret P.Conn P.Packet), dg ∈ peer.out → P.recv now draws e.conn dg.pkt alt = .ok r →
    AInv cfg (absEnd P core e) (absEnd P core peer) →
    (∀ ack cs, P.view dg.pkt = some (ack, cs) → e.nAbs < unwrap dg.dStamp ack + 1024 ∧
      ∀ c ∈ cs, ∀ s r', c.vital = some (s, r') → e.dAbs + 1 < unwrap dg.nStamp s + 1024) →
    AInv cfg (absEnd P core (e.book r [])) (absEnd P core peer)

def WInv (P : Proto) (core : P.Conn → Option Online) (cfg : Cfg) (w : World P) : Prop :=
  AInv cfg (absEnd P core w.a) (absEnd P core w.b)

theorem WInv.side {cfg : Cfg} {w : World P} (h : WInv P core cfg w) (s : Side) :
    AInv cfg (absEnd P core (w.get s)) (absEnd P core (w.get s.other)) := by
  cases s
  · exact h
  · exact h.symm

theorem WInv.of_side {cfg : Cfg} {w : World P} (s : Side) (e : End P)
    (h : AInv cfg (absEnd P core e) (absEnd P core (w.get s.other))) : WInv P core cfg (w.set s e) := by
  cases s
  · exact h
  · exact h.symm

theorem h2_spec {w : World P} {to : Side} {i : Nat} {draws : List Nat} {alt : P.Alt} {dg : Sent P.Packet}
    (hdg : (w.get to.other).out[i]? = some dg) (h : h2 w (.deliver to i draws alt) = true) :
    ∀ ack cs, P.view dg.pkt = some (ack, cs) → (w.get to).nAbs < unwrap dg.dStamp ack + 1024 ∧
      ∀ c ∈ cs, ∀ s r', c.vital = some (s, r') → (w.get to).dAbs + 1 < unwrap dg.nStamp s + 1024 := by
  intro ack cs hv
  simp only [h2, hdg, hv, Bool.and_eq_true, decide_eq_true_eq, List.all_eq_true] at h
  rw [seqMod_eq] at h
  refine ⟨h.1, ?_⟩
  intro c hc s r' hvit
  have := h.2 c hc
  simpa [hvit] using this

theorem admissible_cons {w : World P} {m : Move P} {ms : List (Move P)} :
    admissible w (m :: ms) = true ↔
      h1 w m = true ∧ h2 w m = true ∧ ∃ w1, step w m = some w1 ∧ admissible w1 ms = true := by
  simp only [admissible, Bool.and_eq_true, and_assoc]
  cases step w m <;> simp

theorem admissible_of_run {ms : List (Move P)} (hms : ∀ m ∈ ms, ∀ w, h1 w m = true ∧ h2 w m = true) :
    ∀ {w w1 : World P}, run w ms = some w1 → admissible w ms = true := by
  induction ms with
  | nil => intro _ _ _; rfl
  | cons m ms ih =>
    intro w w1 h
    simp only [run] at h
    cases hs : step w m with
    | none => rw [hs] at h; cases h
    | some x =>
      rw [hs] at h
      exact admissible_cons.mpr ⟨(hms m (by simp) w).1, (hms m (by simp) w).2, x, hs,
        ih (fun m' hm' => hms m' (List.mem_cons_of_mem _ hm')) h⟩

theorem step_inv {cfg : Cfg} (hs : Sim P core cfg) {w w' : World P} (h : WInv P core cfg w) (m : Move P)
    (hh1 : h1 w m = true) (hh2 : h2 w m = true) (he : step w m = some w') : WInv P core cfg w' := by
  cases step_cases he with
  | advance dt => exact h
  | call s draws c r hr =>
    refine WInv.of_side s _ (hs.call _ _ _ _ _ _ hr (h.side s) ?_)
    intro d hcd o ho
    subst hcd
    simp only [h1, ho, decide_eq_true_eq] at hh1
    rw [seqMod_eq] at hh1
    omega
  | deliver to i draws alt dg r hdg hr hi =>
    exact WInv.of_side to _ (hs.recv _ _ _ _ _ _ _ hdg hr (h.side to) (h2_spec hi hh2))

theorem init_inv {cfg : Cfg} (hs : Sim P core cfg) : WInv P core cfg (World.init P) := by
  have : absEnd P core ({ conn := P.init } : End P) = AEnd.init := by
    simp [absEnd, hs.init, AEnd.init, End.submittedVital, End.submittedNonvital, End.deliveredVital,
      End.deliveredNonvital, vitalOf, nonvitalOf, vitalPayloads, nonvitalPayloads]
  simp only [WInv, World.init, this]
  exact AInv.init cfg

theorem run_inv {cfg : Cfg} (hs : Sim P core cfg) : ∀ (ms : List (Move P)) (w w' : World P),
    WInv P core cfg w → admissible w ms = true → run w ms = some w' → WInv P core cfg w' := by
  intro ms
  induction ms with
  | nil => intro w w' h _ he; simp [run] at he; subst he; exact h
  | cons m ms ih =>
    intro w w' h ha he
    obtain ⟨hh1, hh2, w1, hst, ha1⟩ := admissible_cons.mp ha
    simp only [run, hst] at he
    exact ih w1 w' (step_inv hs h m hh1 hh2 hst) ha1 he

/-! ## the handshake clause: `Ready` at most once, and only after the peer's accept datagram -/

theorem readyCount_pos_of_mem {evs : List Event} (h : Event.ready ∈ evs) : readyCount evs ≠ 0 := by
  induction evs with
  | nil => simp at h
  | cons x xs ih =>
    cases x with
    | ready => simp [readyCount]
    | _ =>
      simp only [List.mem_cons] at h
      rcases h with h | h
      · cases h
      · simpa [readyCount] using ih h

theorem readyCount_receiveLazy (ack : Nat) (cs : List Chunk) : readyCount (receiveLazy ack cs) = 0 := by
  induction cs generalizing ack with
  | nil => rfl
  | cons c cs ih =>
    unfold receiveLazy
    cases hv : c.vital with
    | none => simp [readyCount, ih]
    | some v =>
      obtain ⟨s, r⟩ := v
      simp only
      split
      · simp [readyCount, ih]
      · exact ih _

theorem readyCount_receive {cfg : Cfg} {now : Nat} {o : Online} {snd : Timeout} {rr : Bool} {cs : List Chunk}
    {o' : Online} {s' : Timeout} {fl : List Flushed} {evs : List Event}
    (h : o.receive cfg now snd rr cs = .ok (o', s', fl, evs)) : readyCount evs = 0 := by
  obtain ⟨o2, _, _, rfl⟩ := Online.receive_eq h
  exact readyCount_receiveLazy _ _

/-- what the handshake clause needs to know about a protocol variant: `late` = online or
disconnected (the states from which the connection never reports `Ready` again) -/
structure Hs (P : Proto) (late : P.Conn → Bool) : Prop where
  call : ∀ (now : Nat) (draws : List Nat) (c : P.Conn) (cl : Call) (r : Ret P.Conn P.Packet),
    P.call now draws c cl = .ok r → readyCount r.events = 0 ∧ (late c = true → late r.conn = true)
  recv : ∀ (now : Nat) (draws : List Nat) (c : P.Conn) (p : P.Packet) (alt : P.Alt) (r : Ret P.Conn P.Packet),
    P.recv now draws c p alt = .ok r →
      (late c = true → late r.conn = true ∧ readyCount r.events = 0) ∧
      (readyCount r.events = 0 ∨ (readyCount r.events = 1 ∧ late r.conn = true ∧ P.isAccept p = true))

def Hside (P : Proto) (late : P.Conn → Bool) (e peer : End P) : Prop :=
  (readyCount e.events = 0 ∨ (readyCount e.events = 1 ∧ late e.conn = true)) ∧
  (readyCount e.events ≠ 0 → ∃ dg ∈ peer.out, P.isAccept dg.pkt = true)

def HInv (P : Proto) (late : P.Conn → Bool) (w : World P) : Prop :=
  Hside P late w.a w.b ∧ Hside P late w.b w.a

variable {late : P.Conn → Bool}

theorem Hside.mono_peer {e peer peer' : End P} (h : Hside P late e peer) (hout : ∀ dg ∈ peer.out, dg ∈ peer'.out) :
    Hside P late e peer' :=
  ⟨h.1, fun hne => by obtain ⟨dg, hdg, ha⟩ := h.2 hne; exact ⟨dg, hout dg hdg, ha⟩⟩

theorem book_out_mono (e : End P) (r : Ret P.Conn P.Packet) (sub : List (Bytes × Bool)) :
    ∀ dg ∈ e.out, dg ∈ (e.book r sub).out := by
  intro dg hdg
  simp only [End.book]
  exact List.mem_append_left _ hdg

theorem out_book (Q : P.Packet → Prop) (e : End P) (r : Ret P.Conn P.Packet) (sub : List (Bytes × Bool)) :
    (∃ dg ∈ (e.book r sub).out, Q dg.pkt) ↔ (∃ dg ∈ e.out, Q dg.pkt) ∨ ∃ p ∈ r.sent, Q p := by
  simp only [End.book, List.mem_append, List.mem_map]
  constructor
  · rintro ⟨dg, hdg | ⟨p, hp, rfl⟩, h⟩
    · exact Or.inl ⟨dg, hdg, h⟩
    · exact Or.inr ⟨p, hp, h⟩
  · rintro (⟨dg, hdg, h⟩ | ⟨p, hp, h⟩)
    · exact ⟨dg, Or.inl hdg, h⟩
    · exact ⟨_, Or.inr ⟨p, hp, rfl⟩, h⟩

theorem Hside.call (hs : Hs P late) {e peer : End P} (h : Hside P late e peer) {now : Nat} {draws : List Nat}
    {cl : Call} {r : Ret P.Conn P.Packet} (hr : P.call now draws e.conn cl = .ok r) (sub : List (Bytes × Bool)) :
    Hside P late (e.book r sub) peer := by
  obtain ⟨h0, hl⟩ := hs.call _ _ _ _ _ hr
  have hev : readyCount (e.book r sub).events = readyCount e.events := by
    simp [End.book, readyCount_append, h0]
  refine ⟨?_, fun hne => h.2 (by rw [← hev]; exact hne)⟩
  rw [hev]
  rcases h.1 with h1 | ⟨h1, h2⟩
  · exact Or.inl h1
  · exact Or.inr ⟨h1, hl h2⟩

theorem Hside.recv (hs : Hs P late) {e peer : End P} (h : Hside P late e peer) {now : Nat} {draws : List Nat}
    {dg : Sent P.Packet} (hdg : dg ∈ peer.out) {alt : P.Alt} {r : Ret P.Conn P.Packet}
    (hr : P.recv now draws e.conn dg.pkt alt = .ok r) : Hside P late (e.book r []) peer := by
  obtain ⟨hl, hc⟩ := hs.recv _ _ _ _ _ _ hr
  have hev : readyCount (e.book r []).events = readyCount e.events + readyCount r.events := by
    simp [End.book, readyCount_append]
  rcases h.1 with h1 | ⟨h1, h2⟩
  · rcases hc with hc | ⟨hc1, hc2, hc3⟩
    · exact ⟨Or.inl (by rw [hev, h1, hc]), fun hne => absurd (by rw [hev, h1, hc]) hne⟩
    · exact ⟨Or.inr ⟨by rw [hev, h1, hc1], hc2⟩, fun _ => ⟨dg, hdg, hc3⟩⟩
  · obtain ⟨l1, l2⟩ := hl h2
    exact ⟨Or.inr ⟨by rw [hev, h1, l2], l1⟩, fun _ => h.2 (by rw [h1]; simp)⟩

theorem Hs.rel (hs : Hs P late) : Rel P fun _ => Hside P late where
  adv := fun _ h => h
  call := fun sub hr h => h.call hs hr sub
  recv := fun hdg hr h _ => h.recv hs hdg hr
  mono := fun _ _ h => h.mono_peer (book_out_mono _ _ _)

theorem init_hs : HInv P late (World.init P) :=
  ⟨⟨Or.inl rfl, fun h => absurd rfl h⟩, ⟨Or.inl rfl, fun h => absurd rfl h⟩⟩

theorem run_hs (hs : Hs P late) : ∀ (ms : List (Move P)) (w w' : World P),
    HInv P late w → run w ms = some w' → HInv P late w' := hs.rel.run

/-- **C01 on a world**, from the two invariants -/
theorem safe_of {cfg : Cfg} {w : World P} (hw : WInv P core cfg w) (hh : HInv P late w) : Safe w := by
  obtain ⟨a, b, c, d⟩ := AInv.safe hw
  refine ⟨a, b, c, d, ?_, ?_, ?_, ?_⟩
  · rcases hh.1.1 with h | ⟨h, _⟩ <;> omega
  · rcases hh.2.1 with h | ⟨h, _⟩ <;> omega
  · exact fun hr => hh.1.2 (readyCount_pos_of_mem hr)
  · exact fun hr => hh.2.2 (readyCount_pos_of_mem hr)

/-! ## local invariants -/

structure Loc (P : Proto) (S : P.Conn → Prop) (K : P.Packet → Prop) : Prop where
  init : S P.init
  call : ∀ (now : Nat) (draws : List Nat) (c : P.Conn) (cl : Call) (r : Ret P.Conn P.Packet),
    P.call now draws c cl = .ok r → S c → S r.conn ∧ ∀ p ∈ r.sent, K p
  recv : ∀ (now : Nat) (draws : List Nat) (c : P.Conn) (p : P.Packet) (alt : P.Alt) (r : Ret P.Conn P.Packet),
    P.recv now draws c p alt = .ok r → S c → K p → S r.conn ∧ ∀ p' ∈ r.sent, K p'

def LInv {P : Proto} (S : P.Conn → Prop) (K : P.Packet → Prop) (w : World P) : Prop :=
  (S w.a.conn ∧ ∀ dg ∈ w.a.out, K dg.pkt) ∧ (S w.b.conn ∧ ∀ dg ∈ w.b.out, K dg.pkt)

theorem LInv.side {S : P.Conn → Prop} {K : P.Packet → Prop} {w : World P} (h : LInv S K w) (s : Side) :
    S (w.get s).conn ∧ ∀ dg ∈ (w.get s).out, K dg.pkt := Both.side (G := fun _ e _ => S e.conn ∧ ∀ dg ∈ e.out, K dg.pkt) h s

theorem book_loc {S : P.Conn → Prop} {K : P.Packet → Prop} {e : End P} {r : Ret P.Conn P.Packet}
    (he : ∀ dg ∈ e.out, K dg.pkt) (hs : S r.conn) (hk : ∀ p ∈ r.sent, K p) (sub : List (Bytes × Bool)) :
    S (e.book r sub).conn ∧ ∀ dg ∈ (e.book r sub).out, K dg.pkt := by
  refine ⟨hs, ?_⟩
  intro dg hdg
  simp only [End.book] at hdg
  rcases List.mem_append.mp hdg with hdg | hdg
  · exact he dg hdg
  · simp only [List.mem_map] at hdg
    obtain ⟨p, hp, rfl⟩ := hdg
    exact hk p hp

theorem Loc.rel {S : P.Conn → Prop} {K : P.Packet → Prop} (hl : Loc P S K) :
    Rel P fun _ e _ => S e.conn ∧ ∀ dg ∈ e.out, K dg.pkt where
  adv := fun _ h => h
  call := fun sub hr h => by
    obtain ⟨a, b⟩ := hl.call _ _ _ _ _ hr h.1
    exact book_loc h.2 a b sub
  recv := fun hdg hr h hp => by
    obtain ⟨a, b⟩ := hl.recv _ _ _ _ _ _ hr h.1 (hp.2 _ hdg)
    exact book_loc h.2 a b []
  mono := fun _ _ h => h

theorem run_loc {S : P.Conn → Prop} {K : P.Packet → Prop} (hl : Loc P S K) :
    ∀ (ms : List (Move P)) (w w' : World P), LInv S K w → run w ms = some w' → LInv S K w' := hl.rel.run

theorem init_loc {S : P.Conn → Prop} {K : P.Packet → Prop} (hl : Loc P S K) : LInv S K (World.init P) :=
  ⟨⟨hl.init, by intro dg h; simp [World.init] at h⟩, ⟨hl.init, by intro dg h; simp [World.init] at h⟩⟩

structure LocT (P : Proto) (S : Nat → P.Conn → Prop) : Prop where
  init : ∀ now, S now P.init
  mono : ∀ (now now' : Nat) (c : P.Conn), now ≤ now' → S now c → S now' c
  call : ∀ (now : Nat) (draws : List Nat) (c : P.Conn) (cl : Call) (r : Ret P.Conn P.Packet),
    P.call now draws c cl = .ok r → S now c → S now r.conn
  recv : ∀ (now : Nat) (draws : List Nat) (c : P.Conn) (p : P.Packet) (alt : P.Alt) (r : Ret P.Conn P.Packet),
    P.recv now draws c p alt = .ok r → S now c → S now r.conn

def TInv {P : Proto} (S : Nat → P.Conn → Prop) (w : World P) : Prop := S w.now w.a.conn ∧ S w.now w.b.conn

theorem LocT.rel {S : Nat → P.Conn → Prop} (hl : LocT P S) : Rel P fun now e _ => S now e.conn where
  adv := fun hle h => hl.mono _ _ _ hle h
  call := fun _ hr h => hl.call _ _ _ _ _ hr h
  recv := fun _ hr h _ => hl.recv _ _ _ _ _ _ hr h
  mono := fun _ _ h => h

theorem run_loct {S : Nat → P.Conn → Prop} (hl : LocT P S) :
    ∀ (ms : List (Move P)) (w w' : World P), TInv S w → run w ms = some w' → TInv S w' := hl.rel.run

theorem init_loct {S : Nat → P.Conn → Prop} (hl : LocT P S) : TInv S (World.init P) := ⟨hl.init _, hl.init _⟩

end Tw.NetSim
