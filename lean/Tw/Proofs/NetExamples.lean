import Tw.Model.NetRef

/-! What the examples of `Props/C20` run. -/
namespace Tw.Net
open Tw.Conn Tw.Conn6

/-- equality of call results is decidable (for the `decide`d examples) -/
instance instDecEqExcept {ε α : Type} [DecidableEq ε] [DecidableEq α] : DecidableEq (Except ε α)
  | .ok a, .ok b => if h : a = b then isTrue (by rw [h]) else isFalse (fun h' => h (by injection h'))
  | .error a, .error b => if h : a = b then isTrue (by rw [h]) else isFalse (fun h' => h (by injection h'))
  | .ok _, .error _ => isFalse (fun h => by cases h)
  | .error _, .ok _ => isFalse (fun h => by cases h)

def connectReq (tok : Bool) : Option Bool → Option Conn6.Packet := fun _ => some (connectPacket tok)

/-- connect request from 1 (with token), its retransmission, accept, connect request from 2
(vanilla), connect out to 3, half a second later a tick, reject 2's peer, disconnect 1's peer -/
def exampleHistory : History := [
  ({ now := 0 }, .feed 1 (connectReq true)),
  ({ now := 0 }, .feed 1 (connectReq true)),
  ({ now := 0, draws := [0x01020304] }, .accept 0),
  ({ now := 0 }, .feed 2 (connectReq false)),
  ({ now := 0 }, .connect 3),
  ({ now := 600000 }, .tick),
  ({ now := 600000 }, .reject 1 []),
  ({ now := 600000 }, .disconnect 0 [98])]

def finalPeers : Except Fail (Net × List (Ret × Out)) → Option (List Nat × List Nat)
  | .ok (n, _) => some (pids n.peers, addrs n.peers)
  | .error _ => none

/-- `step` with `Net::feed` as it was before the repair of D22 -/
def legacyStep (env : Env) (net : Net) : Op → Res
  | .feed a rd => feedLegacy env net a rd
  | op => step env net op

end Tw.Net
