import Tw.Model.OnlineNet
import Tw.Proofs.ConnSafetyOnline
import Tw.Proofs.ConnProgressV

/-! C02 (c), progress of the two online cores.  `Tw.OnlineNet` is a copy of `Tw.NetSim.Core` (`toCore`, `step_toCore`), so
the safety invariant carries over (`Inv`, `run_inv`); one fair round is a `RoundV` of the two cores (`fairRound_spec`), and
`four_rounds` of `ConnProgressV` does the rest. -/
namespace Tw.OnlineNet
open Tw.Conn Tw.Time

theorem vitalPayloads_eq : ∀ evs, vitalPayloads evs = Tw.NetSim.vitalPayloads evs
  | [] => rfl
  | e :: es => by
    have ih := vitalPayloads_eq es
    cases e with
    | chunk d v => cases v <;> simp [vitalPayloads, Tw.NetSim.vitalPayloads, ih]
    | _ => simp [vitalPayloads, Tw.NetSim.vitalPayloads, ih]

theorem vitalPayloads_conn : ∀ evs, vitalPayloads evs = Tw.Conn.vitalPayloads evs
  | [] => rfl
  | e :: es => by
    have ih := vitalPayloads_conn es
    cases e with
    | chunk d v => cases v <;> simp [vitalPayloads, Tw.Conn.vitalPayloads, ih]
    | _ => simp [vitalPayloads, Tw.Conn.vitalPayloads, ih]

theorem nonvitalPayloads_eq : ∀ evs, nonvitalPayloads evs = Tw.NetSim.nonvitalPayloads evs
  | [] => rfl
  | e :: es => by
    have ih := nonvitalPayloads_eq es
    cases e with
    | chunk d v => cases v <;> simp [nonvitalPayloads, Tw.NetSim.nonvitalPayloads, ih]
    | _ => simp [nonvitalPayloads, Tw.NetSim.nonvitalPayloads, ih]

def toCoreStamped (p : Stamped) : Tw.NetSim.Core.Stamped := ⟨p.pkt, p.nSelf, p.nPeer, p.dSelf⟩

def toCore (s : Sys) : Tw.NetSim.Core.Sys :=
  ⟨s.ep, fun x => (s.net x).map toCoreStamped, s.sub, s.del, s.nvSub, s.nvDel⟩

def toCoreMove : Move → Tw.NetSim.Core.Move
  | .send x d v => .send x d v
  | .flush x => .flush x
  | .resend x => .resend x
  | .deliver x i => .deliver x i

theorem upd_eq {α : Type} (f : Bool → α) (x : Bool) (v : α) : upd f x v = Tw.NetSim.Core.upd f x v := rfl

theorem net_upd (s : Sys) (x : Bool) (fl : List Flushed) :
    (fun y => (upd s.net x (s.net x ++ stamp s x fl) y).map toCoreStamped) =
      Tw.NetSim.Core.upd (toCore s).net x ((toCore s).net x ++ Tw.NetSim.Core.stamp (toCore s) x fl) := by
  funext y
  by_cases h : y = x
  · subst h
    simp [upd, Tw.NetSim.Core.upd, toCore, stamp, Tw.NetSim.Core.stamp, toCoreStamped]
  · simp [upd, Tw.NetSim.Core.upd, toCore, h]

theorem toCore_ep (s : Sys) : (toCore s).ep = s.ep := rfl
theorem toCore_sub (s : Sys) : (toCore s).sub = s.sub := rfl

theorem step_toCore (cfg : Cfg) (s : Sys) (m : Move) :
    (step cfg s m).map toCore = Tw.NetSim.Core.step cfg (toCore s) (toCoreMove m) := by
  cases m with
  | send x d v =>
    simp only [step, toCoreMove, Tw.NetSim.Core.step]
    by_cases hg : (v && decide ((s.ep x).resendQueue.length ≥ h1Limit)) = true
    · have hg' : (v && decide (((toCore s).ep x).resendQueue.length ≥ Tw.NetSim.Core.h1Limit)) = true := hg
      rw [if_pos hg, if_pos hg']; rfl
    · have hg' : ¬ (v && decide (((toCore s).ep x).resendQueue.length ≥ Tw.NetSim.Core.h1Limit)) = true := hg
      rw [if_neg hg, if_neg hg']
      simp only [toCore_ep]
      cases hs : (s.ep x).send cfg 0 d v with
      | error e => rfl
      | ok r =>
        obtain ⟨o, res, fl⟩ := r
        cases res with
        | tooLongData => rfl
        | ok =>
          simp only [Option.map_some]
          congr 1
          simp only [toCore]
          congr 1
          all_goals first | exact net_upd s x fl | (cases v <;> rfl)
  | flush x =>
    simp only [step, toCoreMove, Tw.NetSim.Core.step, Option.map_some, toCore_ep]
    congr 1
    simp only [toCore]
    congr 1
    exact net_upd s x _
  | resend x =>
    simp only [step, toCoreMove, Tw.NetSim.Core.step, toCore_ep]
    cases hs : (s.ep x).resend cfg 0 .inactive with
    | error e => rfl
    | ok r =>
      obtain ⟨o, snd, fl⟩ := r
      simp only [Option.map_some]
      congr 1
      simp only [toCore]
      congr 1
      exact net_upd s x fl
  | deliver x i =>
    simp only [step, toCoreMove, Tw.NetSim.Core.step]
    have hnet : (toCore s).net (!x) = (s.net (!x)).map toCoreStamped := rfl
    rw [hnet, List.getElem?_map]
    cases hp : (s.net (!x))[i]? with
    | none => rfl
    | some p =>
      simp only [Option.map_some]
      by_cases hg : (s.sub (!x)).length - p.nSelf ≥ h2Limit ∨ (s.sub x).length - p.nPeer ≥ h2Limit
      · have hg' : ((toCore s).sub (!x)).length - (toCoreStamped p).nSelf ≥ Tw.NetSim.Core.h2Limit ∨
            ((toCore s).sub x).length - (toCoreStamped p).nPeer ≥ Tw.NetSim.Core.h2Limit := hg
        rw [if_pos hg, if_pos hg']; rfl
      · have hg' : ¬ (((toCore s).sub (!x)).length - (toCoreStamped p).nSelf ≥ Tw.NetSim.Core.h2Limit ∨
            ((toCore s).sub x).length - (toCoreStamped p).nPeer ≥ Tw.NetSim.Core.h2Limit) := hg
        rw [if_neg hg, if_neg hg']
        simp only [toCore_ep, toCoreStamped]
        cases hfa : (s.ep x).feedAck p.pkt.ack with
        | error e => rfl
        | ok o1 =>
          simp only
          cases hr : o1.receive cfg 0 .inactive p.pkt.requestResend p.pkt.chunks with
          | error e => rfl
          | ok r =>
            obtain ⟨o2, snd2, fl, evs⟩ := r
            simp only [Option.map_some]
            congr 1
            simp only [toCore]
            rw [vitalPayloads_eq, nonvitalPayloads_eq]
            congr 1
            exact net_upd s x fl

def Inv (cfg : Cfg) (s : Sys) : Prop := Tw.NetSim.Core.CInv cfg (toCore s)

theorem Inv.dir {cfg : Cfg} {s : Sys} (h : Inv cfg s) (x : Bool) :
    Tw.NetSim.DirInv cfg (Tw.NetSim.Core.absSys (toCore s) x) (Tw.NetSim.Core.absSys (toCore s) (!x)) :=
  (Tw.NetSim.Core.CInv.side h x).1

theorem Inv.core {cfg : Cfg} {s : Sys} (h : Inv cfg s) (x : Bool) : (s.ep x).Inv cfg := ((h.dir x).snd _ rfl).inv

theorem init_inv (cfg : Cfg) : Inv cfg .init := Tw.NetSim.Core.Sys.init_cinv cfg

theorem step_inv {cfg : Cfg} (hc : cfg.Ok) {s s' : Sys} (h : Inv cfg s) (m : Move) (he : step cfg s m = some s') :
    Inv cfg s' := by
  have := step_toCore cfg s m
  rw [he] at this
  exact Tw.NetSim.Core.step_cinv hc h (toCoreMove m) this.symm

theorem run_inv {cfg : Cfg} (hc : cfg.Ok) : ∀ (ms : List Move) (s s' : Sys), Inv cfg s → run cfg s ms = some s' →
    Inv cfg s' := by
  intro ms
  induction ms with
  | nil => intro s s' h he; simp [run] at he; subst he; exact h
  | cons m ms ih =>
    intro s s' h he
    simp only [run] at he
    cases hs : step cfg s m with
    | none => rw [hs] at he; cases he
    | some s1 => rw [hs] at he; exact ih s1 s' (step_inv hc h m hs) he

theorem run_append (cfg : Cfg) (a b : List Move) (s : Sys) :
    run cfg s (a ++ b) = (run cfg s a).bind fun s1 => run cfg s1 b := by
  induction a generalizing s with
  | nil => rfl
  | cons m ms ih =>
    simp only [List.cons_append, run]
    cases step cfg s m with
    | none => rfl
    | some s1 => exact ih s1

@[simp] theorem upd_same {α : Type} (f : Bool → α) (x : Bool) (v : α) : upd f x v x = v := by simp [upd]
@[simp] theorem upd_not {α : Type} (f : Bool → α) (x : Bool) (v : α) : upd f x v (!x) = f (!x) := by
  cases x <;> simp [upd]
@[simp] theorem upd_not' {α : Type} (f : Bool → α) (x : Bool) (v : α) : upd f (!x) v x = f x := by
  cases x <;> simp [upd]

theorem phase_step {cfg : Cfg} (hc : cfg.Ok) {s : Sys} (h : Inv cfg s) (x : Bool) :
    ∃ s1 o2 fls, run cfg s [.resend x, .flush x] = some s1 ∧ sendPhase cfg (s.ep x) = some (o2, fls) ∧
      s1.ep x = o2 ∧ s1.ep (!x) = s.ep (!x) ∧ s1.net x = s.net x ++ stamp s x fls ∧ s1.net (!x) = s.net (!x) ∧
      s1.sub = s.sub ∧ s1.del = s.del := by
  obtain ⟨o', send', fl, he, _⟩ := Online.resend_spec hc (h.core x) 0 .inactive
  have hsa : step cfg s (.resend x) =
      some { s with ep := upd s.ep x o', net := upd s.net x (s.net x ++ stamp s x fl) } := by
    simp [step, he]
  refine ⟨{ s with ep := upd (upd s.ep x o') x o'.flush.1,
                   net := upd (upd s.net x (s.net x ++ stamp s x fl)) x
                     (s.net x ++ stamp s x fl ++ stamp s x o'.flush.2) },
    o'.flush.1, fl ++ o'.flush.2, ?_, sendPhase_eq he, ?_, ?_, ?_, ?_, rfl, rfl⟩
  · simp only [run]
    rw [hsa]
    simp only [step, upd_same]
    rfl
  all_goals simp [stamp]

theorem deliver_step {cfg : Cfg} (hc : cfg.Ok) {s : Sys} (h : Inv cfg s) (y : Bool) (i : Nat) (p : Stamped)
    (hp : (s.net (!y))[i]? = some p) (h1 : p.nSelf = (s.sub (!y)).length) (h2 : p.nPeer = (s.sub y).length) :
    ∃ s' o2, step cfg s (.deliver y i) = some s' ∧ recvOnline cfg (s.ep y) p.pkt = some o2 ∧
      s'.ep y = o2 ∧ s'.ep (!y) = s.ep (!y) ∧ s'.net (!y) = s.net (!y) ∧ s'.sub = s.sub ∧
      s'.del (!y) = s.del (!y) ∧ (s.del y).length ≤ (s'.del y).length ∧ (∃ ext, s'.net y = s.net y ++ ext) := by
  have hpm : toCoreStamped p ∈ (toCore s).net (!y) := by
    simp only [toCore]
    exact List.mem_map_of_mem (List.mem_of_getElem? hp)
  have hack : p.pkt.ack < seqMod := by
    have := ((h.dir y).acks _ (List.mem_map_of_mem hpm)).1
    simp only [toCoreStamped, Tw.NetSim.Core.ent] at this
    rw [this, Tw.Conn.seqMod_eq]; omega
  have hseq : chunksSeqOk p.pkt.chunks = true := by
    have := ((Tw.NetSim.Core.CInv.side h y).2.net _ (List.mem_map_of_mem hpm)).2.1
    simp only [chunksSeqOk, List.all_eq_true]
    intro c hcm
    cases hv : c.vital with
    | none => rfl
    | some v =>
      obtain ⟨sq, r⟩ := v
      obtain ⟨k, _, _, hk⟩ := this c hcm sq r hv
      simp only [decide_eq_true_eq]
      rw [hk.2, Tw.Conn.seqMod_eq]; omega
  obtain ⟨hfa, hinv1⟩ := Online.feedAck_spec (h.core y) hack
  obtain ⟨o2, snd2, fl, evs, hrc, _⟩ := Online.receive_spec hc hinv1 0 .inactive p.pkt.requestResend p.pkt.chunks hseq
  refine ⟨{ s with ep := upd s.ep y o2, net := upd s.net y (s.net y ++ stamp s y fl),
                   del := upd s.del y (s.del y ++ vitalPayloads evs),
                   nvDel := upd s.nvDel y (s.nvDel y ++ nonvitalPayloads evs) },
    o2, ?_, by simp [recvOnline, hfa, hrc], ?_, ?_, ?_, ?_, ?_, ?_, ⟨stamp s y fl, ?_⟩⟩
  · simp only [step, hp, hfa, hrc]
    rw [if_neg]
    simp only [h2Limit, h1, h2]; omega
  all_goals simp

theorem block_run {cfg : Cfg} (hc : cfg.Ok) (y : Bool) : ∀ (ds old rest : List Stamped) (s : Sys), Inv cfg s →
    s.net (!y) = old ++ ds ++ rest → (∀ p ∈ ds, p.nSelf = (s.sub (!y)).length ∧ p.nPeer = (s.sub y).length) →
    ∃ s' o', run cfg s ((List.range' old.length ds.length).map (Move.deliver y)) = some s' ∧
      recvList cfg (s.ep y) (ds.map (·.pkt)) = some o' ∧ s'.ep y = o' ∧ s'.ep (!y) = s.ep (!y) ∧
      s'.net (!y) = s.net (!y) ∧ s'.sub = s.sub ∧ s'.del (!y) = s.del (!y) ∧
      (s.del y).length ≤ (s'.del y).length ∧ (∃ ext, s'.net y = s.net y ++ ext) ∧ Inv cfg s' := by
  intro ds
  induction ds with
  | nil =>
    intro old rest s h _ _
    exact ⟨s, s.ep y, rfl, rfl, rfl, rfl, rfl, rfl, rfl, Nat.le_refl _, ⟨[], by simp⟩, h⟩
  | cons p ds ih =>
    intro old rest s h hnet hst
    have hp : (s.net (!y))[old.length]? = some p := by
      rw [hnet, List.append_assoc, List.getElem?_append_right (Nat.le_refl _)]; simp
    obtain ⟨s1, o2, hs1, hr1, e1, e2, e3, e4, e5, e6, ⟨x1, e7⟩⟩ :=
      deliver_step hc h y old.length p hp (hst p (by simp)).1 (hst p (by simp)).2
    have hinv1 := step_inv hc h _ hs1
    obtain ⟨s', o', hs', hr', f1, f2, f3, f4, f5, f6, ⟨x2, f7⟩, f8⟩ := ih (old ++ [p]) rest s1 hinv1
      (by rw [e3, hnet]; simp) (by
        intro q hq
        rw [e4]; exact hst q (List.mem_cons_of_mem _ hq))
    refine ⟨s', o', ?_, ?_, f1, by rw [f2, e2], by rw [f3, e3], by rw [f4, e4], by rw [f5, e5],
      Nat.le_trans e6 f6, ⟨x1 ++ x2, by rw [f7, e7]; simp⟩, f8⟩
    · simp only [List.length_cons, List.range'_succ, List.map_cons, run, hs1]
      simpa using hs'
    · simp only [List.map_cons, recvList, hr1]
      rw [← e1]; exact hr'

theorem range_drop (a b : Nat) : (List.range (a + b)).drop a = List.range' a b := by
  rw [List.range_eq_range', List.drop_range']
  simp

theorem stamp_pkt (s : Sys) (x : Bool) (fl : List Flushed) : (stamp s x fl).map (·.pkt) = fl := by
  simp [stamp, Function.comp_def]

theorem mem_stamp {s : Sys} {x : Bool} {fl : List Flushed} {p : Stamped} (hp : p ∈ stamp s x fl) :
    p.nSelf = (s.sub x).length ∧ p.nPeer = (s.sub (!x)).length := by
  obtain ⟨f, _, rfl⟩ := List.mem_map.mp hp
  exact ⟨rfl, rfl⟩

def view (s : Sys) : View := ⟨s.ep, s.sub, s.del⟩

theorem Inv.vinv {cfg : Cfg} {s : Sys} (h : Inv cfg s) : VInv cfg (view s) :=
  ⟨h.core, fun x => (h.dir x).rcv _ rfl, fun x => (h.dir x).pre, fun x => (h.dir x).dle,
    fun x => ((h.dir x).snd _ rfl).qlen, fun x => ((h.dir x).snd _ rfl).qwin, fun x => ((h.dir x).snd _ rfl).q⟩

/-- a fair round is a `RoundV` of the two cores: `sb` is the state after both sides resent and flushed,
`s'` the state after the deliveries -/
theorem fairRound_spec {cfg : Cfg} (hc : cfg.Ok) {s : Sys} (h : Inv cfg s) :
    ∃ sb s', fairRound cfg s = some s' ∧ Inv cfg s' ∧ RoundV cfg (view s) (view sb) (view s') := by
  obtain ⟨sa, oT, fT, ha, hpT, a1, a2, a3, a4, a5, a6⟩ := phase_step hc h true
  have hinva := run_inv hc _ _ _ h ha
  obtain ⟨sb, oF, fF, hb, hpF, b1, b2, b3, b4, b5, b6⟩ := phase_step hc hinva false
  have hinvb := run_inv hc _ _ _ hinva hb
  simp only [Bool.not_true, Bool.not_false] at a2 a4 b2 b4
  have h4 : run cfg s [.resend true, .flush true, .resend false, .flush false] = some sb := by
    have := run_append cfg [.resend true, .flush true] [.resend false, .flush false] s
    simp only [List.cons_append, List.nil_append] at this
    rw [this, ha]; exact hb
  -- block 1: T's datagrams to F
  have hnT : sb.net true = s.net true ++ stamp s true fT ++ [] := by rw [b4, a3]; simp
  obtain ⟨sc, oF', hc1, hr1, c1, c2, c3, c4, c5, c6, ⟨xF, c7⟩, hinvc⟩ :=
    block_run hc false (stamp s true fT) (s.net true) [] sb hinvb (by simpa using hnT)
      (fun p hp => by rw [b5, a5]; exact mem_stamp hp)
  simp only [Bool.not_false] at c2 c3 c5
  -- block 2: F's datagrams to T
  have hnF : sc.net false = s.net false ++ stamp sa false fF ++ xF := by rw [c7, b3, a4]
  obtain ⟨sd, oT', hd1, hr2, d1, d2, d3, d4, d5, d6, _, hinvd⟩ :=
    block_run hc true (stamp sa false fF) (s.net false) xF sc hinvc (by simpa using hnF)
      (fun p hp => by rw [c4, b5]; exact mem_stamp hp)
  simp only [Bool.not_true] at d2 d3 d5
  refine ⟨sb, sd, ?_, hinvd, ⟨h.vinv, hinvb.vinv, hinvd.vinv, ?_, ?_, ?_, ?_, ?_⟩⟩
  · simp only [fairRound, h4]
    have e1 : (List.range (sb.net true).length).drop (s.net true).length =
        List.range' (s.net true).length (stamp s true fT).length := by
      rw [b4, a3, List.length_append]; exact range_drop _ _
    have e2 : (List.range (sb.net false).length).drop (s.net false).length =
        List.range' (s.net false).length (stamp sa false fF).length := by
      rw [b3, a4, List.length_append]; exact range_drop _ _
    rw [e1, e2, run_append, hc1]
    exact hd1
  · show sb.sub = s.sub
    rw [b5, a5]
  · show sb.del = s.del
    rw [b6, a6]
  · show sd.sub = s.sub
    rw [d4, c4, b5, a5]
  · intro y
    cases y with
    | false =>
      have : (sb.del false).length ≤ (sc.del false).length := c6
      rw [b6, a6] at this
      show (s.del false).length ≤ (sd.del false).length
      rw [d5]; exact this
    | true =>
      have : (sc.del true).length ≤ (sd.del true).length := d6
      rw [c5, b6, a6] at this
      exact this
  · intro x
    cases x with
    | true =>
      refine ⟨fT, PhaseSpec.of_sendPhase hc (h.core true) (hpT.trans (by rw [← a1, ← b2]; rfl)), recvList_rel _ _ _ ?_⟩
      show recvList cfg (sb.ep false) fT = some (sd.ep false)
      rw [d2, c1]
      rw [stamp_pkt] at hr1
      exact hr1
    | false =>
      refine ⟨fF, PhaseSpec.of_sendPhase hc (h.core false) (by rw [a2, ← b1] at hpF; exact hpF), recvList_rel _ _ _ ?_⟩
      show recvList cfg (sb.ep true) fF = some (sd.ep true)
      rw [d1]
      rw [stamp_pkt, c2] at hr2
      exact hr2

theorem fairRounds_succ (cfg : Cfg) (k : Nat) (s : Sys) :
    fairRounds cfg (k + 1) s = (fairRound cfg s).bind (fairRounds cfg k) := by
  simp only [fairRounds]
  cases fairRound cfg s <;> rfl

/-- **progress**: from every state satisfying the safety invariant, four fair rounds (each side
resends and flushes, every datagram of the round is delivered once, in order) end in a state where
everything submitted has been handed over, nothing is unacknowledged or queued and no resend is
requested -/
theorem progress_inv {cfg : Cfg} (hc : cfg.Ok) {s : Sys} (h : Inv cfg s) :
    ∃ s', fairRounds cfg 4 s = some s' ∧ quiescent s' ∧ Inv cfg s' := by
  obtain ⟨b1, s1, e1, i1, R1⟩ := fairRound_spec hc h
  obtain ⟨b2, s2, e2, i2, R2⟩ := fairRound_spec hc i1
  obtain ⟨b3, s3, e3, i3, R3⟩ := fairRound_spec hc i2
  obtain ⟨b4, s4, e4, i4, R4⟩ := fairRound_spec hc i3
  refine ⟨s4, ?_, four_rounds R1 R2 R3 R4, i4⟩
  simp only [e1, e2, e3, e4, fairRounds]

/-- **C02 (c), online phase**: from every state reachable by any schedule (loss, duplication,
reordering, delay, arbitrary sends under H1/H2), at most four fair rounds reach quiescence -/
theorem progress {cfg : Cfg} (hc : cfg.Ok) (ms : List Move) (s : Sys) (hr : run cfg .init ms = some s) :
    ∃ k s', k ≤ 4 ∧ fairRounds cfg k s = some s' ∧ quiescent s' := by
  obtain ⟨s', h1, h2, _⟩ := progress_inv hc (run_inv hc ms _ s (init_inv cfg) hr)
  exact ⟨4, s', Nat.le_refl _, h1, h2⟩

end Tw.OnlineNet
