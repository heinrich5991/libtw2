import Tw.Proofs.DemoItems
import Tw.Proofs.SnapLayer

/-! For typed objects (sizes fixed by the type) the high-level writer cannot panic: the builders of
consecutive snapshots form a `Chain` (Proofs/SnapChain.lean), so UUID types keep their numbers and
`Delta::create` sees agreeing sizes (`Anc.writes`, Proofs/SnapLayer.lean); the tick marker is always written
with a larger tick; payload limits are checked before the low-level writer is called. -/
namespace Tw.DemoHl
open Tw.Demo Tw.Snap

/-- objects whose number of fields is the one fixed for their `(type, id)`, ordinal types in range -/
def Typed (size : TypeId → Nat → Nat) (items : List Item) : Prop :=
  ∀ it ∈ items, it.data.length = size it.tid it.id ∧
    ∀ o, it.tid = .ordinal o → 0 < o ∧ o < offsetExt

/-- `tick`: the low-level writer's last tick marker is not above `last_tick`, so a tick that passes the
`TooLowTickNumber` test also passes `assert!(tick > p)` of `TickMarker::new`. -/
structure DemoWriter.Inv3 (size : TypeId → Nat → Nat) (w : DemoWriter) : Prop where
  inv2 : w.Inv2
  chain : ∃ a : Builder, Chain size Builder.new a ∧ a.snap = w.snap
  tick : ∀ p, w.inner.prevTick = some p → p ≤ w.lastTick

theorem DemoWriter.Inv3.inv {size : TypeId → Nat → Nat} {w : DemoWriter} (h : w.Inv3 size) : w.Inv := h.inv2.inv

theorem DemoWriter.Inv3.built {size : TypeId → Nat → Nat} {w : DemoWriter} (h : w.Inv3 size) : Built size w.snap :=
  h.chain

theorem DemoWriter.Inv3.of_inv {size : TypeId → Nat → Nat} {w : DemoWriter} (h : w.Inv) (hb : Built size w.snap)
    (ht : ∀ p, w.inner.prevTick = some p → p ≤ w.lastTick) : w.Inv3 size :=
  ⟨h.inv2, hb, ht⟩

theorem new_inv3 (size : TypeId → Nat → Nat) (a : HeaderArgs) (w : DemoWriter) (h : DemoWriter.new a = some w) :
    w.Inv3 size := by
  have hinv := new_inv a w h
  obtain ⟨iw, hiw, rfl⟩ := DemoWriter.new_eq h
  obtain ⟨_, _, rfl⟩ := Writer.new_eq hiw
  exact .of_inv hinv (built_empty size) (fun p hp => nomatch hp)

theorem addItems_chain (size : TypeId → Nat → Nat) (items : List Item) (hv : ∀ it ∈ items, it.valid)
    (hty : Typed size items) (b0 b : Builder) (hc : Chain size b0 b) (hb : b.Inv) :
    (∃ b', addItems b items = .ok b' ∧ Chain size b0 b') ∨ (∃ e, addItems b items = .err e) := by
  fun_induction addItems b items
  case case1 b => exact .inl ⟨b, rfl, hc⟩
  case case2 b it _ ha => exact absurd ha (hb.addItem_ne_none (hty it List.mem_cons_self).2)
  case case3 e _ => exact .inr ⟨e, rfl⟩
  case case4 b it rest b1 ha ih =>
    obtain ⟨hvt, hid, hd⟩ := hv it List.mem_cons_self
    exact ih (fun i hi => hv i (List.mem_cons_of_mem _ hi)) (fun i hi => hty i (List.mem_cons_of_mem _ hi))
      (Chain.tail hc (Step.add hvt hid hd (hty it List.mem_cons_self).1 ha)) (Builder.addItem_inv hb hvt hid hd ha)

/-- between two snapshots of one builder chain neither `Delta::create` nor `Delta::write` nor `RawSnap::write` can
panic -/
theorem snapPayload_no_panic {size : TypeId → Nat → Nat} {objSize : Nat → Option Nat} (ho : ObjSizeAgrees size objSize)
    {old new : Snap} (h : Anc size old new) (kf : Bool) (s : String) : snapPayload objSize kf old new ≠ .panic s := by
  unfold snapPayload
  split
  · rw [writeBytes_of_WF h.built_right.extOk.raw_wf]
    by_cases hc : (Tw.Snap.packInts (refSnapInts (unsignedOrder new.raw.items))).length > Tw.Gen.Demo.MAX_SNAPSHOT_SIZE
    · rw [if_pos hc]
      nofun
    · rw [if_neg hc]
      nofun
  · obtain ⟨d, xs, hd, hxs⟩ := h.writes ho
    simp only [hd, hxs]
    split <;> nofun

theorem writeSnap_no_panic (size : TypeId → Nat → Nat) (objSize : Nat → Option Nat) (ho : ObjSizeAgrees size objSize)
    (w : DemoWriter) (hinv : w.Inv3 size) (tick : Int) (items : List Item) (hv : ∀ it ∈ items, it.valid)
    (hty : Typed size items) :
    (∀ s, (w.writeSnap objSize tick items).2 ≠ .panic s) ∧
    ((w.writeSnap objSize tick items).2 = .ok → (w.writeSnap objSize tick items).1.Inv3 size) := by
  obtain ⟨a, hca, hsa⟩ := hinv.built
  have hb0 := hinv.inv.builder
  have hcb : Chain size a w.builder := Chain.tail (Chain.refl a) (Step.recycle (hsa ▸ hb0))
  -- walk through `write_snap` with the outcome named, so that the model term is rewritten once per step
  suffices h : ∀ res, w.writeSnap objSize tick items = res →
      (∀ s, res.2 ≠ .panic s) ∧ (res.2 = .ok → res.1.Inv3 size) from h _ rfl
  intro res hres
  unfold DemoWriter.writeSnap at hres
  by_cases hlt : tick ≤ w.lastTick
  · rw [if_pos hlt] at hres; subst hres; exact ⟨nofun, nofun⟩
  · rw [if_neg hlt] at hres
    simp only [hb0] at hres
    rcases addItems_chain size items hv hty a w.builder hcb hinv.inv.binv with ⟨b, hadd, hchain⟩ | ⟨e, hadd⟩
    · simp only [hadd] at hres
      have hbi := (chain_inv_new (chain_trans hca hchain)).1
      obtain ⟨b', hrec, hb'inv, _, _⟩ := Builder.recycle_inv hbi
      have hnb : nextBuilder b.snap = some b' := hrec
      have hanc : Anc size w.snap b.snap := hsa ▸ Anc.of_chain hca hchain
      cases hp : snapPayload objSize (w.isKeyframe tick) w.snap b.snap with
      | panic s => exact absurd hp (snapPayload_no_panic ho hanc _ s)
      | tooLarge => simp only [hp] at hres; subst hres; exact ⟨nofun, nofun⟩
      | ok bs =>
        simp only [hp] at hres
        by_cases hfit : fitsChunk bs
        · rw [if_neg (not_not_intro hfit)] at hres
          obtain ⟨hdr, hwt⟩ := writeTick_accepts w.inner (w.isKeyframe tick) tick
            (fun p hp => by have := hinv.tick p hp; omega)
          rcases writeData_cases { file := w.inner.file ++ hdr, prevTick := some tick }
            (if w.isKeyframe tick then .snapshot else .delta) bs with ⟨_, _, _, _, hwd⟩ | ⟨hn, _⟩
          · simp only [hwt, hwd, hnb] at hres
            subst hres
            refine ⟨nofun, fun _ => .of_inv ⟨hrec, hb'inv, hbi.ok⟩ hanc.built_right fun p hp => ?_⟩
            cases Option.some.inj hp
            exact Int.le_refl _
          · exact absurd hfit hn
        · rw [if_pos hfit] at hres; subst hres; exact ⟨nofun, nofun⟩
    · simp only [hadd] at hres; subst hres; exact ⟨nofun, nofun⟩

theorem writeMsg_preserves_inv3 (size : TypeId → Nat → Nat) (w w' : DemoWriter) (msg : Bytes)
    (hinv : w.Inv3 size) (h : w.writeMsg msg = (w', .ok)) : w'.Inv3 size := by
  have hinv' := writeMsg_preserves_inv w w' msg hinv.inv h
  obtain ⟨_, _, hp, rfl⟩ := writeMsg_accepted w w' msg h
  exact .of_inv hinv' hinv.built fun p hpp => hinv.tick p (hp ▸ hpp)

def Op.typed (size : TypeId → Nat → Nat) : Op → Prop
  | .snap _ items => Typed size items
  | .msg _ => True

theorem step_no_panic (size : TypeId → Nat → Nat) (objSize : Nat → Option Nat) (ho : ObjSizeAgrees size objSize)
    (w : DemoWriter) (hinv : w.Inv3 size) (op : Op) (hval : op.valid) (hty : op.typed size) :
    (∀ s, (w.step objSize op).2 ≠ .panic s) ∧ (w.step objSize op).1.Inv3 size := by
  have key : (∀ s, (w.step objSize op).2 ≠ .panic s) ∧
      ((w.step objSize op).2 = .ok → (w.step objSize op).1.Inv3 size) := by
    cases op with
    | snap t items => exact writeSnap_no_panic size objSize ho w hinv t items hval.2 hty
    | msg b => exact ⟨writeMsg_no_panic w b, fun h => writeMsg_preserves_inv3 size w _ b hinv (Prod.ext rfl h)⟩
  refine ⟨key.1, ?_⟩
  generalize hst : w.step objSize op = st at key
  obtain ⟨w1, r⟩ := st
  cases r with
  | ok => exact key.2 rfl
  | err e => exact step_err_unchanged objSize w w1 hinv.inv op e hst ▸ hinv
  | panic s => exact absurd rfl (key.1 s)

theorem run_no_panic (size : TypeId → Nat → Nat) (objSize : Nat → Option Nat) (ho : ObjSizeAgrees size objSize) :
    ∀ (ops : List Op) (w w' : DemoWriter) (rs : List HResult), w.Inv3 size → (∀ op ∈ ops, op.valid) →
      (∀ op ∈ ops, op.typed size) → w.run objSize ops = (w', rs) → ∀ r ∈ rs, ∀ s, r ≠ .panic s
  | [], w, w', rs, _, _, _, hrun => by cases hrun; nofun
  | op :: rest, w, w', rs, hinv, hval, hty, hrun => by
    obtain ⟨hnp, hinv1⟩ := step_no_panic size objSize ho w hinv op (hval op List.mem_cons_self) (hty op List.mem_cons_self)
    rw [DemoWriter.run_cons] at hrun
    cases hrun
    intro r hr s
    rcases List.mem_cons.mp hr with rfl | hr'
    · exact hnp s
    · exact run_no_panic size objSize ho rest _ _ _ hinv1 (fun o h => hval o (List.mem_cons_of_mem _ h))
        (fun o h => hty o (List.mem_cons_of_mem _ h)) rfl r hr' s

end Tw.DemoHl
