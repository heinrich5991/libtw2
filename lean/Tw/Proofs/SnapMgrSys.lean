import Tw.Proofs.SnapMgr

/-!
C13: the invariant `Good` of the whole exchange and its preservation by every event (deliveries,
acknowledgements, resets, the sender's glue), then by whole histories, and the same with the builder and
the free list (`SysB`).
-/
namespace Tw.SnapMgr
open Tw.SnapXfer

variable {S D I : Type} {ops : Ops S D} {P : S → Prop}

structure XferOk.Wit (ops : Ops S D) (sent : List (Int × S)) (x : Xfer) (s baseSnap : S) (dl : D) :
    Prop where
  base_i32 : inI32 x.base
  snap_mem : (x.tick, s) ∈ sent
  base : IsBase ops sent x.base baseSnap
  apply : ops.apply baseSnap dl = .ok s
  bytes : (x.bytes ≠ [] ∧ ops.read x.bytes = .ok dl) ∨ (x.bytes = [] ∧ dl = ops.clear)

/-- A recorded `delta_chunks` call carries one of the sender's snapshots relative to another (or to the
empty one): its bytes read back as a delta — no bytes stand for the cleared delta — that applies to the
base and gives the snapshot.  Nothing is asked of `x.crc`: a checksum the receiver does not accept is
an error that clears `ack_tick` (`addDelta_safe`), whoever computed it. -/
def XferOk (ops : Ops S D) (sent : List (Int × S)) (x : Xfer) : Prop :=
  ∃ s baseSnap dl, XferOk.Wit ops sent x s baseSnap dl

theorem XferOk.mono {sent : List (Int × S)} {x : Xfer} (h : XferOk ops sent x) (p : Int × S) :
    XferOk ops (p :: sent) x := by
  obtain ⟨s, b, dl, w⟩ := h
  exact ⟨s, b, dl, { w with snap_mem := List.mem_cons_of_mem _ w.snap_mem, base := w.base.mono p }⟩

structure Good (ops : Ops S D) (y : Sys S) : Prop where
  sentFun : Functional y.sent
  sentI32 : ∀ p, p ∈ y.sent → inI32 p.1
  senderStored : ∀ s, s ∈ y.sender.snaps → (s.tick, s.snap) ∈ y.sent
  /-- The acknowledged base is the oldest snapshot still stored (`set_delta_tick` drained everything older),
  so `baseOf`, which takes the last one, diffs against the snapshot of exactly the tick it announces. -/
  senderDelta : ∀ t, y.sender.deltaTick = some t →
    0 ≤ t ∧ ∃ d, y.sender.snaps.getLast? = some d ∧ d.tick = t
  xfersOk : ∀ x, x ∈ y.xfers → XferOk ops y.sent x
  xfersUniq : UniqueTicks y.xfers
  msgsOk : ∀ m, m ∈ y.msgs → ∃ x, x ∈ y.xfers ∧ ∃ ms, x.chunks = .ok ms ∧ m ∈ ms
  recvOk : RecvOk y.xfers y.client.receiver
  clientStored : ∀ s, s ∈ y.client.storage.snaps → (s.tick, s.snap) ∈ y.sent

theorem good_init : Good ops ({} : Sys S) where
  sentFun := by intro p hp; cases hp
  sentI32 := by intro p hp; cases hp
  senderStored := by intro s hs; cases hs
  senderDelta := by intro t ht; cases ht
  xfersOk := by intro x hx; cases hx
  xfersUniq := by intro x hx; cases hx
  msgsOk := by intro m hm; cases hm
  recvOk := recvOk_of_current_none rfl
  clientStored := by intro s hs; cases hs

theorem deliver_safe {y : Sys S} (hg : Good ops y) {m : Msg} (hm : m ∈ y.msgs) :
    Good ops { y with client := (y.client.step ops m).1 } ∧
      Obs.ok y.sent (.delivered m.tick (y.client.step ops m).2.1 y.client.ackTick
        (y.client.step ops m).1.ackTick) := by
  obtain ⟨x, hx, ms, hms, hmm⟩ := hg.msgsOk m hm
  obtain ⟨s, baseSnap, dl, hw⟩ := hg.xfersOk x hx
  have htick : m.tick = x.tick := (deltaChunks_form hms).tick_eq m hmm
  obtain ⟨hr', hdel⟩ := recv_step_safe hg.xfersUniq hg.recvOk hx hw.base_i32 hms hmm
  have mk : ∀ (c : Manager S), RecvOk y.xfers c.receiver →
      (∀ s', s' ∈ c.storage.snaps → (s'.tick, s'.snap) ∈ y.sent) → Good ops { y with client := c } :=
    fun c h1 h2 => { hg with recvOk := h1, clientStored := h2 }
  rcases hstep : y.client.receiver.step m with ⟨r', res, ws⟩
  rw [hstep] at hr' hdel
  simp only at hr' hdel
  cases res with
  | error e =>
    simp only [Manager.step, hstep]
    exact ⟨mk _ hr' hg.clientStored, Or.inl rfl⟩
  | ok od =>
    cases od with
    | none =>
      simp only [Manager.step, hstep]
      exact ⟨mk _ hr' hg.clientStored, rfl⟩
    | some dd =>
      obtain rfl := hdel dd rfl
      -- the manager reads the delta back and hands it to the storage, with the checksum if there is data
      obtain ⟨crc, hmgr⟩ : ∃ crc : Option Int,
          Manager.addDelta ops y.client.storage (delivery x.tick x.base x.crc x.bytes) =
            (match y.client.storage.addDelta ops crc x.base x.tick dl with
              | (st', .error e, w) => (st', .error (.storage e), w)
              | (st', .ok s, w) => (st', .ok s, w)) := by
        rcases hw.bytes with ⟨hne, hread⟩ | ⟨hempty, rfl⟩
        · refine ⟨some x.crc, ?_⟩
          simp only [Manager.addDelta, delivery, hne, if_false, hread, Option.map_some]
          rfl
        · refine ⟨none, ?_⟩
          simp only [Manager.addDelta, delivery, hempty, if_true, Option.map_none]
          rfl
      simp only [Manager.step, hstep, hmgr]
      rcases hres : y.client.storage.addDelta ops crc x.base x.tick dl with ⟨st', r2, w⟩
      obtain ⟨f1, f2, f3⟩ := addDelta_safe hg.sentFun hg.clientStored hw.snap_mem hw.base hw.apply hres
      cases r2 with
      | error e => exact ⟨mk _ hr' f1, f3 e rfl⟩
      | ok s' =>
        obtain ⟨rfl, e2⟩ := f2 s' rfl
        exact ⟨mk _ hr' f1, htick ▸ hw.snap_mem, htick ▸ e2⟩

theorem setDeltaTick_spec (st : Storage S) (v : Int) :
    (st.setDeltaTick v).1.snaps <+: st.snaps ∧
      ∀ t, (st.setDeltaTick v).1.deltaTick = some t →
        0 ≤ t ∧ ∃ d, (st.setDeltaTick v).1.snaps.getLast? = some d ∧ d.tick = t := by
  unfold Storage.setDeltaTick
  have hp := keepFrom_prefix st.snaps v
  by_cases hneg : v < 0
  · rw [if_pos hneg]
    exact ⟨List.prefix_refl _, fun _ ht => nomatch ht⟩
  rw [if_neg hneg]
  dsimp only
  cases hlast : (keepFrom st.snaps v).getLast? with
  | none => exact ⟨hp, fun _ ht => nomatch ht⟩
  | some d =>
    dsimp only
    by_cases hd : d.tick = v
    · rw [if_pos hd]
      refine ⟨hp, fun t ht => ?_⟩
      cases ht
      exact ⟨Int.not_lt.mp hneg, d, hlast, hd⟩
    · rw [if_neg hd]
      exact ⟨hp, fun _ ht => nomatch ht⟩

theorem setDeltaTick_safe {y : Sys S} (hg : Good ops y) (v : Int) :
    Good ops { y with sender := (y.sender.setDeltaTick v).1 } :=
  { hg with
    senderStored := fun s h => hg.senderStored s ((setDeltaTick_spec y.sender v).1.subset h)
    senderDelta := (setDeltaTick_spec y.sender v).2 }

/-- Totality and safety in one statement: the no-panic theorems need only the first three conjuncts,
`step_safe` the last, and both would go through the same case split. -/
theorem Sys.step_other (ops : Ops S D) (y : Sys S) {e : Ev S} (he : ∀ t s, e ≠ .send t s) :
    ∃ y' o, y.step ops e = .ok (y', o) ∧ y'.sender.snaps <+: y.sender.snaps ∧ y'.sent = y.sent ∧
      (Good ops y → Good ops y' ∧ Obs.ok y.sent o) := by
  cases e with
  | send t s => exact (he t s rfl).elim
  | deliver i =>
    simp only [Sys.step]
    cases hm : y.msgs[i]? with
    | none => exact ⟨_, _, rfl, List.prefix_refl _, rfl, fun hg => ⟨hg, trivial⟩⟩
    | some m =>
      exact ⟨_, _, rfl, List.prefix_refl _, rfl, fun hg => deliver_safe hg (List.mem_of_getElem? hm)⟩
  | deliverAck j =>
    simp only [Sys.step]
    cases y.acks[j]? with
    | none => exact ⟨_, _, rfl, List.prefix_refl _, rfl, fun hg => ⟨hg, trivial⟩⟩
    | some v =>
      exact ⟨_, _, rfl, (setDeltaTick_spec _ v).1, rfl, fun hg => ⟨setDeltaTick_safe hg v, trivial⟩⟩
  | forgedAck v =>
    exact ⟨_, _, rfl, (setDeltaTick_spec _ v).1, rfl, fun hg => ⟨setDeltaTick_safe hg v, trivial⟩⟩
  | ack => exact ⟨_, _, rfl, List.prefix_refl _, rfl, fun hg => ⟨{ hg with }, trivial⟩⟩
  | clientReset => exact ⟨_, _, rfl, List.prefix_refl _, rfl, fun hg =>
      ⟨{ hg with recvOk := recvOk_of_current_none rfl, clientStored := fun _ hs => nomatch hs }, trivial⟩⟩

theorem sendSnap_of_ok {st st' : Storage S} {tick : Int} {snap : S} {x : Xfer} {ms : List Msg}
    (h : sendSnap ops st tick snap = .ok (st', x, ms)) :
    st' = { st with snaps := { tick := tick, snap := snap } :: st.snaps } ∧
    x.tick = tick ∧ x.base = st.deltaTick.getD (-1) ∧ x.chunks = .ok ms ∧
    ((∃ d, ops.create (st.baseOf ops ({ tick := tick, snap := snap } :: st.snaps)) snap = some d ∧
        ops.write d = some x.bytes) ∨
     (x.bytes = [] ∧ ops.same (st.baseOf ops ({ tick := tick, snap := snap } :: st.snaps)) snap = true)) := by
  unfold sendSnap Storage.addSnap at h
  dsimp only at h
  split at h
  · cases h
  next st1 d hadd =>
  split at hadd
  · cases hadd
  next d' hcreate =>
  cases hadd
  split at h
  · next hcond =>
    split at h
    · cases h
    next ms' hchunks =>
    cases h
    exact ⟨rfl, rfl, rfl, hchunks, .inr ⟨rfl, (Bool.and_eq_true _ _ ▸ hcond).2⟩⟩
  · split at h
    · cases h
    next bytes hwrite =>
    split at h
    · cases h
    next ms' hchunks =>
    cases h
    exact ⟨rfl, rfl, rfl, hchunks, .inl ⟨_, hcreate, hwrite⟩⟩

/-- The 64 KiB bound on the written delta is used only to let `delta_chunks` count its parts in an `i32`. -/
theorem sendSnap_total {st : Storage S} {tick : Int} {snap : S} {d : D}
    (hc : ops.create (st.baseOf ops ({ tick := tick, snap := snap } :: st.snaps)) snap = some d)
    (hw : (ops.emptyWhenSame && ops.same (st.baseOf ops ({ tick := tick, snap := snap } :: st.snaps)) snap) = true ∨
      ∃ bs, ops.write d = some bs ∧ bs.length ≤ 65536) :
    ∃ x ms, sendSnap ops st tick snap
      = .ok ({ st with snaps := { tick := tick, snap := snap } :: st.snaps }, x, ms) := by
  by_cases hcond : (ops.emptyWhenSame &&
      ops.same (st.baseOf ops ({ tick := tick, snap := snap } :: st.snaps)) snap) = true
  · obtain ⟨ms, hms⟩ := deltaChunks_ok_of_small tick (st.deltaTick.getD (-1)) (ops.crc snap) [] (Nat.zero_le _)
    simp only [sendSnap, Storage.addSnap, hc, if_pos hcond, hms]
    exact ⟨_, _, rfl⟩
  · obtain ⟨bs, hbs, hlen⟩ := hw.resolve_left hcond
    obtain ⟨ms, hms⟩ := deltaChunks_ok_of_small tick (st.deltaTick.getD (-1)) (ops.crc snap) bs
      (Nat.le_trans hlen (by decide))
    simp only [sendSnap, Storage.addSnap, hc, if_neg hcond, hbs, hms]
    exact ⟨_, _, rfl⟩

theorem Storage.baseOf_ind {R : S → Prop} (st : Storage S) (snaps : List (Stored S)) (h0 : R ops.empty)
    (h1 : ∀ d, d ∈ snaps → R d.snap) : R (st.baseOf ops snaps) := by
  unfold Storage.baseOf
  cases st.deltaTick with
  | none => exact h0
  | some t =>
    cases hl : snaps.getLast? with
    | none => exact h0
    | some d => exact h1 d (List.mem_of_getLast? hl)

theorem Good.base {y : Sys S} (hg : Good ops y) (new : Stored S) :
    IsBase ops y.sent (y.sender.deltaTick.getD (-1)) (y.sender.baseOf ops (new :: y.sender.snaps)) := by
  cases hdt : y.sender.deltaTick with
  | none => exact .inl ⟨rfl, by simp only [Storage.baseOf, hdt]⟩
  | some t =>
    obtain ⟨h0, d0, hlast, hdtick⟩ := hg.senderDelta t hdt
    have hl : (new :: y.sender.snaps).getLast? = some d0 := by rw [List.getLast?_cons, hlast]; rfl
    simp only [Storage.baseOf, hdt, hl, Option.getD_some]
    exact .inr ⟨h0, hdtick ▸ hg.senderStored d0 (List.mem_of_getLast? hlast)⟩

theorem injOn_cons {α : Type} {f : α → Int} {a : α} {l : List α} (hlt : ∀ b, b ∈ l → f b < f a)
    (hl : ∀ p, p ∈ l → ∀ q, q ∈ l → f p = f q → p = q) :
    ∀ p, p ∈ a :: l → ∀ q, q ∈ a :: l → f p = f q → p = q := by
  intro p hp q hq hpq
  rcases List.mem_cons.mp hp with rfl | hp' <;> rcases List.mem_cons.mp hq with rfl | hq'
  · rfl
  · exact absurd (hpq ▸ hlt q hq') (Int.lt_irrefl _)
  · exact absurd (hpq ▸ hlt p hp') (Int.lt_irrefl _)
  · exact hl p hp' q hq' hpq

theorem send_safe (laws : LawsOn ops P) {y : Sys S} (hg : Good ops y)
    (hsP : ∀ p, p ∈ y.sent → P p.2) {tick : Int} {snap : S} (hPsnap : P snap)
    (hi : inI32 tick) (hnew : ∀ p, p ∈ y.sent → p.1 < tick)
    {st' : Storage S} {x : Xfer} {ms : List Msg}
    (h : sendSnap ops y.sender tick snap = .ok (st', x, ms)) :
    Good ops { y with sender := st', msgs := y.msgs ++ ms, sent := (tick, snap) :: y.sent,
                      xfers := x :: y.xfers } := by
  obtain ⟨rfl, hxt, hxb, hms, hbytes⟩ := sendSnap_of_ok h
  have hbase := hg.base (ops := ops) { tick := tick, snap := snap }
  generalize y.sender.baseOf ops ({ tick := tick, snap := snap } :: y.sender.snaps) = baseSnap
    at hbase hbytes
  rw [← hxb] at hbase
  have hPbase : P baseSnap := by
    rcases hbase with ⟨_, h⟩ | ⟨_, h⟩
    · exact h ▸ laws.empty
    · exact hsP _ h
  have hxok : XferOk ops ((tick, snap) :: y.sent) x := by
    have hi32 : inI32 x.base := by
      rcases hbase with ⟨h, _⟩ | ⟨_, h⟩
      · rw [h]; decide
      · exact hg.sentI32 _ h
    -- the laws are used here, at send time: they say what the receiver will be able to do with the bytes
    rcases hbytes with ⟨d, hcreate, hwrite⟩ | ⟨hempty, hsame⟩
    · exact ⟨snap, baseSnap, d, {
        base_i32 := hi32
        snap_mem := hxt ▸ List.mem_cons_self
        base := hbase.mono _
        apply := laws.apply_create _ _ _ hPbase hPsnap hcreate
        bytes := .inl ⟨laws.write_nonempty _ _ _ _ hPbase hPsnap hcreate hwrite,
          laws.read_write _ _ _ _ hPbase hPsnap hcreate hwrite⟩ }⟩
    · exact ⟨snap, baseSnap, ops.clear, {
        base_i32 := hi32
        snap_mem := hxt ▸ List.mem_cons_self
        base := hbase.mono _
        apply := laws.same_clear _ _ hPbase hPsnap hsame
        bytes := .inr ⟨hempty, rfl⟩ }⟩
  have oldlt : ∀ x', x' ∈ y.xfers → x'.tick < x.tick := by
    intro x' hx'
    obtain ⟨s, _, _, hw⟩ := hg.xfersOk x' hx'
    rw [hxt]; exact hnew _ hw.snap_mem
  exact {
    sentFun := injOn_cons (f := Prod.fst) hnew hg.sentFun
    sentI32 := List.forall_mem_cons.mpr ⟨hi, hg.sentI32⟩
    senderStored := List.forall_mem_cons.mpr
      ⟨List.mem_cons_self, fun s hs => List.mem_cons_of_mem _ (hg.senderStored s hs)⟩
    senderDelta := by
      intro t ht
      obtain ⟨h0, d0, hlast, hdtick⟩ := hg.senderDelta t ht
      exact ⟨h0, d0, by simp only [List.getLast?_cons, hlast]; rfl, hdtick⟩
    xfersOk := List.forall_mem_cons.mpr ⟨hxok, fun x' hx' => (hg.xfersOk x' hx').mono _⟩
    xfersUniq := injOn_cons (f := Xfer.tick) oldlt hg.xfersUniq
    msgsOk := by
      intro m hm
      rcases List.mem_append.mp hm with hm' | hm'
      · obtain ⟨x', hx', r⟩ := hg.msgsOk m hm'
        exact ⟨x', List.mem_cons_of_mem _ hx', r⟩
      · exact ⟨x, List.mem_cons_self, ms, hms, hm'⟩
    recvOk := hg.recvOk.mono _
    clientStored := fun s hs => List.mem_cons_of_mem _ (hg.clientStored s hs) }

theorem Obs.ok_mono {sent sent' : List (Int × S)} (hsub : sent ⊆ sent') {o : Obs S} (h : Obs.ok sent o) :
    Obs.ok sent' o := by
  cases o with
  | quiet => trivial
  | delivered t res a b =>
    cases res with
    | error e => exact h
    | ok od =>
      cases od with
      | none => exact h
      | some s => exact ⟨hsub h.1, h.2⟩

theorem Obs.ok_delivered {sent : List (Int × S)} {t : Int} {res : Except MgrError (Option S)}
    {before after : Option Int} (h : Obs.ok sent (.delivered t res before after)) :
    (∀ s, res = .ok (some s) → (t, s) ∈ sent ∧ after = some t) ∧
    (res = .ok none → after = before) ∧
    (∀ e, res = .error e → after = before ∨ after = none) :=
  ⟨fun _ hs => by subst hs; exact h, fun hs => by subst hs; exact h, fun _ hs => by subst hs; exact h⟩

structure GoodP (ops : Ops S D) (P : S → Prop) (y : Sys S) : Prop extends Good ops y where
  sentP : ∀ p, p ∈ y.sent → P p.2

/-- `last` is the one `sendsOk` threads through a history: the tick of the newest `send` so far. -/
def Bounds (last : Option Int) (sent : List (Int × S)) : Prop :=
  ∀ p, p ∈ sent → ∃ l, last = some l ∧ p.1 ≤ l

theorem Bounds.lt {last : Option Int} {sent : List (Int × S)} (h : Bounds last sent) {t : Int}
    (hgt : ∀ l, last = some l → l < t) : ∀ p, p ∈ sent → p.1 < t := by
  intro p hp
  obtain ⟨l, hl, hle⟩ := h p hp
  exact Int.lt_of_le_of_lt hle (hgt l hl)

/-- what `sendsOk` asks of the next event -/
def SendOk {S : Type} (last : Option Int) : Ev S → Prop
  | .send t _ => inI32 t ∧ ∀ l, last = some l → l < t
  | _ => True

def nextLast {S : Type} (last : Option Int) : Ev S → Option Int
  | .send t _ => some t
  | _ => last

theorem nextLast_of_ne_send {last : Option Int} {e : Ev S} (he : ∀ t s, e ≠ .send t s) :
    nextLast last e = last := by
  cases e with
  | send t s => exact (he t s rfl).elim
  | _ => rfl

theorem sendsOk_cons {last : Option Int} {e : Ev S} {rest : List (Ev S)} :
    sendsOk last (e :: rest) ↔ SendOk last e ∧ sendsOk (nextLast last e) rest := by
  cases e <;> simp only [sendsOk, SendOk, nextLast, and_assoc, true_and]

theorem step_safe (laws : LawsOn ops P) {y : Sys S} (hg : GoodP ops P y) {last : Option Int}
    (hlast : Bounds last y.sent) (e : Ev S) (he : SendOk last e) (hPe : ∀ t s, e = .send t s → P s)
    {y' : Sys S} {o : Obs S} (h : y.step ops e = .ok (y', o)) :
    GoodP ops P y' ∧ Obs.ok y'.sent o ∧ y.sent ⊆ y'.sent ∧ Bounds (nextLast last e) y'.sent := by
  by_cases hsend : ∃ t s, e = .send t s
  · obtain ⟨tick, snap, rfl⟩ := hsend
    obtain ⟨hi, hgt⟩ := he
    simp only [Sys.step] at h
    split at h
    · cases h
    next st' x ms hsend =>
    cases h
    have hnew := hlast.lt hgt
    refine ⟨⟨send_safe laws hg.toGood hg.sentP (hPe _ _ rfl) hi hnew hsend, ?_⟩, trivial,
      List.subset_cons_self _ _, ?_⟩
    · exact List.forall_mem_cons.mpr ⟨hPe _ _ rfl, hg.sentP⟩
    · exact List.forall_mem_cons.mpr
        ⟨⟨_, rfl, Int.le_refl _⟩, fun p hp => ⟨_, rfl, Int.le_of_lt (hnew p hp)⟩⟩
  · have hne : ∀ t s, e ≠ .send t s := fun t s h => hsend ⟨t, s, h⟩
    obtain ⟨y1, o1, hstep, -, hsent, hgood⟩ := Sys.step_other ops y hne
    cases hstep.symm.trans h
    obtain ⟨g, ob⟩ := hgood hg.toGood
    rw [nextLast_of_ne_send hne, hsent]
    exact ⟨⟨g, hsent ▸ hg.sentP⟩, ob, List.Subset.refl _, hlast⟩

theorem Sys.run_cons_of_ok {y y'' : Sys S} {e : Ev S} {es : List (Ev S)} {obs : List (Obs S)}
    (h : Sys.run ops y (e :: es) = .ok (y'', obs)) :
    ∃ y' o os, y.step ops e = .ok (y', o) ∧ Sys.run ops y' es = .ok (y'', os) ∧ obs = o :: os := by
  rw [Sys.run] at h
  split at h
  · cases h
  · next y1 o1 hstep =>
    split at h
    · cases h
    · next y2 os hrun => cases h; exact ⟨y1, o1, os, hstep, hrun, rfl⟩

theorem run_safe (laws : LawsOn ops P) : ∀ (evs : List (Ev S)) (y : Sys S) (last : Option Int),
    GoodP ops P y → Bounds last y.sent → sendsOk last evs →
    (∀ e, e ∈ evs → ∀ t s, e = .send t s → P s) →
    ∀ y' obs, Sys.run ops y evs = .ok (y', obs) →
      GoodP ops P y' ∧ (∀ o, o ∈ obs → Obs.ok y'.sent o) ∧ y.sent ⊆ y'.sent := by
  intro evs
  induction evs with
  | nil =>
    intro y last hg _ _ _ y' obs h
    cases h
    exact ⟨hg, fun _ ho => (List.not_mem_nil ho).elim, List.Subset.refl _⟩
  | cons e rest ih =>
    intro y last hg hlast hs hPevs y' obs h
    obtain ⟨y1, o1, os, hstep, hrun, rfl⟩ := Sys.run_cons_of_ok h
    obtain ⟨he, hs'⟩ := sendsOk_cons.mp hs
    obtain ⟨g1, ob1, sub1, hlast'⟩ := step_safe laws hg hlast e he (hPevs e List.mem_cons_self) hstep
    obtain ⟨g2, obs2, sub2⟩ := ih y1 (nextLast last e) g1 hlast' hs'
      (fun e' he' => hPevs e' (List.mem_cons_of_mem _ he')) y' os hrun
    exact ⟨g2, List.forall_mem_cons.mpr ⟨Obs.ok_mono sub2 ob1, obs2⟩, sub1.trans sub2⟩

/-- The snapshots of the free list were stored, hence sent: they satisfy `P` too. -/
structure GoodB (ops : Ops S D) (P : S → Prop) (y : SysB S) : Prop extends GoodP ops P y.sys where
  freeP : ∀ s, s ∈ y.free → P s

theorem goodB_init : GoodB ops P ({} : SysB S) :=
  ⟨⟨good_init, fun _ hp => nomatch hp⟩, fun _ hs => nomatch hs⟩

/-- What the builder and the application owe for one event. -/
def BuildKeeps (b : BuildOps S I) (P : S → Prop) : EvB S I → Prop
  | .sendItems _ items => ∀ seed s, P seed → b.build seed items = .ok (.ok s) → P s
  | .other (.send _ s) => P s
  | .other _ => True

/-- what `sendsOkB` asks of the next event: `sendItems` uses up its tick whether the builder accepts or refuses -/
def SendOkB (last : Option Int) : EvB S I → Prop
  | .sendItems t _ => inI32 t ∧ ∀ l, last = some l → l < t
  | .other e => SendOk last e

def nextLastB (last : Option Int) : EvB S I → Option Int
  | .sendItems t _ => some t
  | .other e => nextLast last e

theorem sendsOkB_cons {last : Option Int} {e : EvB S I} {rest : List (EvB S I)} :
    sendsOkB last (e :: rest) ↔ SendOkB last e ∧ sendsOkB (nextLastB last e) rest := by
  cases e with
  | sendItems t items => simp only [sendsOkB, SendOkB, nextLastB, and_assoc]
  | other e => cases e <;> simp only [sendsOkB, SendOkB, SendOk, nextLastB, nextLast, and_assoc, true_and]

theorem mem_drainedBy {st : Storage S} {v : Int} {s : S} (h : s ∈ st.drainedBy v) :
    ∃ x, x ∈ st.snaps ∧ x.snap = s := by
  unfold Storage.drainedBy at h
  split at h
  · cases h
  · obtain ⟨x, hx, rfl⟩ := List.mem_map.mp h
    exact ⟨x, List.mem_of_mem_drop hx, rfl⟩

theorem SysB.step_other_of_ok {b : BuildOps S I} {y y' : SysB S} {e : Ev S} {o : ObsB S}
    (h : y.step ops b (.other e) = .ok (y', o)) :
    (∃ o', y.sys.step ops e = .ok (y'.sys, o') ∧ o = .obs o') ∧
      ∀ s, s ∈ y'.free → s ∈ y.free ∨ ∃ x, x ∈ y.sys.sender.snaps ∧ x.snap = s := by
  simp only [SysB.step] at h
  split at h
  · cases h
  next sys' o' hstep =>
  cases h
  refine ⟨⟨o', hstep, rfl⟩, fun s hs => ?_⟩
  rcases List.mem_append.mp hs with h1 | h1
  · exact .inl h1
  · cases e with
    | deliverAck j =>
      cases hv : y.sys.acks[j]? with
      | none => simp [hv] at h1
      | some v => exact .inr (mem_drainedBy (by simpa only [hv] using h1))
    | forgedAck v => exact .inr (mem_drainedBy h1)
    | _ => cases h1

theorem SysB.seed_ind {R : S → Prop} (b : BuildOps S I) (y : SysB S) (h0 : R b.default)
    (hf : ∀ s, s ∈ y.free → R s) (hs : ∀ x, x ∈ y.sys.sender.snaps → R x.snap) : R (y.seed b) := by
  unfold SysB.seed
  cases hh : y.sys.sender.snaps.head? with
  | some n => exact hs n (List.mem_of_head? hh)
  | none =>
    cases hl : y.free.getLast? with
    | none => exact h0
    | some s => exact hf s (List.mem_of_getLast? hl)

theorem SysB.step_other_total (b : BuildOps S I) {y : SysB S} {e : Ev S} {sys' : Sys S} {o' : Obs S}
    (h : y.sys.step ops e = .ok (sys', o')) :
    ∃ free', y.step ops b (.other e) = .ok ({ sys := sys', free := free' }, .obs o') := by
  simp only [SysB.step, h]
  exact ⟨_, rfl⟩

theorem stepB_safe (laws : LawsOn ops P) (b : BuildOps S I) (hdef : P b.default)
    {y : SysB S} (hg : GoodB ops P y) {last : Option Int} (hlast : Bounds last y.sys.sent)
    (e : EvB S I) (he : SendOkB last e) (hbk : BuildKeeps b P e)
    {y' : SysB S} {o : ObsB S} (h : y.step ops b e = .ok (y', o)) :
    GoodB ops P y' ∧ ObsB.ok y'.sys.sent o ∧ y.sys.sent ⊆ y'.sys.sent ∧
      Bounds (nextLastB last e) y'.sys.sent := by
  obtain ⟨hgp, hfree⟩ := hg
  have hstored : ∀ x, x ∈ y.sys.sender.snaps → P x.snap :=
    fun x hx => hgp.sentP _ (hgp.senderStored x hx)
  cases e with
  | sendItems tick items =>
    obtain ⟨hi, hgt⟩ := he
    have hdrop : ∀ s, s ∈ y.free.dropLast → P s := fun s hs => hfree s (List.dropLast_subset _ hs)
    simp only [SysB.step] at h
    split at h
    · cases h
    · cases h
      exact ⟨⟨hgp, hdrop⟩, trivial, List.Subset.refl _,
        fun p hp => ⟨tick, rfl, Int.le_of_lt (hlast.lt hgt p hp)⟩⟩
    next snap hb =>
    split at h
    · cases h
    next sys' o' hstep =>
    cases h
    -- the seed of `new_builder()` satisfies `P`, so the built snapshot does
    have hseed : P (y.seed b) := SysB.seed_ind b y hdef hfree hstored
    obtain ⟨g, ob, sub, hb'⟩ := step_safe laws hgp hlast (.send tick snap) ⟨hi, hgt⟩
      (fun t s he => by cases he; exact hbk _ _ hseed hb) hstep
    exact ⟨⟨g, hdrop⟩, ob, sub, hb'⟩
  | other e =>
    obtain ⟨⟨o', hstep, rfl⟩, hfree'⟩ := SysB.step_other_of_ok h
    obtain ⟨g, ob, sub, hb'⟩ := step_safe laws hgp hlast e he
      (fun t s he => by subst he; exact hbk) hstep
    refine ⟨⟨g, fun s hs => ?_⟩, ob, sub, hb'⟩
    -- what an acknowledgement drains goes to the free list; it was stored, hence sent
    rcases hfree' s hs with h1 | ⟨x, hx, rfl⟩
    · exact hfree s h1
    · exact hstored x hx

theorem SysB.run_cons_of_ok {b : BuildOps S I} {y y'' : SysB S} {e : EvB S I} {es : List (EvB S I)}
    {obs : List (ObsB S)} (h : SysB.run ops b y (e :: es) = .ok (y'', obs)) :
    ∃ y' o os, y.step ops b e = .ok (y', o) ∧ SysB.run ops b y' es = .ok (y'', os) ∧ obs = o :: os := by
  rw [SysB.run] at h
  split at h
  · cases h
  · next y1 o1 hstep =>
    split at h
    · cases h
    · next y2 os hrun => cases h; exact ⟨y1, o1, os, hstep, hrun, rfl⟩

theorem runB_safe (laws : LawsOn ops P) (b : BuildOps S I) (hdef : P b.default) :
    ∀ (evs : List (EvB S I)) (y : SysB S) (last : Option Int),
    GoodB ops P y → Bounds last y.sys.sent → sendsOkB last evs →
    (∀ e, e ∈ evs → BuildKeeps b P e) →
    ∀ y' obs, SysB.run ops b y evs = .ok (y', obs) →
      GoodB ops P y' ∧ (∀ o, o ∈ obs → ObsB.ok y'.sys.sent o) ∧ y.sys.sent ⊆ y'.sys.sent := by
  intro evs
  induction evs with
  | nil =>
    intro y last hg _ _ _ y' obs h
    cases h
    exact ⟨hg, fun _ ho => (List.not_mem_nil ho).elim, List.Subset.refl _⟩
  | cons e rest ih =>
    intro y last hg hlast hs hbk y' obs h
    obtain ⟨y1, o1, os, hstep, hrun, rfl⟩ := SysB.run_cons_of_ok h
    obtain ⟨he, hs'⟩ := sendsOkB_cons.mp hs
    obtain ⟨g1, ob1, sub1, hlast'⟩ := stepB_safe laws b hdef hg hlast e he (hbk e List.mem_cons_self) hstep
    obtain ⟨g2, obs2, sub2⟩ := ih y1 (nextLastB last e) g1 hlast' hs'
      (fun e' he' => hbk e' (List.mem_cons_of_mem _ he')) y' os hrun
    refine ⟨g2, List.forall_mem_cons.mpr ⟨?_, obs2⟩, sub1.trans sub2⟩
    cases o1 with
    | obs o => exact Obs.ok_mono sub2 ob1
    | builderError e => trivial

end Tw.SnapMgr
