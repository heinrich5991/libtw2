import Tw.Model.ServerBrowse

/-! The derived `Ord` of `ClientInfo` is a total order whose equivalence is equality; `sortClients`
returns the unique sorted arrangement, so it does not depend on the order of its input. -/
namespace Tw.ServerBrowse

theorem cmpInt_eq_compare : cmpInt = compare := by
  funext a b; exact (Int.compare_eq_ite_lt a b).symm

theorem cmpBytes_eq_compare : ∀ a b, cmpBytes a b = compare a b
  | [], [] => rfl
  | [], _ :: _ => rfl
  | _ :: _, [] => rfl
  | a :: as, b :: bs => by
    rw [cmpBytes, List.compare_cons_cons, cmpBytes_eq_compare as bs]
    split
    · next h => rw [Std.compare_eq_lt.2 (UInt8.lt_iff_toNat_lt.2 h)]; rfl
    · split
      · next h => rw [Std.compare_eq_gt.2 (UInt8.lt_iff_toNat_lt.2 h)]; rfl
      · next h1 h2 =>
        rw [Std.compare_eq_iff_eq.2 (UInt8.toNat_inj.1 (Nat.le_antisymm (Nat.not_lt.1 h2) (Nat.not_lt.1 h1)))]; rfl

/-- `#[derive(Ord)]` is the lexicographic combination of the fields' own orders, for which Lean's library has the laws -/
theorem ClientInfo.cmp_eq_lex : ClientInfo.cmp =
    compareLex (compareOn (·.name)) (compareLex (compareOn (·.clan))
      (compareLex (compareOn (·.country)) (compareLex (compareOn (·.score)) (compareOn (·.flags))))) := by
  funext a b
  simp only [ClientInfo.cmp, cmpBytes_eq_compare, cmpInt_eq_compare]
  rfl

instance : Std.TransCmp ClientInfo.cmp := by rw [ClientInfo.cmp_eq_lex]; infer_instance

theorem ClientInfo.eq_of_cmp {a b : ClientInfo} (h : a.cmp b = .eq) : a = b := by
  simp only [ClientInfo.cmp_eq_lex, compareLex_eq_eq, compareOn, Std.LawfulEqOrd.compare_eq_iff_eq] at h
  cases a; cases b; simp_all

theorem ClientInfo.le_eq (a b : ClientInfo) : a.le b = (a.cmp b).isLE := by
  unfold ClientInfo.le; cases a.cmp b <;> rfl

theorem ClientInfo.le_total (a b : ClientInfo) : a.le b = true ∨ b.le a = true := by
  rw [le_eq, le_eq, ← Std.OrientedCmp.isGE_eq_isLE (cmp := ClientInfo.cmp) (a := a)]
  cases a.cmp b <;> simp

theorem ClientInfo.le_antisymm {a b : ClientInfo} (h1 : a.le b = true) (h2 : b.le a = true) : a = b :=
  eq_of_cmp (Std.OrientedCmp.isLE_antisymm (le_eq a b ▸ h1) (le_eq b a ▸ h2))

theorem ClientInfo.le_trans {a b d : ClientInfo} (h1 : a.le b = true) (h2 : b.le d = true) : a.le d = true :=
  le_eq a d ▸ Std.TransCmp.isLE_trans (le_eq a b ▸ h1) (le_eq b d ▸ h2)

theorem insertSorted_perm (c : ClientInfo) : ∀ l, (insertSorted c l).Perm (c :: l)
  | [] => by simp [insertSorted]
  | d :: ds => by
    unfold insertSorted
    split
    · exact List.Perm.refl _
    · exact ((insertSorted_perm c ds).cons d).trans (List.Perm.swap c d ds)

theorem sortClients_perm : ∀ l, (sortClients l).Perm l
  | [] => by simp [sortClients]
  | c :: cs => by
    unfold sortClients
    exact (insertSorted_perm c _).trans ((sortClients_perm cs).cons c)

theorem insertSorted_sorted (c : ClientInfo) :
    ∀ l, l.Pairwise (fun a b => a.le b = true) → (insertSorted c l).Pairwise (fun a b => a.le b = true)
  | [], _ => by simp [insertSorted]
  | d :: ds, h => by
    unfold insertSorted
    rw [List.pairwise_cons] at h
    split
    · rename_i hcd
      refine List.pairwise_cons.2 ⟨fun x hx => ?_, List.pairwise_cons.2 h⟩
      rcases List.mem_cons.1 hx with rfl | hx
      · exact hcd
      · exact ClientInfo.le_trans hcd (h.1 x hx)
    · rename_i hcd
      have hdc := (ClientInfo.le_total c d).resolve_left hcd
      refine List.pairwise_cons.2 ⟨fun x hx => ?_, insertSorted_sorted c ds h.2⟩
      rcases List.mem_cons.1 ((insertSorted_perm c ds).subset hx) with rfl | hx'
      · exact hdc
      · exact h.1 x hx'

theorem sortClients_sorted : ∀ l, (sortClients l).Pairwise (fun a b => a.le b = true)
  | [] => by simp [sortClients]
  | c :: cs => by
    unfold sortClients
    exact insertSorted_sorted c _ (sortClients_sorted cs)

theorem sortClients_eq_of_perm {l₁ l₂ : List ClientInfo} (h : l₁.Perm l₂) : sortClients l₁ = sortClients l₂ :=
  List.Perm.eq_of_pairwise (le := fun a b => a.le b = true)
    (fun _ _ _ _ h1 h2 => ClientInfo.le_antisymm h1 h2)
    (sortClients_sorted l₁) (sortClients_sorted l₂)
    ((sortClients_perm l₁).trans (h.trans (sortClients_perm l₂).symm))

theorem sortClients_length (l : List ClientInfo) : (sortClients l).length = l.length :=
  (sortClients_perm l).length_eq

theorem sortClients_idem (l : List ClientInfo) : sortClients (sortClients l) = sortClients l :=
  sortClients_eq_of_perm (sortClients_perm l)

end Tw.ServerBrowse
