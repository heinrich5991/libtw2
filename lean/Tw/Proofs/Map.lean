import Tw.Model.Map
import Tw.Proofs.Datafile

/-! Lemmas about the map layer model (`Tw.Model.Map`).  `from_slice_rest` is characterised exactly
(`fromSliceRest_exact`).  Every `from_raw`, every accessor (on a datafile that satisfies the bounds
invariant `Inv`) and every loop of `game_layers` is characterised once as `Res.Yields`: an error, or
a value whose indices lie in the ranges they were checked against; "never a panic" and "indices in
range" are both read off that. -/
namespace Tw.Map
open Tw.Datafile Tw.Gen.MapItems

/-- `Outcome.Yields` for the map layer's `Res`; `total` is the form in which C16 states the map theorems -/
def Res.Yields {α : Type} (x : Res α) (P : α → Prop) : Prop :=
  (∃ e, x = .err e) ∨ ∃ a, x = .ok a ∧ P a

namespace Res.Yields
variable {α : Type} {P Q : α → Prop} {x y : Res α}

theorem err {e : String} : (Res.err e : Res α).Yields P := Or.inl ⟨e, rfl⟩

theorem ok {a : α} (h : P a) : (Res.ok a).Yields P := Or.inr ⟨a, rfl, h⟩

theorem ite {c : Prop} [Decidable c] (hx : c → x.Yields P) (hy : ¬ c → y.Yields P) :
    (if c then x else y).Yields P := by
  by_cases hc : c
  · rw [if_pos hc]; exact hx hc
  · rw [if_neg hc]; exact hy hc

/-- as `Outcome.Yields.elim`: the way the `match … | .err e => .err e | .panic s => .panic s` chains
are walked -/
@[elab_as_elim]
theorem elim (h : x.Yields P) {C : Res α → Prop} (herr : ∀ e, C (.err e)) (hok : ∀ a, P a → C (.ok a)) :
    C x := by
  rcases h with ⟨e, rfl⟩ | ⟨a, rfl, hp⟩
  · exact herr e
  · exact hok a hp

theorem mono (h : x.Yields P) (hpq : ∀ a, P a → Q a) : x.Yields Q :=
  h.elim (fun _ => err) fun a hp => ok (hpq a hp)

theorem not_panic (h : x.Yields P) (s : String) : x ≠ .panic s :=
  h.elim (fun _ => nofun) fun _ _ => nofun

theorem of_ok (h : x.Yields P) {a : α} (ha : x = .ok a) : P a := by
  rcases h with ⟨e, rfl⟩ | ⟨a', rfl, hp⟩
  · cases ha
  · cases ha; exact hp

theorem total (h : x.Yields P) : (∀ s, x ≠ .panic s) ∧ ∀ a, x = .ok a → P a :=
  ⟨h.not_panic, fun _ ha => h.of_ok ha⟩

end Res.Yields

theorem fromSliceRest_exact (sp : Spec) (slice : List Int) :
    (fromSliceRest sp slice = .tooShort
        ∧ (sp.ignoreVersion = false ∧ slice = [] ∨ slice.length < sp.offset + sp.len))
      ∨ (∃ v, fromSliceRest sp slice = .lowVersion v ∧ sp.ignoreVersion = false
          ∧ slice.head? = some v ∧ v < sp.version)
      ∨ (sp.offset + sp.len ≤ slice.length ∧ fromSliceRest sp slice
          = .found ((slice.drop sp.offset).take sp.len) (slice.drop (sp.offset + sp.len))) := by
  unfold fromSliceRest
  dsimp only
  split
  · rename_i r hr
    split at hr
    · cases hr
    · rename_i hi
      split at hr
      · cases hr; exact Or.inl ⟨rfl, Or.inl ⟨by simpa using hi, rfl⟩⟩
      · split at hr
        · cases hr; exact Or.inr (Or.inl ⟨_, rfl, by simpa using hi, rfl, ‹_›⟩)
        · cases hr
  · by_cases hlen : slice.length < sp.offset + sp.len
    · rw [if_pos hlen]; exact Or.inl ⟨rfl, Or.inr hlen⟩
    · rw [if_neg hlen, if_neg (by omega), List.length_drop, if_neg (by omega), List.drop_drop]
      exact Or.inr (Or.inr ⟨by omega, rfl⟩)

theorem fromSliceRest_no_panic (sp : Spec) (slice : List Int) (s : String) :
    fromSliceRest sp slice ≠ .panic s := by
  rcases fromSliceRest_exact sp slice with ⟨h, _⟩ | ⟨v, h, _⟩ | ⟨_, h⟩ <;> rw [h] <;> nofun

theorem fromSliceRest_found {sp : Spec} {slice item rest : List Int}
    (h : fromSliceRest sp slice = .found item rest) :
    sp.offset + sp.len ≤ slice.length ∧ item = (slice.drop sp.offset).take sp.len
      ∧ item.length = sp.len ∧ rest = slice.drop (sp.offset + sp.len) := by
  rcases fromSliceRest_exact sp slice with ⟨h', _⟩ | ⟨v, h', _⟩ | ⟨hle, h'⟩ <;> rw [h'] at h <;> cases h
  exact ⟨hle, rfl, by rw [List.length_take, List.length_drop]; omega, rfl⟩

theorem fromSliceRest_ignore {sp : Spec} (hi : sp.ignoreVersion = true) (slice : List Int) (v : Int) :
    fromSliceRest sp slice ≠ .lowVersion v := by
  rcases fromSliceRest_exact sp slice with ⟨h, _⟩ | ⟨v, h, hf, _⟩ | ⟨_, h⟩
  · rw [h]; nofun
  · rw [hi] at hf; cases hf
  · rw [h]; nofun

theorem mandatory_spec (sp : Spec) (slice : List Int) (ts : String) :
    (mandatory sp slice ts).Yields fun _ => True := by
  unfold mandatory
  cases h : fromSliceRest sp slice with
  | tooShort => exact .err
  | lowVersion v => exact .err
  | found i r => exact .ok trivial
  | panic s => exact absurd h (fromSliceRest_no_panic sp slice s)

theorem optional_spec (sp : Spec) (slice : List Int) (ts : String) :
    (optional sp slice ts).Yields fun _ => True := by
  unfold optional
  cases h : fromSliceRest sp slice with
  | tooShort => exact .err
  | lowVersion v => exact .ok trivial
  | found i r => exact .ok trivial
  | panic s => exact absurd h (fromSliceRest_no_panic sp slice s)

def OptIn (o : Option Nat) (a b : Nat) : Prop := ∀ i, o = some i → a ≤ i ∧ i < b

theorem optIn_none (a b : Nat) : OptIn none a b := nofun

theorem optIn_some {d a b : Nat} (h : a ≤ d ∧ d < b) : OptIn (some d) a b := by
  intro i hi; cases hi; exact h

/-- the list form in which C16 states the bounds of five optional data indices -/
theorem lt_of_optIn_five {o1 o2 o3 o4 o5 : Option Nat} {a b : Nat} (h1 : OptIn o1 a b) (h2 : OptIn o2 a b)
    (h3 : OptIn o3 a b) (h4 : OptIn o4 a b) (h5 : OptIn o5 a b) :
    ∀ d, d ∈ [o1, o2, o3, o4, o5] → ∀ k, d = some k → k < b := by
  intro d hd k hk
  simp only [List.mem_cons, List.mem_nil_iff, or_false] at hd
  rcases hd with rfl | rfl | rfl | rfl | rfl
  · exact (h1 k hk).2
  · exact (h2 k hk).2
  · exact (h3 k hk).2
  · exact (h4 k hk).2
  · exact (h5 k hk).2

/-- case analysis of a hypothesis `h : <nested match/if> = result`; closes contradictory branches -/
macro "crunch " h:ident " with " ls:Lean.Parser.Tactic.simpLemma,* : tactic =>
  `(tactic| repeat' (first
      | (simp [$ls,*] at $h:ident; done)
      | split at $h:ident
      | (simp only [] at $h:ident; split at $h:ident)))

theorem getIndexImpl_some {index : Int} {a b i : Nat} (h : getIndexImpl index a b = some i) :
    a ≤ i ∧ i < b := by
  unfold getIndexImpl at h
  split at h
  · cases h
  · split at h
    · cases h
      omega
    · cases h

theorem getIndex_spec (index : Int) (a b : Nat) (e : String) :
    (getIndex index a b e).Yields fun i => a ≤ i ∧ i < b := by
  unfold getIndex
  cases h : getIndexImpl index a b with
  | none => exact .err
  | some i => exact .ok (getIndexImpl_some h)

theorem getIndexOpt_spec (index : Int) (a b : Nat) (e : String) :
    (getIndexOpt index a b e).Yields fun o => OptIn o a b := by
  unfold getIndexOpt
  refine .ite (fun _ => .ok (optIn_none a b)) fun _ => ?_
  cases h : getIndexImpl index a b with
  | none => exact .err
  | some i => exact .ok (optIn_some (getIndexImpl_some h))

theorem settingsNext_step {s : List UInt8} {pos : Nat} (hpos : pos ≤ s.length) :
    settingsNext s pos = .ok none
      ∨ ∃ item pos', settingsNext s pos = .ok (some (item, pos')) ∧ pos < pos' ∧ pos' ≤ s.length := by
  unfold settingsNext
  rw [if_neg (by omega)]
  split
  · exact Or.inl rfl
  · rename_i len hlen
    have := (List.idxOf?_eq_some_iff.1 hlen).1
    simp only [List.length_drop] at this
    exact Or.inr ⟨_, _, rfl, by omega, by omega⟩

/-- Every step of `SettingsIter` advances `pos` (`settingsNext_step`) and one more sees the end,
whence the fuel bound. -/
theorem settingsAll_terminates (s : List UInt8) :
    ∀ (fuel pos : Nat), pos ≤ s.length → s.length - pos + 1 ≤ fuel →
      ∃ items, settingsAll s fuel pos = some (.ok items) := by
  intro fuel
  induction fuel with
  | zero => intro pos _ h; omega
  | succ fuel ih =>
    intro pos hpos hfuel
    unfold settingsAll
    rcases settingsNext_step hpos with h | ⟨item, pos', h, h1, h2⟩
    · rw [h]; exact ⟨[], rfl⟩
    · rw [h]
      simp only
      obtain ⟨rest, hrest⟩ := ih pos' h2 (by omega)
      rw [hrest]
      exact ⟨item :: rest, rfl⟩

theorem Group.fromRaw_spec (raw : List Int) (la lb : Nat) :
    (Group.fromRaw raw la lb).Yields fun g =>
      la ≤ g.layersStart ∧ g.layersStart ≤ g.layersEnd ∧ g.layersEnd ≤ lb := by
  unfold Group.fromRaw
  refine (mandatory_spec MapItemGroupV1 raw "TooShort").elim (fun _ => .err) fun v1 _ => ?_
  refine (optional_spec MapItemGroupV2 raw "TooShort").elim (fun _ => .err) fun v2 _ => ?_
  refine (optional_spec MapItemGroupV3 raw "TooShort").elim (fun _ => .err) fun v3 _ => ?_
  dsimp only
  refine .ite (fun _ => .err) fun h1 => .ite (fun _ => .err) fun h2 => .ite (fun _ => .err) fun h3 =>
    .ite (fun _ => .err) fun h4 => .ok ?_
  dsimp only
  omega

theorem soundsV2Gate_spec (raw : List Int) (legacy : Bool) :
    (soundsV2Gate raw legacy).Yields fun _ => True := by
  unfold soundsV2Gate
  exact .ite (fun _ => .ok trivial) fun _ => mandatory_spec _ _ _

theorem Sounds.fromRaw_spec (raw : List Int) (da db sa sb : Nat) (legacy : Bool) :
    (Sounds.fromRaw raw da db sa sb legacy).Yields fun x =>
      (da ≤ x.data ∧ x.data < db) ∧ OptIn x.sound sa sb := by
  unfold Sounds.fromRaw
  refine (mandatory_spec MapItemLayerV1DdraceSoundsV1 raw "TooShort").elim (fun _ => .err) fun v1 _ => ?_
  refine (soundsV2Gate_spec raw legacy).elim (fun _ => .err) fun _ _ => ?_
  dsimp only
  refine .ite (fun _ => .err) fun _ => ?_
  refine (getIndex_spec (w v1.1 1) da db "InvalidDataIndex").elim (fun _ => .err) fun data hd => ?_
  exact (getIndexOpt_spec (w v1.1 2) sa sb "InvalidSoundIndex").elim (fun _ => .err) fun sound hs =>
    .ok ⟨hd, hs⟩

theorem Quads.fromRaw_spec (raw : List Int) (da db ia ib : Nat) :
    (Quads.fromRaw raw da db ia ib).Yields fun x => (da ≤ x.data ∧ x.data < db) ∧ OptIn x.image ia ib := by
  unfold Quads.fromRaw
  refine (mandatory_spec MapItemLayerV1QuadsV1 raw "TooShort").elim (fun _ => .err) fun v1 _ => ?_
  refine (optional_spec MapItemLayerV1QuadsV2 raw "TooShortV2").elim (fun _ => .err) fun v2 _ => ?_
  dsimp only
  refine .ite (fun _ => .err) fun _ => ?_
  refine (getIndex_spec (w v1.1 1) da db "InvalidDataIndex").elim (fun _ => .err) fun data hd => ?_
  exact (getIndexOpt_spec (w v1.1 2) ia ib "InvalidImageIndex").elim (fun _ => .err) fun image hi =>
    .ok ⟨hd, hi⟩

theorem extraIndex_spec (raw : List Int) (v : Int) (f da db : Nat) (a b : String) :
    (extraIndex raw v f da db a b).Yields fun d => da ≤ d ∧ d < db := by
  unfold extraIndex
  cases extraRace raw v f with
  | none => exact .err
  | some x => exact getIndex_spec x da db b

/-- every index a tile layer carries lies in the range it was checked against -/
def TilemapType.InRange (t : TilemapType) (da db ea eb ia ib : Nat) : Prop :=
  match t with
  | .normal _ env img data =>
    (da ≤ data ∧ data < db) ∧ (∀ e off, env = some (e, off) → ea ≤ e ∧ e < eb) ∧ OptIn img ia ib
  | .game d => da ≤ d ∧ d < db
  | .teleport d z => (da ≤ d ∧ d < db) ∧ (da ≤ z ∧ z < db)
  | .speedup d z => (da ≤ d ∧ d < db) ∧ (da ≤ z ∧ z < db)
  | .front d z => (da ≤ d ∧ d < db) ∧ (da ≤ z ∧ z < db)
  | .switch d z => (da ≤ d ∧ d < db) ∧ (da ≤ z ∧ z < db)
  | .tune d z => (da ≤ d ∧ d < db) ∧ (da ≤ z ∧ z < db)

theorem tilemapColor_spec (v2 : List Int) : (tilemapColor v2).Yields fun _ => True := by
  unfold tilemapColor
  split
  · exact .err
  · exact .err
  · exact .err
  · exact .err
  · exact .ok trivial

theorem tilemapColorEnv_spec (v2 : List Int) (ea eb : Nat) :
    (tilemapColorEnv v2 ea eb).Yields fun o => ∀ e off, o = some (e, off) → ea ≤ e ∧ e < eb := by
  unfold tilemapColorEnv
  refine .ite (fun _ => .ok nofun) fun _ => ?_
  refine (getIndex_spec (w v2 7) ea eb "InvalidColorEnvelopeIndex").elim (fun _ => .err) fun i hi => .ok ?_
  intro e off h
  cases h
  exact hi

theorem tilemapType_spec (raw : List Int) (version : Int) (flags : Nat) (ff : Int)
    (color : Nat × Nat × Nat × Nat) {colorEnv : Option (Nat × Int)} {image : Option Nat}
    {data da db ea eb ia ib : Nat}
    (hd : da ≤ data ∧ data < db) (he : ∀ e off, colorEnv = some (e, off) → ea ≤ e ∧ e < eb)
    (hi : OptIn image ia ib) :
    (tilemapType raw version flags ff color colorEnv image data da db).Yields
      (·.InRange da db ea eb ia ib) := by
  unfold tilemapType
  refine .ite (fun _ => .ok ⟨hd, he, hi⟩) fun _ => .ite (fun _ => .ok hd) fun _ =>
    .ite (fun _ => ?_) fun _ => .ite (fun _ => ?_) fun _ => .ite (fun _ => ?_) fun _ =>
    .ite (fun _ => ?_) fun _ => .ite (fun _ => ?_) fun _ => .err
  -- the five race/ddrace kinds: the extra data index is checked like the tile data index
  all_goals
    split
    · exact .ok ⟨(extraIndex_spec ..).of_ok ‹_›, hd⟩
    · exact .err
    · exact absurd ‹_› ((extraIndex_spec ..).not_panic _)

theorem tilemapDims_spec (v2 : List Int) : (tilemapDims v2).Yields fun d => 0 < d.1 ∧ 0 < d.2 := by
  unfold tilemapDims
  refine .ite (fun _ => .err) fun _ => .ite (fun _ => .err) fun _ => .ite (fun _ => .err) fun _ =>
    .ite (fun _ => .err) fun _ => .ok ?_
  dsimp only
  omega

theorem Tilemap.fromRaw_spec (raw : List Int) (da db ea eb ia ib : Nat) :
    (Tilemap.fromRaw raw da db ea eb ia ib).Yields fun t =>
      t.type.InRange da db ea eb ia ib ∧ 0 < t.width ∧ 0 < t.height := by
  unfold Tilemap.fromRaw
  refine (mandatory_spec MapItemLayerV1CommonV0 raw "TooShort").elim (fun _ => .err) fun v0 _ => ?_
  refine (mandatory_spec MapItemLayerV1TilemapV2 raw "TooShortV2").elim (fun _ => .err) fun v2 _ => ?_
  refine (optional_spec MapItemLayerV1TilemapV3 raw "TooShortV3").elim (fun _ => .err) fun v3 _ => ?_
  dsimp only
  refine (tilemapColor_spec v2.1).elim (fun _ => .err) fun color _ => ?_
  refine (tilemapColorEnv_spec v2.1 ea eb).elim (fun _ => .err) fun colorEnv he => ?_
  refine (getIndexOpt_spec (w v2.1 9) ia ib "InvalidImageIndex").elim (fun _ => .err) fun image hi => ?_
  refine (getIndex_spec (w v2.1 10) da db "InvalidDataIndex").elim (fun _ => .err) fun data hd => ?_
  dsimp only
  refine (tilemapType_spec raw (w v0.1 0) (asU32 (w v2.1 2)) (w v2.1 2) color hd he hi).elim
    (fun _ => .err) fun ty hty => ?_
  exact (tilemapDims_spec v2.1).elim (fun _ => .err) fun dims hdims => .ok ⟨hty, hdims⟩

theorem wrapErr_spec {α : Type} {P : α → Prop} {pre : String} {x : Res α} (h : x.Yields P) :
    (wrapErr pre x).Yields P :=
  h.elim (fun _ => .err) fun _ hp => .ok hp

def Layer.InRange (l : Layer) (da db ea eb ia ib sa sb : Nat) : Prop :=
  match l.t with
  | .quads q => (da ≤ q.data ∧ q.data < db) ∧ OptIn q.image ia ib
  | .tilemap t => t.type.InRange da db ea eb ia ib ∧ 0 < t.width ∧ 0 < t.height
  | .sounds s => (da ≤ s.data ∧ s.data < db) ∧ OptIn s.sound sa sb

theorem layerDispatch_spec (ty : Int) (detail : Bool) (rest : List Int) (da db ea eb ia ib sa sb : Nat) :
    (layerDispatch ty detail rest da db ea eb ia ib sa sb).Yields
      (·.InRange da db ea eb ia ib sa sb) := by
  unfold layerDispatch
  refine .ite (fun _ => ?_) fun _ => .ite (fun _ => ?_) fun _ => .ite (fun _ => ?_) fun _ => .err
  · exact (wrapErr_spec (pre := "Tilemap") (Tilemap.fromRaw_spec rest da db ea eb ia ib)).elim
      (fun _ => .err) fun t ht => .ok ht
  · exact (wrapErr_spec (pre := "Quads") (Quads.fromRaw_spec rest da db ia ib)).elim
      (fun _ => .err) fun q hq => .ok hq
  · exact (wrapErr_spec (pre := "DdraceSounds") (Sounds.fromRaw_spec rest da db sa sb _)).elim
      (fun _ => .err) fun s hs => .ok hs

theorem Layer.fromRaw_spec (raw : List Int) (da db ea eb ia ib sa sb : Nat) :
    (Layer.fromRaw raw da db ea eb ia ib sa sb).Yields (·.InRange da db ea eb ia ib sa sb) := by
  unfold Layer.fromRaw
  cases h : fromSliceRest MapItemLayerV1 raw with
  | tooShort => exact .err
  | lowVersion v => exact absurd h (fromSliceRest_ignore rfl _ _)
  | panic s => exact absurd h (fromSliceRest_no_panic _ _ _)
  | found v1 rest => exact .ite (fun _ => .err) fun _ => layerDispatch_spec ..

theorem imageData_spec (v1 : List Int) (da db : Nat) :
    (imageData v1 da db).Yields fun o => OptIn o da db := by
  unfold imageData
  refine .ite (fun _ => .ok (optIn_none da db)) fun _ => ?_
  exact (getIndex_spec (w v1 4) da db "InvalidDataIndex").elim (fun _ => .err) fun i hi =>
    .ok (optIn_some hi)

theorem Image.fromRaw_spec (raw : List Int) (da db : Nat) :
    (Image.fromRaw raw da db).Yields fun x => (da ≤ x.name ∧ x.name < db) ∧ OptIn x.data da db := by
  unfold Image.fromRaw
  refine (mandatory_spec MapItemImageV1 raw "TooShort").elim (fun _ => .err) fun v1 _ => ?_
  dsimp only
  refine (imageData_spec v1.1 da db).elim (fun _ => .err) fun data hd => ?_
  dsimp only
  refine .ite (fun _ => .err) fun _ => .ite (fun _ => .err) fun _ => ?_
  exact (getIndex_spec (w v1.1 3) da db "InvalidNameIndex").elim (fun _ => .err) fun name hn =>
    .ok ⟨hn, hd⟩

theorem infoSettings_spec (v2 : Option (List Int)) (da db : Nat) :
    (infoSettings v2 da db).Yields fun o => OptIn o da db := by
  unfold infoSettings
  cases v2 with
  | none => exact .ok (optIn_none da db)
  | some v2 => exact getIndexOpt_spec ..

theorem Info.fromRaw_spec (raw : List Int) (da db : Nat) :
    (Info.fromRaw raw da db).Yields fun x =>
      OptIn x.author da db ∧ OptIn x.version da db ∧ OptIn x.credits da db ∧ OptIn x.license da db
        ∧ OptIn x.settings da db := by
  unfold Info.fromRaw
  refine (mandatory_spec MapItemInfoV1 raw "TooShort").elim (fun _ => .err) fun v1 _ => ?_
  dsimp only
  refine (getIndexOpt_spec (w v1.1 0) da db "InvalidAuthorIndex").elim (fun _ => .err) fun _ h1 => ?_
  refine (getIndexOpt_spec (w v1.1 1) da db "InvalidVersionIndex").elim (fun _ => .err) fun _ h2 => ?_
  refine (getIndexOpt_spec (w v1.1 2) da db "InvalidCreditsIndex").elim (fun _ => .err) fun _ h3 => ?_
  refine (getIndexOpt_spec (w v1.1 3) da db "InvalidLicenseIndex").elim (fun _ => .err) fun _ h4 => ?_
  exact (infoSettings_spec _ da db).elim (fun _ => .err) fun _ h5 => .ok ⟨h1, h2, h3, h4, h5⟩

theorem liftDf_ok {α : Type} {o : Outcome α} {a : α} (h : o = .ok a) : liftDf o = .ok a := by
  subst h; rfl

theorem liftDf_yields {α : Type} {o : Outcome α} {P : α → Prop} (h : o.Yields P) : (liftDf o).Yields P :=
  h.elim (fun _ => .err) fun _ hp => .ok hp

theorem numData_ok {r : Reader} (inv : Inv r) : numData r = .ok r.numData.toNat :=
  liftDf_ok (counts_ok inv).2.1

theorem typeRange_ok {r : Reader} (inv : Inv r) (t : Nat) :
    ∃ a b, typeRange r t = .ok (a, b) ∧ a ≤ b ∧ b ≤ r.numItems.toNat := by
  obtain ⟨a, b, e, h1, h2⟩ := itemTypeIndices_ok inv t
  exact ⟨a, b, liftDf_ok e, h1, h2⟩

theorem itemTypeIndices_of_typeRange {r : Reader} {t a b : Nat} (h : typeRange r t = .ok (a, b)) :
    r.itemTypeIndices t = .ok (a, b) := by
  unfold typeRange liftDf at h
  split at h <;> simp_all

/-- `MapItemCommonV0` ignores the version word, so the `unreachable!()` of `version()` is not reached -/
theorem version_spec {r : Reader} (inv : Inv r) : (version r).Yields fun _ => True := by
  obtain ⟨res, hres, _⟩ := findItem_ok inv MAP_ITEMTYPE_VERSION 0
  unfold version
  rw [liftDf_ok hres]
  cases res with
  | none => exact .err
  | some v =>
    dsimp only
    cases h : fromSliceRest MapItemCommonV0 v.data with
    | tooShort => exact .err
    | lowVersion _ => exact absurd h (fromSliceRest_ignore rfl _ _)
    | panic s => exact absurd h (fromSliceRest_no_panic _ _ _)
    | found item rest => exact .ok trivial

theorem checkVersion_spec {r : Reader} (inv : Inv r) : (checkVersion r).Yields fun _ => True := by
  unfold checkVersion
  exact (version_spec inv).elim (fun _ => .err) fun v _ => .ite (fun _ => .err) fun _ => .ok trivial

theorem info_spec {r : Reader} (inv : Inv r) :
    (info r).Yields fun i =>
      OptIn i.author 0 r.numData.toNat ∧ OptIn i.version 0 r.numData.toNat
        ∧ OptIn i.credits 0 r.numData.toNat ∧ OptIn i.license 0 r.numData.toNat
        ∧ OptIn i.settings 0 r.numData.toNat := by
  obtain ⟨res, hres, _⟩ := findItem_ok inv MAP_ITEMTYPE_INFO 0
  unfold info
  rw [liftDf_ok hres, numData_ok inv]
  cases res with
  | none => exact .err
  | some v => exact wrapErr_spec (Info.fromRaw_spec ..)

theorem group_spec {r : Reader} (inv : Inv r) {ga gb la lb k : Nat}
    (hg : typeRange r MAP_ITEMTYPE_GROUP = .ok (ga, gb)) (hl : typeRange r MAP_ITEMTYPE_LAYER = .ok (la, lb))
    (h1 : ga ≤ k) (h2 : k < gb) :
    (group r k).Yields fun g => la ≤ g.layersStart ∧ g.layersStart ≤ g.layersEnd ∧ g.layersEnd ≤ lb := by
  -- the fourth block of `check` makes the type assertion hold
  obtain ⟨v, hv, _, hty⟩ := item_of_type_range inv (itemTypeIndices_of_typeRange hg) h1 h2
  unfold group
  rw [liftDf_ok hv]
  dsimp only
  rw [if_neg (by omega), hl]
  dsimp only
  exact (Group.fromRaw_spec v.data la lb).elim (fun _ => .err) fun _ hg => .ok hg

theorem layer_spec {r : Reader} (inv : Inv r) {la lb k : Nat}
    (hl : typeRange r MAP_ITEMTYPE_LAYER = .ok (la, lb)) (h1 : la ≤ k) (h2 : k < lb) :
    (layer r k).Yields fun l =>
      ∃ ea eb ia ib sa sb, typeRange r MAP_ITEMTYPE_ENVELOPE = .ok (ea, eb)
        ∧ typeRange r MAP_ITEMTYPE_IMAGE = .ok (ia, ib)
        ∧ typeRange r MAP_ITEMTYPE_DDRACE_SOUND = .ok (sa, sb)
        ∧ l.InRange 0 r.numData.toNat ea eb ia ib sa sb := by
  obtain ⟨v, hv, _, hty⟩ := item_of_type_range inv (itemTypeIndices_of_typeRange hl) h1 h2
  obtain ⟨ea, eb, he, _⟩ := typeRange_ok inv MAP_ITEMTYPE_ENVELOPE
  obtain ⟨ia, ib, hi, _⟩ := typeRange_ok inv MAP_ITEMTYPE_IMAGE
  obtain ⟨sa, sb, hs, _⟩ := typeRange_ok inv MAP_ITEMTYPE_DDRACE_SOUND
  unfold layer
  rw [liftDf_ok hv]
  dsimp only
  rw [if_neg (by omega), numData_ok inv, he, hi, hs]
  dsimp only
  exact (Layer.fromRaw_spec v.data 0 r.numData.toNat ea eb ia ib sa sb).elim (fun _ => .err)
    fun _ hin => .ok ⟨ea, eb, ia, ib, sa, sb, rfl, rfl, rfl, hin⟩

theorem image_spec {r : Reader} (inv : Inv r) {k : Nat} (hk : k < r.numItems.toNat) :
    (image r k).Yields fun x => x.name < r.numData.toNat ∧ OptIn x.data 0 r.numData.toNat := by
  obtain ⟨v, hv, _⟩ := item_ok inv hk
  unfold image
  rw [liftDf_ok hv, numData_ok inv]
  dsimp only
  exact (Image.fromRaw_spec v.data 0 r.numData.toNat).elim (fun _ => .err) fun _ hx => .ok ⟨hx.1.2, hx.2⟩

structure GlAcc.Slots (acc : GlAcc) (nd : Nat) : Prop where
  game : OptIn acc.game 0 nd
  teleport : OptIn acc.teleport 0 nd
  speedup : OptIn acc.speedup 0 nd
  front : OptIn acc.front 0 nd
  switch : OptIn acc.switch 0 nd
  tune : OptIn acc.tune 0 nd

/-- invariant of the `game_layers` accumulator: once a slot is filled the game group is known (so
the final `unwrap`s cannot fail) -/
structure GlAcc.Good (acc : GlAcc) (nd : Nat) : Prop extends GlAcc.Slots acc nd where
  gwhOfGame : acc.gwh = none → acc.game = none
  groupOfGwh : acc.gwh ≠ none → acc.gameGroup ≠ none

structure GlAcc.Put (acc acc' : GlAcc) (nd : Nat) : Prop extends GlAcc.Slots acc' nd where
  gwh : acc'.gwh = acc.gwh
  gameGroup : acc'.gameGroup = acc.gameGroup

theorem glPut_some {acc acc' : GlAcc} {ty : TilemapType} {nd ea eb ia ib : Nat}
    (good : acc.Good nd) (hty : ty.InRange 0 nd ea eb ia ib) (h : glPut acc ty = some (some acc')) :
    GlAcc.Put acc acc' nd := by
  cases ty with
  | normal c e i d => simp [glPut] at h
  | game d =>
    simp only [glPut] at h
    split at h
    · cases h; exact ⟨{ good.toSlots with game := optIn_some hty }, rfl, rfl⟩
    · cases h
  | teleport d z =>
    simp only [glPut] at h
    split at h
    · cases h; exact ⟨{ good.toSlots with teleport := optIn_some hty.1 }, rfl, rfl⟩
    · cases h
  | speedup d z =>
    simp only [glPut] at h
    split at h
    · cases h; exact ⟨{ good.toSlots with speedup := optIn_some hty.1 }, rfl, rfl⟩
    · cases h
  | front d z =>
    simp only [glPut] at h
    split at h
    · cases h; exact ⟨{ good.toSlots with front := optIn_some hty.1 }, rfl, rfl⟩
    · cases h
  | switch d z =>
    simp only [glPut] at h
    split at h
    · cases h; exact ⟨{ good.toSlots with switch := optIn_some hty.1 }, rfl, rfl⟩
    · cases h
  | tune d z =>
    simp only [glPut] at h
    split at h
    · cases h; exact ⟨{ good.toSlots with tune := optIn_some hty.1 }, rfl, rfl⟩
    · cases h

theorem glDims_spec {acc0 acc : GlAcc} {nd : Nat} (i : Nat) (g : Group) (tm : Tilemap)
    (good : acc0.Good nd) (put : GlAcc.Put acc0 acc nd) : (glDims i g tm acc).Yields (·.Good nd) := by
  unfold glDims
  cases hg : acc.gwh with
  | some t =>
    have hg0 : acc0.gwh ≠ none := by rw [← put.gwh, hg]; nofun
    exact .ite (fun _ => .err) fun _ => .ite (fun _ => .err) fun _ =>
      .ok ⟨put.toSlots, (fun hn => by rw [hg] at hn; cases hn),
        fun _ => by rw [put.gameGroup]; exact good.groupOfGwh hg0⟩
  | none =>
    exact .ok ⟨⟨put.game, put.teleport, put.speedup, put.front, put.switch, put.tune⟩, nofun, fun _ => nofun⟩

theorem glLayer_spec {r : Reader} (inv : Inv r) {la lb k : Nat} (i : Nat) (g : Group) {acc : GlAcc}
    (hl : typeRange r MAP_ITEMTYPE_LAYER = .ok (la, lb)) (h1 : la ≤ k) (h2 : k < lb)
    (good : acc.Good r.numData.toNat) : (glLayer r i g k acc).Yields (·.Good r.numData.toNat) := by
  unfold glLayer
  refine (layer_spec inv hl h1 h2).elim (fun _ => .err) fun l ⟨ea, eb, ia, ib, sa, sb, _, _, _, hin⟩ => ?_
  dsimp only
  unfold Layer.InRange at hin
  cases hlt : l.t with
  | quads q => exact .ok good
  | sounds q => exact .ok good
  | tilemap tm =>
    rw [hlt] at hin
    dsimp only
    cases hput : glPut acc tm.type with
    | none => exact .err
    | some o =>
      cases o with
      | none => exact .ok good
      | some acc1 => exact glDims_spec i g tm good (glPut_some good hin.1 hput)

theorem glLayers_spec {r : Reader} (inv : Inv r) {la lb : Nat} (i : Nat) (g : Group)
    (hl : typeRange r MAP_ITEMTYPE_LAYER = .ok (la, lb)) :
    ∀ (n k : Nat) (acc : GlAcc), la ≤ k → k + n ≤ lb → acc.Good r.numData.toNat →
      (glLayers r i g n k acc).Yields (·.Good r.numData.toNat) := by
  intro n
  induction n with
  | zero => intro k acc _ _ good; exact .ok good
  | succ n ih =>
    intro k acc h1 h2 good
    unfold glLayers
    exact (glLayer_spec inv i g hl h1 (by omega) good).elim (fun _ => .err) fun acc1 good1 =>
      ih (k + 1) acc1 (by omega) (by omega) good1

theorem glGroups_spec {r : Reader} (inv : Inv r) {ga gb la lb : Nat}
    (hg : typeRange r MAP_ITEMTYPE_GROUP = .ok (ga, gb))
    (hl : typeRange r MAP_ITEMTYPE_LAYER = .ok (la, lb)) :
    ∀ (n i : Nat) (acc : GlAcc), ga ≤ i → i + n ≤ gb → acc.Good r.numData.toNat →
      (glGroups r n i acc).Yields (·.Good r.numData.toNat) := by
  intro n
  induction n with
  | zero => intro i acc _ _ good; exact .ok good
  | succ n ih =>
    intro i acc h1 h2 good
    unfold glGroups
    refine (group_spec inv hg hl h1 (by omega : i < gb)).elim (fun _ => .err) fun g ⟨b1, b2, b3⟩ => ?_
    dsimp only
    exact (glLayers_spec inv i g hl (g.layersEnd - g.layersStart) g.layersStart acc b1 (by omega) good).elim
      (fun _ => .err) fun acc1 good1 => ih (i + 1) acc1 (by omega) (by omega) good1

theorem gameLayers_spec {r : Reader} (inv : Inv r) :
    (gameLayers r).Yields fun gl =>
      gl.game < r.numData.toNat ∧ OptIn gl.teleport 0 r.numData.toNat
        ∧ OptIn gl.speedup 0 r.numData.toNat ∧ OptIn gl.front 0 r.numData.toNat
        ∧ OptIn gl.switch 0 r.numData.toNat ∧ OptIn gl.tune 0 r.numData.toNat := by
  obtain ⟨ga, gb, hg, hgab, _⟩ := typeRange_ok inv MAP_ITEMTYPE_GROUP
  obtain ⟨la, lb, hl, _, _⟩ := typeRange_ok inv MAP_ITEMTYPE_LAYER
  have good0 : GlAcc.Good {} r.numData.toNat :=
    ⟨⟨optIn_none _ _, optIn_none _ _, optIn_none _ _, optIn_none _ _, optIn_none _ _, optIn_none _ _⟩,
      fun _ => rfl, fun h => absurd rfl h⟩
  unfold gameLayers
  rw [hg]
  dsimp only
  refine (glGroups_spec inv hg hl (gb - ga) ga {} (by omega) (by omega) good0).elim (fun _ => .err)
    fun acc good => ?_
  dsimp only
  cases hgame : acc.game with
  | none => exact .err
  | some game =>
    dsimp only
    -- a filled game slot means the dimensions and the game group were recorded
    have hgwh : acc.gwh ≠ none := fun hn => by
      have := good.gwhOfGame hn; rw [hgame] at this; cases this
    have hgg := good.groupOfGwh hgwh
    cases hw : acc.gwh with
    | none => exact absurd hw hgwh
    | some t =>
      cases hq : acc.gameGroup with
      | none => exact absurd hq hgg
      | some g =>
        exact .ok ⟨(good.game game hgame).2, good.teleport, good.speedup, good.front, good.switch, good.tune⟩

section
variable {r : Reader} (inv : Inv r) (z : Zlib) (hz : ∀ n src out, z n src = some out → out.length ≤ n)
  {d : Nat} (hd : d < r.numData.toNat)
include inv hz hd

theorem readData_spec : (readData r z d).Yields fun _ => True :=
  (liftDf_yields (Datafile.readData_spec inv z hz hd)).mono fun _ _ => trivial

theorem string_spec : (string r z d).Yields fun _ => True := by
  unfold string
  refine (readData_spec inv z hz hd).elim (fun _ => .err) fun raw _ => ?_
  dsimp only
  split
  · exact .ite (fun _ => .err) fun _ => .ok trivial
  · exact .err

theorem imageName_spec : (imageName r z d).Yields fun _ => True := by
  unfold imageName
  refine (readData_spec inv z hz hd).elim (fun _ => .err) fun raw _ => ?_
  dsimp only
  split
  · exact .ite (fun _ => .err) fun _ => .ok trivial
  · exact .err

theorem settings_spec : (settings r z d).Yields fun _ => True := by
  unfold settings
  refine (readData_spec inv z hz hd).elim (fun _ => .err) fun raw _ => ?_
  dsimp only
  split
  · exact .ok trivial
  · exact .err

theorem tilesRaw_spec (size : Nat) (e : String) :
    (tilesRaw r z d size e).Yields fun raw => raw.length % size = 0 := by
  unfold tilesRaw
  exact (readData_spec inv z hz hd).elim (fun _ => .err) fun raw _ =>
    .ite (fun _ => .err) fun hm => .ok (Decidable.not_not.1 hm)

theorem tiles_spec (width height size : Nat) (e : String) :
    (tiles r z d width height size e).Yields fun raw =>
      raw.length % size = 0 ∧ height * width = raw.length / size := by
  unfold tiles
  exact (tilesRaw_spec inv z hz hd size e).elim (fun _ => .err) fun raw hraw =>
    .ite (fun _ => .err) fun hm => .ok ⟨hraw, Decidable.not_not.1 hm⟩

end

end Tw.Map
