import Tw.Proofs.ConnFairH
import Tw.Proofs.ConnTimed6

/-! C02 (c), 0.6: the pending acceptor `pend6` (hence `gface6`), the handshake steps as equations, and `ready_round6`: one
round of the fair suffix takes a connecting side online against an unconnected or pending acceptor.  The two deliveries that
`handshake6_fair` of `Props/C02` lists are stated on `Conn6.feed` with the reader of the wire, so that they serve there too:
`recv_of_feed` reads them as deliveries of the world, `Conn6.feed_congr` puts another reader in. -/
namespace Tw.NetSim.P6
open Tw.Conn Tw.Conn6 Tw.Time Tw.NetSim

def pktH (t : Option Nat) : DgH → Packet
  | .chunk f => ofFlushed t f
  | .ctl k a => .control a t (kindOf k)

theorem pktH_ca (t : Option Nat) : pktH t (.ctl 2 0) = .control 0 t .connectAccept := rfl

theorem feedBody_ctl_pending (env : Env) (t : Option Nat) (s : Timeout) (tok t' : Option Nat) (a k : Nat) :
    feedBody env ⟨.pending t, s⟩ tok (.control a t' (kindOf k)) = .ok (⟨.pending t, s⟩, {}) := by
  unfold kindOf; split
  · simp [feedBody]
  · split <;> simp [feedBody]

theorem tick_pending (now : Nat) (t : Option Nat) (s : Timeout) (h : s.triggered now = true) :
    P6.call now [] ⟨.pending t, s⟩ .tick =
      .ok { conn := ⟨.pending t, Timeout.after now sendUs⟩, sent := [.control 0 t .connectAccept] } := by
  have hem := emit_one 0 t .connectAccept nofun
  simp [P6.call, Conn6.tick, h, tickAction, sendControl, controlPacket, hem]

theorem recv_pending6 (tl : Bool) (now : Nat) (draws : List Nat) (ty : Option Nat) (s : Timeout)
    (q : Packet) (alt : Alt) (ack : Nat) (hq : ∀ r a t, q ≠ .control a t (.close r))
    (hta : q.tokenAck? = some (ty, ack)) (hty : tl = true → ty = none) :
    feed ⟨now, draws⟩ ⟨.pending ty, s⟩ (wireRead tl q alt) =
      feedBody ⟨now, draws⟩ ⟨.pending ty, s⟩ ty (if tl = true then strip q else q) :=
  feed_wire tl now draws _ ty q alt ack hq hta hty rfl

/-- the pending acceptor of 0.6: it repeats its `ConnectAccept` -/
def pend6 (tl : Bool) : PendIface (iface6 tl) where
  pend := fun t s => ⟨.pending t, s⟩
  ctl := fun t k a => .control a t (kindOf k)
  kp := 2
  ctl_ka := fun _ _ => rfl
  view_ctl := fun _ _ _ => rfl
  core_pend := fun _ _ => rfl
  online_pend := fun _ _ => rfl
  timed_pend := fun _ _ _ h => h
  tick_pend := fun now t s h => tick_pending now t s h
  recv_onl_ctl := by
    rintro now draws tx ty o o1 s k a alt ⟨rfl, hty⟩ hfa
    exact recv_onl_ctl tl now draws tx o o1 s k a alt hty hfa
  recv_pend_chunk := by
    rintro now draws tx ty s f alt o2 s2 fl evs ⟨rfl, hty⟩ hrc hval
    show P6.recv tl now draws ⟨.pending tx, s⟩ (ofFlushed tx f) alt = _
    unfold P6.recv
    rw [recv_pending6 tl now draws tx s (ofFlushed tx f) alt f.ack (by intro r a t h; cases h) rfl hty]
    cases tl <;> simp [ofFlushed, strip, feedBody, hrc, (Tw.Conn6.emit_flushed tx hval).1] <;> rfl
  recv_pend_ctl := by
    rintro now draws (tx : Option Nat) ty s k a alt ⟨rfl, hty⟩
    show P6.recv tl now draws ⟨.pending tx, s⟩ (.control a tx (kindOf k)) alt = _
    unfold P6.recv
    rw [recv_pending6 tl now draws tx s (.control a tx (kindOf k)) alt a
      (by intro r a' t h; injection h with _ _ h; exact kindOf_ne_close k r h) rfl hty]
    cases tl <;> simp [strip, feedBody_ctl_pending] <;> rfl

def gface6 (tl : Bool) : GIface (proto6 tl) core Conn6.cfg Timed := (pend6 tl).toG Conn6.cfg_ok

/-- the token the acceptor ends up with: none towards a peer without tokens, the drawn one otherwise -/
def tokB (tl : Bool) (nt : Nat) : Option Nat := if tl then none else some nt

theorem tick_connecting (now : Nat) (s : Timeout) (h : s.triggered now = true) :
    P6.call now [] ⟨.connecting, s⟩ .tick =
      .ok { conn := ⟨.connecting, Timeout.after now sendUs⟩, sent := [.control 0 (some TOKEN_NONE) .connect] } := by
  simp [P6.call, Conn6.tick, h, tickAction, sendControl, controlPacket, emit_one _ _ .connect nofun]

theorem tick_unconnected (now : Nat) (s : Timeout) :
    ∃ s', P6.call now [] ⟨.unconnected, s⟩ .tick = .ok { conn := ⟨.unconnected, s'⟩, sent := [] } := by
  by_cases h : s.triggered now = true
  · exact ⟨.inactive, by simp [P6.call, Conn6.tick, h, tickAction]⟩
  · exact ⟨s, by simp [P6.call, Conn6.tick, h]⟩

theorem recv_of_feed {tl : Bool} {now : Nat} {draws : List Nat} {c c' : Conn} {p : Packet} {alt : Alt} {out : Out}
    (h : feed ⟨now, draws⟩ c (wireRead tl p alt) = .ok (c', out)) :
    P6.recv tl now draws c p alt = .ok { conn := c', sent := out.sent, events := out.events } := by
  simp [P6.recv, h]

theorem feed_unc_connect (tl : Bool) (now : Nat) (draws : List Nat) (s : Timeout) (alt : Alt) (nt : Nat)
    (hnt : tokenRandom draws = some nt) :
    feed ⟨now, draws⟩ ⟨.unconnected, s⟩ (wireRead tl (.control 0 (some TOKEN_NONE) .connect) alt) =
      .ok (⟨.pending (tokB tl nt), Timeout.after now sendUs⟩, { sent := [.control 0 (tokB tl nt) .connectAccept] }) := by
  have hem := fun t => emit_one 0 t .connectAccept nofun
  cases tl <;>
    simp [feed, Conn.hint, State.token?, wireRead, strip, hasToken, Packet.tokenAck?, feedBody, hnt,
      tickAction, sendControl, controlPacket, hem, tokB]

theorem feed_cng_ca (tl : Bool) (now : Nat) (draws : List Nat) (s : Timeout) (alt : Alt) (tb : Option Nat)
    (htb : tl = true → tb = none) :
    feed ⟨now, draws⟩ ⟨.connecting, s⟩ (wireRead tl (.control 0 tb .connectAccept) alt) =
      .ok (⟨.online tb .new, s⟩, { sent := [.control 0 tb .accept], events := [.ready] }) := by
  have hem := emit_one 0 tb .accept nofun
  cases tl
  · simp [feed, Conn.hint, State.token?, wireRead, Packet.tokenAck?, feedBody, sendControl, controlPacket,
      hem, Online.new]
  · have := htb rfl; subst this
    simp [feed, Conn.hint, State.token?, wireRead, strip, Packet.tokenAck?, feedBody, sendControl,
      controlPacket, hem, Online.new]

theorem recv_pend_connect (tl : Bool) (now : Nat) (draws : List Nat) (s : Timeout) (alt : Alt) (tb : Option Nat)
    (htb : tb.isSome = !tl) :
    P6.recv tl now draws ⟨.pending tb, s⟩ (.control 0 (some TOKEN_NONE) .connect) alt =
      .ok { conn := ⟨.pending tb, s⟩ } := by
  cases tl <;> cases tb <;> simp at htb
  · rename_i v
    by_cases hv : v = TOKEN_NONE <;>
      simp [P6.recv, feed, Conn.hint, State.token?, wireRead, hasToken, Packet.tokenAck?, feedBody, hv]
  · simp [P6.recv, feed, Conn.hint, State.token?, wireRead, strip, hasToken, Packet.tokenAck?, feedBody]

theorem recv_onl_ca (tl : Bool) (now : Nat) (draws : List Nat) (s : Timeout) (alt : Alt) (tb : Option Nat)
    (htb : tl = true → tb = none) :
    P6.recv tl now draws ⟨.online tb .new, s⟩ (.control 0 tb .connectAccept) alt =
      .ok { conn := ⟨.online tb .new, s⟩ } :=
  recv_onl_ctl tl now draws tb .new .new s 2 0 alt htb (Online.new_feedAck (by rw [seqMod_eq]; omega))

theorem ready_round6 (tl : Bool) (draws : List Nat) (alt : (proto6 tl).Alt) (nt : Nat) (hnt : tokenRandom draws = some nt)
    (w : World (proto6 tl)) (hW : WInv (proto6 tl) core Conn6.cfg w) (hT : TInv Timed w)
    (sa : Timeout) (ha : w.a.conn = ⟨.connecting, sa⟩)
    (hb : (∃ sb, w.b.conn = ⟨.unconnected, sb⟩) ∨
      (∃ tb sb, w.b.conn = ⟨.pending tb, sb⟩ ∧ tb.isSome = !tl)) :
    ∃ (s' : FairState (proto6 tl)) (tb : Option Nat) (La : List (DgH × Nat)),
      fairRoundT draws alt (FairState.start w) = some s' ∧ OnlineFH (gface6 tl) (tb, true) (tb, false) s' La ∧
      Event.ready ∈ s'.w.a.events := by
  have hsa : SendDue w.now sa := by have := hT.1; rw [ha] at this; exact this
  obtain ⟨ea1, ea2⟩ := two_ticks (P := proto6 tl) (mk := fun s => ⟨.connecting, s⟩)
    (fun now s h => tick_connecting now s h) hsa
  rw [← ha] at ea1
  generalize hT1 : w.now + resendUs = T1 at ea1 ea2
  generalize hT2 : T1 + sendUs = T2 at ea2
  -- `b`'s ticks, the two `Connect`s reaching `b`, and the `ConnectAccept`s reaching `a`
  obtain ⟨tb, htb', cb1, cb2, pb1, pb2, rb, sb3, tb1, tb2, hB, hA'⟩ : ∃ tb : Option Nat, (tl = true → tb = none) ∧
      ∃ (cb1 cb2 : Conn) (pb1 pb2 rb : List Packet) (sb3 : Timeout),
      (proto6 tl).call T1 [] w.b.conn .tick = .ok (tickRet cb1 pb1) ∧
      (proto6 tl).call T2 [] cb1 .tick = .ok (tickRet cb2 pb2) ∧
      Recvs (P := proto6 tl) T2 draws alt cb2 [.control 0 (some TOKEN_NONE) .connect, .control 0 (some TOKEN_NONE) .connect]
        ⟨.pending tb, sb3⟩ rb [] ∧
      Recvs (P := proto6 tl) T2 draws alt ⟨.connecting, Timeout.after T2 sendUs⟩ (pb1 ++ pb2 ++ rb)
        ⟨.online tb .new, Timeout.after T2 sendUs⟩ [.control 0 tb .accept] [.ready] := by
    rcases hb with ⟨sb, hbU⟩ | ⟨tb, sb, hbP, htb⟩
    · -- the acceptor has not heard of the connector yet: it answers the first `Connect`
      have htk : tl = true → tokB tl nt = none := by intro h; simp [tokB, h]
      obtain ⟨sb1, eb1⟩ := tick_unconnected T1 sb
      obtain ⟨sb2, eb2⟩ := tick_unconnected T2 sb1
      have hB := Recvs.cons (P := proto6 tl) (alt := alt) (recv_of_feed (feed_unc_connect tl T2 draws sb2 alt nt hnt))
        (.cons (recv_pend_connect tl T2 draws _ alt (tokB tl nt) (by cases tl <;> rfl)) (.nil _))
      have hA' := Recvs.cons (P := proto6 tl) (alt := alt)
        (recv_of_feed (feed_cng_ca tl T2 draws (Timeout.after T2 sendUs) alt (tokB tl nt) htk)) (.nil _)
      exact ⟨tokB tl nt, htk, _, _, [], [], _, _, by rw [hbU]; exact eb1, eb2, hB, hA'⟩
    · -- the acceptor is pending: it repeats its `ConnectAccept`
      have htb' := none_of_isSome htb
      have hsb : SendDue w.now sb := by have := hT.2; rw [hbP] at this; exact this
      obtain ⟨eb1, eb2⟩ := two_ticks (P := proto6 tl) (mk := fun s => ⟨.pending tb, s⟩)
        (fun now s h => tick_pending now tb s h) hsb
      rw [hT1, hT2] at eb2
      rw [hT1, ← hbP] at eb1
      have hA' := Recvs.cons (P := proto6 tl) (alt := alt)
        (recv_of_feed (feed_cng_ca tl T2 draws (Timeout.after T2 sendUs) alt tb htb'))
        (.cons (recv_onl_ca tl T2 draws _ alt tb htb') (.nil _))
      exact ⟨tb, htb', _, _, _, _, [], _, eb1, eb2,
        .replicate (recv_pend_connect tl T2 draws _ alt tb htb) 2, hA'⟩
  obtain ⟨s', hround, r⟩ :=
    fairRoundT_calls (sim6 tl) (loct6 tl) draws alt (s := FairState.start w) hW hT rfl (pre := w.a.out) (L := [])
      (List.append_nil _).symm rfl (by simp) hT1.symm hT2.symm
      ea1 tb1 ea2 tb2 hB rfl hA' rfl
  refine ⟨s', tb, [(.ctl 1 0, w.a.dAbs)], hround,
    ⟨⟨r.winv, r.tinv, ⟨.new, (pend6 tl).sh_online r.connA⟩, ⟨.new, (pend6 tl).sh_pending r.connB⟩, ⟨rfl, htb'⟩,
      ⟨rfl, htb'⟩⟩, r.hcb, r.hca, ?_⟩,
    by rw [r.evA]; simp⟩
  intro x hx
  simp only [List.mem_cons, List.not_mem_nil, or_false] at hx
  subst hx
  exact r.fresh

end Tw.NetSim.P6
