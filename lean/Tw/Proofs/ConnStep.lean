import Tw.Proofs.Conn

/-! What a returning call did, independent of the protocol variant.  Both variants wrap the same online core, so a pass
that looks at the core only is stated once, on what it sees of a connection object (`GConn`: phase, whether the send
timer matters, send timer) and of a datagram (`GPkt`).  Every returning call or delivery of either variant is a `GStep`
of these views (`Conn6.step_g`, `Conn7.step_g`); an invariant of the core, proved per operation (`Online.Did`), is
lifted to the connections of both variants by `GStep.lift`. -/
namespace Tw.Conn
open Tw.Time

/-- not yet online (the handshake states), online with its core, disconnected -/
inductive Ph where
  | pre
  | on (o : Online)
  | off

/-- fresh until the connection is online, gone once it is disconnected -/
def Ph.core : Ph → Option Online
  | .pre => some .new
  | .on o => some o
  | .off => none

/-- online or disconnected: the connection never reports `Ready` (again) -/
def Ph.late : Ph → Bool
  | .pre => false
  | _ => true

structure GConn where
  ph : Ph
  /-- handshake under way or online: the states in which the send timer matters -/
  live : Bool
  send : Timeout

inductive GPkt where
  | connless
  | ctl (ack : Nat)
  | chunks (f : Flushed)

/-- ack and chunks as the receiving core is fed them -/
def GPkt.view : GPkt → Option (Nat × List Chunk)
  | .connless => none
  | .ctl a => some (a, [])
  | .chunks f => some (f.ack, f.chunks)

def GPkt.All (A : Nat → Prop) (K : Flushed → Prop) : GPkt → Prop
  | .connless => True
  | .ctl a => A a
  | .chunks f => K f

theorem GPkt.view_chunks (fl : List Flushed) :
    (fl.map GPkt.chunks).filterMap GPkt.view = fl.map fun f => (f.ack, f.chunks) := by
  induction fl with
  | nil => rfl
  | cons f fl ih => simp only [List.map_cons, List.filterMap_cons, GPkt.view, ih]

def Quiet (evs : List Event) : Prop := ∀ ev ∈ evs, (∀ d v, ev ≠ .chunk d v) ∧ ev ≠ .ready

theorem Quiet.nil : Quiet [] := fun _ h => nomatch h

theorem Quiet.connless {evs : List Event} (he : evs = [] ∨ ∃ d, evs = [.connless d]) : Quiet evs := by
  rcases he with rfl | ⟨d, rfl⟩
  · exact .nil
  · exact List.forall_mem_singleton.mpr ⟨fun _ _ h => (nomatch h), fun h => nomatch h⟩

/-- One returning operation of the online core: core and send timer before and after, packets flushed, events, what
the application submitted.  `fed`: ack and chunks of the datagram being fed (`none` for an application call).
`flush` as `Connection::flush` calls it: it re-arms the send timer. -/
inductive Online.Did (cfg : Cfg) (now : Nat) (fed : Option (Nat × List Chunk)) :
    Online → Timeout → Online → Timeout → List Flushed → List Event → List (Bytes × Bool) → Prop
  | flush (o : Online) (s : Timeout) : Did cfg now fed o s o.flush.1 (Timeout.after now sendUs) o.flush.2 [] []
  | send {o s d v o' r fl} (h : o.send cfg now d v = .ok (o', r, fl)) :
      Did cfg now fed o s o' s fl [] (if r == .ok then [(d, v)] else [])
  | resend {o s o' s' fl} (h : o.resend cfg now s = .ok (o', s', fl)) : Did cfg now fed o s o' s' fl [] []
  | receive {o s ack rr cs o' s' fl evs} (hv : fed = some (ack, cs))
      (h : o.receive cfg now s rr cs = .ok (o', s', fl, evs)) : Did cfg now fed o s o' s' fl evs []

/-- One returning call or delivery.  `fed` as in `Online.Did`; `acc`: the datagram fed is the peer's accept.
Indices: the connection before and after, datagrams sent, events, what the application submitted. -/
inductive GStep (cfg : Cfg) (now : Nat) (fed : Option (Nat × List Chunk)) (acc : Bool) :
    GConn → GConn → List GPkt → List Event → List (Bytes × Bool) → Prop
  /-- the core is not run: the phase is kept or ends, only connless datagrams and control datagrams with the current ack
  are sent -/
  | quiet {x x' : GConn} {ps evs} (hp : x'.ph = x.ph ∨ x'.ph = .off)
      (hs : x'.live = true → x'.send = Timeout.after now sendUs ∨ (x.live = true ∧ x'.send = x.send))
      (hps : ∀ p ∈ ps, p = .connless ∨ ∃ o, x.ph.core = some o ∧ p = .ctl o.ack) (hev : Quiet evs) :
      GStep cfg now fed acc x x' ps evs []
  /-- online with the fresh core on the peer's accept -/
  | opened {x : GConn} {ps} (ha : acc = true) (hx : x.ph = .pre) (hl : x.live = true) (hps : ∀ p ∈ ps, p = .ctl 0) :
      GStep cfg now fed acc x ⟨.on .new, true, x.send⟩ ps [.ready] []
  /-- one operation of the core (of the fresh core, before the connection is online) -/
  | online {x : GConn} {o o' s' fl evs sub} (ho : x.ph.core = some o) (hl : x.live = true)
      (hd : Online.Did cfg now fed o x.send o' s' fl evs sub) :
      GStep cfg now fed acc x ⟨.on o', true, s'⟩ (fl.map .chunks) evs sub
  /-- `ack_chunks` with the ack of the datagram fed, then one of the above -/
  | acked {x x' : GConn} {o o1 ack cs ps evs} (hv : fed = some (ack, cs)) (ho : x.ph = .on o)
      (hfa : o.feedAck ack = .ok o1) (h : GStep cfg now fed acc { x with ph := .on o1 } x' ps evs []) :
      GStep cfg now fed acc x x' ps evs []

section
variable {cfg : Cfg} {now : Nat} {fed : Option (Nat × List Chunk)} {acc : Bool}

theorem GStep.same {x : GConn} {evs : List Event} (hev : Quiet evs) : GStep cfg now fed acc x x [] evs [] :=
  .quiet (.inl rfl) (fun h => .inr ⟨h, rfl⟩) (fun _ h => nomatch h) hev

theorem Online.Did.mono {fed' : Option (Nat × List Chunk)} (hf : ∀ v, fed = some v → fed' = some v)
    {o s o' s' fl evs sub} (h : Online.Did cfg now fed o s o' s' fl evs sub) :
    Online.Did cfg now fed' o s o' s' fl evs sub := by
  cases h with
  | flush => exact .flush _ _
  | send h => exact .send h
  | resend h => exact .resend h
  | receive hv h => exact .receive (hf _ hv) h

theorem GStep.mono {fed' : Option (Nat × List Chunk)} {acc' : Bool} (hf : ∀ v, fed = some v → fed' = some v)
    (ha : acc = true → acc' = true) {x x' : GConn} {ps evs sub} (h : GStep cfg now fed acc x x' ps evs sub) :
    GStep cfg now fed' acc' x x' ps evs sub := by
  induction h with
  | quiet hp hs hps hev => exact .quiet hp hs hps hev
  | opened h hx hl hps => exact .opened (ha h) hx hl hps
  | online ho hl hd => exact .online ho hl (hd.mono hf)
  | acked hv ho hfa _ ih => exact .acked (hf _ hv) ho hfa ih

/-- `K`, `A`: what the invariant `J` of the core says about the packets it flushes and about the ack that control
datagrams carry. -/
theorem GStep.lift {J : Online → Prop} {K : Flushed → Prop} {A : Nat → Prop}
    (hd : ∀ {o s o' s' fl evs sub}, Online.Did cfg now fed o s o' s' fl evs sub → J o → J o' ∧ ∀ f ∈ fl, K f)
    (hack : ∀ o a, J o → J (o.ackChunks a)) (hA : ∀ o, J o → A o.ack)
    {x x' : GConn} {ps evs sub} (h : GStep cfg now fed acc x x' ps evs sub) (hx : ∀ o, x.ph.core = some o → J o) :
    (∀ o, x'.ph.core = some o → J o) ∧ ∀ p ∈ ps, p.All A K := by
  induction h with
  | quiet hp _ hps _ =>
    refine ⟨fun o ho => ?_, fun p hp => ?_⟩
    · rcases hp with hp | hp <;> rw [hp] at ho
      · exact hx o ho
      · cases ho
    · rcases hps p hp with rfl | ⟨o, ho, rfl⟩
      · trivial
      · exact hA o (hx o ho)
  | opened _ hx' _ hps =>
    have hn : J .new := hx _ (by rw [hx']; rfl)
    refine ⟨fun o h => by cases h; exact hn, fun p hp => ?_⟩
    cases hps p hp
    exact hA _ hn
  | online ho _ hd' =>
    obtain ⟨a, b⟩ := hd hd' (hx _ ho)
    refine ⟨fun o h => by cases h; exact a, fun p hp => ?_⟩
    obtain ⟨f, hf, rfl⟩ := List.mem_map.mp hp
    exact b f hf
  | acked _ ho hfa _ ih =>
    refine ih fun o h => ?_
    cases h
    rw [(Online.feedAck_eq hfa).2]
    exact hack _ _ (hx _ (by rw [ho]; rfl))

/-! ## C02 (b): the send timer stays armed -/

def GConn.Armed (x : GConn) : Prop := x.live = true → x.send.isActive = true

theorem Online.Did.active {o s o' s' fl evs sub} (h : Online.Did cfg now fed o s o' s' fl evs sub)
    (hs : s.isActive = true) : s'.isActive = true := by
  cases h with
  | flush => rfl
  | send => exact hs
  | resend h => exact Online.resend_active h hs
  | receive _ h => exact Online.receive_active h hs

theorem GStep.armed {x x' : GConn} {ps evs sub} (h : GStep cfg now fed acc x x' ps evs sub) (hx : x.Armed) :
    x'.Armed := by
  induction h with
  | quiet _ hs _ _ =>
    intro hl
    rcases hs hl with h | ⟨h1, h2⟩
    · rw [h]; rfl
    · rw [h2]; exact hx h1
  | opened _ _ hl _ => exact fun _ => hx hl
  | online _ hl hd => exact fun _ => hd.active (hx hl)
  | acked _ _ _ _ ih => exact ih hx

/-- what `needs_tick` reports where the send timer matters: the earlier of the send timer and another one -/
theorem GConn.Armed.min_ne {x : GConn} (h : x.Armed) (hl : x.live = true) (t : Timeout) :
    Timeout.min x.send t ≠ .inactive := by
  have ha := h hl
  cases hs : x.send with
  | inactive => rw [hs] at ha; cases ha
  | active a =>
    cases t with
    | inactive => simp [Timeout.min, Timeout.le]
    | active b =>
      simp only [Timeout.min, Timeout.le]
      by_cases hab : a ≤ b <;> simp [hab]

end

/-! ## One operation of the core, run forwards

The four operations in one result shape.  The variants' forward classifications (`Conn6.Runs`, `Conn7.Runs`) use the core
only through `run_did`, `run_nohang` and `run_spec`. -/

inductive CoreOp where
  | flush
  | send (d : Bytes) (v : Bool)
  | resend
  | receive (rr : Bool) (cs : List Chunk)

abbrev CoreRes := Except Fail (Online × Timeout × List Flushed × List Event)

def CoreOp.run (cfg : Cfg) (now : Nat) (o : Online) (s : Timeout) : CoreOp → CoreRes
  | .flush => .ok (o.flush.1, Timeout.after now sendUs, o.flush.2, [])
  | .send d v =>
    match o.send cfg now d v with
    | .error e => .error e
    | .ok (o1, _, fl) => .ok (o1, s, fl, [])
  | .resend =>
    match o.resend cfg now s with
    | .error e => .error e
    | .ok (o1, s1, fl) => .ok (o1, s1, fl, [])
  | .receive rr cs => o.receive cfg now s rr cs

/-- what the application submits with it (`Online.send_res`) -/
def CoreOp.sub (cfg : Cfg) : CoreOp → List (Bytes × Bool)
  | .send d v => if cfg.accepts d.length then [(d, v)] else []
  | _ => []

def CoreOp.Fed (fed : Option (Nat × List Chunk)) : CoreOp → Prop
  | .receive _ cs => ∃ a, fed = some (a, cs)
  | _ => True

/-- what the reader guarantees about the chunks handed to `receive` -/
def CoreOp.Wf : CoreOp → Prop
  | .receive _ cs => chunksSeqOk cs = true
  | _ => True

def CoreOp.App : CoreOp → Prop
  | .receive _ _ => False
  | _ => True

theorem CoreOp.App.wf {x : CoreOp} (h : x.App) : x.Wf := by
  cases x <;> first | trivial | exact h.elim

theorem CoreOp.App.fed {x : CoreOp} (h : x.App) (fed : Option (Nat × List Chunk)) : x.Fed fed := by
  cases x <;> first | trivial | exact h.elim

section
variable {cfg : Cfg} {now : Nat} {o o' : Online} {s s' : Timeout} {fl : List Flushed} {evs : List Event} {x : CoreOp}

theorem CoreOp.run_did {fed : Option (Nat × List Chunk)} (h : x.run cfg now o s = .ok (o', s', fl, evs)) (hf : x.Fed fed) :
    Online.Did cfg now fed o s o' s' fl evs (x.sub cfg) := by
  cases x with
  | flush => cases h; exact .flush o s
  | send d v =>
    simp only [run] at h
    split at h
    · cases h
    · rename_i hs
      cases h
      rw [sub, ← Online.send_res hs]
      exact .send hs
  | resend =>
    simp only [run] at h
    split at h
    · cases h
    · rename_i hs
      cases h; exact .resend hs
  | receive rr cs =>
    obtain ⟨a, ha⟩ := hf
    exact .receive ha h

theorem CoreOp.run_nohang : NoHang (x.run cfg now o s) := by
  cases x with
  | flush => exact .ok _
  | send d v =>
    simp only [run]
    split
    · exact (Online.send_nohang _ _ _ _ _).err ‹_›
    · exact .ok _
  | resend =>
    simp only [run]
    split
    · exact (Online.resend_nohang _ _ _ _).err ‹_›
    · exact .ok _
  | receive rr cs => exact Online.receive_nohang _ _ _ _ _ _

theorem CoreOp.run_spec (hc : cfg.Ok) (ho : o.Inv cfg) (hx : x.Wf) :
    ∃ o' s' fl evs, x.run cfg now o s = .ok (o', s', fl, evs) ∧ o'.Inv cfg ∧ ∀ f ∈ fl, f.Valid cfg := by
  cases x with
  | flush => exact ⟨_, _, _, _, rfl, Online.flush_inv ho, Online.flush_valid ho⟩
  | send d v =>
    obtain ⟨_, _, _, he, hi, hv⟩ := Online.send_spec hc ho now d v
    simp only [run, he]
    exact ⟨_, _, _, _, rfl, hi, hv⟩
  | resend =>
    obtain ⟨_, _, _, he, hi, hv⟩ := Online.resend_spec hc ho now s
    simp only [run, he]
    exact ⟨_, _, _, _, rfl, hi, hv⟩
  | receive rr cs => exact Online.receive_spec hc ho now s rr cs hx

end

end Tw.Conn
