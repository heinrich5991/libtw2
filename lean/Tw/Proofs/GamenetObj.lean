import Tw.Proofs.Gamenet

/-! Lemmas for C14, snapshot objects: the integer encoding, and the `#[repr(C)]` struct viewed as
words (`words_struct`): without `bool` fields its memory is exactly the encoded integers. -/
namespace Tw.Gamenet
open Tw.Packer (inI32)

/-- One read followed by the reads of the rest: the step of `orep` and of `decOs`. -/
def ORes.cons (a : ORes Val) (k : List Int → ORes VL) : ORes VL :=
  match a with
  | .err e => .err e
  | .ok v r =>
    match k r with
    | .err e => .err e
    | .ok vs r' => .ok (.cons v vs) r'

theorem orep_succ (f : List Int → ORes Val) (n : Nat) (inp : List Int) :
    orep f (n + 1) inp = (f inp).cons (orep f n) := rfl

theorem decOs_cons (t : MT) (ms : ML) (inp : List Int) :
    decOs (.cons t ms) inp = (decO t inp).cons (decOs ms) := by
  rw [decOs]; rfl

theorem ORes.cons_ok {a : ORes Val} {k : List Int → ORes VL} {vs : VL} {r : List Int} :
    a.cons k = .ok vs r ↔ ∃ v r₁ vs', a = .ok v r₁ ∧ k r₁ = .ok vs' r ∧ vs = .cons v vs' := by
  unfold ORes.cons
  constructor
  · intro h
    split at h
    · cases h
    · split at h
      · cases h
      · cases h
        exact ⟨_, _, _, rfl, ‹_›, rfl⟩
  · rintro ⟨v, r₁, vs', rfl, hk, rfl⟩
    simp [hk]

theorem readIntO_ok {inp : List Int} {k : Int → Option Val} {v : Val} {r : List Int}
    (h : readIntO inp k = .ok v r) : ∃ x, inp = x :: r ∧ k x = some v := by
  unfold readIntO at h
  split at h
  · cases h
  · split at h
    · cases h; exact ⟨_, rfl, ‹_›⟩
    · cases h

/-- Without `wfO` only this direction: `tune_param` has a check but no integer encoding, and `decO` rejects it. -/
theorem readIntO_of_decO {t : MT} {k : Int → Option Val} (hk : intCheck t = some k) {inp : List Int}
    {v : Val} {r : List Int} (h : decO t inp = .ok v r) : readIntO inp k = .ok v r := by
  cases t with
  | tuneParam => simp [decO] at h
  | int32 | boolean | enum | flags | tick => cases hk; simpa only [decO] using h
  | _ => cases hk

theorem decO_of_intCheck {t : MT} {k : Int → Option Val} (hk : intCheck t = some k) (hw : wfO t = true)
    (inp : List Int) : decO t inp = readIntO inp k := by
  cases t with
  | tuneParam => simp [wfO] at hw
  | int32 | boolean | enum | flags | tick => cases hk; simp only [decO]
  | _ => cases hk

theorem decO_twString (n : Nat) : decO (.twString n) = decO (.array n .tick) :=
  funext fun inp => by simp only [decO]

theorem cellsM_twString (n : Nat) : cellsM (.twString n) = cellsM (.array n .tick) := by
  funext v
  cases v with
  | list vs =>
    simp only [cellsM]
    congr 2
    funext v
    cases v <;> rfl
  | _ => rfl

theorem wfO_induct {P : MT → Prop} (int : ∀ t k, intCheck t = some k → wfO t = true → P t)
    (array : ∀ n t, P t → P (.array n t)) (twString : ∀ n, P (.array n .tick) → P (.twString n)) :
    ∀ t, wfO t = true → P t :=
  MT.induct (PL := fun _ => True)
    ⟨fun t hl hw => by
      cases hk : intCheck t with
      | some k => exact int t k hk hw
      | none =>
        cases t with
        | int32 | boolean | enum | flags | tick | tuneParam => simp [intCheck] at hk
        | array | twString => simp [leaf] at hl
        | _ => simp [wfO] at hw,
    fun _ _ hw => by simp [wfO] at hw, fun n t ih hw => array n t (ih hw), fun n ih _ => twString n (ih rfl),
    fun _ _ hw => by simp [wfO] at hw, trivial, fun _ _ _ _ => trivial⟩

theorem decodeObjMembers_ok {ms : ML} {inp : List Int} {v : VL} {ex : Bool} :
    decodeObjMembers ms inp = .ok v ex ↔ ∃ r, decOs ms inp = .ok v r ∧ ex = !r.isEmpty := by
  unfold decodeObjMembers
  split
  · rename_i h
    rw [h]
    exact ⟨fun e => by cases e; exact ⟨_, rfl, rfl⟩, fun ⟨_, e, hx⟩ => by cases e; rw [hx]⟩
  · rename_i h; simp [h]

theorem decodeObjMembers_exact {ms : ML} {inp : List Int} {v : VL} :
    decodeObjMembers ms inp = .ok v false ↔ decOs ms inp = .ok v [] := by
  rw [decodeObjMembers_ok]
  constructor
  · rintro ⟨r, h, hx⟩
    cases r with
    | nil => exact h
    | cons _ _ => simp at hx
  · exact fun h => ⟨[], h, rfl⟩

def cellsOf (xs : List Int) : List Cell := xs.flatMap le32

theorem cellsOf_length (xs : List Int) : (cellsOf xs).length = 4 * xs.length := by
  induction xs with
  | nil => rfl
  | cons x xs ih => simp [cellsOf, List.flatMap_cons, le32] at ih ⊢; omega

theorem cellsOf_append (xs ys : List Int) : cellsOf (xs ++ ys) = cellsOf xs ++ cellsOf ys := by
  simp [cellsOf, List.flatMap_append]

theorem wordOf_le32 (v : Int) (h : inI32 v) : wordOf (le32 v) = some v := by
  unfold inI32 at h
  have e1 : ∀ n : Nat, (UInt8.ofNat n).toNat = n % 256 := fun n => by simp [UInt8.toNat_ofNat']
  have hn : (v % 4294967296).toNat < 4294967296 := by omega
  have hsum : ∀ n : Nat, n < 4294967296 →
      n % 256 + n / 256 % 256 * 256 + n / 65536 % 256 * 65536 + n / 16777216 % 256 * 16777216 = n := by
    intro n hn; omega
  simp only [le32, wordOf, e1, hsum _ hn]
  congr 1
  unfold Tw.Packer.toI32
  split <;> omega

theorem words_cellsOf : ∀ (xs : List Int), (∀ x ∈ xs, inI32 x) → words xs.length (cellsOf xs) = xs.map some
  | [], _ => rfl
  | x :: xs, h => by
    have ih := words_cellsOf xs (fun y hy => h y (by simp [hy]))
    have hw := wordOf_le32 x (h x (by simp))
    have ht : List.take 4 (cellsOf (x :: xs)) = le32 x := by simp [cellsOf, List.flatMap_cons, le32]
    have hd : List.drop 4 (cellsOf (x :: xs)) = cellsOf xs := by simp [cellsOf, List.flatMap_cons, le32]
    have hne : cellsOf (x :: xs) ≠ [] := by simp [cellsOf, List.flatMap_cons, le32]
    cases hc : cellsOf (x :: xs) with
    | nil => exact absurd hc hne
    | cons c cs =>
      simp only [List.length_cons, words, List.map_cons]
      rw [← hc, ht, hd, hw, ih]

theorem alignM_noBool : ∀ (t : MT), noBoolM t = true → alignM t = 4 :=
  MT.induct (PL := fun _ => True)
    ⟨fun t hl hn => by
      cases t with
      | boolean => simp [noBoolM] at hn
      | optional | array | object => simp [leaf] at hl
      | _ => rfl,
    fun _ _ _ => rfl, fun _ _ ih hn => ih hn, fun _ _ _ => rfl, fun _ _ _ => rfl, trivial, fun _ _ _ _ => trivial⟩

theorem structAlign_noBool : ∀ (ms : ML), ms ≠ .nil → noBool ms = true → structAlign ms = 4
  | .nil, h, _ => absurd rfl h
  | .cons t ms, _, hn => by
    simp only [noBool, Bool.and_eq_true] at hn
    have ha := alignM_noBool t hn.1
    cases ms with
    | nil => simp [structAlign, ha]
    | cons t' ms' =>
      have := structAlign_noBool (.cons t' ms') (by simp) hn.2
      simp [structAlign, ha] at this ⊢
      omega

theorem OEnc.ok_seq_ok (a b : List Cell) : (OEnc.ok a).seq (.ok b) = .ok (a ++ b) := rfl

/-- A four-aligned field of whole words at a four-aligned offset: no padding in front of it, and
the next field starts four-aligned again. -/
theorem cellsMs_cons_words {t : MT} {ms : ML} {v : Val} {vs : VL} {off : Nat} {used rest : List Int}
    (ha : alignM t = 4) (ho : off % 4 = 0) (hc : cellsM t v = .ok (cellsOf used))
    (hr : ∀ off', off' % 4 = 0 → cellsMs ms vs off' = .ok (cellsOf rest)) :
    cellsMs (.cons t ms) (.cons v vs) off = .ok (cellsOf (used ++ rest)) := by
  have hpad : (4 - off % 4) % 4 = 0 := by omega
  have ho' : (off + (cellsOf used).length) % 4 = 0 := by rw [cellsOf_length]; omega
  simp [cellsMs, ha, hpad, hc, hr _ ho', OEnc.ok_seq_ok, cellsOf_append]

theorem intCheck_cells {t : MT} {k : Int → Option Val} (hk : intCheck t = some k) (hw : wfO t = true) :
    intSizeM t = 1 ∧ ∀ x v, noBoolM t = true → inI32 x → k x = some v → cellsM t v = .ok (le32 x) := by
  cases t with
  | int32 | enum =>
    cases hk
    refine ⟨rfl, fun x v _ hx hkx => ?_⟩
    dsimp only at hkx
    split at hkx
    · rename_i hc; cases hkx; simp [cellsM, hx, hc]
    · cases hkx
  | flags | tick => cases hk; exact ⟨rfl, fun x v _ hx hkx => by cases hkx; simp [cellsM, cellInt, hx]⟩
  | boolean => exact ⟨rfl, fun x v hn => by simp [noBoolM] at hn⟩
  | tuneParam => simp [wfO] at hw
  | _ => cases hk

/-- `wfElem`, `noBoolElem` stand for the element type's `wfO`, `noBoolM` -/
theorem orep_spec (f : List Int → ORes Val) (g : Val → OEnc) (p : Val → Bool) (size : Nat)
    (wfElem noBoolElem : Prop)
    (h : ∀ inp v r, f inp = .ok v r → ∃ used, inp = used ++ r ∧ ((∀ y ∈ used, inI32 y) → p v = true) ∧
      (wfElem → used.length = size ∧ (noBoolElem → (∀ y ∈ used, inI32 y) → g v = .ok (cellsOf used)))) :
    ∀ (n : Nat) (inp : List Int) (vs : VL) (r : List Int), orep f n inp = .ok vs r →
      vs.length = n ∧ ∃ used, inp = used ++ r ∧ ((∀ y ∈ used, inI32 y) → VL.all p vs = true) ∧
        (wfElem → used.length = n * size ∧
          (noBoolElem → (∀ y ∈ used, inI32 y) → cellsList g vs = .ok (cellsOf used)))
  | 0, inp, vs, r, he => by cases he; exact ⟨rfl, [], rfl, fun _ => rfl, fun _ => ⟨by simp, fun _ _ => rfl⟩⟩
  | n + 1, inp, vs, r, he => by
    obtain ⟨v, r₁, vs', h₁, h₂, rfl⟩ := ORes.cons_ok.mp he
    obtain ⟨u₁, rfl, hp₁, hw₁⟩ := h _ _ _ h₁
    obtain ⟨hl, u₂, rfl, hp₂, hw₂⟩ := orep_spec f g p size wfElem noBoolElem h n _ _ _ h₂
    refine ⟨by simp [VL.length, hl], u₁ ++ u₂, by simp, fun hi => ?_, fun hwf => ⟨?_, fun hnb hi => ?_⟩⟩
    · simp only [List.mem_append] at hi
      simp [VL.all, hp₁ fun y hy => hi y (.inl hy), hp₂ fun y hy => hi y (.inr hy)]
    · simp [(hw₁ hwf).1, (hw₂ hwf).1, Nat.succ_mul]; omega
    · simp only [List.mem_append] at hi
      simp [cellsList, (hw₁ hwf).2 hnb fun y hy => hi y (.inl hy), (hw₂ hwf).2 hnb fun y hy => hi y (.inr hy),
        OEnc.ok_seq_ok, cellsOf_append]

/-- The decode side of the integer encoding in one statement: a decoder consumes a prefix `used` of its input; if
those words are in range the value is one the description admits; if the description has an integer encoding they are
exactly `int_size` words; and an object without `bool` fields has exactly those words as its memory (its layout has no
padding). -/
theorem decO_decOs_spec :
    (∀ (t : MT) (inp : List Int) (v : Val) (r : List Int), decO t inp = .ok v r →
      ∃ used, inp = used ++ r ∧ ((∀ y ∈ used, inI32 y) → wtM t v = true) ∧
        (wfO t = true → used.length = intSizeM t ∧
          (noBoolM t = true → (∀ y ∈ used, inI32 y) → cellsM t v = .ok (cellsOf used)))) ∧
    ∀ (ms : ML) (inp : List Int) (vs : VL) (r : List Int), decOs ms inp = .ok vs r →
      ∃ used, inp = used ++ r ∧ ((∀ y ∈ used, inI32 y) → wtMs ms vs = true) ∧
        (wfOs ms = true → used.length = intSize ms ∧
          (noBool ms = true → (∀ y ∈ used, inI32 y) → ∀ off, off % 4 = 0 →
            cellsMs ms vs off = .ok (cellsOf used))) := by
  refine descr_induct ⟨?_, ?_, ?_, ?_, ?_, ?_, ?_⟩
  · intro t hl inp v r h
    cases hk : intCheck t with
    | some k =>
      obtain ⟨x, rfl, hkx⟩ := readIntO_ok (readIntO_of_decO hk h)
      refine ⟨[x], rfl, fun hi => (intCheck_sound hk (hi x (by simp)) hkx).1, fun hw => ?_⟩
      obtain ⟨hs, hc⟩ := intCheck_cells hk hw
      exact ⟨hs.symm, fun hn hi => by simpa [cellsOf] using hc x v hn (hi x (by simp)) hkx⟩
    | none =>
      cases t with
      | int32 | boolean | enum | flags | tick | tuneParam => simp [intCheck] at hk
      | array | object | twString => simp [leaf] at hl
      | _ => simp [decO] at h
  · intro t _ inp v r h
    simp [decO] at h
  · intro n t ih inp v r h
    simp only [decO] at h
    split at h
    · rename_i hr
      cases h
      obtain ⟨hl, used, hu, hp, hw⟩ :=
        orep_spec _ (cellsM t) (wtM t) (intSizeM t) (wfO t = true) (noBoolM t = true) ih _ _ _ _ hr
      exact ⟨used, hu, fun hi => by simp [wtM, hl, hp hi], fun hW =>
        ⟨(hw hW).1, fun hn hi => by simpa [cellsM, hl] using (hw hW).2 hn hi⟩⟩
    · cases h
  · intro n h inp v r
    simpa only [decO_twString, cellsM_twString, wtM_twString, wfO, intSizeM, noBoolM, Nat.mul_one] using h inp v r
  · intro ms ih inp v r h
    simp only [decO] at h
    split at h
    · cases h
      obtain ⟨used, hu, hp, _⟩ := ih _ _ _ ‹_›
      exact ⟨used, hu, hp, fun hw => by simp [wfO] at hw⟩
    · cases h
  · intro inp vs r h
    simp only [decOs] at h
    cases h
    exact ⟨[], rfl, fun _ => rfl, fun _ => ⟨rfl, fun _ _ _ _ => rfl⟩⟩
  · intro t ms iht ihl inp vs r h
    rw [decOs_cons] at h
    obtain ⟨v, r₁, vs', h₁, h₂, rfl⟩ := ORes.cons_ok.mp h
    obtain ⟨u₁, rfl, hp₁, hw₁⟩ := iht _ _ _ h₁
    obtain ⟨u₂, rfl, hp₂, hw₂⟩ := ihl _ _ _ h₂
    refine ⟨u₁ ++ u₂, by simp, fun hi => ?_, fun hw => ?_⟩
    · simp only [List.mem_append] at hi
      simp [wtMs, hp₁ fun y hy => hi y (.inl hy), hp₂ fun y hy => hi y (.inr hy)]
    · simp only [wfOs, Bool.and_eq_true] at hw
      refine ⟨by simp [intSize, (hw₁ hw.1).1, (hw₂ hw.2).1], fun hn hi off ho => ?_⟩
      simp only [noBool, Bool.and_eq_true] at hn
      simp only [List.mem_append] at hi
      exact cellsMs_cons_words (alignM_noBool t hn.1) ho ((hw₁ hw.1).2 hn.1 fun y hy => hi y (.inl hy))
        ((hw₂ hw.2).2 hn.2 fun y hy => hi y (.inr hy))

theorem decOs_wt {ms : ML} {inp : List Int} {vs : VL} {r : List Int} (hi : ∀ y ∈ inp, inI32 y)
    (h : decOs ms inp = .ok vs r) : wtMs ms vs = true := by
  obtain ⟨used, rfl, hp, _⟩ := decO_decOs_spec.2 ms inp vs r h
  exact hp fun y hy => hi y (List.mem_append_left _ hy)

theorem decOs_words {ms : ML} {inp : List Int} {vs : VL} {r : List Int} (hw : wfOs ms = true)
    (h : decOs ms inp = .ok vs r) : ∃ used, inp = used ++ r ∧ used.length = intSize ms ∧
      (noBool ms = true → (∀ y ∈ used, inI32 y) → ∀ off, off % 4 = 0 → cellsMs ms vs off = .ok (cellsOf used)) := by
  obtain ⟨used, hu, _, h₂⟩ := decO_decOs_spec.2 ms inp vs r h
  exact ⟨used, hu, h₂ hw⟩

theorem decOs_len {ms : ML} {inp : List Int} {vs : VL} {r : List Int} (hw : wfOs ms = true)
    (h : decOs ms inp = .ok vs r) : inp.length = intSize ms + r.length := by
  obtain ⟨used, rfl, hl, _⟩ := decOs_words hw h
  simp [hl]

/-- the `transmute` of a struct that is whole words: no panic, no trailing padding -/
theorem words_struct {ms : ML} (hne : ms ≠ .nil) (hnb : noBool ms = true) {ints : List Int}
    (hi : ∀ x ∈ ints, inI32 x) {v : VL} (hc : cellsMs ms v 0 = .ok (cellsOf ints)) :
    encodeObj ms v = .ok (ints.map some) := by
  simp [encodeObj, hc, structAlign_noBool ms hne hnb, cellsOf_length, words_cellsOf ints hi]

/-- the round trip of one field of an object, written as struct memory by `encode` and read by `decode_int_expr` -/
def ObjRoundTrips (f : List Int → ORes Val) (g : Val → OEnc) (v : Val) : Prop :=
  ∃ ints, g v = .ok (cellsOf ints) ∧ (∀ x ∈ ints, inI32 x) ∧ ∀ rest, f (ints ++ rest) = .ok v rest

theorem cellsList_orep (f : List Int → ORes Val) (g : Val → OEnc) (p : Val → Bool)
    (h : ∀ v, p v = true → ObjRoundTrips f g v) :
    ∀ (vs : VL), VL.all p vs = true →
      ∃ ints, cellsList g vs = .ok (cellsOf ints) ∧ (∀ x ∈ ints, inI32 x) ∧
        ∀ rest, orep f vs.length (ints ++ rest) = .ok vs rest
  | .nil, _ => ⟨[], rfl, by simp, fun _ => rfl⟩
  | .cons v vs, hp => by
    simp only [VL.all, Bool.and_eq_true] at hp
    obtain ⟨i₁, hg₁, hi₁, hd₁⟩ := h v hp.1
    obtain ⟨i₂, hg₂, hi₂, hd₂⟩ := cellsList_orep f g p h vs hp.2
    refine ⟨i₁ ++ i₂, by simp [cellsList, hg₁, hg₂, OEnc.ok_seq_ok, cellsOf_append],
      fun x hx => (List.mem_append.mp hx).elim (hi₁ x) (hi₂ x), fun rest => ?_⟩
    rw [VL.length, orep_succ, List.append_assoc]
    exact ORes.cons_ok.mpr ⟨_, _, _, hd₁ _, hd₂ rest, rfl⟩

theorem cellsM_decO : ∀ (t : MT), wfO t = true → ∀ (v : Val), noBoolM t = true → wtM t v = true →
    ObjRoundTrips (decO t) (cellsM t) v := by
  refine wfO_induct ?_ ?_ ?_
  · intro t k hk hw v hn hwt
    obtain ⟨x, hx, hkx⟩ := intCheck_complete hk hwt
    exact ⟨[x], by simpa [cellsOf] using (intCheck_cells hk hw).2 x v hn hx hkx, by simpa using hx,
      fun rest => by simp [decO_of_intCheck hk hw, readIntO, hkx]⟩
  · intro n t ih v hn hwt
    cases v with
    | list vs =>
      simp only [wtM, Bool.and_eq_true, decide_eq_true_eq] at hwt
      obtain ⟨ints, hg, hi, hd⟩ := cellsList_orep (decO t) (cellsM t) (wtM t) (fun v hv => ih v hn hv) vs hwt.2
      refine ⟨ints, ?_, hi, fun rest => ?_⟩
      · simp only [cellsM, hwt.1, if_true]; exact hg
      · simp only [decO]; rw [← hwt.1, hd rest]
    | _ => simp [wtM] at hwt
  · intro n h v
    simpa only [decO_twString, cellsM_twString, wtM_twString, noBoolM] using h v

theorem cellsMs_decOs : ∀ (ms : ML) (vs : VL), wfOs ms = true → noBool ms = true → wtMs ms vs = true →
    ∃ ints, (∀ off, off % 4 = 0 → cellsMs ms vs off = .ok (cellsOf ints)) ∧ (∀ x ∈ ints, inI32 x) ∧
      ∀ rest, decOs ms (ints ++ rest) = .ok vs rest
  | .nil, .nil, _, _, _ => ⟨[], fun _ _ => rfl, by simp, fun _ => rfl⟩
  | .nil, .cons _ _, _, _, hwt => by simp [wtMs] at hwt
  | .cons _ _, .nil, _, _, hwt => by simp [wtMs] at hwt
  | .cons t ms, .cons v vs, hw, hn, hwt => by
    simp only [wfOs, Bool.and_eq_true] at hw
    simp only [noBool, Bool.and_eq_true] at hn
    simp only [wtMs, Bool.and_eq_true] at hwt
    obtain ⟨i₁, hg₁, hi₁, hd₁⟩ := cellsM_decO t hw.1 v hn.1 hwt.1
    obtain ⟨i₂, hg₂, hi₂, hd₂⟩ := cellsMs_decOs ms vs hw.2 hn.2 hwt.2
    refine ⟨i₁ ++ i₂, fun off ho => cellsMs_cons_words (alignM_noBool t hn.1) ho hg₁ hg₂,
      fun x hx => (List.mem_append.mp hx).elim (hi₁ x) (hi₂ x), fun rest => ?_⟩
    rw [decOs_cons, List.append_assoc]
    exact ORes.cons_ok.mpr ⟨_, _, _, hd₁ _, hd₂ rest, rfl⟩
end Tw.Gamenet
