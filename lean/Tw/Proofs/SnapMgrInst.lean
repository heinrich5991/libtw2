import Tw.Proofs.SnapMgr
import Tw.Proofs.SnapLayer

/-!
C13: the laws the protocol layer needs (`Tw.SnapMgr.Laws`) hold for the concrete snapshot model
`Tw.Snap` (`Model/Snap.lean`, C09–C11): `snapOps` packs `Delta::create` / `Delta::write` / `Delta::read` /
`Snap::read_with_delta` as `Ops` over the snapshots that satisfy the builder invariant `ExtOk` and whose
item sizes agree with the object-size table (`GoodSnap`).
C09 and C10 enter C13 through `Proofs/SnapLayer` (`readWithDelta_createDelta`,
`readDelta_packInts`) and through `readWithDelta_empty` here, C08 through `writeInt_length`.
-/
namespace Tw.SnapMgr
open Tw.Snap

variable {objSize : Nat → Option Nat}

/-- snapshots of the concrete layer: the registry invariant of builder-made snapshots (C10) and
item sizes that agree with the object-size table (else `Delta::write` asserts) -/
def GoodSnap (objSize : Nat → Option Nat) (s : Tw.Snap.Snap) : Prop :=
  ExtOk s ∧ SizesOk objSize s.raw.items

/-- the deltas `Delta::create` makes between two `GoodSnap`s: `Delta::write` does not assert on them -/
def GoodDelta (objSize : Nat → Option Nat) (d : Tw.Snap.Delta) : Prop :=
  d.WF ∧ SizesOk objSize d.updated

theorem goodDelta_of_create {a b : Tw.Snap.Snap}
    (ha : GoodSnap objSize a) (hb : GoodSnap objSize b) {d : Tw.Snap.Delta}
    (h : createDelta a.raw b.raw = some d) : GoodDelta objSize d :=
  have hd := createDelta_WF ha.1.raw_wf hb.1.raw_wf h
  ⟨hd.1, sizesOk_of_lens objSize hd.2 hb.2⟩

theorem goodSnap_empty (objSize : Nat → Option Nat) : GoodSnap objSize Tw.Snap.Snap.empty :=
  ⟨Builder.new_inv.ok, by intro p hp; simp [Tw.Snap.Snap.empty, RawSnap.empty] at hp⟩

theorem goodDelta_empty (objSize : Nat → Option Nat) : GoodDelta objSize Tw.Snap.Delta.empty :=
  ⟨by decide, by intro p hp; simp [Tw.Snap.Delta.empty] at hp⟩

/-- the empty delta (`Delta::clear`, what a `SnapEmpty` stands for) is a reference delta from any
well-formed snapshot to itself -/
theorem refDelta_empty {a : RawSnap} (ha : a.WF) : RefDelta a a Tw.Snap.Delta.empty := by
  have hfind : ∀ p, p ∈ a.items → mfind p.1 a.items = some p.2 := fun p hp => mfind_of_mem ha.1 hp
  refine ⟨?_, sorted_nil, ?_, ?_⟩
  · symm
    simp only [Tw.Snap.Delta.empty, List.map_eq_nil_iff, List.filter_eq_nil_iff]
    intro p hp
    simp [hfind p hp]
  · intro p hp; simp [Tw.Snap.Delta.empty] at hp
  · intro p hp _; exact hfind p hp

theorem sizesAgree_self {a : RawSnap} (ha : a.WF) : SizesAgree a a := by
  intro p hp
  rw [mfind_of_mem ha.1 hp]
  simp [lenAgree]

/-- `SnapEmpty` means "same as base" in the concrete model. -/
theorem readWithDelta_empty {a : Tw.Snap.Snap} (ha : ExtOk a) :
    a.readWithDelta Tw.Snap.Delta.empty = .ok (a, []) := by
  unfold Tw.Snap.Snap.readWithDelta
  rw [applyDelta_of_refDelta ha.raw_wf ha.raw_wf (sizesAgree_self ha.raw_wf) (refDelta_empty ha.raw_wf)]
  simp only [buildFromRaw_of_extOk ha, List.append_nil]

/-- C08: a written delta starts with its three-integer header, so it is never zero bytes long -/
theorem packInts_writeInts_ne_nil {d : Tw.Snap.Delta} {xs : List Int}
    (hxs : d.writeInts objSize = some xs) : packInts xs ≠ [] := by
  obtain ⟨_, rfl⟩ := Delta.writeInts_eq_some.mp hxs
  rw [packInts_cons]
  intro h
  have := (Tw.Packer.writeInt_length ((d.deleted.length : Nat) : Int)).1
  have h' := congrArg List.length h
  simp only [List.length_append, List.length_nil] at h'
  omega

open Classical in
/-- The concrete snapshot layer as `Ops` (the 64 KiB capacity of the glue's buffer is not
represented here: `write` succeeds whenever the sizes agree), with either sender glue. -/
noncomputable def snapOps (objSize : Nat → Option Nat) (refGlue : Bool := false) :
    Ops { s : Tw.Snap.Snap // GoodSnap objSize s } { d : Tw.Snap.Delta // GoodDelta objSize d } where
  empty := ⟨Tw.Snap.Snap.empty, goodSnap_empty objSize⟩
  create a b :=
    (createDelta a.1.raw b.1.raw).pmap (fun d hd => ⟨d, goodDelta_of_create a.2 b.2 hd⟩) (fun _ h => h)
  write d := (d.1.writeInts objSize).map packInts
  clear := ⟨Tw.Snap.Delta.empty, goodDelta_empty objSize⟩
  read bs :=
    match readDelta objSize (.bytes bs) with
    | .ok (d, _) => if h : GoodDelta objSize d then .ok ⟨d, h⟩ else .error "NotWellFormed"
    | .err e => .error e.name
    | .panic p => .error p
  apply a d :=
    match a.1.readWithDelta d.1 with
    | .ok (s, _) => if h : GoodSnap objSize s then .ok ⟨s, h⟩ else .error "NotBuilderMade"
    | .err e => .error e.name
    | .panic p => .error p
  crc s := s.1.crc
  same a b := decide (a.1 = b.1)
  emptyWhenSame := refGlue

theorem snapOps_laws (objSize : Nat → Option Nat) (refGlue : Bool := false) :
    Laws (snapOps objSize refGlue) where
  apply_create := by
    intro a b d h
    simp only [snapOps, Option.pmap_eq_some_iff] at h
    obtain ⟨d0, _, hd0, rfl⟩ := h
    simp only [snapOps, readWithDelta_createDelta a.2.1.raw_wf b.2.1 hd0, b.2, dite_true]
  read_write := by
    intro d bs h
    simp only [snapOps, Option.map_eq_some_iff] at h
    obtain ⟨xs, hxs, rfl⟩ := h
    simp only [snapOps, readDelta_packInts d.2.1 hxs, d.2, dite_true]
  same_clear := by
    intro a b h
    have hab : a = b := Subtype.ext (by simpa [snapOps] using h)
    subst hab
    simp only [snapOps, readWithDelta_empty a.2.1, a.2, dite_true]
  write_nonempty := by
    intro d bs h
    simp only [snapOps, Option.map_eq_some_iff] at h
    obtain ⟨xs, hxs, rfl⟩ := h
    exact packInts_writeInts_ne_nil hxs

/-- A snapshot from a fresh `Builder::new()`, the items added in the given order; `none` = a builder
error or panic.  What `new_builder` amounted to with an empty free list before the repair D25
(`Props/C13.d25_witness`). -/
def freshBuild (items : List (TypeId × Nat × List Int)) : Option Tw.Snap.Snap :=
  (items.foldl (fun ob it => ob.bind fun b =>
      match b.addItem it.1 it.2.1 it.2.2 with
      | some (b', none) => some b'
      | _ => none) (some Builder.new)).map (·.snap)

end Tw.SnapMgr
