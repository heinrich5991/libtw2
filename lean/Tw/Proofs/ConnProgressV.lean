import Tw.Proofs.ConnProgressA
import Tw.Proofs.ConnSafety

/-!
# C02 (c): the four-round argument, independent of the system it is run in

A fair round is a `RoundV` of two cores with their ghost logs: each side's tick phase is a `PhaseSpec` (what it does to the
core and puts on the wire), and its datagrams reach the peer as a `RecvListRel` (deliveries at any clock value, with any send
timer).  Why four: the first resend hands the receiver everything submitted (`stage1`); in the next round all that is resent
is a retransmission, so the receiver asks for a resend (`stage2`); that makes its tick phase emit a datagram, whose ack
empties the sender's queue (`stage3`); then nothing vital arrives and the request flag, cleared by the tick phase, stays
clear (`stage4`).  Instances: `Tw.OnlineNet` (no clock) and the two full connections of `Tw.NetSim.World` (ticks at the
deadline).
-/
namespace Tw.Conn
open Tw.Time

def RecvRel (cfg : Cfg) (o : Online) (p : Flushed) (o2 : Online) : Prop :=
  ∃ (now : Nat) (send send2 : Timeout) (o1 : Online) (fl : List Flushed) (evs : List Event),
    o.feedAck p.ack = .ok o1 ∧ o1.receive cfg now send p.requestResend p.chunks = .ok (o2, send2, fl, evs)

/-- a delivery opened: `o1'` is the core after the ack and the resend, if one is requested (which does nothing when
nothing is unacknowledged); then the scan from `o.ack` -/
theorem RecvRel.open {cfg : Cfg} {o o2 : Online} {p : Flushed} (h : RecvRel cfg o p o2) :
    ∃ o1' : Online,
      ((p.requestResend = false ∨ (o.ackChunks p.ack).resendQueue = []) → o1' = o.ackChunks p.ack) ∧
      (o1'.requestResend = true → o.requestResend = true) ∧
      o2.ack = (receiveEager o.ack o1'.requestResend p.chunks).1 ∧
      o2.requestResend = (receiveEager o.ack o1'.requestResend p.chunks).2 ∧
      o2.resendQueue = o1'.resendQueue ∧ o2.packet = o1'.packet := by
  obtain ⟨now, send, send2, o1, fl, evs, hfa, hrc⟩ := h
  have ho1 := (Online.feedAck_eq hfa).2
  have ka := o.ackChunks_ack p.ack
  have krr := o.ackChunks_requestResend p.ack
  rw [← ho1] at ka krr
  obtain ⟨o1', h1, rfl, _⟩ := Online.receive_eq hrc
  rcases h1 with ⟨_, rfl, _⟩ | ⟨hrr, hrs⟩
  · exact ⟨o1', fun _ => ho1, fun h => by rw [krr] at h; exact h, by simp only [ka], by simp only [ka], rfl, rfl⟩
  · have f := Online.resend_eq hrs
    refine ⟨o1', ?_, fun h => by rw [← krr]; exact f.rr h, by simp only [f.ack, ka], by simp only [f.ack, ka], rfl, rfl⟩
    rintro (hor | hor)
    · rw [hrr] at hor; cases hor
    · rw [← ho1] at hor ⊢
      exact (f.idle hor).1

inductive RecvListRel (cfg : Cfg) : Online → List Flushed → Online → Prop where
  | nil (o : Online) : RecvListRel cfg o [] o
  | cons {o o1 o2 : Online} {p : Flushed} {ps : List Flushed} :
      RecvRel cfg o p o1 → RecvListRel cfg o1 ps o2 → RecvListRel cfg o (p :: ps) o2

theorem recvOnline_rel {cfg : Cfg} {o o2 : Online} {p : Flushed} (h : recvOnline cfg o p = some o2) :
    RecvRel cfg o p o2 := by
  unfold recvOnline at h
  cases hfa : o.feedAck p.ack with
  | error e => rw [hfa] at h; cases h
  | ok o1 =>
    rw [hfa] at h
    simp only at h
    cases hrc : o1.receive cfg 0 .inactive p.requestResend p.chunks with
    | error e => rw [hrc] at h; cases h
    | ok r =>
      obtain ⟨o2', s2, fl, evs⟩ := r
      rw [hrc] at h
      injection h with h
      subst h
      exact ⟨0, .inactive, s2, o1, fl, evs, hfa, hrc⟩

theorem recvList_rel {cfg : Cfg} : ∀ (ps : List Flushed) (o o' : Online), recvList cfg o ps = some o' →
    RecvListRel cfg o ps o' := by
  intro ps
  induction ps with
  | nil => intro o o' h; simp [recvList] at h; subst h; exact .nil o
  | cons p ps ih =>
    intro o o' h
    simp only [recvList] at h
    cases hr : recvOnline cfg o p with
    | none => rw [hr] at h; cases h
    | some o2 => rw [hr] at h; exact .cons (recvOnline_rel hr) (ih o2 o' h)

theorem RecvListRel.append {cfg : Cfg} {o o1 o2 : Online} {a b : List Flushed} (h1 : RecvListRel cfg o a o1)
    (h2 : RecvListRel cfg o1 b o2) : RecvListRel cfg o (a ++ b) o2 := by
  induction h1 with
  | nil o => exact h2
  | cons hr _ ih => exact .cons hr (ih h2)

theorem RecvListRel.ack {cfg : Cfg} {o o' : Online} {ps : List Flushed} (h : RecvListRel cfg o ps o') :
    o'.ack = (receiveEager o.ack false (ps.flatMap (·.chunks))).1 := by
  induction h with
  | nil o => rfl
  | @cons o o1 o2 p ps hr _ ih =>
    obtain ⟨o1', _, _, ha, _, _, _⟩ := hr.open
    rw [ih, ha, List.flatMap_cons, receiveEager_append]
    rw [receiveEager_fst_indep _ o1'.requestResend false p.chunks]
    exact receiveEager_fst_indep _ _ _ _

/-- a delivery whose ack leaves nothing unacknowledged triggers no resend: the queue stays empty, the packet is kept -/
theorem RecvRel.idle {cfg : Cfg} {o o2 : Online} {p : Flushed} (h : RecvRel cfg o p o2)
    (hq : (o.ackChunks p.ack).resendQueue = []) : o2.resendQueue = [] ∧ o2.packet = o.packet := by
  obtain ⟨o1', h1, _, _, _, h7, h8⟩ := h.open
  cases h1 (Or.inr hq)
  exact ⟨h7.trans hq, h8.trans (o.ackChunks_packet p.ack)⟩

theorem RecvListRel.idle {cfg : Cfg} {o o' : Online} {ps : List Flushed} (h : RecvListRel cfg o ps o')
    (hq : o.resendQueue = []) : o'.resendQueue = [] ∧ o'.packet = o.packet := by
  induction h with
  | nil o => exact ⟨hq, rfl⟩
  | @cons o o1 o2 p ps hr _ ih =>
    have kl := o.ackChunks_length_le p.ack
    obtain ⟨a, b⟩ := hr.idle (List.length_eq_zero_iff.mp (Nat.le_zero.mp (by simpa [hq] using kl)))
    obtain ⟨a', b'⟩ := ih a
    exact ⟨a', b'.trans b⟩

theorem RecvListRel.acked {cfg : Cfg} {o o' : Online} {p : Flushed} {ps : List Flushed}
    {c : ResendChunk} {rest : List ResendChunk} (h : RecvListRel cfg o (p :: ps) o')
    (hq : o.resendQueue = c :: rest) (hp : p.ack = c.seq) : o'.resendQueue = [] ∧ o'.packet = o.packet := by
  cases h with
  | cons hr hrest =>
    obtain ⟨a, b⟩ := hr.idle (by rw [hp]; exact Online.ackChunks_all hq)
    obtain ⟨a', b'⟩ := hrest.idle a
    exact ⟨a', b'.trans b⟩

theorem RecvListRel.rr_false {cfg : Cfg} {o o' : Online} {ps : List Flushed} (h : RecvListRel cfg o ps o')
    (hrr : o.requestResend = false) (hv : ∀ p ∈ ps, vitals p.chunks = []) : o'.requestResend = false := by
  induction h with
  | nil o => exact hrr
  | @cons o o1 o2 p ps hr _ ih =>
    obtain ⟨o1', _, h4, _, h6, _, _⟩ := hr.open
    have h1f : o1'.requestResend = false := by
      cases hh : o1'.requestResend with
      | false => rfl
      | true => rw [h4 hh] at hrr; cases hrr
    refine ih ?_ (fun p' hp' => hv p' (List.mem_cons_of_mem _ hp'))
    rw [h6, receiveEager_no_vitals _ _ _ (hv p (by simp)), h1f]

/-- deliveries none of whose vital chunks is the one expected next: if the last of them carries a vital chunk, a resend
is requested in the end (an earlier request may have been flushed by a resend in between) -/
theorem RecvListRel.rr_set {cfg : Cfg} {o o' : Online} {ps pre : List Flushed} {last : Flushed}
    (h : RecvListRel cfg o ps o')
    (hrej : ∀ p ∈ ps, ∀ c ∈ p.chunks, ∀ s r, c.vital = some (s, r) → s ≠ seqNext o.ack)
    (hps : ps = pre ++ [last]) (hv : vitals last.chunks ≠ []) : o'.requestResend = true := by
  induction h generalizing pre with
  | nil o => simp at hps
  | @cons o o1 o2 p ps hr hrest ih =>
    obtain ⟨o1', _, _, h5, h6, _, _⟩ := hr.open
    obtain ⟨e1, e2, _⟩ := receiveEager_rejects o.ack p.chunks (hrej p (by simp)) o1'.requestResend
    cases pre with
    | nil =>
      simp only [List.nil_append, List.cons.injEq] at hps
      obtain ⟨rfl, rfl⟩ := hps
      cases hrest with
      | nil => rw [h6]; exact e2 hv
    | cons q pre' =>
      simp only [List.cons_append, List.cons.injEq] at hps
      refine ih (fun p' hp' => ?_) hps.2
      rw [h5, e1]; exact hrej p' (List.mem_cons_of_mem _ hp')

/-- what the tick phase of a round does to one side: core `o` becomes `o2`, the datagrams with
(ack, flag, chunks) `fls` go out -/
structure PhaseSpec (cfg : Cfg) (o o2 : Online) (fls : List Flushed) : Prop where
  inv2 : o2.Inv cfg
  ack : o2.ack = o.ack
  rqlen : o2.resendQueue.length = o.resendQueue.length
  rr : o2.requestResend = false
  pk : o2.packet.chunks = []
  acks : ∀ f ∈ fls, f.ack = o.ack
  ne : o.resendQueue ≠ [] → flVitals fls = o.resendQueue.reverse.map (fun c => (c.seq, c.data)) ∧
    ∃ pre last, fls = pre ++ [last] ∧ vitals last.chunks ≠ []
  emp : o.resendQueue = [] → flVitals fls = vitals o.packet.chunks
  emit : (o.resendQueue ≠ [] ∨ o.packet.numChunks ≠ 0 ∨ o.requestResend = true) → fls ≠ []

theorem PhaseSpec.of_resend_flush {cfg : Cfg} {o o' : Online} {now : Nat} {send send' : Timeout}
    {fl : List Flushed} (hinv : o.Inv cfg) (hinv' : o'.Inv cfg) (hne : o.resendQueue ≠ [])
    (he : o.resend cfg now send = .ok (o', send', fl)) :
    PhaseSpec cfg o o'.flush.1 (fl ++ o'.flush.2) ∧ o'.canSend = true := by
  have hr := Online.resend_eq he
  have hnil := Online.flush_packet_nil hinv'
  have hcs : o'.canSend = true := by
    have hl : o'.packet.chunks.length ≠ 0 := by simpa using vitals_ne_nil_chunks (hr.vitals_ne hne)
    simp [Online.canSend, hinv'.pn, hl]
  refine ⟨⟨Online.flush_inv hinv', by rw [Online.flush_ack, hr.ack], by rw [Online.flush_resendQueue, hr.length],
    Online.flush_rr_false o', hnil, ?_, ?_, fun h => absurd h hne, ?_⟩, hcs⟩
  · intro f hf
    rcases List.mem_append.mp hf with hf | hf
    · exact hr.acks f hf
    · rw [Online.flush_acks o' f hf, hr.ack]
  · intro _
    have hv := Online.resend_vitals (by rw [hinv.nv]; exact vitals_filter_nonvital _) hne he
    rw [hnil] at hv
    refine ⟨by simpa [vitals] using hv, fl, ⟨o'.ack, o'.requestResend, o'.packet.numChunks, o'.packet.chunks⟩, ?_, hr.vitals_ne hne⟩
    rw [Online.flush_emits o' hcs]
  · intro _
    rw [Online.flush_emits o' hcs]; simp

/-- nothing unacknowledged: a flush, then keep-alives (datagrams without chunks carrying the ack) -/
theorem PhaseSpec.of_flush_kas {cfg : Cfg} {o : Online} (hinv : o.Inv cfg) (hemp : o.resendQueue = [])
    (kas : List Flushed) (hk : ∀ f ∈ kas, f.ack = o.ack ∧ f.chunks = []) :
    PhaseSpec cfg o o.flush.1 (o.flush.2 ++ kas) := by
  refine ⟨Online.flush_inv hinv, Online.flush_ack o, by rw [Online.flush_resendQueue], Online.flush_rr_false o,
    Online.flush_packet_nil hinv, ?_, fun h => absurd hemp h, ?_, ?_⟩
  · intro f hf
    rcases List.mem_append.mp hf with hf | hf
    · exact Online.flush_acks o f hf
    · exact (hk f hf).1
  · intro _
    have hkv : flVitals kas = [] := flVitals_eq_nil.mpr fun f hf => by rw [(hk f hf).2]; rfl
    have := Online.flush_vitals o
    rw [Online.flush_packet_nil hinv] at this
    rw [flVitals_append, hkv]
    simpa [vitals] using this
  · intro hcan
    have hcs : o.canSend = true := by
      rcases hcan with h | h | h
      · exact absurd hemp h
      · simp [Online.canSend, h]
      · simp [Online.canSend, h]
    rw [Online.flush_emits o hcs]; simp

theorem PhaseSpec.of_sendPhase {cfg : Cfg} (hc : cfg.Ok) {o o2 : Online} {fls : List Flushed} (hinv : o.Inv cfg)
    (h : sendPhase cfg o = some (o2, fls)) : PhaseSpec cfg o o2 fls := by
  obtain ⟨o', send', fl, he, hinv', _⟩ := Online.resend_spec hc hinv 0 .inactive
  simp only [sendPhase_eq he, Option.some.injEq, Prod.mk.injEq] at h
  obtain ⟨rfl, rfl⟩ := h
  by_cases hemp : o.resendQueue = []
  · obtain ⟨rfl, _, rfl⟩ := (Online.resend_eq he).idle hemp
    simpa using PhaseSpec.of_flush_kas hinv hemp [] (by simp)
  · exact (PhaseSpec.of_resend_flush hinv hinv' hemp he).1

structure View where
  ep : Bool → Online
  sub : Bool → List Bytes
  del : Bool → List Bytes

structure VInv (cfg : Cfg) (v : View) : Prop where
  core : ∀ x, (v.ep x).Inv cfg
  ack : ∀ x, (v.ep (!x)).ack = (v.del (!x)).length % 1024
  pre : ∀ x, v.del (!x) = (v.sub x).take (v.del (!x)).length
  dle : ∀ x, (v.del (!x)).length ≤ (v.sub x).length
  qlen : ∀ x, (v.ep x).resendQueue.length ≤ 512
  qwin : ∀ x, (v.sub x).length ≤ (v.del (!x)).length + (v.ep x).resendQueue.length
  q : ∀ x, Tw.NetSim.QueueOk (v.sub x) (v.ep x).resendQueue

/-- a fair round: `vb` after both tick phases, `v'` after the deliveries -/
structure RoundV (cfg : Cfg) (v vb v' : View) : Prop where
  inv0 : VInv cfg v
  invb : VInv cfg vb
  inv' : VInv cfg v'
  subb : vb.sub = v.sub
  delb : vb.del = v.del
  sub' : v'.sub = v.sub
  mono : ∀ y, (v.del y).length ≤ (v'.del y).length
  phase : ∀ x, ∃ fls, PhaseSpec cfg (v.ep x) (vb.ep x) fls ∧ RecvListRel cfg (vb.ep (!x)) fls (v'.ep (!x))

def VStage1 (v : View) (x : Bool) : Prop := (v.del (!x)).length = (v.sub x).length
def VStage2 (v : View) (x : Bool) : Prop :=
  VStage1 v x ∧ ((v.ep x).resendQueue = [] ∨ (v.ep (!x)).requestResend = true)
def VStage3 (v : View) (x : Bool) : Prop :=
  VStage1 v x ∧ (v.ep x).resendQueue = [] ∧ (v.ep x).packet.chunks = []
def VStage4 (v : View) (x : Bool) : Prop := VStage3 v x ∧ (v.ep (!x)).requestResend = false

def View.quiescent (v : View) : Prop :=
  ∀ x, v.del (!x) = v.sub x ∧ (v.ep x).resendQueue = [] ∧ (v.ep x).packet.chunks = [] ∧
    (v.ep x).requestResend = false

theorem queue_vitals {sub : List Bytes} {q : List ResendChunk} (hq : Tw.NetSim.QueueOk sub q) :
    q.reverse.map (fun c => (c.seq, c.data)) =
      (List.range' (sub.length - q.length) q.length).map (fun k => ((k + 1) % 1024, sub.getD k [])) := by
  have hl := hq.length_le
  apply List.ext_getElem?
  intro j
  by_cases hj : j < q.length
  · have hc : q[q.length - 1 - j]? = some q[q.length - 1 - j] := List.getElem?_eq_getElem (by omega)
    obtain ⟨_, h2, h3⟩ := hq _ _ hc
    rw [List.getElem?_map, List.getElem?_reverse hj, hc, List.getElem?_map, List.getElem?_range' hj]
    simp only [Option.map_some, Nat.one_mul]
    have e : sub.length - q.length + j = sub.length - 1 - (q.length - 1 - j) := by omega
    rw [h3, e, List.getD_eq_getElem?_getD, h2]; rfl
  · rw [List.getElem?_eq_none (by simp; omega), List.getElem?_eq_none (by simp; omega)]

theorem PhaseSpec.queue_nil {cfg : Cfg} {o o2 : Online} {fls : List Flushed} (h : PhaseSpec cfg o o2 fls)
    (hq : o.resendQueue = []) : o2.resendQueue = [] :=
  List.length_eq_zero_iff.mp (by rw [h.rqlen, hq]; rfl)

theorem PhaseSpec.no_vitals {cfg : Cfg} {o o2 : Online} {fls : List Flushed} (h : PhaseSpec cfg o o2 fls)
    (hq : o.resendQueue = []) (hp : o.packet.chunks = []) : ∀ p ∈ fls, vitals p.chunks = [] :=
  flVitals_eq_nil.mp (by rw [h.emp hq, hp]; rfl)

variable {cfg : Cfg}

theorem consecutive_of_phase {o o2 : Online} {fls : List Flushed} {sub : List Bytes} (hsp : PhaseSpec cfg o o2 fls)
    (hq : Tw.NetSim.QueueOk sub o.resendQueue) (hne : o.resendQueue ≠ []) :
    Consecutive sub (sub.length - o.resendQueue.length) (fls.flatMap (·.chunks)) o.resendQueue.length := by
  obtain ⟨hv, _⟩ := hsp.ne hne
  have hqv := queue_vitals hq
  have hql := hq.length_le
  exact consecutive_of_vitals (by rw [vitals_flatMap, hv, hqv]) (by omega)

/-- **the receiver of a tick phase's datagrams is fully up to date afterwards**: it had `d` of the
sender's `sub.length` chunks, everything from `d` on is still in the sender's queue, and it ends with `d'` -/
theorem PhaseSpec.caught_up {o o2 r r' : Online} {fls : List Flushed} {sub : List Bytes} {d d' : Nat}
    (hsp : PhaseSpec cfg o o2 fls) (hq : Tw.NetSim.QueueOk sub o.resendQueue) (hlen : o.resendQueue.length ≤ 512)
    (hwin : sub.length ≤ d + o.resendQueue.length) (hrl : RecvListRel cfg r fls r')
    (hr : r.ack = d % 1024) (hr' : r'.ack = d' % 1024) (h1 : d ≤ d') (h2 : d' ≤ sub.length) : d' = sub.length := by
  by_cases hne : o.resendQueue = []
  · rw [hne] at hwin
    exact Nat.le_antisymm h2 (Nat.le_trans hwin h1)
  · have hql := hq.length_le
    have hra := hrl.ack
    rw [hr, (receive_consecutive sub _ _ _ (consecutive_of_phase hsp hq hne) d false (by omega) (by omega)).1, hr',
      Nat.sub_add_cancel hql, Nat.max_eq_right (Nat.le_trans h1 h2)] at hra
    omega

theorem RoundV.stage1 {v vb v' : View} (R : RoundV cfg v vb v') (x : Bool) : VStage1 v' x := by
  obtain ⟨fls, hsp, hrl⟩ := R.phase x
  unfold VStage1
  rw [R.sub']
  exact hsp.caught_up (R.inv0.q x) (R.inv0.qlen x) (R.inv0.qwin x) hrl (by rw [R.invb.ack x, R.delb])
    (R.inv'.ack x) (R.mono (!x)) (by rw [← R.sub']; exact R.inv'.dle x)

theorem RoundV.queue_idle {v vb v' : View} (R : RoundV cfg v vb v') (x : Bool)
    (hq : (v.ep x).resendQueue = []) : (v'.ep x).resendQueue = [] ∧ (v'.ep x).packet.chunks = [] := by
  obtain ⟨fls, hsp, _⟩ := R.phase x
  obtain ⟨flsy, _, hrly⟩ := R.phase (!x)
  simp only [Bool.not_not] at hrly
  obtain ⟨a, b⟩ := hrly.idle (hsp.queue_nil hq)
  exact ⟨a, by rw [b]; exact hsp.pk⟩

theorem RoundV.stage2 {v vb v' : View} (R : RoundV cfg v vb v') (x : Bool) (h1 : VStage1 v x) :
    VStage2 v' x := by
  refine ⟨R.stage1 x, ?_⟩
  by_cases hq : (v.ep x).resendQueue = []
  · exact Or.inl (R.queue_idle x hq).1
  · right
    obtain ⟨fls, hsp, hrl⟩ := R.phase x
    obtain ⟨hv, pre, last, hfl, hlast⟩ := hsp.ne hq
    have hqv := queue_vitals (R.inv0.q x)
    have hackb : (vb.ep (!x)).ack = (v.del (!x)).length % 1024 := by
      have := R.invb.ack x; rw [R.delb] at this; exact this
    have hqlen := R.inv0.qlen x
    have hql := (R.inv0.q x).length_le
    unfold VStage1 at h1
    refine hrl.rr_set ?_ hfl hlast
    intro p hp c hcm sq r hvit
    have hm := mem_flVitals hp hcm hvit
    rw [hv, hqv, List.mem_map] at hm
    obtain ⟨k, hk, hke⟩ := hm
    rw [List.mem_range'_1] at hk
    injection hke with hke1 _
    rw [hackb, seqNext_eq, ← hke1, h1]
    omega

theorem RoundV.stage3 {v vb v' : View} (R : RoundV cfg v vb v') (x : Bool) (h2 : VStage2 v x) :
    VStage3 v' x := by
  refine ⟨R.stage1 x, ?_⟩
  by_cases hq : (v.ep x).resendQueue = []
  · exact R.queue_idle x hq
  · have hrr : (v.ep (!x)).requestResend = true := by
      rcases h2.2 with h | h
      · exact absurd h hq
      · exact h
    obtain ⟨fls, hsp, _⟩ := R.phase x
    obtain ⟨flsy, hspy, hrly⟩ := R.phase (!x)
    simp only [Bool.not_not] at hrly
    have hne := hspy.emit (Or.inr (Or.inr hrr))
    have hqb : (vb.ep x).resendQueue ≠ [] := by
      intro hh
      have := hsp.rqlen; rw [hh] at this
      exact hq (List.length_eq_zero_iff.mp this.symm)
    cases hflsy : flsy with
    | nil => exact absurd hflsy hne
    | cons p ps =>
      cases hqc : (vb.ep x).resendQueue with
      | nil => exact absurd hqc hqb
      | cons c rest =>
        have hcseq : c.seq = (v.sub x).length % 1024 := by
          rw [← R.subb]; exact Tw.NetSim.QueueOk.newest (hqc ▸ R.invb.q x)
        have hpack : p.ack = c.seq := by
          rw [hspy.acks p (by rw [hflsy]; simp), R.inv0.ack x, hcseq, h2.1]
        rw [hflsy] at hrly
        obtain ⟨a, b⟩ := hrly.acked hqc hpack
        exact ⟨a, by rw [b]; exact hsp.pk⟩

theorem RoundV.stage4 {v vb v' : View} (R : RoundV cfg v vb v') (x : Bool) (h3 : VStage3 v x) :
    VStage4 v' x := by
  obtain ⟨_, hq, hpk⟩ := h3
  refine ⟨⟨R.stage1 x, R.queue_idle x hq⟩, ?_⟩
  obtain ⟨fls, hsp, hrl⟩ := R.phase x
  obtain ⟨flsy, hspy, _⟩ := R.phase (!x)
  exact hrl.rr_false hspy.rr (hsp.no_vitals hq hpk)

theorem four_rounds {v0 b1 v1 b2 v2 b3 v3 b4 v4 : View} (R1 : RoundV cfg v0 b1 v1) (R2 : RoundV cfg v1 b2 v2)
    (R3 : RoundV cfg v2 b3 v3) (R4 : RoundV cfg v3 b4 v4) : v4.quiescent := by
  have st : ∀ x, VStage4 v4 x := fun x => R4.stage4 x (R3.stage3 x (R2.stage2 x (R1.stage1 x)))
  intro x
  obtain ⟨⟨h1, hq, hp⟩, _⟩ := st x
  refine ⟨?_, hq, hp, ?_⟩
  · have := R4.inv'.pre x
    unfold VStage1 at h1
    rw [this, h1, List.take_length]
  · have := (st (!x)).2
    simpa using this

end Tw.Conn
