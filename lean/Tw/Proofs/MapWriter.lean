import Tw.Model.MapWriter
import Tw.Proofs.Map
import Tw.Proofs.DatafileWriter

/-! Map writer side: what the reader's `from_raw` functions return on the words the map writer
emits; the item list `mapItems` of a written map (its segments, their positions and type ranges);
what each accessor of the map reader returns on `mapReader`, the reader the written map parses to;
`string` and `SettingsIter` on NUL-terminated blocks. -/
namespace Tw.Map
open Tw.Datafile Tw.Gen.MapItems

theorem fromSliceRest_append {sp : Spec} {slice : List Int} (pre item : List Int) {rest : List Int}
    (hs : slice = pre ++ item ++ rest) (hpre : pre.length = sp.offset) (hitem : item.length = sp.len)
    (hv : sp.ignoreVersion = false → ∃ v0, slice.head? = some v0 ∧ sp.version ≤ v0) :
    fromSliceRest sp slice = .found item rest := by
  have hlen : slice.length = sp.offset + sp.len + rest.length := by
    rw [hs, List.length_append, List.length_append, hpre, hitem]
  rcases fromSliceRest_exact sp slice with ⟨_, ⟨hi, he⟩ | hl⟩ | ⟨v, _, hi, hh, hlt⟩ | ⟨_, h⟩
  · obtain ⟨v0, h0, _⟩ := hv hi
    rw [he] at h0; cases h0
  · omega
  · obtain ⟨v0, h0, hle⟩ := hv hi
    rw [hh] at h0; cases h0; omega
  · rw [h, hs, List.append_assoc, List.drop_left' hpre, List.take_left' hitem, ← hpre, ← hitem,
      ← List.length_append, ← List.append_assoc, List.drop_left]

theorem mandatory_append {sp : Spec} {slice : List Int} (pre item : List Int) {rest : List Int} {ts : String}
    (hs : slice = pre ++ item ++ rest) (hpre : pre.length = sp.offset) (hitem : item.length = sp.len)
    (hv : sp.ignoreVersion = false → ∃ v0, slice.head? = some v0 ∧ sp.version ≤ v0) :
    mandatory sp slice ts = .ok (item, rest) := by
  unfold mandatory
  rw [fromSliceRest_append pre item hs hpre hitem hv]

theorem optional_append {sp : Spec} {slice : List Int} (pre item : List Int) {rest : List Int} {ts : String}
    (hs : slice = pre ++ item ++ rest) (hpre : pre.length = sp.offset) (hitem : item.length = sp.len)
    (hv : sp.ignoreVersion = false → ∃ v0, slice.head? = some v0 ∧ sp.version ≤ v0) :
    optional sp slice ts = .ok (some item) := by
  unfold optional
  rw [fromSliceRest_append pre item hs hpre hitem hv]

theorem getIndex_written (n a b : Nat) (e : String) (h : a + n < b) :
    getIndex (n : Int) a b e = .ok (n + a) := by
  unfold getIndex getIndexImpl
  rw [if_neg (by omega), if_pos (by omega)]
  simp

/-- an optional index after the reader's range check: relative → absolute -/
def absIdx (o : Option Nat) (a : Nat) : Option Nat := o.map (· + a)

theorem getIndexOpt_written (o : Option Nat) (a b : Nat) (e : String)
    (h : ∀ n, o = some n → a + n < b) : getIndexOpt (optIdx o) a b e = .ok (absIdx o a) := by
  cases o with
  | none => simp [getIndexOpt, optIdx, absIdx]
  | some n =>
    have := h n rfl
    unfold getIndexOpt getIndexImpl optIdx
    simp only
    rw [if_neg (by omega), if_neg (by omega), if_pos (by omega)]
    simp [absIdx]

theorem Group.fromRaw_written (g : WGroup) (k s la lb : Nat) (h : la + s + g.numLayers ≤ lb) :
    Group.fromRaw (groupItem k g s).data la lb
      = .ok { offsetX := g.offsetX, offsetY := g.offsetY, parallaxX := g.parallaxX, parallaxY := g.parallaxY,
              layersStart := la + s, layersEnd := la + s + g.numLayers, clipping := g.clipping,
              name := nameGet (nameW g.name) } := by
  obtain ⟨ox, oy, px, py, clip, name, n⟩ := g
  simp only at h
  cases clip with
  | none =>
    simp [groupItem, Group.fromRaw, mandatory, optional, fromSliceRest, MapItemGroupV1, MapItemGroupV2,
      MapItemGroupV3, w, nameW]
    -- what is left are the reader's range tests, none of which fires
    repeat rw [if_neg (by omega)]
  | some c =>
    obtain ⟨x, y, ww, hh⟩ := c
    simp [groupItem, Group.fromRaw, mandatory, optional, fromSliceRest, MapItemGroupV1, MapItemGroupV2,
      MapItemGroupV3, w, nameW]
    repeat rw [if_neg (by omega)]

theorem Image.fromRaw_written (im : WImage) (k nd : Nat) (hn : im.name < nd)
    (hd : ∀ d, im.data = some d → d < nd) :
    Image.fromRaw (imageItem k im).data 0 nd
      = .ok { width := im.width, height := im.height, name := im.name, data := im.data } := by
  obtain ⟨wd, ht, name, data⟩ := im
  simp only at hn hd
  cases data with
  | none =>
    simp [imageItem, Image.fromRaw, mandatory, fromSliceRest, MapItemImageV1, w, imageData, optIdx]
    rw [getIndex_written name 0 nd _ (by omega)]
    simp
    repeat rw [if_neg (by omega)]
  | some d =>
    have := hd d rfl
    simp [imageItem, Image.fromRaw, mandatory, fromSliceRest, MapItemImageV1, w, imageData, optIdx]
    rw [getIndex_written d 0 nd _ (by omega), getIndex_written name 0 nd _ (by omega)]
    simp
    repeat rw [if_neg (by omega)]

theorem Info.fromRaw_written (i : WInfo) (nd : Nat)
    (h : ∀ o ∈ [i.author, i.version, i.credits, i.license, i.settings], ∀ n, o = some n → n < nd) :
    Info.fromRaw (infoItem i).data 0 nd
      = .ok { author := i.author, version := i.version, credits := i.credits, license := i.license,
              settings := i.settings } := by
  obtain ⟨a, v, c, l, s⟩ := i
  simp only [List.mem_cons, List.mem_nil_iff, or_false] at h
  have e : ∀ o : Option Nat, absIdx o 0 = o := by intro o; cases o <;> simp [absIdx]
  simp [infoItem, Info.fromRaw, mandatory, fromSliceRest, MapItemInfoV1, MapItemInfoV2, w, infoSettings]
  rw [getIndexOpt_written a 0 nd _ (fun n hn => by have := h a (Or.inl rfl) n hn; omega),
    getIndexOpt_written v 0 nd _ (fun n hn => by have := h v (Or.inr (Or.inl rfl)) n hn; omega),
    getIndexOpt_written c 0 nd _ (fun n hn => by have := h c (Or.inr (Or.inr (Or.inl rfl))) n hn; omega),
    getIndexOpt_written l 0 nd _ (fun n hn => by have := h l (Or.inr (Or.inr (Or.inr (Or.inl rfl)))) n hn; omega),
    getIndexOpt_written s 0 nd _ (fun n hn => by have := h s (Or.inr (Or.inr (Or.inr (Or.inr rfl)))) n hn; omega)]
  simp [e]

theorem Quads.fromRaw_written (q : WQuads) (nd ia ib : Nat) (hd : q.data < nd)
    (hi : ∀ n, q.image = some n → ia + n < ib) :
    Quads.fromRaw (layerRest (.quads q)) 0 nd ia ib
      = .ok { numQuads := q.numQuads, data := q.data, image := absIdx q.image ia,
              name := nameGet (nameW q.name) } := by
  obtain ⟨nq, data, image, name⟩ := q
  simp only at hd hi
  simp [layerRest, Quads.fromRaw, mandatory, optional, fromSliceRest, MapItemLayerV1QuadsV1,
    MapItemLayerV1QuadsV2, w, nameW]
  rw [getIndex_written data 0 nd _ (by omega), getIndexOpt_written image ia ib _ hi]
  simp
  repeat rw [if_neg (by omega)]

theorem Sounds.fromRaw_written (x : WSounds) (nd sa sb : Nat) (hd : x.data < nd)
    (hs : ∀ n, x.sound = some n → sa + n < sb) :
    Sounds.fromRaw (layerRest (.sounds x)) 0 nd sa sb false
      = .ok { numSources := x.numSources, data := x.data, sound := absIdx x.sound sa, legacy := false,
              name := nameGet (nameW x.name) } := by
  obtain ⟨ns, data, sound, name⟩ := x
  simp only at hd hs
  simp [layerRest, Sounds.fromRaw, mandatory, soundsV2Gate, fromSliceRest, MapItemLayerV1DdraceSoundsV1,
    MapItemLayerV1DdraceSoundsV2, w, nameW]
  rw [getIndex_written data 0 nd _ (by omega), getIndexOpt_written sound sa sb _ hs]
  simp
  repeat rw [if_neg (by omega)]

def WTileKind.read (k : WTileKind) (color : Nat × Nat × Nat × Nat) (env : Option (Nat × Int))
    (image : Option Nat) (data : Nat) : TilemapType :=
  match k with
  | .normal => .normal color env image data
  | .game => .game data
  | .teleport d => .teleport d data
  | .speedup d => .speedup d data
  | .front d => .front d data
  | .switch d => .switch d data
  | .tune d => .tune d data

def WTileKind.extraData : WTileKind → Option Nat
  | .teleport d | .speedup d | .front d | .switch d | .tune d => some d
  | _ => none

structure WTilemap.Ok (t : WTilemap) (nd ea eb ia ib : Nat) : Prop where
  width : 0 < t.width ∧ t.width ≤ 2147483647
  height : 0 < t.height ∧ t.height ≤ 2147483647
  color : t.color.1 ≤ 255 ∧ t.color.2.1 ≤ 255 ∧ t.color.2.2.1 ≤ 255 ∧ t.color.2.2.2 ≤ 255
  env : ∀ e o, t.colorEnv = some (e, o) → ea + e < eb
  image : ∀ n, t.image = some n → ia + n < ib
  data : t.data < nd
  extra : ∀ d, t.kind.extraData = some d → d < nd

/-- the eleven words of `MapItemLayerV1TilemapV2` as the writer emits them -/
def WTilemap.v2 (t : WTilemap) : List Int :=
  [(t.width : Int), (t.height : Int), (t.kind.flags : Int), (t.color.1 : Int), (t.color.2.1 : Int),
   (t.color.2.2.1 : Int), (t.color.2.2.2 : Int),
   (match t.colorEnv with | some (e, _) => (e : Int) | none => -1),
   (match t.colorEnv with | some (_, o) => o | none => 0), optIdx t.image, (t.data : Int)]

theorem tryU8_nat {n : Nat} (h : n ≤ 255) : tryU8 (n : Int) = some n := by
  unfold tryU8
  rw [if_pos (by omega)]
  rfl

theorem tilemapColor_written {v2 : List Int} {c : Nat × Nat × Nat × Nat} (h3 : w v2 3 = c.1)
    (h4 : w v2 4 = c.2.1) (h5 : w v2 5 = c.2.2.1) (h6 : w v2 6 = c.2.2.2)
    (hc : c.1 ≤ 255 ∧ c.2.1 ≤ 255 ∧ c.2.2.1 ≤ 255 ∧ c.2.2.2 ≤ 255) : tilemapColor v2 = .ok c := by
  unfold tilemapColor
  rw [h3, h4, h5, h6, tryU8_nat hc.1, tryU8_nat hc.2.1, tryU8_nat hc.2.2.1, tryU8_nat hc.2.2.2]

-- `(generalizing := false)` in `h8`: the match would otherwise abstract `h7` too, whose type mentions `env`
theorem tilemapColorEnv_written {v2 : List Int} (env : Option (Nat × Int)) {ea eb : Nat}
    (h7 : w v2 7 = match env with | some (e, _) => (e : Int) | none => -1)
    (h8 : w v2 8 = match (generalizing := false) env with | some (_, o) => o | none => 0)
    (he : ∀ e o, env = some (e, o) → ea + e < eb) :
    tilemapColorEnv v2 ea eb = .ok (env.map fun p => (p.1 + ea, p.2)) := by
  unfold tilemapColorEnv
  rw [h7, h8]
  cases env with
  | none => rfl
  | some p =>
    dsimp only
    rw [if_neg (by omega), getIndex_written p.1 ea eb _ (he p.1 p.2 rfl)]
    rfl

theorem tilemapDims_written {v2 : List Int} {wd ht : Nat} (h0 : w v2 0 = wd) (h1 : w v2 1 = ht)
    (hw : 0 < wd) (hh : 0 < ht) : tilemapDims v2 = .ok (wd, ht) := by
  unfold tilemapDims
  rw [h0, h1, if_neg (by omega), if_neg (by omega), if_neg (by omega), if_neg (by omega)]
  rfl

/-- the extra data word of a race/ddrace tile layer sits in the five words after the version-3 item -/
theorem extraIndex_written {kind : WTileKind} {pre : List Int} (hpre : pre.length = 15) {d nd : Nat}
    (hk : kind.extraData = some d) (hd : d < nd) (a b : String) :
    extraIndex (pre ++ kind.extra) 3 kind.flags 0 nd a b = .ok d := by
  cases kind <;> cases hk <;>
    simp [extraIndex, extraRace, WTileKind.flags, WTileKind.extra, hpre, MapItemLayerV1TilemapV3,
      TILELAYERFLAG_TELEPORT, TILELAYERFLAG_SPEEDUP, TILELAYERFLAG_FRONT, TILELAYERFLAG_SWITCH,
      TILELAYERFLAG_TUNE, getIndex_written d 0 nd b (by omega)]

theorem tilemapType_written (kind : WTileKind) {pre : List Int} (hpre : pre.length = 15) {nd : Nat}
    (hx : ∀ d, kind.extraData = some d → d < nd) (ff : Int) (color : Nat × Nat × Nat × Nat)
    (env : Option (Nat × Int)) (image : Option Nat) (data : Nat) :
    tilemapType (pre ++ kind.extra) 3 kind.flags ff color env image data 0 nd
      = .ok (kind.read color env image data) := by
  unfold tilemapType
  cases hk : kind.extraData with
  | none => cases kind <;> cases hk <;> rfl
  | some d =>
    simp only [extraIndex_written hpre hk (hx d hk)]
    cases kind <;> cases hk <;> rfl

theorem Tilemap.fromRaw_written (t : WTilemap) (nd ea eb ia ib : Nat) (ok : t.Ok nd ea eb ia ib) :
    Tilemap.fromRaw (layerRest (.tilemap t)) 0 nd ea eb ia ib
      = .ok { width := t.width, height := t.height,
              type := t.kind.read t.color (t.colorEnv.map fun p => (p.1 + ea, p.2)) (absIdx t.image ia) t.data,
              name := nameGet (nameW t.name) } := by
  have h0 : mandatory MapItemLayerV1CommonV0 (layerRest (.tilemap t)) "TooShort"
      = .ok ([3], t.v2 ++ (nameW t.name ++ t.kind.extra)) := mandatory_append [] [3] rfl rfl rfl nofun
  have h2 : mandatory MapItemLayerV1TilemapV2 (layerRest (.tilemap t)) "TooShortV2"
      = .ok (t.v2, nameW t.name ++ t.kind.extra) :=
    mandatory_append [3] t.v2 rfl rfl rfl fun _ => ⟨3, rfl, by decide⟩
  have h3 : optional MapItemLayerV1TilemapV3 (layerRest (.tilemap t)) "TooShortV3" = .ok (some (nameW t.name)) :=
    optional_append ([3] ++ t.v2) (nameW t.name) (rest := t.kind.extra) rfl rfl rfl fun _ => ⟨3, rfl, by decide⟩
  have hfl : asU32 (t.kind.flags : Int) = t.kind.flags := by cases t.kind <;> rfl
  unfold Tilemap.fromRaw
  rw [h0, h2, h3]
  dsimp only
  rw [tilemapColor_written (c := t.color) rfl rfl rfl rfl ok.color,
    tilemapColorEnv_written t.colorEnv rfl rfl ok.env]
  dsimp only
  rw [show w t.v2 9 = optIdx t.image from rfl, getIndexOpt_written t.image ia ib _ ok.image,
    show w t.v2 10 = (t.data : Int) from rfl, getIndex_written t.data 0 nd _ (by have := ok.data; omega)]
  dsimp only
  rw [show w t.v2 2 = (t.kind.flags : Int) from rfl, hfl,
    show layerRest (.tilemap t) = [3] ++ t.v2 ++ nameW t.name ++ t.kind.extra from rfl,
    show w [3] 0 = 3 from rfl, tilemapType_written t.kind rfl ok.extra]
  dsimp only
  rw [tilemapDims_written (wd := t.width) (ht := t.height) rfl rfl ok.width.1 ok.height.1]
  rfl

def WLayer.Ok (l : WLayer) (nd ea eb ia ib sa sb : Nat) : Prop :=
  match l.kind with
  | .tilemap t => t.Ok nd ea eb ia ib
  | .quads q => q.data < nd ∧ ∀ n, q.image = some n → ia + n < ib
  | .sounds s => s.data < nd ∧ ∀ n, s.sound = some n → sa + n < sb

/-- The writer stores envelope, image and sound indices relative to their type; `layer` returns item
indices, so the first item of each type (`ea`, `ia`, `sa`) is added. -/
def WLayer.read (l : WLayer) (ea ia sa : Nat) : Layer :=
  { detail := l.detail
    t := match l.kind with
      | .tilemap t => .tilemap
          { width := t.width, height := t.height,
            type := t.kind.read t.color (t.colorEnv.map fun p => (p.1 + ea, p.2)) (absIdx t.image ia) t.data,
            name := nameGet (nameW t.name) }
      | .quads q => .quads { numQuads := q.numQuads, data := q.data, image := absIdx q.image ia,
                             name := nameGet (nameW q.name) }
      | .sounds s => .sounds { numSources := s.numSources, data := s.data, sound := absIdx s.sound sa,
                               legacy := false, name := nameGet (nameW s.name) } }

theorem Layer.fromRaw_written (l : WLayer) (k nd ea eb ia ib sa sb : Nat)
    (ok : l.Ok nd ea eb ia ib sa sb) :
    Layer.fromRaw (layerItem k l).data 0 nd ea eb ia ib sa sb = .ok (l.read ea ia sa) := by
  obtain ⟨detail, kind⟩ := l
  have hslice : ∀ (ty : Int) (df : Int) (rest : List Int),
      fromSliceRest MapItemLayerV1 ([0, ty, df] ++ rest) = .found [ty, df] rest := by
    intro ty df rest
    simp [fromSliceRest, MapItemLayerV1]
    repeat rw [if_neg (by omega)]
  unfold Layer.fromRaw layerItem
  simp only [hslice]
  have hfl : ∀ b : Bool, Nat.land (asU32 (w [layerType kind, if b = true then 1 else 0] 1)) (4294967295 - LAYERFLAGS_ALL) = 0
      ∧ decide (Nat.land (asU32 (w [layerType kind, if b = true then 1 else 0] 1)) LAYERFLAG_DETAIL ≠ 0) = b := by
    intro b; cases b <;> simp [w, asU32, LAYERFLAGS_ALL, LAYERFLAG_DETAIL] <;> decide
  rw [if_neg (by rw [(hfl detail).1]; simp), (hfl detail).2]
  unfold WLayer.Ok at ok
  cases kind with
  | tilemap t =>
    simp only at ok
    simp [layerDispatch, layerType, w, MAP_ITEMTYPE_LAYER_V1_TILEMAP, Tilemap.fromRaw_written t nd ea eb ia ib ok,
      wrapErr, WLayer.read]
  | quads q =>
    simp only at ok
    simp [layerDispatch, layerType, w, MAP_ITEMTYPE_LAYER_V1_TILEMAP, MAP_ITEMTYPE_LAYER_V1_QUADS,
      Quads.fromRaw_written q nd ia ib ok.1 ok.2, wrapErr, WLayer.read]
  | sounds x =>
    simp only at ok
    simp [layerDispatch, layerType, w, MAP_ITEMTYPE_LAYER_V1_TILEMAP, MAP_ITEMTYPE_LAYER_V1_QUADS,
      MAP_ITEMTYPE_LAYER_V1_DDRACE_SOUNDS, MAP_ITEMTYPE_LAYER_V1_DDRACE_SOUNDS_LEGACY,
      Sounds.fromRaw_written x nd sa sb ok.1 ok.2, wrapErr, WLayer.read]

theorem enumFrom_length {α : Type} : ∀ (xs : List α) (k : Nat), (enumFrom k xs).length = xs.length
  | [], _ => rfl
  | x :: xs, k => by simp [enumFrom, enumFrom_length xs]

theorem enumFrom_getElem? {α : Type} : ∀ (xs : List α) (k i : Nat),
    (enumFrom k xs)[i]? = xs[i]?.map (fun x => (k + i, x))
  | [], _, _ => by simp [enumFrom]
  | x :: xs, k, 0 => by simp [enumFrom]
  | x :: xs, k, i + 1 => by
    simp only [enumFrom, List.getElem?_cons_succ, enumFrom_getElem? xs (k + 1) i]
    cases xs[i]? <;> simp <;> omega

theorem enumFrom_mem {α : Type} : ∀ (xs : List α) (k : Nat) (p : Nat × α), p ∈ enumFrom k xs →
    k ≤ p.1 ∧ p.1 < k + xs.length ∧ p.2 ∈ xs
  | [], _, _, h => by simp [enumFrom] at h
  | x :: xs, k, p, h => by
    simp only [enumFrom, List.mem_cons] at h
    rcases h with rfl | h
    · simp
    · have := enumFrom_mem xs (k + 1) p h
      exact ⟨by omega, by simp only [List.length_cons]; omega, List.mem_cons_of_mem _ this.2.2⟩

def imageSeg (m : WMap) : List Item := (enumFrom 0 m.images).map (fun p => imageItem p.1 p.2)
def envSeg (m : WMap) : List Item := (List.range m.numEnvelopes).map envelopeItem
def groupSeg (m : WMap) : List Item :=
  (enumFrom 0 (m.groups.zip (groupStarts 0 m.groups))).map (fun p => groupItem p.1 p.2.1 p.2.2)
def layerSeg (m : WMap) : List Item := (enumFrom 0 m.layers).map (fun p => layerItem p.1 p.2)
def soundSeg (m : WMap) : List Item := (List.range m.numSounds).map soundItem

/-- one segment per item type, in type order -/
theorem mapItems_eq (m : WMap) :
    mapItems m = [versionItem] ++ [infoItem m.info] ++ imageSeg m ++ envSeg m ++ groupSeg m ++ layerSeg m
      ++ soundSeg m := rfl

theorem groupStarts_length : ∀ (gs : List WGroup) (s : Nat), (groupStarts s gs).length = gs.length
  | [], _ => rfl
  | g :: gs, s => by simp [groupStarts, groupStarts_length gs]

theorem imageSeg_length (m : WMap) : (imageSeg m).length = m.images.length := by
  simp [imageSeg, enumFrom_length]
theorem envSeg_length (m : WMap) : (envSeg m).length = m.numEnvelopes := by simp [envSeg]
theorem groupSeg_length (m : WMap) : (groupSeg m).length = m.groups.length := by
  simp [groupSeg, enumFrom_length, groupStarts_length]
theorem layerSeg_length (m : WMap) : (layerSeg m).length = m.layers.length := by
  simp [layerSeg, enumFrom_length]
theorem soundSeg_length (m : WMap) : (soundSeg m).length = m.numSounds := by simp [soundSeg]

theorem imageSeg_type (m : WMap) : ∀ it ∈ imageSeg m, it.typeId = MAP_ITEMTYPE_IMAGE :=
  List.forall_mem_map.2 fun _ _ => rfl
theorem envSeg_type (m : WMap) : ∀ it ∈ envSeg m, it.typeId = MAP_ITEMTYPE_ENVELOPE :=
  List.forall_mem_map.2 fun _ _ => rfl
theorem groupSeg_type (m : WMap) : ∀ it ∈ groupSeg m, it.typeId = MAP_ITEMTYPE_GROUP :=
  List.forall_mem_map.2 fun _ _ => rfl
theorem layerSeg_type (m : WMap) : ∀ it ∈ layerSeg m, it.typeId = MAP_ITEMTYPE_LAYER :=
  List.forall_mem_map.2 fun _ _ => rfl
theorem soundSeg_type (m : WMap) : ∀ it ∈ soundSeg m, it.typeId = MAP_ITEMTYPE_DDRACE_SOUND :=
  List.forall_mem_map.2 fun _ _ => rfl

theorem headSeg_type0 : ∀ it ∈ [versionItem], it.typeId = 0 := by
  intro it h; simp at h; subst h; rfl
theorem headSeg_type1 (i : WInfo) : ∀ it ∈ [infoItem i], it.typeId = 1 := by
  intro it h; simp at h; subst h; rfl

theorem mapItems_countP_lt (m : WMap) (t : Nat) :
    (mapItems m).countP (·.typeId < t)
      = (if 0 < t then 1 else 0) + (if 1 < t then 1 else 0) + (if 2 < t then m.images.length else 0)
        + (if 3 < t then m.numEnvelopes else 0) + (if 4 < t then m.groups.length else 0)
        + (if 5 < t then m.layers.length else 0) + (if 7 < t then m.numSounds else 0) := by
  rw [mapItems_eq]
  simp only [List.countP_append, countP_lt_const headSeg_type0, countP_lt_const (headSeg_type1 m.info),
    countP_lt_const (imageSeg_type m), countP_lt_const (envSeg_type m), countP_lt_const (groupSeg_type m),
    countP_lt_const (layerSeg_type m), countP_lt_const (soundSeg_type m),
    imageSeg_length, envSeg_length, groupSeg_length, layerSeg_length, soundSeg_length,
    MAP_ITEMTYPE_IMAGE, MAP_ITEMTYPE_ENVELOPE, MAP_ITEMTYPE_GROUP, MAP_ITEMTYPE_LAYER,
    MAP_ITEMTYPE_DDRACE_SOUND, List.length_cons, List.length_nil]

theorem mapItems_countP_eq (m : WMap) (t : Nat) :
    (mapItems m).countP (·.typeId = t)
      = (if 0 = t then 1 else 0) + (if 1 = t then 1 else 0) + (if 2 = t then m.images.length else 0)
        + (if 3 = t then m.numEnvelopes else 0) + (if 4 = t then m.groups.length else 0)
        + (if 5 = t then m.layers.length else 0) + (if 7 = t then m.numSounds else 0) := by
  rw [mapItems_eq]
  simp only [List.countP_append, countP_eq_const headSeg_type0, countP_eq_const (headSeg_type1 m.info),
    countP_eq_const (imageSeg_type m), countP_eq_const (envSeg_type m), countP_eq_const (groupSeg_type m),
    countP_eq_const (layerSeg_type m), countP_eq_const (soundSeg_type m),
    imageSeg_length, envSeg_length, groupSeg_length, layerSeg_length, soundSeg_length,
    MAP_ITEMTYPE_IMAGE, MAP_ITEMTYPE_ENVELOPE, MAP_ITEMTYPE_GROUP, MAP_ITEMTYPE_LAYER,
    MAP_ITEMTYPE_DDRACE_SOUND, List.length_cons, List.length_nil]

/-- index in `mapItems m` of the first envelope, group, layer, sound item; `2`: the version and info items -/
def eBase (m : WMap) : Nat := 2 + m.images.length
def gBase (m : WMap) : Nat := 2 + m.images.length + m.numEnvelopes
def lBase (m : WMap) : Nat := 2 + m.images.length + m.numEnvelopes + m.groups.length
def sBase (m : WMap) : Nat := 2 + m.images.length + m.numEnvelopes + m.groups.length + m.layers.length

theorem mapItems_length (m : WMap) :
    (mapItems m).length = 2 + m.images.length + m.numEnvelopes + m.groups.length + m.layers.length
      + m.numSounds := by
  rw [mapItems_eq]
  simp only [List.length_append, imageSeg_length, envSeg_length, groupSeg_length, layerSeg_length,
    soundSeg_length, List.length_cons, List.length_nil]

theorem getElem?_append_mid {α : Type} (pre seg post : List α) {n i : Nat} (hn : pre.length = n)
    (hi : i < seg.length) : (pre ++ seg ++ post)[n + i]? = seg[i]? := by
  subst hn
  rw [List.getElem?_append_left (by rw [List.length_append]; omega), List.getElem?_append_right (by omega)]
  congr 1
  omega

theorem mapItems_head (m : WMap) :
    (mapItems m)[0]? = some versionItem ∧ (mapItems m)[1]? = some (infoItem m.info) := by
  rw [mapItems_eq]; simp

theorem mapItems_image (m : WMap) {i : Nat} (hi : i < m.images.length) :
    (mapItems m)[2 + i]? = some (imageItem i m.images[i]) := by
  rw [mapItems_eq, List.append_assoc (_ ++ imageSeg m), List.append_assoc (_ ++ imageSeg m),
    List.append_assoc (_ ++ imageSeg m), getElem?_append_mid _ _ _ (n := 2) rfl (by rw [imageSeg_length]; exact hi)]
  simp [imageSeg, enumFrom_getElem?, List.getElem?_eq_getElem hi]

theorem mapItems_layer (m : WMap) {i : Nat} (hi : i < m.layers.length) :
    (mapItems m)[lBase m + i]? = some (layerItem i m.layers[i]) := by
  have hlen : ([versionItem] ++ [infoItem m.info] ++ imageSeg m ++ envSeg m ++ groupSeg m).length = lBase m := by
    simp [imageSeg_length, envSeg_length, groupSeg_length, lBase]; omega
  rw [mapItems_eq, getElem?_append_mid _ _ _ hlen (by rw [layerSeg_length]; exact hi)]
  simp [layerSeg, enumFrom_getElem?, List.getElem?_eq_getElem hi]

def startOf (gs : List WGroup) (i : Nat) : Nat := ((gs.take i).map (·.numLayers)).sum

theorem groupStarts_getElem? : ∀ (gs : List WGroup) (s i : Nat), i < gs.length →
    (groupStarts s gs)[i]? = some (s + startOf gs i)
  | [], _, _, h => by simp at h
  | g :: gs, s, 0, _ => by simp [groupStarts, startOf]
  | g :: gs, s, i + 1, h => by
    simp only [groupStarts, List.getElem?_cons_succ]
    rw [groupStarts_getElem? gs (s + g.numLayers) i (by simpa using h)]
    simp [startOf]; omega

theorem mapItems_group (m : WMap) {i : Nat} (hi : i < m.groups.length) :
    (mapItems m)[gBase m + i]? = some (groupItem i m.groups[i] (startOf m.groups i)) := by
  have hlen : ([versionItem] ++ [infoItem m.info] ++ imageSeg m ++ envSeg m).length = gBase m := by
    simp [imageSeg_length, envSeg_length, gBase]; omega
  rw [mapItems_eq, List.append_assoc (_ ++ groupSeg m),
    getElem?_append_mid _ _ _ hlen (by rw [groupSeg_length]; exact hi)]
  simp only [groupSeg, List.getElem?_map, enumFrom_getElem?]
  have := groupStarts_getElem? m.groups 0 i hi
  simp [List.getElem?_eq_getElem hi, this, List.zip_eq_zipWith, List.getElem?_zipWith]

theorem pairwise_append_const {A B : List Item} {T T' : Nat}
    (hA : A.Pairwise (fun a b => a.typeId ≤ b.typeId)) (hmax : ∀ x ∈ A, x.typeId ≤ T)
    (hB : ∀ y ∈ B, y.typeId = T') (hle : T ≤ T') :
    (A ++ B).Pairwise (fun a b => a.typeId ≤ b.typeId) ∧ ∀ x ∈ A ++ B, x.typeId ≤ T' := by
  constructor
  · rw [List.pairwise_append]
    refine ⟨hA, ?_, ?_⟩
    · exact List.pairwise_of_forall_mem_list (fun a ha b hb => by rw [hB a ha, hB b hb]; exact Nat.le_refl _)
    · intro x hx y hy; rw [hB y hy]; exact Nat.le_trans (hmax x hx) hle
  · intro x hx
    rcases List.mem_append.1 hx with h | h
    · exact Nat.le_trans (hmax x h) hle
    · rw [hB x h]; exact Nat.le_refl _

theorem mapItems_sorted (m : WMap) : (mapItems m).Pairwise (fun a b => a.typeId ≤ b.typeId) := by
  rw [mapItems_eq]
  have h0 : ([versionItem] : List Item).Pairwise (fun a b => a.typeId ≤ b.typeId) := by simp
  have m0 : ∀ x ∈ [versionItem], x.typeId ≤ 0 := fun x hx => by rw [headSeg_type0 x hx]; exact Nat.le_refl _
  obtain ⟨h1, m1⟩ := pairwise_append_const h0 m0 (headSeg_type1 m.info) (by decide : 0 ≤ 1)
  obtain ⟨h2, m2⟩ := pairwise_append_const h1 m1 (imageSeg_type m) (by decide : 1 ≤ MAP_ITEMTYPE_IMAGE)
  obtain ⟨h3, m3⟩ := pairwise_append_const h2 m2 (envSeg_type m) (by decide : MAP_ITEMTYPE_IMAGE ≤ MAP_ITEMTYPE_ENVELOPE)
  obtain ⟨h4, m4⟩ := pairwise_append_const h3 m3 (groupSeg_type m) (by decide : MAP_ITEMTYPE_ENVELOPE ≤ MAP_ITEMTYPE_GROUP)
  obtain ⟨h5, m5⟩ := pairwise_append_const h4 m4 (layerSeg_type m) (by decide : MAP_ITEMTYPE_GROUP ≤ MAP_ITEMTYPE_LAYER)
  exact (pairwise_append_const h5 m5 (soundSeg_type m) (by decide : MAP_ITEMTYPE_LAYER ≤ MAP_ITEMTYPE_DDRACE_SOUND)).1

theorem mapItems_ids (m : WMap)
    (hc : m.images.length ≤ 65536 ∧ m.numEnvelopes ≤ 65536 ∧ m.groups.length ≤ 65536
      ∧ m.layers.length ≤ 65536 ∧ m.numSounds ≤ 65536) :
    ∀ it ∈ mapItems m, it.typeId < 65536 ∧ it.id < 65536 := by
  intro it hit
  rw [mapItems_eq] at hit
  simp only [List.mem_append, List.mem_cons, List.mem_nil_iff, or_false] at hit
  rcases hit with ((((h | h) | h) | h) | h) | h
  · rcases h with rfl | rfl <;> exact ⟨by show (_ : Nat) < 65536; simp [versionItem, infoItem, MAP_ITEMTYPE_VERSION, MAP_ITEMTYPE_INFO], by show (0 : Nat) < 65536; omega⟩
  · simp only [imageSeg, List.mem_map] at h
    obtain ⟨p, hp, rfl⟩ := h
    have := enumFrom_mem _ _ _ hp
    exact ⟨by simp [imageItem, MAP_ITEMTYPE_IMAGE], by simp only [imageItem]; omega⟩
  · simp only [envSeg, List.mem_map, List.mem_range] at h
    obtain ⟨k, hk, rfl⟩ := h
    exact ⟨by simp [envelopeItem, MAP_ITEMTYPE_ENVELOPE], by simp only [envelopeItem]; omega⟩
  · simp only [groupSeg, List.mem_map] at h
    obtain ⟨p, hp, rfl⟩ := h
    have := enumFrom_mem _ _ _ hp
    simp only [List.length_zip, groupStarts_length, Nat.min_self] at this
    exact ⟨by simp [groupItem, MAP_ITEMTYPE_GROUP], by simp only [groupItem]; omega⟩
  · simp only [layerSeg, List.mem_map] at h
    obtain ⟨p, hp, rfl⟩ := h
    have := enumFrom_mem _ _ _ hp
    exact ⟨by simp [layerItem, MAP_ITEMTYPE_LAYER], by simp only [layerItem]; omega⟩
  · simp only [soundSeg, List.mem_map, List.mem_range] at h
    obtain ⟨k, hk, rfl⟩ := h
    exact ⟨by simp [soundItem, MAP_ITEMTYPE_DDRACE_SOUND], by simp only [soundItem]; omega⟩

def imgRange (m : WMap) : Nat × Nat := rangeOf 2 m.images.length
def envRange (m : WMap) : Nat × Nat := rangeOf (eBase m) m.numEnvelopes
def grpRange (m : WMap) : Nat × Nat := rangeOf (gBase m) m.groups.length
def layRange (m : WMap) : Nat × Nat := rangeOf (lBase m) m.layers.length
def sndRange (m : WMap) : Nat × Nat := rangeOf (sBase m) m.numSounds

structure WMap.Ok (deflate : List UInt8 → List UInt8) (m : WMap) : Prop where
  counts : m.images.length ≤ 65536 ∧ m.numEnvelopes ≤ 65536 ∧ m.groups.length ≤ 65536
    ∧ m.layers.length ≤ 65536 ∧ m.numSounds ≤ 65536
  info : ∀ o ∈ [m.info.author, m.info.version, m.info.credits, m.info.license, m.info.settings],
    ∀ n, o = some n → n < m.datas.length
  images : ∀ im ∈ m.images, im.name < m.datas.length ∧ ∀ d, im.data = some d → d < m.datas.length
  groupLayers : ∀ i (h : i < m.groups.length), startOf m.groups i + m.groups[i].numLayers ≤ m.layers.length
  layers : ∀ l ∈ m.layers, l.Ok m.datas.length (envRange m).1 (envRange m).2 (imgRange m).1 (imgRange m).2
    (sndRange m).1 (sndRange m).2
  words : ∀ it ∈ mapItems m, ∀ w ∈ it.data, InI32 w
  total : (sizesOf 4 deflate (mapItems m) m.datas).total 4 ≤ 2147483647
  dataLen : ∀ d ∈ m.datas, d.length ≤ 2147483647

theorem WMap.Ok.writable {deflate : List UInt8 → List UInt8} {m : WMap} (ok : m.Ok deflate) :
    Writable 4 deflate (mapItems m) m.datas :=
  { version := Or.inr rfl, ids := mapItems_ids m ok.counts, words := ok.words, sorted := mapItems_sorted m,
    total := ok.total, dataLen := ok.dataLen }

def mapReader (deflate : List UInt8 → List UInt8) (m : WMap) : Reader :=
  writtenReader 4 deflate (mapItems m) m.datas

theorem typeRange_mapReader {deflate : List UInt8 → List UInt8} {m : WMap} (ok : m.Ok deflate) (t : Nat) :
    typeRange (mapReader deflate m) t
      = .ok (rangeOf ((mapItems m).countP (·.typeId < t)) ((mapItems m).countP (·.typeId = t))) := by
  unfold typeRange mapReader Reader.itemTypeIndices
  show liftDf (itemTypeIndicesIn (groupTypes (mapItems m) 0) t) = _
  rw [itemTypeIndicesIn_groupTypes t _ 0 (mapItems_sorted m) (fun it h => (mapItems_ids m ok.counts it h).1),
    Nat.zero_add]
  rfl

theorem imgRange_mapReader {deflate : List UInt8 → List UInt8} {m : WMap} (ok : m.Ok deflate) :
    typeRange (mapReader deflate m) MAP_ITEMTYPE_IMAGE = .ok (imgRange m) := by
  rw [typeRange_mapReader ok, mapItems_countP_lt, mapItems_countP_eq]
  simp [imgRange, MAP_ITEMTYPE_IMAGE]

theorem envRange_mapReader {deflate : List UInt8 → List UInt8} {m : WMap} (ok : m.Ok deflate) :
    typeRange (mapReader deflate m) MAP_ITEMTYPE_ENVELOPE = .ok (envRange m) := by
  rw [typeRange_mapReader ok, mapItems_countP_lt, mapItems_countP_eq]
  simp [envRange, eBase, MAP_ITEMTYPE_ENVELOPE]

theorem grpRange_mapReader {deflate : List UInt8 → List UInt8} {m : WMap} (ok : m.Ok deflate) :
    typeRange (mapReader deflate m) MAP_ITEMTYPE_GROUP = .ok (grpRange m) := by
  rw [typeRange_mapReader ok, mapItems_countP_lt, mapItems_countP_eq]
  simp [grpRange, gBase, MAP_ITEMTYPE_GROUP]

theorem layRange_mapReader {deflate : List UInt8 → List UInt8} {m : WMap} (ok : m.Ok deflate) :
    typeRange (mapReader deflate m) MAP_ITEMTYPE_LAYER = .ok (layRange m) := by
  rw [typeRange_mapReader ok, mapItems_countP_lt, mapItems_countP_eq]
  simp [layRange, lBase, MAP_ITEMTYPE_LAYER]

theorem sndRange_mapReader {deflate : List UInt8 → List UInt8} {m : WMap} (ok : m.Ok deflate) :
    typeRange (mapReader deflate m) MAP_ITEMTYPE_DDRACE_SOUND = .ok (sndRange m) := by
  rw [typeRange_mapReader ok, mapItems_countP_lt, mapItems_countP_eq]
  simp [sndRange, sBase, MAP_ITEMTYPE_DDRACE_SOUND]

theorem item_mapReader {deflate : List UInt8 → List UInt8} {m : WMap} (ok : m.Ok deflate)
    {k : Nat} {it : Item} (h : (mapItems m)[k]? = some it) :
    ∃ v, (mapReader deflate m).item k = .ok v ∧ v.typeId = it.typeId ∧ v.id = it.id ∧ v.data = it.data := by
  obtain ⟨hk, he⟩ := List.getElem?_eq_some_iff.1 h
  obtain ⟨v, h1, h2, h3, h4⟩ := writtenReader_item_view 4 deflate (mapItems m) m.datas (mapItems_ids m ok.counts) hk
  rw [he] at h2 h3 h4
  exact ⟨v, h1, h2, h3, h4⟩

theorem numData_mapReader (deflate : List UInt8 → List UInt8) (m : WMap) :
    numData (mapReader deflate m) = .ok m.datas.length := by
  unfold numData Reader.numDataU mapReader writtenReader
  simp only
  rw [if_neg (by omega)]
  simp [liftDf]

theorem group_mapReader {deflate : List UInt8 → List UInt8} {m : WMap} (ok : m.Ok deflate)
    {i : Nat} (hi : i < m.groups.length) :
    group (mapReader deflate m) (gBase m + i)
      = .ok { offsetX := m.groups[i].offsetX, offsetY := m.groups[i].offsetY,
              parallaxX := m.groups[i].parallaxX, parallaxY := m.groups[i].parallaxY,
              layersStart := (layRange m).1 + startOf m.groups i,
              layersEnd := (layRange m).1 + startOf m.groups i + m.groups[i].numLayers,
              clipping := m.groups[i].clipping, name := nameGet (nameW m.groups[i].name) } := by
  obtain ⟨v, hv, ht, _, hd⟩ := item_mapReader ok (mapItems_group m hi)
  have hle : (layRange m).1 + startOf m.groups i + m.groups[i].numLayers ≤ (layRange m).2 := by
    rw [Nat.add_assoc]; exact rangeOf_add_le (ok.groupLayers i hi)
  unfold group
  rw [liftDf_ok hv]
  dsimp only
  rw [if_neg (by rw [ht]; simp [groupItem]), layRange_mapReader ok]
  simp only
  rw [hd, Group.fromRaw_written _ _ _ _ _ hle]

theorem layer_mapReader {deflate : List UInt8 → List UInt8} {m : WMap} (ok : m.Ok deflate)
    {i : Nat} (hi : i < m.layers.length) :
    layer (mapReader deflate m) (lBase m + i)
      = .ok (m.layers[i].read (envRange m).1 (imgRange m).1 (sndRange m).1) := by
  obtain ⟨v, hv, ht, _, hd⟩ := item_mapReader ok (mapItems_layer m hi)
  unfold layer
  rw [liftDf_ok hv]
  dsimp only
  rw [if_neg (by rw [ht]; simp [layerItem]), numData_mapReader, envRange_mapReader ok, imgRange_mapReader ok, sndRange_mapReader ok]
  simp only
  rw [hd, Layer.fromRaw_written _ _ _ _ _ _ _ _ _ (ok.layers _ (List.getElem_mem hi))]

theorem image_mapReader {deflate : List UInt8 → List UInt8} {m : WMap} (ok : m.Ok deflate)
    {i : Nat} (hi : i < m.images.length) :
    image (mapReader deflate m) (2 + i)
      = .ok { width := m.images[i].width, height := m.images[i].height, name := m.images[i].name,
              data := m.images[i].data } := by
  obtain ⟨v, hv, _, _, hd⟩ := item_mapReader ok (mapItems_image m hi)
  have hok := ok.images _ (List.getElem_mem hi)
  unfold image
  rw [liftDf_ok hv]
  dsimp only
  rw [numData_mapReader]
  simp only
  rw [hd, Image.fromRaw_written _ _ _ hok.1 hok.2]

theorem findItem_mapReader {deflate : List UInt8 → List UInt8} {m : WMap} (ok : m.Ok deflate)
    {t k : Nat} {it : Item} (hr : typeRange (mapReader deflate m) t = .ok (k, k + 1))
    (h : (mapItems m)[k]? = some it) (hid : it.id = 0) :
    ∃ v, (mapReader deflate m).findItem t 0 = .ok (some v) ∧ v.data = it.data := by
  obtain ⟨v, hv, _, hvid, hd⟩ := item_mapReader ok h
  exact ⟨v, findItem_first (itemTypeIndices_of_typeRange hr) (Nat.lt_succ_self k) hv (by rw [hvid, hid]), hd⟩

theorem version_mapReader {deflate : List UInt8 → List UInt8} {m : WMap} (ok : m.Ok deflate) :
    version (mapReader deflate m) = .ok 1 := by
  have hr : typeRange (mapReader deflate m) MAP_ITEMTYPE_VERSION = .ok (0, 0 + 1) := by
    rw [typeRange_mapReader ok, mapItems_countP_lt, mapItems_countP_eq]
    simp [MAP_ITEMTYPE_VERSION, rangeOf]
  obtain ⟨v, hf, hd⟩ := findItem_mapReader ok hr (mapItems_head m).1 rfl
  unfold version
  rw [liftDf_ok hf]
  dsimp only
  rw [hd]
  simp [versionItem, fromSliceRest, MapItemCommonV0, w]

theorem info_mapReader {deflate : List UInt8 → List UInt8} {m : WMap} (ok : m.Ok deflate) :
    info (mapReader deflate m)
      = .ok { author := m.info.author, version := m.info.version, credits := m.info.credits,
              license := m.info.license, settings := m.info.settings } := by
  have hr : typeRange (mapReader deflate m) MAP_ITEMTYPE_INFO = .ok (1, 1 + 1) := by
    rw [typeRange_mapReader ok, mapItems_countP_lt, mapItems_countP_eq]
    simp [MAP_ITEMTYPE_INFO, rangeOf]
  obtain ⟨v, hf, hd⟩ := findItem_mapReader ok hr (mapItems_head m).2 rfl
  unfold info
  rw [liftDf_ok hf]
  dsimp only
  rw [numData_mapReader]
  simp only
  rw [hd, Info.fromRaw_written _ _ ok.info]
  rfl

theorem string_of_data {r : Reader} {z : Zlib} {d : Nat} {s : List UInt8}
    (h : Tw.Map.readData r z d = .ok (s ++ [0])) (hs : ∀ b ∈ s, b ≠ 0) : Tw.Map.string r z d = .ok s := by
  unfold Tw.Map.string
  rw [h]
  simp only [List.getLast?_append, List.getLast?_singleton, Option.some_or]
  have : (s ++ [0]).take ((s ++ [0]).length - 1) = s := by simp
  simp only [this]
  rw [if_neg]
  simp only [List.any_eq_true, not_exists, not_and]
  intro b hb; have := hs b hb; simpa using this

theorem settingsAll_join : ∀ (ss : List (List UInt8)), (∀ s ∈ ss, ∀ b ∈ s, b ≠ 0) →
    ∀ (pre : List UInt8) (fuel : Nat), ss.length + 1 ≤ fuel →
      settingsAll (pre ++ (ss.map (· ++ [0])).flatten) fuel pre.length = some (.ok ss) := by
  intro ss
  induction ss with
  | nil =>
    intro _ pre fuel hf
    cases fuel with
    | zero => omega
    | succ fuel =>
      simp [settingsAll, settingsNext]
  | cons s ss ih =>
    intro hz pre fuel hf
    cases fuel with
    | zero => simp at hf
    | succ fuel =>
      have hs := hz s (List.mem_cons_self ..)
      have hidx : ((s ++ [0]) ++ (ss.map (· ++ [0])).flatten).idxOf? 0 = some s.length := by
        rw [List.idxOf?_eq_some_iff]
        refine ⟨by simp, by simp, ?_⟩
        intro j hj
        have : j < s.length := hj
        simp only [List.append_assoc, List.getElem_append_left this]
        exact hs _ (List.getElem_mem this)
      simp only [settingsAll, settingsNext, List.map_cons, List.flatten_cons, List.drop_left' rfl]
      rw [if_neg (by simp)]
      rw [hidx]
      simp only
      have hpre : pre ++ ((s ++ [0]) ++ (ss.map (· ++ [0])).flatten)
          = (pre ++ (s ++ [0])) ++ (ss.map (· ++ [0])).flatten := by simp
      have hlen : pre.length + s.length + 1 = (pre ++ (s ++ [0])).length := by simp; omega
      rw [hpre, hlen, ih (fun s' h' => hz s' (List.mem_cons_of_mem _ h')) _ fuel (by simp at hf ⊢; omega)]
      simp

end Tw.Map
