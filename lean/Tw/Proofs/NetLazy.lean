import Tw.Model.NetRef

/-! C20: results consumed lazily (`ReceivePacket` dropped half-way, `Tick` not polled) change only what the application
sees: a partly consumed call is compared with the drained one, and then whole histories (same final state and
datagrams, the pulled events a sub-sequence). -/
namespace Tw.Net
open Tw.Conn
open Tw.Conn6 (Env Packet)

theorem stepLazy_feed {env : Env} {net net' : Net} {a : Nat} {rd : Option Bool → Option Packet} {k : Nat}
    {r : Ret} {o' : Out} (h : stepLazy env net (.feed a rd) (some k) = .ok (net', r, o')) :
    ∃ o, step env net (.feed a rd) = .ok (net', r, o) ∧ o'.sent = o.sent ∧ o'.warns = o.warns ∧
      o'.events = o.events.take k := by
  simp only [stepLazy] at h
  cases hs : step env net (.feed a rd) with
  | error f => simp [hs] at h
  | ok v =>
    obtain ⟨n, r0, o⟩ := v
    simp only [hs, Except.ok.injEq, Prod.mk.injEq] at h
    obtain ⟨rfl, rfl, rfl⟩ := h
    exact ⟨o, rfl, rfl, rfl, rfl⟩

/-- `lh` is any rest of the history: whether `drainedHist` drops the entry or keeps it is said as an
equation between two drained histories, the form `runLazy_drained` rewrites with. -/
theorem stepLazy_ok {env : Env} {net net1 : Net} {op : Op} {pull : Option Nat} {r : Ret} {o' : Out}
    (lh : LHistory) (h : stepLazy env net op pull = .ok (net1, r, o')) :
    (drainedHist ((env, op, pull) :: lh) = drainedHist lh ∧ net1 = net ∧ o' = {}) ∨
      (drainedHist ((env, op, pull) :: lh) = (env, op) :: drainedHist lh ∧
        ∃ o, step env net op = .ok (net1, r, o) ∧ o'.sent = o.sent ∧ o'.warns = o.warns ∧
          ∃ k, o'.events = o.events.take k) := by
  have plain : step env net op = .ok (net1, r, o') →
      ∃ o, step env net op = .ok (net1, r, o) ∧ o'.sent = o.sent ∧ o'.warns = o.warns ∧
        ∃ k, o'.events = o.events.take k :=
    fun h => ⟨o', h, rfl, rfl, o'.events.length, List.take_length.symm⟩
  cases op with
  | feed a rd =>
    cases pull with
    | none => exact .inr ⟨rfl, plain h⟩
    | some k =>
      obtain ⟨o, h1, h2, h3, h4⟩ := stepLazy_feed h
      exact .inr ⟨rfl, o, h1, h2, h3, k, h4⟩
  | tick =>
    cases pull with
    | none => exact .inr ⟨rfl, plain h⟩
    | some k =>
      cases k with
      | zero => cases h; exact .inl ⟨rfl, rfl, rfl⟩
      | succ k => exact .inr ⟨rfl, plain h⟩
  | _ => cases pull <;> exact .inr ⟨rfl, plain h⟩

theorem runLazy_drained (lh : LHistory) : ∀ (net net' : Net) (outs' : List (Ret × Out)),
    runLazy net lh = .ok (net', outs') →
    ∃ outs, run net (drainedHist lh) = .ok (net', outs) ∧ allSent outs' = allSent outs ∧
      allWarns outs' = allWarns outs ∧ (allEvents outs').Sublist (allEvents outs) := by
  induction lh with
  | nil =>
    intro net net' outs' h
    cases h
    exact ⟨[], rfl, rfl, rfl, .slnil⟩
  | cons x xs ih =>
    obtain ⟨env, op, pull⟩ := x
    intro net net' outs' h
    simp only [runLazy] at h
    cases hs : stepLazy env net op pull with
    | error f => simp [hs] at h
    | ok v =>
      obtain ⟨net1, r, o'⟩ := v
      simp only [hs] at h
      cases hrest : runLazy net1 xs with
      | error f => simp [hrest] at h
      | ok w =>
        obtain ⟨net2, outs2⟩ := w
        simp only [hrest, Except.ok.injEq, Prod.mk.injEq] at h
        obtain ⟨rfl, rfl⟩ := h
        obtain ⟨outs, hr, hsent, hwarn, hev⟩ := ih net1 net2 outs2 hrest
        rcases stepLazy_ok xs hs with ⟨hd, rfl, rfl⟩ | ⟨hd, o, hstep, hs1, hs2, k, hs3⟩
        · exact ⟨outs, by rw [hd]; exact hr, by simpa [allSent] using hsent, by simpa [allWarns] using hwarn,
            by simpa [allEvents] using hev⟩
        · refine ⟨(r, o) :: outs, by simp only [hd, run, hstep, hr], ?_, ?_, ?_⟩
          · simp only [allSent, List.flatMap_cons] at hsent ⊢; rw [hs1, hsent]
          · simp only [allWarns, List.flatMap_cons] at hwarn ⊢; rw [hs2, hwarn]
          · simp only [allEvents, List.flatMap_cons] at hev ⊢
            rw [hs3]
            exact List.Sublist.append (List.take_sublist k o.events) hev

end Tw.Net
