import Tw.Proofs.SnapExt

/-!
C13 / D25: along a chain of builders in which each one continues the previous snapshot
(`recycle`, what `Storage::new_builder` hands out since the repair of D25), the raw type number of a
UUID type never changes.  If the size of an item is determined by its type (as for every protocol
object), any two snapshots of the chain therefore have agreeing raw item sizes, and `Delta::create`
between them cannot panic.
-/
namespace Tw.Snap

/-- every non-registry item has the size the application fixed for its `(type, id)` -/
def Sized (size : TypeId → Nat → Nat) (s : Snap) : Prop :=
  ∀ p, p ∈ s.raw.items →
    (0 < keyType p.1 → keyType p.1 < offsetExt → p.2.length = size (.ordinal (keyType p.1)) (keyId p.1)) ∧
    (∀ u, mfind u s.ext = some (keyType p.1) → p.2.length = size (.uuid u) (keyId p.1))

/-- every UUID type of `a` has the same raw type number in `b`: what D25 broke and a `Chain` keeps -/
def ExtLe (a b : Snap) : Prop := ∀ u t, mfind u a.ext = some t → mfind u b.ext = some t

theorem sizesAgree_of_sized {size : TypeId → Nat → Nat} {a b : Builder} (ha : a.Inv) (hb : b.Inv)
    (hsa : Sized size a.snap) (hsb : Sized size b.snap) (hle : ExtLe a.snap b.snap) :
    SizesAgree a.snap.raw b.snap.raw := by
  intro p hp
  cases hf : mfind p.1 a.snap.raw.items with
  | none => rfl
  | some da =>
    have hmem : (p.1, da) ∈ a.snap.raw.items := mem_of_mfind hf
    simp only [lenAgree, beq_iff_eq]
    by_cases h0 : keyType p.1 = typeIdEx
    · obtain ⟨u, _, hda⟩ := ha.ok.reg_ext (p.1, da) hmem h0
      obtain ⟨u', _, hdb⟩ := hb.ok.reg_ext p hp h0
      simp only at hda
      rw [hda, hdb]; simp [uuidToData]
    · by_cases h1 : keyType p.1 < offsetExt
      · have hpos : 0 < keyType p.1 := by rw [typeIdEx_eq] at h0; omega
        rw [((hsa _ hmem).1 hpos h1), ((hsb p hp).1 hpos h1)]
      · rcases ha.types (p.1, da) hmem with h | ⟨u, hu⟩
        · exact (h1 h).elim
        · simp only at hu
          rw [(hsa _ hmem).2 u hu, (hsb p hp).2 u (hle u _ hu)]

theorem sized_minsert {size : TypeId → Nat → Nat} {m : Items} {ext : List (Int × Nat)} {k : Int}
    {d : List Int} (hs : Sized size ⟨⟨m⟩, ext⟩)
    (h1 : 0 < keyType k → keyType k < offsetExt → d.length = size (.ordinal (keyType k)) (keyId k))
    (h2 : ∀ u, mfind u ext = some (keyType k) → d.length = size (.uuid u) (keyId k)) :
    Sized size ⟨⟨minsert k d m⟩, ext⟩ := by
  intro p hp
  rcases mem_minsert hp with rfl | hp'
  · exact ⟨h1, h2⟩
  · exact hs p hp'

theorem sized_ext_insert {size : TypeId → Nat → Nat} {raw : RawSnap} {ext : List (Int × Nat)} {u : Int}
    {t : Nat} (hs : Sized size ⟨raw, ext⟩) (hfresh : ∀ p, p ∈ raw.items → keyType p.1 ≠ t) :
    Sized size ⟨raw, minsert u t ext⟩ := by
  intro p hp
  refine ⟨(hs p hp).1, ?_⟩
  intro u' hu'
  rcases mfind_minsert_eq_some hu' with ⟨_, e⟩ | ⟨_, hu'⟩
  · exact (hfresh p hp e).elim
  · exact (hs p hp).2 u' hu'

theorem extLe_refl (a : Snap) : ExtLe a a := fun _ _ h => h

theorem extLe_trans {a b c : Snap} (h1 : ExtLe a b) (h2 : ExtLe b c) : ExtLe a c :=
  fun u t h => h2 u t (h1 u t h)

theorem addRaw_sized {size : TypeId → Nat → Nat} {b : Builder} {tid : TypeId} {t id : Nat}
    {data : List Int} (hb : b.Inv) (hs : Sized size b.snap) (ht : b.RawType tid t) (hid : id < 65536)
    (hlen : data.length = size tid id) : Sized size (b.addRaw t id data).1.snap := by
  have h1 := offsetExt_eq
  unfold Builder.addRaw
  cases hadd : b.snap.raw.addItem (keyOf t id) data with
  | error e => exact hs
  | ok raw =>
    obtain ⟨hitems, _⟩ := RawSnap.addItem_eq hadd
    have ht' : t < 65536 := by
      cases tid with
      | ordinal o => have := ht.2.2; omega
      | uuid u => exact (hb.ok.ext_reg u t ht).2.1
    have : Sized size ⟨⟨minsert (keyOf t id) data b.snap.raw.items⟩, b.snap.ext⟩ := by
      apply sized_minsert (m := b.snap.raw.items) hs
      · rw [keyType_keyOf ht' hid, keyId_keyOf hid]
        intro _ hlt
        cases tid with
        | ordinal o => rw [← ht.1]; exact hlen
        | uuid u => have := (hb.ext_range u t ht).1; omega
      · rw [keyType_keyOf ht' hid, keyId_keyOf hid]
        intro u' hu'
        cases tid with
        | ordinal o => have := (hb.ext_range u' t hu').1; have := ht.2.2; omega
        | uuid u =>
          -- two UUIDs with the same number have the same registry item
          obtain ⟨a1, _, a2⟩ := hb.ok.ext_reg u' t hu'
          obtain ⟨a3, _, a4⟩ := hb.ok.ext_reg u t ht
          rw [a2] at a4
          rw [uuidToData_inj a1 a3 (Option.some.inj a4)]; exact hlen
    intro p hp
    simp only at hp
    rw [hitems] at hp
    exact this p hp

theorem registered_sized {size : TypeId → Nat → Nat} {b : Builder} {u : Int} {raw1 : RawSnap} (hb : b.Inv)
    (hs : Sized size b.snap) (hf : mfind u b.snap.ext = none) (hlt : b.nextTypeId < 32768)
    (ha : b.snap.raw.addItem (keyOf typeIdEx b.nextTypeId) (uuidToData u) = .ok raw1) :
    Sized size (b.registered u raw1).snap ∧ ExtLe b.snap (b.registered u raw1).snap := by
  have h0 := offsetExt_eq
  have hnr := hb.next_range
  obtain ⟨hitems1, _⟩ := RawSnap.addItem_eq ha
  have hfresh : ∀ p, p ∈ b.snap.raw.items → keyType p.1 ≠ b.nextTypeId := by
    intro p hp e
    rcases hb.types p hp with hlt | ⟨u', hu'⟩
    · omega
    · have := (hb.ext_range u' _ hu').2; omega
  have hk0 : keyType (keyOf typeIdEx b.nextTypeId) = typeIdEx :=
    keyType_keyOf (by rw [typeIdEx_eq]; omega) (by omega)
  have hs1 : Sized size ⟨⟨minsert (keyOf typeIdEx b.nextTypeId) (uuidToData u) b.snap.raw.items⟩,
      minsert u b.nextTypeId b.snap.ext⟩ := by
    apply sized_minsert (sized_ext_insert (raw := b.snap.raw) hs hfresh)
    · intro hpos _; rw [hk0, typeIdEx_eq] at hpos; omega
    · intro u' hu'
      rw [hk0, typeIdEx_eq] at hu'
      rcases mfind_minsert_eq_some hu' with ⟨_, e⟩ | ⟨_, hu'⟩
      · omega
      · have := (hb.ext_range u' 0 hu').1; omega
  refine ⟨fun p hp => hs1 p (by simp only [Builder.registered] at hp; rwa [hitems1] at hp), ?_⟩
  exact fun u' t' hu' => mfind_minsert_of_none hf hu'

theorem recycle_sized {size : TypeId → Nat → Nat} {b b' : Builder} (hb : b.Inv)
    (h : b.snap.recycle = some b') :
    b'.Inv ∧ Sized size b'.snap ∧ ExtLe b.snap b'.snap := by
  have hreg := recycle_items_reg hb.ok h
  obtain ⟨b'', h1, hinv, hext, _⟩ := Builder.recycle_inv hb
  rw [h] at h1
  injection h1 with h1
  subst h1
  refine ⟨hinv, ?_, fun u t hu => by rw [hext]; exact hu⟩
  intro p hp
  have h0 := hreg p hp
  rw [typeIdEx_eq] at h0
  refine ⟨fun hpos _ => by omega, ?_⟩
  intro u hu
  rw [h0] at hu
  have := (hinv.ext_range u 0 hu).1
  rw [offsetExt_eq] at this
  omega

/-- one step of the application: an item whose size is the size of its type, or continuing with
the recycled snapshot -/
inductive Step (size : TypeId → Nat → Nat) : Builder → Builder → Prop
  | add {b b' : Builder} {tid : TypeId} {id : Nat} {data : List Int} {r : Option BuilderError} :
      tid.Valid → id < 65536 → (∀ x ∈ data, I32 x) → data.length = size tid id →
      b.addItem tid id data = some (b', r) → Step size b b'
  | recycle {b b' : Builder} : b.snap.recycle = some b' → Step size b b'

inductive Chain (size : TypeId → Nat → Nat) : Builder → Builder → Prop
  | refl (b : Builder) : Chain size b b
  | tail {a b c : Builder} : Chain size a b → Step size b c → Chain size a c

theorem chain_inv {size : TypeId → Nat → Nat} {a b : Builder} (h : Chain size a b) (ha : a.Inv)
    (hs : Sized size a.snap) : b.Inv ∧ Sized size b.snap ∧ ExtLe a.snap b.snap := by
  induction h with
  | refl => exact ⟨ha, hs, extLe_refl _⟩
  | tail _ hstep ih =>
    obtain ⟨hbi, hbs, hle⟩ := ih
    cases hstep with
    | add htid hid hd hlen hadd =>
      refine Builder.addItem_keeps (P := fun c => c.Inv ∧ Sized size c.snap ∧ ExtLe a.snap c.snap) ?_ ?_
        ⟨hbi, hbs, hle⟩ hadd
      · intro c t ⟨hci, hcs, hcl⟩ ht
        exact ⟨Builder.addRaw_inv hci ht hid hd, addRaw_sized hci hcs ht hid hlen,
          fun u t hu => by rw [Builder.addRaw_ext]; exact hcl u t hu⟩
      · intro u raw1 hu hf hlt ha
        obtain ⟨hs1, hle1⟩ := registered_sized hbi hbs hf hlt ha
        exact ⟨Builder.registered_inv hbi (by subst hu; exact htid) hf hlt ha, hs1, extLe_trans hle hle1⟩
    | recycle hr =>
      obtain ⟨i', s', le'⟩ := recycle_sized (size := size) hbi hr
      exact ⟨i', s', extLe_trans hle le'⟩

theorem chain_trans {size : TypeId → Nat → Nat} {a b c : Builder} (h1 : Chain size a b)
    (h2 : Chain size b c) : Chain size a c := by
  induction h2 with
  | refl => exact h1
  | tail _ hs ih => exact Chain.tail ih hs

theorem Builder.Inv.addItem_ne_none {b : Builder} (hb : b.Inv) {tid : TypeId} {id : Nat} {data : List Int}
    (ho : ∀ o, tid = .ordinal o → 0 < o ∧ o < offsetExt) : b.addItem tid id data ≠ none :=
  Builder.addItem_ne_none hb.next_range.1 ho

/-- the object-size table of the protocol agrees with the sizes: it only knows ordinal types in
range and gives their size -/
def _root_.Tw.DemoHl.ObjSizeAgrees (size : TypeId → Nat → Nat) (objSize : Nat → Option Nat) : Prop :=
  ∀ t n, objSize t = some n → 0 < t ∧ t < offsetExt ∧ ∀ id, size (.ordinal t) id = n

theorem sizesOk_of_sized {size : TypeId → Nat → Nat} {objSize : Nat → Option Nat}
    (ho : Tw.DemoHl.ObjSizeAgrees size objSize)
    {s : Snap} (hs : Sized size s) : SizesOk objSize s.raw.items := by
  intro p hp
  unfold szOk
  cases h : objSize (keyType p.1) with
  | none => rfl
  | some n =>
    obtain ⟨h0, h1, hsz⟩ := ho _ _ h
    have := (hs p hp).1 h0 h1
    simp only [beq_iff_eq]
    rw [this, hsz]

theorem sized_new (size : TypeId → Nat → Nat) : Sized size Builder.new.snap := by
  intro p hp; simp [Builder.new, Snap.empty, RawSnap.empty] at hp

theorem chain_inv_new {size : TypeId → Nat → Nat} {b : Builder} (h : Chain size Builder.new b) :
    b.Inv ∧ Sized size b.snap :=
  have ⟨h1, h2, _⟩ := chain_inv h Builder.new_inv (sized_new size)
  ⟨h1, h2⟩

theorem chain_create {size : TypeId → Nat → Nat} {a b : Builder} (h0 : Chain size Builder.new a)
    (h1 : Chain size a b) :
    SizesAgree a.snap.raw b.snap.raw ∧ ∃ d, createDelta a.snap.raw b.snap.raw = some d := by
  obtain ⟨hai, has⟩ := chain_inv_new h0
  obtain ⟨hbi, hbs, hle⟩ := chain_inv h1 hai has
  have hag := sizesAgree_of_sized hai hbi has hbs hle
  refine ⟨hag, ?_⟩
  cases hc : createDelta a.snap.raw b.snap.raw with
  | some d => exact ⟨d, rfl⟩
  | none => exact absurd hag ((createDelta_eq_none_iff _ _).mp hc)

end Tw.Snap
