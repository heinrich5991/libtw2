import Tw.Proofs.Conn6

/-! 0.6: every way a call returns, as one relation `Stepped`, indexed by what was handed over (`In`) and not by the call.
Every `.ok` normal form of `Runs` is a `Stepped`; passes that look at handshake states and tokens are inductions on it.
Its image under `Conn.g` / `Packet.g` is a `GStep` of `ConnStep.lean`, on which the passes that look at the online core
only are stated once for both variants. -/
namespace Tw.Conn6
open Tw.Conn Tw.Time

def State.ph : State → Ph
  | .online _ o => .on o
  | .disconnected => .off
  | _ => .pre

/-- the states in which the send timer matters (`GConn.live`) -/
def State.armedKind : State → Bool
  | .connecting | .pending _ | .online _ _ => true
  | _ => false

def Conn.g (c : Conn) : GConn := ⟨c.state.ph, c.state.armedKind, c.send⟩

def Packet.g : Packet → GPkt
  | .connless _ => .connless
  | .control ack _ _ => .ctl ack
  | .chunks ack _ rr n cs => .chunks ⟨ack, rr, n, cs⟩

/-- what the caller handed over: the call `connect`, another application call (with what it submits), or a datagram,
as the reader returns it -/
inductive In where
  | connect
  | call (sub : List (Bytes × Bool))
  | fed (p : Packet)

def In.sub : In → List (Bytes × Bool)
  | .call sub => sub
  | _ => []

def In.view : In → Option (Nat × List Chunk)
  | .fed p => p.g.view
  | _ => none

def In.acc : In → Bool
  | .fed (.control _ _ .connectAccept) => true
  | _ => false

/-- a datagram the reader rejects is filed as a call that submits nothing: `feed` returns the connection as it is -/
def fedIn : Option Packet → In
  | some p => .fed p
  | none => .call []

/-- `send` submits only what `cfg` accepts (`Online.send_res`) -/
def Op.inp (c : Conn) : Op → In
  | .connect => .connect
  | .feed rd => fedIn (rd c.hint)
  | .send d v => .call (if cfg.accepts d.length then [(d, v)] else [])
  | _ => .call []

/-- the handshake moves after which `tick_action` sends the new state's control message -/
inductive Move (env : Env) : In → State → State → Prop
  | stay (i : In) (st : State) : Move env i st st
  | connect : Move env .connect .unconnected .connecting
  | fedConnect {a tk t}
      (ht : tk = none ∧ t = none ∨ ∃ nt, tk = some TOKEN_NONE ∧ t = some nt ∧ tokenRandom env.draws = some nt) :
      Move env (.fed (.control a tk .connect)) .unconnected (.pending t)

/-- `Stepped env i c c' out`: handed `i`, the connection `c` returns as `c'` with `out` -/
inductive Stepped (env : Env) : In → Conn → Conn → Out → Prop
  /-- nothing changes: an idle `tick`, a datagram dropped or handed on as connless -/
  | same {i c out} (hi : i.sub = []) (hs : out.sent = []) (he : out.events = [] ∨ ∃ d, out.events = [.connless d]) :
      Stepped env i c c out
  /-- a `tick` in an idle state whose send timer had run out -/
  | cleared {i c} (hi : i.sub = []) (hc : c.state.tickControl = none) : Stepped env i c ⟨c.state, .inactive⟩ {}
  /-- `tick_action` with nothing to flush, possibly after a handshake move: the control message of the state (a
  keep-alive when online) -/
  | ctl {i c st' ctl} (hi : i.sub = []) (hm : Move env i c.state st') (hc : st'.tickControl = some ctl) :
      Stepped env i c ⟨st', Timeout.after env.now sendUs⟩ { sent := [.control st'.ctlAck st'.ctlToken ctl] }
  /-- one operation of the online core; a pending acceptor's first chunk packet is received by the fresh core -/
  | core {i c t o o' s' fl evs}
      (hst : c.state = .online t o ∨
        (c.state = .pending t ∧ o = .new ∧ ∃ a tk rr n cs, i = .fed (.chunks a tk rr n cs)))
      (hd : Online.Did cfg env.now i.view o c.send o' s' fl evs i.sub) :
      Stepped env i c ⟨.online t o', s'⟩ { sent := fl.map (ofFlushed t), events := evs }
  /-- `ack_chunks` on an online connection, then what the datagram does -/
  | acked {p c t o o1 c' out tk a} (hp : p.tokenAck? = some (tk, a)) (hst : c.state = .online t o)
      (hfa : o.feedAck a = .ok o1) (h : Stepped env (.fed p) ⟨.online t o1, c.send⟩ c' out) :
      Stepped env (.fed p) c c' out
  /-- `send_connless` (sends nothing if the payload is too long) -/
  | connless {c ps} (hst : c.state.isOnline = true) (hps : ps = [] ∨ ∃ d, ps = [.connless d]) :
      Stepped env (.call []) c ⟨c.state, Timeout.after env.now sendUs⟩ { sent := ps }
  /-- the peer's accept: online with the token it carries, `Ready` -/
  | accept {c a tk} (hst : c.state = .connecting) :
      Stepped env (.fed (.control a tk .connectAccept)) c ⟨.online tk .new, c.send⟩
        { sent := [.control 0 tk .accept], events := [.ready] }
  /-- the peer's close message -/
  | closed {c a tk r} :
      Stepped env (.fed (.control a tk (.close r))) c ⟨.disconnected, c.send⟩ { events := [.disconnect r] }
  /-- `disconnect`: a close message with the state's ack and token -/
  | disconnect {c r} (hst : c.state ≠ .disconnected) :
      Stepped env (.call []) c ⟨.disconnected, c.send⟩ { sent := [.control c.state.ctlAck c.state.ctlToken (.close r)] }

section
variable {env : Env} {c c' : Conn} {out : Out} {r : Res} {op : Op} {tk : Option Nat} {p : Packet}

theorem Asks.sub {x : CoreOp} (c : Conn) : Asks x op → (op.inp c).sub = x.sub cfg := by
  cases op with
  | flush => rintro rfl; rfl
  | send d v => rintro rfl; rfl
  | tick => rintro (rfl | rfl) <;> rfl
  | _ => exact False.elim

/-- `htok`: `Feeds` carries the token argument of `feedBody` beside the datagram, `Stepped.accept` and `Move.fedConnect`
speak of the datagram's own. -/
theorem Feeds.stepped (h : Feeds env c tk p r) (hr : r = .ok (c', out))
    (htok : ∀ a t ctl, p = .control a t ctl → tk = t) : Stepped env (.fed p) c c' out := by
  cases h with
  | idle he => cases hr; exact .same rfl rfl he
  | receive hst =>
    obtain ⟨o', s', fl, evs, hrun, rfl, rfl⟩ := coreRes_eq hr
    exact .core (hst.imp_right fun h => ⟨h.1, h.2, _, _, _, _, _, rfl⟩) (CoreOp.run_did hrun ⟨_, rfl⟩)
  | connect hst ht =>
    obtain ⟨_, rfl, rfl⟩ := ctl_eq hr
    cases htok _ _ _ rfl
    exact .ctl rfl (hst ▸ .fedConnect ht) rfl
  | noDraw => cases hr
  | accept hst =>
    obtain ⟨_, rfl, rfl⟩ := ctl_eq hr
    cases htok _ _ _ rfl
    exact .accept hst
  | close => cases hr; exact .closed

theorem fedIn_sub (x : Option Packet) : (fedIn x).sub = [] := by cases x <;> rfl

theorem Runs.stepped (h : Runs env c op r) (hr : r = .ok (c', out)) : Stepped env (op.inp c) c c' out := by
  cases h with
  | misuse => cases hr
  | same hop =>
    cases hr
    rcases hop with rfl | ⟨rd, rfl⟩
    · exact .same rfl rfl (.inl rfl)
    · exact .same (fedIn_sub _) rfl (.inl rfl)
  | cleared hc => cases hr; exact .cleared rfl hc
  | connect hst =>
    obtain ⟨_, rfl, rfl⟩ := ctl_eq hr
    exact .ctl rfl (hst ▸ .connect) rfl
  | repeated hc =>
    obtain ⟨_, rfl, rfl⟩ := ctl_eq hr
    exact .ctl rfl (.stay _ _) hc
  | core hst x hx hrr =>
    obtain ⟨o', s', fl, evs, hrun, rfl, rfl⟩ := coreRes_eq (hrr ▸ hr)
    exact .core (.inl hst) (Asks.sub c hx ▸ CoreOp.run_did hrun (hx.app.fed _))
  | connless hst hrr =>
    rw [hrr] at hr
    split at hr
    · cases hr; exact .connless hst (.inl rfl)
    · obtain ⟨ps, hs, rfl, rfl⟩ := sends_eq hr
      cases emit_eq hs
      exact .connless hst (.inr ⟨_, rfl⟩)
  | disconnect hst =>
    obtain ⟨_, rfl, rfl⟩ := ctl_eq hr
    exact .disconnect hst
  | fed hrd hta _ hf =>
    show Stepped env (fedIn _) c c' out
    rw [hrd]
    refine hf.stepped hr ?_
    rintro a t ctl rfl
    rcases hta with ⟨h, _⟩ | ⟨_, h, _⟩ <;> cases h
    rfl
  | @acked rd p tk a t o r hrd hta _ hst hf =>
    show Stepped env (fedIn _) c c' out
    rw [hrd]
    split at hr
    · cases hr
    · exact .acked hta hst ‹_› ((hf _).stepped hr (by rintro a t ctl rfl; cases hta; rfl))

theorem step_stepped (h : step env c op = .ok (c', out)) : Stepped env (op.inp c) c c' out :=
  (step_runs env c op).stepped h

theorem connect_stepped (h : connect env c = .ok (c', out)) : Stepped env .connect c c' out :=
  step_stepped (op := .connect) h

theorem disconnect_stepped {r : Bytes} (h : disconnect env c r = .ok (c', out)) : Stepped env (.call []) c c' out :=
  step_stepped (op := .disconnect r) h

theorem flush_stepped (h : flush env c = .ok (c', out)) : Stepped env (.call []) c c' out :=
  step_stepped (op := .flush) h

theorem tick_stepped (h : tick env c = .ok (c', out)) : Stepped env (.call []) c c' out :=
  step_stepped (op := .tick) h

theorem feed_stepped {rd : Option Bool → Option Packet} (h : feed env c rd = .ok (c', out)) :
    Stepped env (fedIn (rd c.hint)) c c' out :=
  step_stepped (op := .feed rd) h

theorem send_stepped {d : Bytes} {v : Bool} {r : SendRes} (h : send env c d v = .ok (c', r, out)) :
    Stepped env (.call (if r == .ok then [(d, v)] else [])) c c' out := by
  obtain ⟨t, o, o', fl, hst, ho, hr⟩ := send_eq h
  cases hr
  exact .core (.inl hst) (.send ho)

theorem sendConnless_stepped {d : Bytes} {r : SendRes} (h : sendConnless env c d = .ok (c', r, out)) :
    Stepped env (.call []) c c' out :=
  step_stepped (op := .sendConnless d) (by simp only [step, h])

theorem Move.ph {i : In} {st st' : State} (hm : Move env i st st') : st'.ph = st.ph := by
  cases hm <;> rfl

theorem ctl_g {st : State} (h : st ≠ .disconnected) (t : Option Nat) (ctl : Control) :
    ∃ o, st.ph.core = some o ∧ Packet.g (.control st.ctlAck t ctl) = .ctl o.ack := by
  cases st <;> first | exact ⟨_, rfl, rfl⟩ | exact absurd rfl h

theorem Stepped.g {i : In} (h : Stepped env i c c' out) :
    GStep cfg env.now i.view i.acc c.g c'.g (out.sent.map Packet.g) out.events i.sub := by
  induction h with
  | same hi hs he => rw [hs, hi]; exact .same (.connless he)
  | @cleared _ c hi hc =>
    rw [hi]
    refine .quiet (.inl rfl) (fun hl => ?_) (fun _ h => nomatch h) .nil
    obtain ⟨st, snd⟩ := c
    cases st <;> first | exact absurd hl Bool.false_ne_true | exact absurd hc (Option.some_ne_none _)
  | @ctl _ c st' ctl hi hm hc =>
    rw [hi]
    refine .quiet (.inl hm.ph) (fun _ => .inl rfl) (List.forall_mem_singleton.mpr (.inr ?_)) .nil
    rw [show c.g.ph = st'.ph from hm.ph.symm]
    exact ctl_g (by rintro rfl; cases hc) _ _
  | @core i c t o o' s' fl evs hst hd =>
    have : (fl.map (ofFlushed t)).map Packet.g = fl.map .chunks := by rw [List.map_map]; rfl
    simp only [this]
    refine .online ?_ ?_ hd
    · rcases hst with hst | ⟨hst, rfl, _⟩ <;> simp only [Conn.g, hst] <;> rfl
    · rcases hst with hst | ⟨hst, rfl, _⟩ <;> simp only [Conn.g, hst] <;> rfl
  | @acked p c t o o1 c' out tk a hp hst hfa _ ih =>
    have hv : ∃ cs, p.g.view = some (a, cs) := by cases p <;> cases hp <;> exact ⟨_, rfl⟩
    obtain ⟨cs, hv⟩ := hv
    refine .acked hv (by simp only [Conn.g, hst]; rfl) hfa ?_
    simp only [Conn.g, hst]
    exact ih
  | connless hst hps =>
    refine .quiet (.inl rfl) (fun _ => .inl rfl) ?_ .nil
    rcases hps with rfl | ⟨_, rfl⟩
    · exact fun _ h => nomatch h
    · exact List.forall_mem_singleton.mpr (.inl rfl)
  | @accept c _ _ hst =>
    have hx : c.g.ph = .pre ∧ c.g.live = true := by simp only [Conn.g, hst]; exact ⟨rfl, rfl⟩
    exact .opened rfl hx.1 hx.2 (List.forall_mem_singleton.mpr rfl)
  | closed =>
    exact .quiet (.inr rfl) (fun h => nomatch h) (fun _ h => nomatch h)
      (List.forall_mem_singleton.mpr ⟨fun _ _ h => (nomatch h), fun h => nomatch h⟩)
  | disconnect hst =>
    exact .quiet (.inr rfl) (fun h => nomatch h) (List.forall_mem_singleton.mpr (.inr (ctl_g hst _ _))) .nil

theorem step_g {op : Op} (h : step env c op = .ok (c', out)) :
    GStep cfg env.now (op.inp c).view (op.inp c).acc c.g c'.g (out.sent.map Packet.g) out.events (op.inp c).sub :=
  (step_stepped h).g

end

/-! ## C02 (b): a returning call leaves the send timer armed -/

theorem after_active (now d : Nat) : (Timeout.after now d).isActive = true := rfl

theorem step_armed {env : Env} {c c' : Conn} {op : Op} {out : Out} (h : step env c op = .ok (c', out))
    (hc : c.g.Armed) : c'.g.Armed :=
  (step_g h).armed hc

theorem run_armed (sched : List (Env × Op)) (c c' : Conn) (outs : List Out) (h : c.g.Armed)
    (he : run c sched = .ok (c', outs)) : c'.g.Armed :=
  (run_invariant (K := fun _ => True) (G := fun _ => True) (fun _ _ _ _ _ _ hs hc => ⟨step_armed hs hc, trivial⟩)
    sched c c' outs (fun _ _ => trivial) h he).1

theorem armed_needsTick {c : Conn} (h : c.g.Armed) (hn : c.state ≠ .unconnected ∧ c.state ≠ .disconnected) :
    c.needsTick ≠ .inactive := by
  obtain ⟨st, snd⟩ := c
  cases st with
  | unconnected => exact absurd rfl hn.1
  | disconnected => exact absurd rfl hn.2
  | _ => exact h.min_ne rfl _

end Tw.Conn6
