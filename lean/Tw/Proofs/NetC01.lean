import Tw.Model.NetC01
import Tw.Proofs.NetC01Canon
import Tw.Proofs.NetPeers
import Tw.Proofs.ConnSafety6

/-! The coupling between the endpoint and the ghost world of `Model/NetC01.lean`: move by move, the
ghost's image of the move returns whenever the endpoint's own call does, and afterwards the ghost's
side `b` is again the endpoint's peer for `addr` (`coupled_toNet`, `coupled_net`; the remote's own
moves: `coup_remote`). -/
namespace Tw.NetC01
open Tw.Conn Tw.Net Tw.NetSim Tw.Time
open Tw.Conn6 (Env Packet)

theorem lift_vital (a pid : Nat) (o : Conn6.Out) :
    vitalOfNet (liftOut a pid o).events = NetSim.vitalPayloads o.events := by
  show vitalOfNet (o.events.map fun e => (a, mapEvent a pid e)) = _
  induction o.events with
  | nil => rfl
  | cons e es ih =>
    cases e with
    | chunk d v =>
      cases v
      · exact ih
      · exact congrArg (d :: ·) ih
    | _ => exact ih

theorem lift_sent (a pid : Nat) (o : Conn6.Out) : (liftOut a pid o).sent.map (·.2) = o.sent := by
  simp [liftOut, Function.comp_def]

structure Coup {tl : Bool} (addr : Nat) (w : NW tl) : Prop where
  pinv : PInv w.net.peers
  conn : ∀ pid p, slot w.net.peers addr = some (pid, p) → p.conn = w.g.b.conn ∧ w.born = true
  fresh : w.born = false → slot w.net.peers addr = none ∧ w.g.b.conn = Conn6.Conn.new
  /-- A peer the application has not accepted yet (`Unconnected`) remembers only whether the connect request carried a
  token; the ghost, delivering datagram `req` again, reads the canned request that `Net::accept` will feed. -/
  pend : ∀ pid p, slot w.net.peers addr = some (pid, p) → p.conn.state = .unconnected →
    ∃ i alt dg, w.req = some (i, alt) ∧ w.g.a.out[i]? = some dg ∧
      P6.wireRead tl dg.pkt alt none = some (connectPacket p.token)
  /-- what establishes `pend`: every connect request of the remote reads as the canned request (`wireRead_connect`) -/
  canon : ∀ dg ∈ w.g.a.out, Canon dg.pkt
  out : w.netOut = w.g.b.out.map (·.pkt)
  vital : w.netVital = w.g.b.deliveredVital
  sub : w.netSub = w.g.b.submitted

theorem coup_init (tl acc : Bool) (addr : Nat) : Coup addr (NW.init tl acc) where
  pinv := ⟨.nil, .nil⟩
  conn := by intro pid p h; cases h
  fresh := fun _ => ⟨rfl, rfl⟩
  pend := by intro pid p h; cases h
  canon := by intro dg h; cases h
  out := rfl
  vital := rfl
  sub := rfl

/-- `nwStep` in closed form (`nwStep_some`) -/
def NW.next {tl : Bool} (addr : Nat) (w : NW tl) (m : NMove) (net1 : Net) (r : Net.Ret) (o : Out)
    (g1 : World (proto6 tl)) : NW tl :=
  { net := net1, g := g1, born := w.born || created addr w net1
    req := if created addr w net1 then reqOf m else w.req
    netOut := w.netOut ++ (o.for addr).sent.map (·.2)
    netVital := w.netVital ++ vitalOfNet (o.for addr).events
    netSub := w.netSub ++ subOf addr w.net r m }

theorem nwStep_some {tl : Bool} {addr : Nat} {w w' : NW tl} {m : NMove} (h : nwStep addr w m = some w') :
    ∃ net1 r o g1, realStep tl addr w m = some (net1, r, o) ∧
      (created addr w net1 && w.born) = false ∧ ghostStep tl addr w m = some g1 ∧
      w' = w.next addr m net1 r o g1 := by
  unfold nwStep at h
  cases hr : realStep tl addr w m with
  | none => simp [hr] at h
  | some v =>
    obtain ⟨net1, r, o⟩ := v
    simp only [hr] at h
    cases hc : (created addr w net1 && w.born) with
    | true => simp [hc] at h
    | false =>
      simp only [hc, Bool.false_eq_true, if_false] at h
      cases hg : ghostStep tl addr w m with
      | none => simp [hg] at h
      | some g1 =>
        simp only [hg, Option.some.injEq] at h
        exact ⟨net1, r, o, g1, rfl, hc, rfl, h.symm⟩

/-- what `NetSim.step` books as submitted for a call -/
def callSub (accepted : Bool) : Call → List (Bytes × Bool)
  | .send x v => if accepted then [(x, v)] else []
  | _ => []

theorem ghost_call_b {tl : Bool} (g : World (proto6 tl)) (d : List Nat) (c : Call)
    {r0 : NetSim.Ret Conn6.Conn Packet} (h : P6.call g.now d g.b.conn c = .ok r0) :
    NetSim.step g (.call .b d c) = some (g.set .b (g.b.book (P := proto6 tl) r0 (callSub r0.accepted c))) := by
  have h' : (proto6 tl).call g.now d g.b.conn c = .ok r0 := h
  cases c <;> simp only [NetSim.step, World.get, h', callSub]

theorem ghost_deliver_b {tl : Bool} (g : World (proto6 tl)) {i : Nat} (d : List Nat) {alt : P6.Alt}
    {dg : Sent (proto6 tl).Packet} {c : Conn6.Conn} {o' : Conn6.Out} (hdg : g.a.out[i]? = some dg)
    (hf : Conn6.feed ⟨g.now, d⟩ g.b.conn (P6.wireRead tl dg.pkt alt) = .ok (c, o')) :
    NetSim.step g (.deliver .b i d alt) =
      some (g.set .b (g.b.book (P := proto6 tl) { conn := c, sent := o'.sent, events := o'.events } [])) := by
  have hrecv : (proto6 tl).recv g.now d g.b.conn dg.pkt alt =
      .ok { conn := c, sent := o'.sent, events := o'.events } := by
    show P6.recv tl g.now d g.b.conn dg.pkt alt = _
    simp only [P6.recv, hf]
    rfl
  simp only [NetSim.step, World.get, Side.other, hdg, hrecv]

/-- A move in which the peer at `addr` ran a call or was fed a datagram: the ghost books the same result `r0` on side `b`. -/
theorem coup_moved {tl : Bool} {addr : Nat} {w : NW tl} {m : NMove} {net1 : Net} {r : Net.Ret} {o : Out}
    {r0 : NetSim.Ret Conn6.Conn Packet} {sub : List (Bytes × Bool)}
    (hc : Coup addr w) (hi1 : PInv net1.peers)
    (hs : (o.for addr).sent.map (·.2) = r0.sent)
    (hv : vitalOfNet (o.for addr).events = NetSim.vitalPayloads r0.events)
    (hsub : subOf addr w.net r m = sub)
    (hb : (w.born || created addr w net1) = true)
    (hslot : ∀ pid p1, slot net1.peers addr = some (pid, p1) → p1.conn = r0.conn ∧
      (p1.conn.state = .unconnected →
        (if created addr w net1 then reqOf m else w.req) = w.req ∧
          ∃ p, slot w.net.peers addr = some (pid, p) ∧ p.conn.state = .unconnected ∧ p1.token = p.token)) :
    Coup addr (w.next addr m net1 r o (w.g.set .b (w.g.b.book (P := proto6 tl) r0 sub))) := by
  unfold NW.next
  rw [hs, hv, hsub, hb]
  exact { pinv := hi1
          conn := fun pid p1 h => ⟨(hslot pid p1 h).1, rfl⟩
          fresh := nofun
          pend := by
            intro pid p1 h hu
            obtain ⟨hreq, p, hp, hpu, htok⟩ := (hslot pid p1 h).2 hu
            obtain ⟨i, alt, dg, h1, h2, h3⟩ := hc.pend pid p hp hpu
            exact ⟨i, alt, dg, by rw [hreq]; exact h1, h2, by rw [htok]; exact h3⟩
          canon := hc.canon
          out := by
            simp only [World.set, End.book, hc.out, List.map_append, List.map_map, Function.comp_def,
              List.map_id']
            rfl
          vital := by simp [World.set, End.book, End.deliveredVital, NetSim.vitalPayloads_append, hc.vital]
          sub := by simp [World.set, End.book, hc.sub] }

/-- A move that does nothing for `addr` but possibly drop its peer: the ghost stands still. -/
theorem coup_quiet {tl : Bool} {addr : Nat} {w : NW tl} {m : NMove} {net1 : Net} {r : Net.Ret} {o : Out}
    (hc : Coup addr w) (hi1 : PInv net1.peers) (hsub : subOf addr w.net r m = [])
    (hslot : slot net1.peers addr = slot w.net.peers addr ∨ (slot net1.peers addr = none ∧ w.born = true))
    (hs : (o.for addr).sent = []) (hv : vitalOfNet (o.for addr).events = []) :
    Coup addr (w.next addr m net1 r o w.g) := by
  have hcr : created addr w net1 = false := by
    rcases hslot with h1 | h1
    · rw [created, h1]; cases slot w.net.peers addr <;> rfl
    · simp [created, h1.1]
  simp only [NW.next, hcr, Bool.or_false, Bool.false_eq_true, if_false, hs, hv, hsub, List.map_nil,
    List.append_nil]
  rcases hslot with h1 | h1
  · exact { pinv := hi1
            conn := by intro pid p h; rw [h1] at h; exact hc.conn pid p h
            fresh := by intro hb; rw [h1]; exact hc.fresh hb
            pend := by intro pid p h hu; rw [h1] at h; exact hc.pend pid p h hu
            canon := hc.canon, out := hc.out, vital := hc.vital, sub := hc.sub }
  · exact { pinv := hi1
            conn := by intro pid p h; rw [h1.1] at h; cases h
            fresh := by intro hb; rw [h1.2] at hb; cases hb
            pend := by intro pid p h; rw [h1.1] at h; cases h
            canon := hc.canon, out := hc.out, vital := hc.vital, sub := hc.sub }

theorem canon_call {now : Nat} {d : List Nat} {c : Conn6.Conn} {cl : Call} {r : Ret Conn6.Conn Packet}
    (h : P6.call now d c cl = .ok r) : ∀ p ∈ r.sent, Canon p := by
  obtain ⟨_, hs, h1, _⟩ := P6.call_stepped h
  rw [h1]
  exact hs.canon

theorem canon_recv {tl : Bool} {now : Nat} {d : List Nat} {c : Conn6.Conn} {p : Packet} {alt : P6.Alt}
    {r : Ret Conn6.Conn Packet} (h : P6.recv tl now d c p alt = .ok r) : ∀ q ∈ r.sent, Canon q := by
  obtain ⟨_, hs, h1, _⟩ := P6.recv_stepped h
  rw [h1]
  exact hs.canon

theorem book_out {tl : Bool} (e : End (proto6 tl)) (r : Ret Conn6.Conn Packet) (sub : List (Bytes × Bool))
    (hc : ∀ dg ∈ e.out, Canon dg.pkt) (hr : ∀ p ∈ r.sent, Canon p) :
    (∀ (i : Nat) dg, e.out[i]? = some dg → (e.book (P := proto6 tl) r sub).out[i]? = some dg) ∧
      ∀ dg ∈ (e.book (P := proto6 tl) r sub).out, Canon dg.pkt := by
  refine ⟨fun i dg hi => ?_, fun dg hdg => ?_⟩
  · simp only [End.book]
    rw [List.getElem?_append_left (List.getElem?_eq_some_iff.1 hi).1]
    exact hi
  · simp only [End.book, List.mem_append, List.mem_map] at hdg
    rcases hdg with hdg | ⟨p, hp, rfl⟩
    · exact hc dg hdg
    · exact hr p hp

inductive Remote {P : Proto} : Move P → Prop
  | call (d : List Nat) (c : Call) : Remote (.call .a d c)
  | deliver (i : Nat) (d : List Nat) (alt : P.Alt) : Remote (.deliver .a i d alt)
  | advance (dt : Nat) : Remote (.advance dt)

theorem ghost_a_step {tl : Bool} {g g1 : World (proto6 tl)} {gm : Move (proto6 tl)} (hgm : Remote gm)
    (hc : ∀ dg ∈ g.a.out, Canon dg.pkt) (h : NetSim.step g gm = some g1) :
    g1.b = g.b ∧ (∀ (i : Nat) dg, g.a.out[i]? = some dg → g1.a.out[i]? = some dg) ∧ ∀ dg ∈ g1.a.out, Canon dg.pkt := by
  cases step_cases h with
  | advance dt => exact ⟨rfl, fun _ _ h => h, hc⟩
  | call s d c r hr =>
    cases hgm
    exact ⟨rfl, book_out g.a r _ hc (canon_call hr)⟩
  | deliver to i d alt dg r _ hr =>
    cases hgm
    exact ⟨rfl, book_out g.a r _ hc (canon_recv hr)⟩

/-- A move of the remote alone.  `gm` is the ghost's image of `m`; `m` itself only labels the record. -/
theorem coup_remote {tl : Bool} {addr : Nat} {w : NW tl} {m : NMove} {gm : Move (proto6 tl)}
    {g1 : World (proto6 tl)} (hgm : Remote gm) (hc : Coup addr w) (hg : NetSim.step w.g gm = some g1) (hsub : subOf addr w.net .unit m = []) :
    Coup addr (w.next addr m w.net .unit {} g1) := by
  obtain ⟨hb, hidx, hcan⟩ := ghost_a_step hgm hc.canon hg
  have hcr : created addr w w.net = false := by rw [created]; cases slot w.net.peers addr <;> rfl
  simp only [NW.next, hcr, Bool.or_false, Bool.false_eq_true, if_false, empty_for, hsub,
    List.append_nil, List.map_nil, vitalOfNet]
  exact { pinv := hc.pinv
          conn := by intro pid p h; rw [hb]; exact hc.conn pid p h
          fresh := by intro h; rw [hb]; exact hc.fresh h
          pend := by
            intro pid p h hu
            obtain ⟨i, alt, dg, h1, h2, h3⟩ := hc.pend pid p h hu
            exact ⟨i, alt, dg, h1, hidx i dg h2, h3⟩
          canon := hcan
          out := by rw [hb]; exact hc.out
          vital := by rw [hb]; exact hc.vital
          sub := by rw [hb]; exact hc.sub }

theorem refStateless_vital {acc : Bool} {a : Nat} {s s' : Slot} {pending : Bool}
    {rd : Option Bool → Option Packet} {fresh : Option Nat} {r : Ret} {o : Out}
    (h : refStateless acc a s pending rd fresh = .ok (s', r, o)) : vitalOfNet o.events = [] := by
  rcases (refStateless_ok h).2.1 with he | ⟨d, he⟩ | ⟨q, he⟩ <;> rw [he] <;> rfl

/-- a datagram the reader takes for a connect request, written by a genuine connection, is the
canned packet `Net::accept` feeds -/
theorem wireRead_connect {tl : Bool} {p : Packet} {alt : P6.Alt} {ack : Nat} {tok : Option Nat}
    (h : P6.wireRead tl p alt none = some (.control ack tok .connect)) (hc : Canon p) :
    Packet.control ack tok .connect = connectPacket tok.isSome := by
  -- without a hint the reader returns what was written (stripped of its token towards a peer that
  -- does not use one), unless it is a close message
  have hq : (if tl = true then P6.strip p else p) = .control ack tok .connect := by
    unfold P6.wireRead at h
    generalize (if tl = true then P6.strip p else p) = q at h
    cases q with
    | connless d => cases h
    | chunks a t rr n cs => simp at h
    | control a t c =>
      cases c with
      | close r => cases alt <;> simp at h
      | connect => simpa using h
      | _ => simp at h
  cases tl with
  | false =>
    obtain ⟨rfl, rfl⟩ := hc ack tok hq
    simp [connectPacket, cannedToken_eq]
  | true =>
    cases p with
    | control a t c =>
      cases hq
      obtain ⟨rfl, _⟩ := hc _ _ rfl
      rfl
    | _ => cases hq

/-- a datagram of the remote reaches the endpoint: whenever `Net::feed` returns, the ghost follows
(it delivers the datagram to `b` iff the peer takes part in its connection) and stays coupled -/
theorem coupled_toNet {tl : Bool} {addr : Nat} {w : NW tl} {i : Nat} {d : List Nat} {alt : P6.Alt}
    {net1 : Net} {r : Net.Ret} {o : Out} (hc : Coup addr w)
    (hr : realStep tl addr w (.toNet i d alt) = some (net1, r, o))
    (hcb : (created addr w net1 && w.born) = false) :
    ∃ g1, ghostStep tl addr w (.toNet i d alt) = some g1 ∧
      Coup addr (w.next addr (.toNet i d alt) net1 r o g1) := by
  simp only [realStep] at hr
  cases hdg : w.g.a.out[i]? with
  | none => simp [hdg] at hr
  | some dg =>
    simp only [hdg] at hr
    cases hfeed : Net.feed ⟨w.g.now, d⟩ w.net addr (P6.wireRead tl dg.pkt alt) with
    | error e => simp [hfeed] at hr
    | ok v =>
      simp only [hfeed, Option.some.injEq] at hr
      subst hr
      obtain ⟨hi1, _, _, href⟩ := (feed_sim hc.pinv).ok hfeed
      cases hs : slot w.net.peers addr with
      | none =>
        -- stateless: nothing for the ghost to do
        refine ⟨w.g, by simp [ghostStep, ghostMove, hs], ?_⟩
        rw [hs, refStep_dgram_none] at href
        have hvit := refStateless_vital href
        obtain ⟨hsent, _, hslot⟩ := refStateless_ok href
        rcases hslot with hsame | ⟨_, ack, tok, pid, hrd, hnew⟩
        · exact coup_quiet hc hi1 rfl (.inl (hsame.trans hs.symm)) (by rw [hsent]) hvit
        · have hcr : created addr w net1 = true := by simp [created, hs, hnew]
          have hborn : w.born = false := by simpa [hcr] using hcb
          simp only [NW.next, hcr, Bool.or_true, if_true, hsent, hvit, subOf, List.map_nil, List.append_nil,
            reqOf]
          exact { pinv := hi1
                  conn := by
                    intro pid' p h'
                    rw [hnew] at h'
                    cases h'
                    exact ⟨(hc.fresh hborn).2.symm, rfl⟩
                  fresh := by intro hb; cases hb
                  pend := by
                    intro pid' p h' _
                    rw [hnew] at h'
                    cases h'
                    refine ⟨i, alt, dg, rfl, hdg, ?_⟩
                    rw [hrd, wireRead_connect hrd (hc.canon dg (List.mem_of_getElem? hdg))]
                    rfl
                  canon := hc.canon, out := hc.out, vital := hc.vital, sub := hc.sub }
      | some x =>
        obtain ⟨pid, p⟩ := x
        obtain ⟨hpc, hborn⟩ := hc.conn pid p hs
        by_cases hu : p.conn.state = .unconnected
        · -- pending acceptance: the endpoint ignores it, so does the ghost
          refine ⟨w.g, by simp [ghostStep, ghostMove, hs, hu], ?_⟩
          rw [hs, refStep_dgram_some, if_pos hu] at href
          have hvit := refStateless_vital href
          obtain ⟨hsent, _, hslot⟩ := refStateless_ok href
          rcases hslot with hsame | ⟨hf, _⟩
          · exact coup_quiet hc hi1 rfl (.inl (hsame.trans hs.symm)) (by rw [hsent]) hvit
          · cases hf
        · -- a live connection: the ghost's `b` receives the same datagram
          rw [hs] at href
          obtain ⟨c, o', hcf, hsd, _, hofor⟩ := refStep_dgram_ok hu href
          refine ⟨_, by simp only [ghostStep, ghostMove, hs, hu, if_false]
                        exact ghost_deliver_b w.g d hdg (hpc ▸ hcf), ?_⟩
          refine coup_moved hc hi1 (by rw [hofor]; exact lift_sent _ _ _)
            (by rw [hofor]; exact lift_vital _ _ _) rfl (by simp [hborn]) ?_
          intro pid' p1 h'
          rcases (slotOnDisconnect_ok hsd).1 with h0 | h0
          · rw [h0] at h'; cases h'
          · rw [h0] at h'; cases h'; exact ⟨rfl, fun hu' => absurd hu' ((Conn6.feed_stepped hcf).left hu)⟩

/-- `callSub` for an operation of the endpoint, read off what `Net::send` returned -/
def lopSub (r : Net.Ret) : LOp → List (Bytes × Bool)
  | .send x v => if r = .send .ok then [(x, v)] else []
  | _ => []

theorem getD_map_ite {c : Prop} [Decidable c] {x : LOp} {f : LOp → List (Bytes × Bool)} (h : f x = []) :
    ((if c then some x else none).map f).getD [] = [] := by
  split
  · exact h
  · rfl

theorem subOf_proj (addr : Nat) (net : Net) (r : Net.Ret) (d : List Nat) (op : Op) :
    subOf addr net r (.net d op) = ((projOp net addr op).map (lopSub r)).getD [] := by
  cases op with
  | send pid x v => by_cases ha : addrOf net pid = some addr <;> simp [subOf, projOp, lopSub, ha]
  | tick => rfl
  | _ => exact (getD_map_ite rfl).symm

/-- the composite world takes no datagram from `addr` and no `send_connless` to `addr` from `NMove.net` -/
theorem allowed_proj {addr : Nat} {net : Net} {op : Op} {lop : LOp} (hal : allowed addr op = true)
    (hp : projOp net addr op = some lop) :
    match lop with
    | .dgram _ _ | .sendConnless _ => False
    | _ => True := by
  cases op with
  | feed a rd => rw [projOp, if_neg (by simpa [allowed] using hal)] at hp; cases hp
  | sendConnless a x => rw [projOp, if_neg (by simpa [allowed] using hal)] at hp; cases hp
  | tick => cases hp; trivial
  | _ => cases (Option.ite_none_right_eq_some.1 hp).2; trivial

/-- the local operations that are one plain call on the peer's connection -/
def liveCall : LOp → Option Call
  | .reject x | .disconnect x => some (.disconnect x)
  | .send x v => some (.send x v)
  | .flush => some .flush
  | .tick => some .tick
  | _ => none

theorem refStep_call {acc : Bool} {a now : Nat} {d : List Nat} {pid : Nat} {p : Peer} {lop : LOp} {c : Call}
    {s' : Slot} {r : Net.Ret} {o : Out} (hl : liveCall lop = some c)
    (h : refStep acc a ⟨now, d⟩ (some (pid, p)) lop = .ok (s', r, o)) :
    ∃ r0, P6.call now d p.conn c = .ok r0 ∧ o.sent.map (·.2) = r0.sent ∧
      vitalOfNet o.events = NetSim.vitalPayloads r0.events ∧ lopSub r lop = callSub r0.accepted c ∧
      (s' = none ∨ s' = some (pid, { p with conn := r0.conn }) ∧
        (r0.conn.state = .unconnected → p.conn.state = .unconnected)) := by
  -- no call takes a connection back to `Unconnected` (`Stepped.left`), whichever call it is
  suffices key : ∃ r0, P6.call now d p.conn c = .ok r0 ∧ o.sent.map (·.2) = r0.sent ∧
      vitalOfNet o.events = NetSim.vitalPayloads r0.events ∧ lopSub r lop = callSub r0.accepted c ∧
      (s' = none ∨ s' = some (pid, { p with conn := r0.conn })) by
    obtain ⟨r0, h1, h2, h3, h4, h5⟩ := key
    obtain ⟨_, hs, _⟩ := P6.call_stepped h1
    exact ⟨r0, h1, h2, h3, h4,
      h5.imp_right fun h => ⟨h, fun hu => Classical.byContradiction fun hpu => hs.left hpu hu⟩⟩
  have close : ∀ want x, slotRemove a (some (pid, p)) (peerClose want ⟨now, d⟩ x) = .ok (s', r, o) →
      ∃ r0, P6.call now d p.conn (.disconnect x) = .ok r0 ∧ o.sent.map (·.2) = r0.sent ∧
        vitalOfNet o.events = NetSim.vitalPayloads r0.events ∧ s' = none := by
    intro want x h
    obtain ⟨o', hf, rfl, _, rfl⟩ := slotRemove_ok h
    obtain ⟨c1, hcd⟩ := peerClose_ok hf
    exact ⟨{ conn := c1, sent := o'.sent, events := o'.events }, by simp only [P6.call, hcd],
      lift_sent _ _ _, lift_vital _ _ _, rfl⟩
  cases lop with
  | reject x =>
    cases hl
    obtain ⟨r0, h1, h2, h3, h4⟩ := close true x h
    exact ⟨r0, h1, h2, h3, rfl, .inl h4⟩
  | disconnect x =>
    cases hl
    obtain ⟨r0, h1, h2, h3, h4⟩ := close false x h
    exact ⟨r0, h1, h2, h3, rfl, .inl h4⟩
  | send x v =>
    cases hl
    obtain ⟨c1, o', hf, rfl, rfl⟩ := slotModify_ok h
    obtain ⟨res, hcs, rfl⟩ := peerSend_ok hf
    refine ⟨{ conn := c1, sent := o'.sent, events := o'.events, accepted := res == .ok },
      by simp only [P6.call, hcs], lift_sent _ _ _, lift_vital _ _ _, ?_, .inr rfl⟩
    cases res <;> rfl
  | flush =>
    cases hl
    obtain ⟨c1, o', hf, rfl, rfl⟩ := slotModify_ok h
    obtain ⟨hcs, rfl⟩ := peerFlush_ok hf
    exact ⟨{ conn := c1, sent := o'.sent, events := o'.events }, by simp only [P6.call, hcs],
      lift_sent _ _ _, lift_vital _ _ _, rfl, .inr rfl⟩
  | tick =>
    cases hl
    rw [refStep_tick_some] at h
    cases hct : Conn6.tick ⟨now, d⟩ p.conn with
    | error e => simp [hct] at h
    | ok cv =>
      obtain ⟨c1, o'⟩ := cv
      simp only [hct, Except.ok.injEq, Prod.mk.injEq] at h
      obtain ⟨h1, h2, h3⟩ := h
      subst h1 h2 h3
      exact ⟨{ conn := c1, sent := o'.sent, events := o'.events }, by simp only [P6.call, hct],
        by simp [Function.comp_def], by rw [tick_events hct]; rfl, rfl, .inr rfl⟩
  | _ => cases hl

/-- a call of the endpoint: whenever it returns (and does not give `addr` a second peer), the ghost
follows and stays coupled -/
theorem coupled_net {tl : Bool} {addr : Nat} {w : NW tl} {d : List Nat} {op : Op}
    {net1 : Net} {r : Net.Ret} {o : Out} (hc : Coup addr w) (hok : opOk w.net op = true)
    (hr : realStep tl addr w (.net d op) = some (net1, r, o))
    (hcb : (created addr w net1 && w.born) = false) :
    ∃ g1, ghostStep tl addr w (.net d op) = some g1 ∧ Coup addr (w.next addr (.net d op) net1 r o g1) := by
  simp only [realStep] at hr
  cases hal : allowed addr op with
  | false => simp [hal] at hr
  | true =>
    simp only [hal, if_true] at hr
    cases hstep : Net.step ⟨w.g.now, d⟩ w.net op with
    | error e => simp [hstep] at hr
    | ok v =>
      simp only [hstep, Option.some.injEq] at hr
      subst hr
      obtain ⟨hi1, _, hfor⟩ := step_sim hc.pinv hok hstep
      have hst := hfor addr
      have hsub := subOf_proj addr w.net r d op
      simp only [ghostStep, ghostMove]
      cases hp : projOp w.net addr op with
      | none =>
        have hst := hst.of_none hp
        simp only [hp] at hsub ⊢
        exact ⟨w.g, rfl, coup_quiet hc hi1 hsub (.inl hst.1) (by rw [hst.2]) (by rw [hst.2]; rfl)⟩
      | some lop =>
        have hst := hst.of_some hp
        simp only [hp, Option.map_some, Option.getD_some] at hsub ⊢
        cases hs : slot w.net.peers addr with
        | none =>
          rw [hs] at hst
          cases lop with
          | dgram rd fr => exact (allowed_proj hal hp).elim
          | sendConnless x => exact (allowed_proj hal hp).elim
          | connect fr =>
            rw [refStep_connect_none] at hst
            cases fr with
            | none => cases hst
            | some pid =>
              cases hcn : Conn6.connect ⟨w.g.now, d⟩ Conn6.Conn.new with
              | error e => rw [hcn] at hst; cases hst
              | ok cv =>
                obtain ⟨c, o'⟩ := cv
                simp only [hcn, Except.ok.injEq, Prod.mk.injEq] at hst
                obtain ⟨hslot1, _, hofor⟩ := hst
                have hcr : created addr w net1 = true := by simp [created, hs, ← hslot1]
                have hborn : w.born = false := by simpa [hcr] using hcb
                have hcall : P6.call w.g.now d w.g.b.conn .connect =
                    .ok { conn := c, sent := o'.sent, events := o'.events } := by
                  simp only [P6.call, (hc.fresh hborn).2, hcn]
                refine ⟨_, ghost_call_b _ _ _ hcall, ?_⟩
                refine coup_moved hc hi1 (by rw [← hofor]; exact lift_sent _ _ _)
                  (by rw [← hofor]; exact lift_vital _ _ _) hsub (by simp [hcr]) ?_
                intro pid' p1 h'
                rw [← hslot1] at h'
                cases h'
                exact ⟨rfl, fun hu => absurd hu (connect_left hcn)⟩
          | tick =>
            simp only [refStep_tick_none, Except.ok.injEq, Prod.mk.injEq] at hst
            obtain ⟨hslot1, _, hofor⟩ := hst
            simp only [Option.isSome_none, Bool.false_eq_true, if_false]
            exact ⟨w.g, rfl, coup_quiet hc hi1 hsub (.inl (by rw [← hslot1, hs])) (by rw [← hofor])
              (by rw [← hofor]; rfl)⟩
          | _ => cases hst
        | some x =>
          obtain ⟨pid, p⟩ := x
          rw [hs] at hst
          obtain ⟨hpc, hborn⟩ := hc.conn pid p hs
          have hcr : created addr w net1 = false := by simp [created, hs]
          cases hlc : liveCall lop with
          | some c =>
            obtain ⟨r0, hcall, hsent, hvit, hcs, hslot⟩ := refStep_call hlc hst
            rw [hpc] at hcall
            refine ⟨w.g.set .b (w.g.b.book (P := proto6 tl) r0 (callSub r0.accepted c)), ?_, ?_⟩
            · cases lop <;> cases hlc <;> simp only [Option.isSome_some, if_true] <;>
                exact ghost_call_b _ _ _ hcall
            refine coup_moved hc hi1 hsent hvit (hsub.trans hcs) (by simp [hborn]) ?_
            intro pid' p1 h'
            rcases hslot with h0 | ⟨h0, hnu⟩
            · rw [h0] at h'; cases h'
            · rw [h0] at h'
              cases h'
              exact ⟨rfl, fun hu => ⟨by simp [hcr], p, hs, hnu hu, rfl⟩⟩
          | none =>
            cases lop with
            | dgram rd fr => exact (allowed_proj hal hp).elim
            | sendConnless x => exact (allowed_proj hal hp).elim
            | connect fr => cases hst
            | ignore =>
              obtain ⟨_, hf, hslot1, _, hofor⟩ := slotRemove_ok (p := p) (f := fun _ => .ok {}) hst
              cases hf
              exact ⟨w.g, rfl, coup_quiet hc hi1 hsub (.inr ⟨hslot1, hborn⟩) (by rw [hofor]; rfl)
                (by rw [hofor]; rfl)⟩
            | accept =>
              obtain ⟨c, o', hf, hslot1, hofor⟩ := slotModify_ok hst
              obtain ⟨hu, hcf, _⟩ := peerAccept_ok hf
              obtain ⟨i, alt, dg, hreq, hdg, hwr⟩ := hc.pend pid p hs hu
              -- the announcing datagram, read under `p`'s hint, is the canned packet
              have hcg : Conn6.feed ⟨w.g.now, d⟩ w.g.b.conn (P6.wireRead tl dg.pkt alt) = .ok (c, o') := by
                rw [← hpc, ← hcf]
                exact Conn6.feed_congr (by rw [show p.conn.hint = none by simp [Conn6.Conn.hint, Conn6.State.token?, hu], hwr])
              refine ⟨_, by simp only [hreq, Option.map_some]; exact ghost_deliver_b w.g d hdg hcg, ?_⟩
              refine coup_moved hc hi1 (by rw [hofor]; exact lift_sent _ _ _)
                (by rw [hofor]; exact lift_vital _ _ _) hsub (by simp [hborn]) ?_
              intro pid' p1 h'
              rw [hslot1] at h'
              cases h'
              exact ⟨rfl, fun _ => ⟨by simp [hcr], p, hs, hu, rfl⟩⟩
            | _ => cases hlc

theorem coup_step {tl : Bool} {addr : Nat} {w w' : NW tl} {m : NMove} (hc : Coup addr w)
    (hok : ∀ d op, m = .net d op → opOk w.net op = true) (h : nwStep addr w m = some w') : Coup addr w' := by
  obtain ⟨net1, r, o, g1, hr, hcb, hg, rfl⟩ := nwStep_some h
  cases m with
  | remCall d c => cases hr; exact coup_remote (.call d c) hc hg rfl
  | toRemote i d alt => cases hr; exact coup_remote (.deliver (P := proto6 tl) i d alt) hc hg rfl
  | advance dt => cases hr; exact coup_remote (.advance dt) hc hg rfl
  | toNet i d alt =>
    obtain ⟨g2, hg2, hc2⟩ := coupled_toNet hc hr hcb
    cases hg2.symm.trans hg
    exact hc2
  | net d op =>
    obtain ⟨g2, hg2, hc2⟩ := coupled_net hc (hok d op rfl) hr hcb
    cases hg2.symm.trans hg
    exact hc2

/-- why a run of the composite world can end: the endpoint's own call fails (or the datagram index
does not exist / the call is outside the world's alphabet), the address would get a second peer, or
the move is the remote's and the remote's own call or delivery fails — never because of the ghost -/
theorem nwStep_none {tl : Bool} {addr : Nat} {w : NW tl} {m : NMove} (hc : Coup addr w)
    (hok : ∀ d op, m = .net d op → opOk w.net op = true) (h : nwStep addr w m = none) :
    realStep tl addr w m = none ∨
      (∃ net1 r o, realStep tl addr w m = some (net1, r, o) ∧ (created addr w net1 && w.born) = true) ∨
      ((∃ d c, m = .remCall d c) ∨ ∃ i d alt, m = .toRemote i d alt) := by
  unfold nwStep at h
  cases hr : realStep tl addr w m with
  | none => exact Or.inl rfl
  | some v =>
    obtain ⟨net1, r, o⟩ := v
    simp only [hr] at h
    cases hcb : (created addr w net1 && w.born) with
    | true => exact Or.inr (Or.inl ⟨net1, r, o, rfl, hcb⟩)
    | false =>
      simp only [hcb, Bool.false_eq_true, if_false] at h
      cases hg : ghostStep tl addr w m with
      | some g1 => simp [hg] at h
      | none =>
        cases m with
        | remCall d c => exact Or.inr (Or.inr (Or.inl ⟨d, c, rfl⟩))
        | toRemote i d alt => exact Or.inr (Or.inr (Or.inr ⟨i, d, alt, rfl⟩))
        | advance dt => cases hg
        | toNet i d alt => obtain ⟨g2, hg2, _⟩ := coupled_toNet hc hr hcb; cases hg2.symm.trans hg
        | net d op => obtain ⟨g2, hg2, _⟩ := coupled_net hc (hok d op rfl) hr hcb; cases hg2.symm.trans hg

theorem coup_run {tl : Bool} {addr : Nat} (sched : List NMove) : ∀ (w w' : NW tl), Coup addr w →
    nwOk addr w sched = true → nwRun addr w sched = some w' → Coup addr w' := by
  induction sched with
  | nil => intro w w' hc _ h; cases h; exact hc
  | cons m ms ih =>
    intro w w' hc hok h
    simp only [nwRun] at h
    simp only [nwOk, Bool.and_eq_true] at hok
    cases hs : nwStep addr w m with
    | none => simp [hs] at h
    | some w1 =>
      simp only [hs] at h hok
      refine ih w1 w' (coup_step hc ?_ hs) hok.2 h
      intro d op hm
      subst hm
      exact hok.1

theorem ghost_run {tl : Bool} {addr : Nat} (sched : List NMove) : ∀ (w w' : NW tl),
    nwRun addr w sched = some w' → NetSim.run w.g (ghostSched addr w sched) = some w'.g := by
  induction sched with
  | nil => intro w w' h; cases h; rfl
  | cons m ms ih =>
    intro w w' h
    simp only [nwRun] at h
    cases hs : nwStep addr w m with
    | none => simp [hs] at h
    | some w1 =>
      simp only [hs] at h
      obtain ⟨net1, r, o, g1, _, _, hg, rfl⟩ := nwStep_some hs
      have : NetSim.run g1 (ghostSched addr _ ms) = some w'.g := ih _ w' h
      simp only [ghostSched, hs]
      unfold ghostStep at hg
      cases hgm : ghostMove tl addr w m with
      | none =>
        simp only [hgm, Option.some.injEq] at hg
        subst hg
        exact this
      | some gm =>
        simp only [hgm] at hg
        simpa only [List.cons_append, List.nil_append, NetSim.run, hg] using this

end Tw.NetC01
