import Tw.Proofs.Packet7Write
import Tw.Proofs.Packet7Spec

/-! The two-step path `decompress_if_needed` → `read_panic_on_decompression` returns what `Packet::read` returns
(0.7), except for the token-request length rule, which looks at the length of the datagram it is given.
`Packet7Write` is imported for the witness of that exception only (`ctrlBody`, `readControl_ctrlBody`). -/
namespace Tw.Packet7
open Tw.Packet Tw.PacketBits

def bodyValue : Except (ReadError × List Warning) ReadOk → Except ReadError Packet
  | .ok r => .ok r.pkt
  | .error (e, _) => .error e

theorem lift_value (x : Except (ReadError × List Warning) ReadOk) :
    (ReadResult.lift x).value = some (bodyValue x) := by
  cases x with
  | ok r => rfl
  | error e => cases e; rfl

/-- The two headers of `two_step_value` differ in the compression flag only; the datagram length `total` matters only
through the token-request rule (`hT`). -/
theorem readBody_value_congr (h h' : PacketHeader) (wh wh' : List Warning) (p : List UInt8) (src src' : Src)
    (sc sc' : List UInt8) (total total' : Nat)
    (hc : (h.flags &&& Tw.Gen.Packet7.PACKETFLAG_CONTROL ≠ 0) ↔ (h'.flags &&& Tw.Gen.Packet7.PACKETFLAG_CONTROL ≠ 0))
    (hr : (h.flags &&& Tw.Gen.Packet7.PACKETFLAG_REQUEST_RESEND ≠ 0) ↔
      (h'.flags &&& Tw.Gen.Packet7.PACKETFLAG_REQUEST_RESEND ≠ 0))
    (ha : h.ack = h'.ack) (hn : h.numChunks = h'.numChunks) (htok : h.token = h'.token)
    (hT : tooShortRequest h.token total ↔ tooShortRequest h.token total') :
    bodyValue (readBody h wh p src sc total) = bodyValue (readBody h' wh' p src' sc' total') := by
  have hrd : decide (h.flags &&& Tw.Gen.Packet7.PACKETFLAG_REQUEST_RESEND ≠ 0) =
      decide (h'.flags &&& Tw.Gen.Packet7.PACKETFLAG_REQUEST_RESEND ≠ 0) := by simp only [hr]
  unfold readBody readControl
  by_cases hl : p.length > Tw.Gen.Packet7.READ_PAYLOAD_LIMIT
  · rw [if_pos hl, if_pos hl]; rfl
  · rw [if_neg hl, if_neg hl]
    by_cases hcc : h.flags &&& Tw.Gen.Packet7.PACKETFLAG_CONTROL ≠ 0
    · rw [if_pos hcc, if_pos (hc.mp hcc)]
      have hs := controlValue_congr h h' p src src' Tw.Gen.Packet7.HEADER_SIZE total total' htok hT
      revert hs
      generalize controlValue h p src _ total = x
      generalize controlValue h' p src' _ total' = y
      intro hs
      rcases x with e | ⟨c, l⟩ <;> rcases y with e' | ⟨c', l'⟩ <;> cases hs
      · rfl
      · simp only [bodyValue, ha, htok]
    · rw [if_neg hcc, if_neg (fun x => hcc (hc.mpr x))]
      simp only [bodyValue, ha, hn, hrd, htok]

/-- C06, two-step path (0.7): `Props/C06.v7_two_step_equals_read` restates it.  `hT` can only fail for a header token
`TOKEN_NONE` with `bytes.length < 519 ≤ s.length`; `two_step_token_request_witness` is such a datagram. -/
theorem two_step_value (t : Huffman.Table) (bytes : List UInt8) (cap : Nat) (s : List UInt8)
    (h : decompressIfNeeded t bytes cap = .ok true s) (hs : s.length ≤ Tw.Gen.Packet7.MAX_PACKETSIZE)
    (hT : tooShortRequest (headerOf bytes).1.token bytes.length ↔ tooShortRequest (headerOf bytes).1.token s.length) :
    (read t s none).value = (read t bytes (some cap)).value := by
  have hH : Tw.Gen.Packet7.HEADER_SIZE = 7 := rfl
  obtain ⟨hcap, hn, out, hout, rfl⟩ := decompressIfNeeded_ok h
  obtain ⟨hlen, h7, hconn, hcomp⟩ := (needsDecompression_iff bytes).mp hn
  have hsl : (fakeHeader bytes ++ out).length = out.length + 7 := by
    rw [List.length_append, fakeHeader_length, Nat.add_comm]
  -- the direct read
  rw [read_eq t bytes _ (cap_of_some hcap) hlen h7, if_neg (by simp [hconn]), if_pos hcomp]
  dsimp only
  rw [hout]
  dsimp only
  rw [lift_value]
  -- the two-step read
  have c8 : (255 - Tw.Gen.Packet7.PACKETFLAG_COMPRESSION) &&& Tw.Gen.Packet7.PACKETFLAG_CONNLESS =
      Tw.Gen.Packet7.PACKETFLAG_CONNLESS := by decide
  have c1 : (255 - Tw.Gen.Packet7.PACKETFLAG_COMPRESSION) &&& Tw.Gen.Packet7.PACKETFLAG_CONTROL =
      Tw.Gen.Packet7.PACKETFLAG_CONTROL := by decide
  have c2 : (255 - Tw.Gen.Packet7.PACKETFLAG_COMPRESSION) &&& Tw.Gen.Packet7.PACKETFLAG_REQUEST_RESEND =
      Tw.Gen.Packet7.PACKETFLAG_REQUEST_RESEND := by decide
  have c4 : (255 - Tw.Gen.Packet7.PACKETFLAG_COMPRESSION) &&& Tw.Gen.Packet7.PACKETFLAG_COMPRESSION = 0 := by decide
  rw [read_eq t _ none nofun hs (by rw [hsl, hH]; exact Nat.le_add_left 7 _), headerOf_decompressed bytes out]
  dsimp only
  rw [if_neg (by rw [and_clear_other _ _ _ c8]; simp [hconn]),
    if_neg (by rw [Nat.and_assoc, c4, Nat.and_zero]; simp), hH, List.drop_left' (fakeHeader_length bytes),
    lift_value]
  congr 1
  have htk : (headerOf bytes).1.token = tok4 (bytes.drop 3) := rfl
  apply readBody_value_congr
  · simp only; rw [and_clear_other _ _ _ c1]
  · simp only; rw [and_clear_other _ _ _ c2]
  · rfl
  · rfl
  · rfl
  · simp only; rw [← htk]; exact hT.symm

/-- a token request as a peer may send it compressed: header `Control | Compression`, token `TOKEN_NONE`,
then the Huffman-compressed 512-byte body `05 <response token> 00 … 00` -/
def compressedTokenRequest (t : Huffman.Table) (rt : Token) : List UInt8 :=
  hdrBytes ((Tw.Gen.Packet7.PACKETFLAG_CONTROL ||| Tw.Gen.Packet7.PACKETFLAG_COMPRESSION) * 4 + 0 / 256, 0 % 256, 0)
    tokenNone ++ Huffman.compress t false (ctrlBody (.token rt) tokenNone)

/-- Why `two_step_value` needs `hT`: `Packet::read` applies the 519-byte rule to the wire length, the two-step path to
the decompressed one.  `Props/C06.v7_two_step_token_request_witness` instantiates it for the built-in table. -/
theorem two_step_token_request_witness (t : Huffman.Table) (hrt : HuffmanRoundTrip t) (rt : Token)
    (hne : rt ≠ tokenNone)
    (hshort : (Huffman.compress t false (ctrlBody (.token rt) tokenNone)).length + 7 <
      Tw.Gen.Packet7.TOKEN_REQUEST_PACKET_SIZE) :
    ∃ s, decompressIfNeeded t (compressedTokenRequest t rt) Tw.Gen.Packet7.MAX_PACKETSIZE = .ok true s ∧
      s.length = Tw.Gen.Packet7.TOKEN_REQUEST_PACKET_SIZE ∧
      (read t (compressedTokenRequest t rt) (some Tw.Gen.Packet7.MAX_PACKETSIZE)).value =
        some (.error .controlTokenRequestTooShort) ∧
      (read t s none).value = some (.ok (.connected 0 tokenNone (.control (.token rt)))) := by
  have hM : Tw.Gen.Packet7.MAX_PACKETSIZE = 1400 := by decide
  have hH : Tw.Gen.Packet7.HEADER_SIZE = 7 := by decide
  have hT : Tw.Gen.Packet7.TOKEN_REQUEST_PACKET_SIZE = 519 := by decide
  have hL : Tw.Gen.Packet7.READ_PAYLOAD_LIMIT = 1393 := by decide
  have hP : TOKEN_REQUEST_PADDING = 507 := by decide
  have hbl : (ctrlBody (.token rt) tokenNone).length = 512 := by
    simp only [ctrlBody, if_true, List.length_cons, List.length_append, Token.toList, List.length_nil,
      List.length_replicate, hP]
  let h0 : PacketHeader := ⟨Tw.Gen.Packet7.PACKETFLAG_CONTROL ||| Tw.Gen.Packet7.PACKETFLAG_COMPRESSION, 0, 0, tokenNone⟩
  have hf : h0.flags < 16 := by decide
  have h8 : h0.flags &&& Tw.Gen.Packet7.PACKETFLAG_CONNLESS = 0 := by decide
  have h4 : h0.flags &&& Tw.Gen.Packet7.PACKETFLAG_COMPRESSION ≠ 0 := by decide
  have hbytes : compressedTokenRequest t rt =
      hdrBytes (h0.flags * 4 + h0.ack / 256, h0.ack % 256, h0.numChunks) h0.token ++
        Huffman.compress t false (ctrlBody (.token rt) tokenNone) := rfl
  have hlen : (compressedTokenRequest t rt).length < 519 := by
    rw [hbytes, hdrBytes_append_length]; omega
  have hge : 7 ≤ (compressedTokenRequest t rt).length := by
    rw [hbytes, hdrBytes_append_length]; omega
  have hu := headerOf_written h0 hf (by decide) (by decide) (Huffman.compress t false (ctrlBody (.token rt) tokenNone))
  rw [← hbytes] at hu
  have hnd : needsDecompression (compressedTokenRequest t rt) = true :=
    (needsDecompression_iff _).mpr
      ⟨Nat.le_trans (Nat.le_of_lt hlen) (by decide), hge, by rw [hu]; exact h8, by rw [hu]; exact h4⟩
  have hde := decompress_eq t (compressedTokenRequest t rt) Tw.Gen.Packet7.MAX_PACKETSIZE (Nat.le_refl _) hnd
  have hdrop : (compressedTokenRequest t rt).drop 7 = Huffman.compress t false (ctrlBody (.token rt) tokenNone) := rfl
  rw [hdrop, hrt _ _ (by omega)] at hde
  simp only at hde
  refine ⟨fakeHeader (compressedTokenRequest t rt) ++ ctrlBody (.token rt) tokenNone, ?_, ?_, ?_, ?_⟩
  · unfold decompressIfNeeded
    rw [if_neg (by omega)]
    simp only [hnd, not_true_eq_false, if_false, hde]
  · simp only [List.length_append, fakeHeader_length, hbl, hT]
  · -- the direct read refuses: the datagram is shorter than 519 bytes
    rw [read_eq t _ _ (cap_of_some (Nat.le_refl _))
      (Nat.le_trans (Nat.le_of_lt hlen) (by decide)) hge, hu]
    rw [if_neg (by simp [h8]), if_pos h4]
    dsimp only
    rw [hdrop, hrt _ _ (by omega)]
    dsimp only
    rw [lift_value]
    unfold readBody readControl
    rw [if_neg (by omega), if_pos (by decide)]
    have hcv : controlValue h0 (ctrlBody (.token rt) tokenNone) .scratch Tw.Gen.Packet7.HEADER_SIZE
        (compressedTokenRequest t rt).length = .error .controlTokenRequestTooShort := by
      unfold controlValue ctrlBody
      simp only [Control.magic]
      rw [UInt8.toNat_ofNat_of_lt' (by decide : Tw.Gen.Packet7.CTRLMSG_TOKEN < 256)]
      simp only [Tw.Gen.Packet7.CTRLMSG_TOKEN, Tw.Gen.Packet7.CTRLMSG_KEEPALIVE, Tw.Gen.Packet7.CTRLMSG_CONNECT,
        Tw.Gen.Packet7.CTRLMSG_ACCEPT, Tw.Gen.Packet7.CTRLMSG_CLOSE, hT]
      simp [h0, hlen]
    rw [hcv]
    rfl
  · -- the two-step read accepts
    have hsl : (fakeHeader (compressedTokenRequest t rt) ++ ctrlBody (.token rt) tokenNone).length = 519 := by
      simp only [List.length_append, fakeHeader_length, hbl]
    rw [read_eq t _ none nofun (by omega) (by omega), headerOf_decompressed]
    simp only
    rw [hu]
    have e1 : h0.flags &&& (255 - Tw.Gen.Packet7.PACKETFLAG_COMPRESSION) = Tw.Gen.Packet7.PACKETFLAG_CONTROL := by decide
    rw [e1, if_neg (by decide), if_neg (by decide), hH, List.drop_left' (fakeHeader_length _), lift_value, hsl]
    unfold readBody
    rw [if_neg (by omega), if_pos (by simp only; decide)]
    have htk : tok4 ((compressedTokenRequest t rt).drop 3) = tokenNone := rfl
    rw [htk]
    have hrc := readControl_ctrlBody 0 (.token rt) tokenNone .input Tw.Gen.Packet7.HEADER_SIZE hne
    rw [hbl] at hrc
    rw [hrc]
    rfl

end Tw.Packet7
