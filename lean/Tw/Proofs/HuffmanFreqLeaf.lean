import Tw.Proofs.HuffmanFreqInner

/-! The depth-first traversal of `from_frequencies` (explicit 24-entry stack, direction bits) writes
into every symbol's entry the code of a path from the root to that symbol: together with
`HuffmanFreqInner` this gives `fromFrequencies f = ok t → WellFormed t`. -/
namespace Tw.Huffman

theorem getD_set_ne (T : Array (Nat × Nat)) (j i : Nat) (v dflt : Nat × Nat) (h : j ≠ i) :
    (T.set! j v).getD i dflt = T.getD i dflt := by
  simp only [Array.set!_eq_setIfInBounds, Array.getD_eq_getD_getElem?,
    Array.getElem?_setIfInBounds_ne h]

theorem getD_set_eq (T : Array (Nat × Nat)) (n : Nat) (v dflt : Nat × Nat) (h : n < T.size) :
    (T.set! n v).getD n dflt = v := by
  simp [Array.set!_eq_setIfInBounds, Array.getD_eq_getD_getElem?, h]

theorem node_set_ne (nodes : Table) (j i : Nat) (v : Nat × Nat) (h : j ≠ i) :
    node (nodes.set! j v) i = node nodes i := getD_set_ne nodes j i v _ h

theorem node_set_eq (T : Table) (n : Nat) (v : Nat × Nat) (h : n < T.size) :
    node (T.set! n v) n = v := getD_set_eq T n v _ h

/-- the entry `SymbolRepr { bits, num_bits: k }.to_node()` -/
def encLeaf (k bits : Nat) : Nat × Nat := (k * 256 + bits / 65536, bits % 65536)

def SameInner (T N : Table) : Prop := T.size = N.size ∧ ∀ i, NUM_SYMBOLS ≤ i → node T i = node N i

/-- the `assign` part of one loop iteration, with the fuel `d` of the inner `while` explicit (`dfs` gives it 32, more than
the 24 pushes the stack admits) -/
def assignD (T : Table) (d f : Nat) (stack : List Nat) (top bits : Nat) : FreqResult :=
  match descend T d stack top with
  | .panic s => .panic s
  | .diverge => .diverge
  | .ok stack top =>
    if bits ≥ 2 ^ 24 then .panic "to_node: bits >> 24 == 0"
    else if top ≥ T.size then .panic "nodes[top]: index out of bounds"
    else dfs (T.set! top (encLeaf stack.length bits)) f stack bits false

theorem dfs_first (T : Table) (f : Nat) (stack : List Nat) (bits : Nat) :
    dfs T (f + 1) stack bits true = assignD T 32 f stack ROOT_IDX bits := by
  rw [dfs.eq_def]; simp only [if_true]; rfl

theorem dfs_pop_nil (T : Table) (f : Nat) (bits : Nat) :
    dfs T (f + 1) [] bits false = .ok T := by
  rw [dfs.eq_def]; simp

theorem dfs_pop_set (T : Table) (f : Nat) (t : Nat) (st : List Nat) (bits : Nat)
    (h : (bits / 2 ^ st.length) % 2 = 1) :
    dfs T (f + 1) (t :: st) bits false = dfs T f st (bits - 2 ^ st.length) false := by
  rw [dfs.eq_def]; simp [h]

theorem dfs_pop_clear (T : Table) (f : Nat) (t : Nat) (st : List Nat) (bits : Nat)
    (h : ¬ (bits / 2 ^ st.length) % 2 = 1) :
    dfs T (f + 1) (t :: st) bits false
      = if t ≥ T.size then .panic "nodes[top]: index out of bounds"
        else assignD T 32 f (t :: st) (node T t).2 (bits + 2 ^ st.length) := by
  rw [dfs.eq_def]; simp only [Bool.false_eq_true, if_false, h]; rfl

theorem assignD_inner (T : Table) (d f : Nat) (stack : List Nat) (n bits : Nat)
    (hn : n ≥ NUM_SYMBOLS) (hs : ¬ stack.length ≥ 24) (hsz : ¬ n ≥ T.size) :
    assignD T (d + 1) f stack n bits = assignD T d f (n :: stack) (node T n).1 bits := by
  simp only [assignD, descend, hn, hs, hsz, if_true, if_false]

theorem assignD_leaf (T : Table) (d f : Nat) (stack : List Nat) (n bits : Nat)
    (hn : ¬ n ≥ NUM_SYMBOLS) (hb : ¬ bits ≥ 2 ^ 24) (hsz : ¬ n ≥ T.size) :
    assignD T (d + 1) f stack n bits
      = dfs (T.set! n (encLeaf stack.length bits)) f stack bits false := by
  simp only [assignD, descend, hn, hb, hsz, if_false]

theorem sameInner_set (T N : Table) (h : SameInner T N) (n : Nat) (hn : n < NUM_SYMBOLS)
    (v : Nat × Nat) : SameInner (T.set! n v) N := by
  refine ⟨(Array.size_set! ..).trans h.1, ?_⟩
  intro i hi
  rw [node_set_ne _ _ _ _ (by omega)]
  exact h.2 i hi

/-- the entry of symbol `s` in `R` is the code of a path from the root of `N` to `s` -/
def CodeIsPath (N R : Table) (s : Nat) : Prop :=
  ∃ p, go N ROOT_IDX p = some s ∧ p.length ≤ 24 ∧ node R s = encLeaf p.length (bitsToNat p)

/-- The iterative traversal of the subtree below `n`, reached by the path `q` (the stack holds the
nodes on it, the loop's `bits` are `bitsToNat q`), gives every symbol below `n` the code of its root
path and keeps the entries that were codes of root paths; then control is back at the loop head with
the same stack and bits.  The recursion (left subtree, turn right, right subtree, go up) is the
induction. -/
theorem assignD_valid (N : Table) (hN : Forest N) (n : Nat) : n < 513 →
    ∀ (T : Table) (d f : Nat) (stack : List Nat) (q : List Bool) (T' : Table),
      SameInner T N → go N ROOT_IDX q = some n → stack.length = q.length → q.length ≤ 24 →
      assignD T d f stack n (bitsToNat q) = .ok T' →
      ∃ T1 f1, SameInner T1 N ∧ (∀ s, CodeIsPath N T s → CodeIsPath N T1 s)
        ∧ (∀ s p, s < NUM_SYMBOLS → go N n p = some s → CodeIsPath N T1 s)
        ∧ dfs T1 f1 stack (bitsToNat q) false = .ok T' := by
  induction n using Nat.strongRecOn with
  | ind n ih =>
    intro hn513 T d f stack q T' hsame hq hk hq24 hok
    have hbits : bitsToNat q < 2 ^ stack.length := hk ▸ bitsToNat_lt q
    have hTsz : T.size = 513 := by rw [hsame.1, hN.size]
    have hnsz : ¬ n ≥ T.size := by omega
    cases d with
    | zero => simp [assignD, descend] at hok
    | succ d =>
      by_cases hleaf : n < NUM_SYMBOLS
      · -- a symbol: assign it
        have hb24 : ¬ bitsToNat q ≥ 2 ^ 24 :=
          Nat.not_le.mpr (lt_two_pow_of_le (bitsToNat_lt q) hq24)
        rw [assignD_leaf T d f stack n _ (by omega) hb24 hnsz] at hok
        have hnew : CodeIsPath N (T.set! n (encLeaf stack.length (bitsToNat q))) n :=
          ⟨q, hq, hq24, by rw [node_set_eq T n _ (by omega), hk]⟩
        refine ⟨_, f, sameInner_set T N hsame n hleaf _, ?_, ?_, hok⟩
        · intro s hv
          by_cases hs : s = n
          · subst hs; exact hnew
          · obtain ⟨p, v1, v2, v3⟩ := hv
            exact ⟨p, v1, v2, by rw [node_set_ne _ _ _ _ (Ne.symm hs)]; exact v3⟩
        · intro s p hs hp
          cases p with
          | nil => cases hp; exact hnew
          | cons b bs => rw [go, if_neg (Nat.not_le.mpr hleaf)] at hp; cases hp
      · have hge : n ≥ NUM_SYMBOLS := by omega
        by_cases hfull : stack.length ≥ 24
        · simp [assignD, descend, hge, hfull] at hok
        · rw [assignD_inner T d f stack n _ hge hfull hnsz, hsame.2 n hge] at hok
          have hch := hN.inner n hge (by rw [hN.size]; exact hn513)
          have hlen : ∀ b, (n :: stack).length = (q ++ [b]).length ∧ (q ++ [b]).length ≤ 24 := by
            intro b; simp only [List.length_cons, List.length_append, List.length_nil]; omega
          have e0 : bitsToNat (q ++ [false]) = bitsToNat q := by simp [bitsToNat_snoc]
          have e1 : bitsToNat (q ++ [true]) = bitsToNat q + 2 ^ stack.length := by
            simp [bitsToNat_snoc, hk]
          obtain ⟨T1, f1, s1, a2, a3, r1⟩ := ih (node N n).1 (by omega) (by omega) T d f (n :: stack)
            (q ++ [false]) T' hsame ((go_snoc ..).mpr ⟨n, hq, hge, rfl⟩) (hlen _).1 (hlen _).2
            (e0 ▸ hok)
          -- back at the loop head: turn right
          have hT1sz : T1.size = 513 := by rw [s1.1, hN.size]
          cases f1 with
          | zero => simp [dfs] at r1
          | succ f2 =>
            have hclear : ¬ (bitsToNat q / 2 ^ stack.length) % 2 = 1 := by
              rw [Nat.div_eq_of_lt hbits]; decide
            rw [e0, dfs_pop_clear T1 f2 n stack _ hclear, if_neg (by omega), s1.2 n hge, ← e1] at r1
            obtain ⟨T2, f3, s2, b2, b3, r2⟩ := ih (node N n).2 (by omega) (by omega) T1 32 f2
              (n :: stack) (q ++ [true]) T' s1 ((go_snoc ..).mpr ⟨n, hq, hge, rfl⟩) (hlen _).1
              (hlen _).2 r1
            -- back again: the bit is set, go up
            cases f3 with
            | zero => simp [dfs] at r2
            | succ f4 =>
              have hset : ((bitsToNat q + 2 ^ stack.length) / 2 ^ stack.length) % 2 = 1 := by
                rw [Nat.add_div_right _ (Nat.two_pow_pos _), Nat.div_eq_of_lt hbits]
              rw [e1, dfs_pop_set T2 f4 n stack _ hset, Nat.add_sub_cancel] at r2
              refine ⟨T2, f4, s2, fun s hv => b2 s (a2 s hv), ?_, r2⟩
              intro s p hs hp
              cases p with
              | nil => cases hp; omega
              | cons b bs =>
                rw [go, if_pos hge] at hp
                cases b
                · exact b2 s (a3 s bs hs hp)
                · exact b3 s bs hs hp

theorem walk_congr (t N : Table) (h : SameInner t N) (p : List Bool) :
    ∀ nd, nd ≥ NUM_SYMBOLS → walk t nd p = walk N nd p := by
  induction p with
  | nil => intro nd _; rfl
  | cons b bs ih =>
    intro nd hnd
    simp only [walk, walkF]
    have hc : childF (node t) nd b = childF (node N) nd b := by simp only [childF, h.2 nd hnd]
    rw [hc]
    by_cases hge : childF (node N) nd b ≥ NUM_SYMBOLS
    · simp only [hge, if_true]; exact ih _ hge
    · simp only [hge, if_false]

theorem encLeaf_decode (t : Table) (s k b : Nat) (h : node t s = encLeaf k b) (hb : b < 2 ^ 24) :
    symLen t s = k ∧ symBits t s = b := by
  have hx : b / 65536 < 256 := Nat.div_lt_of_lt_mul hb
  simp only [symLen, symLenF, symBits, symBitsF, h, encLeaf]
  rw [Nat.mul_comm k 256]
  constructor
  · rw [Nat.mul_add_div (by decide), Nat.div_eq_of_lt hx, Nat.add_zero]
  · rw [Nat.mul_add_mod, Nat.mod_eq_of_lt hx, Nat.div_add_mod']

theorem dfs_valid (T t : Table) (hT : Forest T) {fuel : Nat}
    (hdfs : dfs T fuel [] 0 true = .ok t) :
    SameInner t T ∧ ∀ s, s < NUM_SYMBOLS → CodeIsPath T t s := by
  obtain _ | f := fuel
  · simp [dfs] at hdfs
  rw [dfs_first] at hdfs
  have hsameT : SameInner T T := ⟨rfl, fun _ _ => rfl⟩
  obtain ⟨T1, f1, p1, _, p3, r⟩ := assignD_valid T hT ROOT_IDX (by decide)
    T 32 f [] [] t hsameT rfl rfl (by decide) hdfs
  have ht : t = T1 := by
    cases f1 with
    | zero => simp [dfs] at r
    | succ f2 => rw [dfs_pop_nil] at r; cases r; rfl
  subst ht
  exact ⟨p1, fun s hs =>
    have ⟨p, hp⟩ := reachable_from_root T hT s (Nat.lt_trans hs (by decide))
    p3 s p hs hp⟩

theorem dfs_wellFormed (T t : Table) (hT : Forest T) {fuel : Nat}
    (hdfs : dfs T fuel [] 0 true = .ok t) :
    WellFormed t := by
  obtain ⟨p1, p3⟩ := dfs_valid T t hT hdfs
  refine ⟨p1.1.trans hT.size, ?_⟩
  intro i hi
  by_cases hleaf : i < NUM_SYMBOLS
  · obtain ⟨p, hp, k24, e⟩ := p3 i hleaf
    have hb := bitsToNat_lt p
    obtain ⟨d1, d2⟩ := encLeaf_decode t i _ _ e (lt_two_pow_of_le hb k24)
    have hc : codeBits t i = p := by
      show natBits (symLen t i) (symBits t i) = _
      rw [d1, d2, natBits_self]
    have hne : p ≠ [] := by rintro rfl; cases hp; exact absurd hleaf (by decide)
    rw [okAt_leaf t hleaf, d1, d2, hc, walk_congr t _ p1 _ ROOT_IDX (by decide)]
    exact ⟨List.length_pos_iff.mpr hne, k24, hb,
      (walk_iff_go T _ _ _ (by decide)).mpr ⟨hp, hleaf, hne⟩⟩
  · have hge : NUM_SYMBOLS ≤ i := Nat.le_of_not_lt hleaf
    rw [okAt_inner t hge, p1.2 i hge]
    exact hT.inner i hge (hT.size ▸ hi)

theorem WellFormed.of_fromFrequencies (f : List Nat) (t : Table) (h : fromFrequencies f = .ok t) :
    WellFormed t :=
  have ⟨hlen, hdfs, _⟩ := fromFrequencies_ok f t h
  dfs_wellFormed _ t (rustForest_forest f hlen) hdfs

end Tw.Huffman
