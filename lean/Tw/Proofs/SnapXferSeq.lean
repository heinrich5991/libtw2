import Tw.Proofs.SnapXfer
import Mathlib.Data.List.Induction -- `List.reverseRecOn`, nothing else

/-!
C12 along a message sequence: the invariant `Inv` carried along an arbitrary admissible sequence gives the
classification `Class` of every single message, and with it the count of deliveries.
-/
namespace Tw.SnapXfer

/-- the two message forms `delta_chunks` chooses between: one message, or the parts -/
inductive Form (tick base crc : Int) (data : List UInt8) (msgs : List Msg) : Prop
  | one (h : numParts data.length ≤ 1) (hm : msgs = [oneMsg tick base crc data])
  | multi (h : 2 ≤ numParts data.length)
      (hm : msgs = (List.range (numParts data.length)).map (partMsg tick base crc data))

section
variable {tick base crc : Int} {data : List UInt8} {msgs : List Msg}

/-- `delta_chunks` panics only on its `i32` conversion of the part count. -/
theorem deltaChunks_eq (hn : numParts data.length ≤ 2147483647) :
    deltaChunks tick base data crc = .ok
      (if numParts data.length ≤ 1 then [oneMsg tick base crc data]
       else (List.range (numParts data.length)).map (partMsg tick base crc data)) := by
  unfold deltaChunks oneMsg
  simp only [hn, not_true_eq_false, if_false]
  have h0 := numParts_eq_zero data.length
  rw [List.length_eq_zero_iff] at h0
  by_cases hd : data = []
  · have hz := h0.mpr hd
    rw [if_pos hz, if_pos (by omega), if_pos hd]
  · have := mt h0.mp hd
    rw [if_neg this, if_neg hd]
    by_cases h1 : numParts data.length = 1
    · rw [if_pos h1, if_pos (by omega)]
    · rw [if_neg h1, if_neg (by omega)]
      rfl

theorem deltaChunks_form
    (h : deltaChunks tick base data crc = .ok msgs) : Form tick base crc data msgs := by
  by_cases hn : numParts data.length ≤ 2147483647
  · rw [deltaChunks_eq hn] at h
    injection h with h
    subst h
    split
    · next h1 => exact .one h1 rfl
    · next h1 => exact .multi (by omega) rfl
  · unfold deltaChunks at h
    rw [if_pos hn] at h
    cases h

theorem deltaChunks_ok_of_small (tick base crc : Int) (bs : List UInt8) (h : bs.length ≤ 2147483647) :
    ∃ ms, deltaChunks tick base bs crc = .ok ms :=
  ⟨_, deltaChunks_eq (Nat.le_trans (numParts_le_self _) h)⟩

theorem Form.tick_eq
    (hf : Form tick base crc data msgs) : ∀ x, x ∈ msgs → x.tick = tick := by
  intro x hx
  cases hf with
  | one _ hm =>
    subst hm
    rw [List.mem_singleton.mp hx]
    exact oneMsg_tick tick base crc data
  | multi _ hm =>
    subst hm
    obtain ⟨i, _, rfl⟩ := List.mem_map.mp hx
    rfl

theorem Form.ne_nil
    (hf : Form tick base crc data msgs) : msgs ≠ [] := by
  cases hf with
  | one _ hm => simp [hm]
  | multi h2 hm =>
    intro e
    have := congrArg List.length (hm.symm.trans e)
    rw [List.length_map, List.length_range, List.length_nil] at this
    omega

end

/-- the set of part numbers `Mid` speaks of, after the messages `pre` -/
def seenIn (tick base crc : Int) (data : List UInt8) (pre : List Msg) (i : Nat) : Prop :=
  i < numParts data.length ∧ partMsg tick base crc data i ∈ pre

/-- The state of the receiver after the admissible messages `pre`, started in `r0`. -/
structure Inv (r0 : Receiver) (tick base crc : Int) (data : List UInt8) (msgs pre : List Msg)
    (r : Receiver) : Prop where
  newest : newestSeen r0 pre = r.newest
  state :
    ((∀ x, x ∈ msgs → x ∉ pre) ∧ r = r0) ∨
    ((∃ x, x ∈ msgs ∧ x ∈ pre) ∧ ¬ SeenAll msgs pre ∧
      Mid tick base crc data (seenIn tick base crc data pre) r) ∨
    (SeenAll msgs pre ∧ r.current = none ∧ r.previousTick = some tick)

/-- What the receiver after `pre` does with the next message `m`, by where `m` stands to the transfer `msgs`
(`older`: a stranger, admissible only with an older tick); `d` is what completion delivers. -/
inductive Class (msgs : List Msg) (d : Received) (pre : List Msg) (m : Msg) (r : Receiver) : Prop
  | older (h : m ∉ msgs) (hs : r.step m = (r, .error .oldDelta, []))
  | after (h : m ∈ msgs) (hall : SeenAll msgs pre) (hs : r.step m = (r, .error .oldDelta, []))
  | dup (h : m ∈ msgs) (hall : ¬ SeenAll msgs pre) (hp : m ∈ pre)
      (hs : r.step m = (r, .error .duplicatePart, []))
  | part (h : m ∈ msgs) (hp : m ∉ pre) (hall : ¬ SeenAll msgs (pre ++ [m]))
      (hs : (r.step m).2 = (.ok none, []))
  | last (h : m ∈ msgs) (hp : m ∉ pre) (hall : SeenAll msgs (pre ++ [m]))
      (hs : (r.step m).2 = (.ok (some d), []))

theorem SeenAll.snoc {msgs pre : List Msg} (h : SeenAll msgs pre) (m : Msg) : SeenAll msgs (pre ++ [m]) :=
  fun x hx => List.mem_append_left _ (h x hx)

/-- The classification, spelled out as the five clauses of the C12 statement. -/
theorem Class.verdict {msgs pre : List Msg} {d : Received} {m : Msg} {r : Receiver}
    (hc : Class msgs d pre m r) :
    (m ∉ msgs → r.step m = (r, .error .oldDelta, [])) ∧
    (m ∈ msgs → SeenAll msgs pre → r.step m = (r, .error .oldDelta, [])) ∧
    (m ∈ msgs → ¬ SeenAll msgs pre → m ∈ pre → r.step m = (r, .error .duplicatePart, [])) ∧
    (m ∈ msgs → m ∉ pre → ¬ SeenAll msgs (pre ++ [m]) → (r.step m).2 = (.ok none, [])) ∧
    (m ∈ msgs → m ∉ pre → SeenAll msgs (pre ++ [m]) → (r.step m).2 = (.ok (some d), [])) := by
  cases hc with
  | older h hs =>
    exact ⟨fun _ => hs, fun h' => (h h').elim, fun h' => (h h').elim, fun h' => (h h').elim, fun h' => (h h').elim⟩
  | after h hall hs =>
    exact ⟨fun h' => (h' h).elim, fun _ _ => hs, fun _ hn => (hn hall).elim,
      fun _ _ hn => (hn (hall.snoc m)).elim, fun _ hp _ => (hp (hall m h)).elim⟩
  | dup h hall hp hs =>
    exact ⟨fun h' => (h' h).elim, fun _ ha => (hall ha).elim, fun _ _ _ => hs,
      fun _ hp' => (hp' hp).elim, fun _ hp' => (hp' hp).elim⟩
  | part h hp hall hs =>
    exact ⟨fun h' => (h' h).elim, fun _ ha => (hall (ha.snoc m)).elim, fun _ _ hp' => (hp hp').elim,
      fun _ _ _ => hs, fun _ _ ha => (hall ha).elim⟩
  | last h hp hall hs =>
    exact ⟨fun h' => (h' h).elim, fun _ ha => (hp (ha m h)).elim, fun _ _ hp' => (hp hp').elim,
      fun _ _ hn => (hn hall).elim, fun _ _ _ => hs⟩

theorem admissible_of_all_mem (r : Receiver) (msgs ms : List Msg) (h : ∀ m, m ∈ ms → m ∈ msgs) :
    Admissible r msgs ms := by
  intro pre m post hs
  left; apply h; rw [hs]; simp

section
variable {r0 r : Receiver} {tick base crc : Int} {data : List UInt8} {msgs pre : List Msg} {m : Msg}

theorem Inv.newest_le (hf : Fresh r0 tick) (hinv : Inv r0 tick base crc data msgs pre r) :
    ∀ t, r.newest = some t → t ≤ tick := by
  intro t ht
  rcases hinv.state with ⟨_, rfl⟩ | ⟨_, _, hm⟩ | ⟨_, hc, hp⟩
  · exact Int.le_of_lt (hf t ht)
  · rw [hm.newest] at ht; cases ht; exact Int.le_refl _
  · simp [Receiver.newest, hc, hp] at ht; omega

theorem Inv.snoc_same (htick : ∀ x, x ∈ msgs → x.tick = tick) (hinv : Inv r0 tick base crc data msgs pre r)
    {t : Int} (hn : r.newest = some t) (hle : m.tick ≤ t) (hold : m.tick = tick → m ∈ pre) :
    Inv r0 tick base crc data msgs (pre ++ [m]) r := by
  have hmem : ∀ x, x.tick = tick → (x ∈ pre ++ [m] ↔ x ∈ pre) := fun x hx => by
    rw [List.mem_append, List.mem_singleton]
    exact ⟨fun h => h.elim id fun e => e ▸ hold (e ▸ hx), Or.inl⟩
  have hmsgs : ∀ x, x ∈ msgs → (x ∈ pre ++ [m] ↔ x ∈ pre) := fun x hx => hmem x (htick x hx)
  constructor
  · rw [newestSeen_snoc, hinv.newest, hn, optMax, Int.max_eq_left hle]
  · rcases hinv.state with ⟨h1, h2⟩ | ⟨⟨x, hx, hxp⟩, h2, h3⟩ | ⟨h1, h2⟩
    · exact .inl ⟨fun x hx h => h1 x hx ((hmsgs x hx).mp h), h2⟩
    · exact .inr (.inl ⟨⟨x, hx, List.mem_append_left _ hxp⟩,
        fun hall => h2 fun x hx => (hmsgs x hx).mp (hall x hx),
        h3.congr fun i => and_congr_right fun _ => hmem _ rfl⟩)
    · exact .inr (.inr ⟨h1.snoc m, h2⟩)

theorem seenIn_snoc_part {k : Nat} (hk : k < numParts data.length) (i : Nat) :
    seenIn tick base crc data (pre ++ [partMsg tick base crc data k]) i ↔
      (i = k ∨ seenIn tick base crc data pre i) := by
  unfold seenIn
  simp only [List.mem_append, List.mem_singleton]
  constructor
  · rintro ⟨hi, h | h⟩
    · exact Or.inr ⟨hi, h⟩
    · exact Or.inl (partMsg_inj h)
  · rintro (h | ⟨hi, h⟩)
    · subst h; exact ⟨hk, Or.inr rfl⟩
    · exact ⟨hi, Or.inl h⟩

theorem mem_parts_iff {m : Msg}
    (hm : msgs = (List.range (numParts data.length)).map (partMsg tick base crc data)) :
    m ∈ msgs ↔ ∃ k, k < numParts data.length ∧ partMsg tick base crc data k = m := by
  subst hm
  simp only [List.mem_map, List.mem_range]

theorem seenAll_multi_iff {l : List Msg}
    (hm : msgs = (List.range (numParts data.length)).map (partMsg tick base crc data)) :
    SeenAll msgs l ↔ ∀ i, i < numParts data.length → seenIn tick base crc data l i :=
  ⟨fun h i hi => ⟨hi, h _ ((mem_parts_iff hm).mpr ⟨i, hi, rfl⟩)⟩, fun h x hx => by
    obtain ⟨i, hi, rfl⟩ := (mem_parts_iff hm).mp hx
    exact (h i hi).2⟩

/-- A part of a multi-part transfer arriving while the transfer is in progress (`r1 = r`) or starting
it (`r1 = startOf … r`, nothing seen yet).  `hnew` holds at the two call sites for different reasons
(`Fresh`; `Mid.newest`), so it is a hypothesis. -/
theorem inv_step_part (hb : inI32 base) (hn : numParts data.length ≤ maxParts)
    (hmsgs : msgs = (List.range (numParts data.length)).map (partMsg tick base crc data))
    (hinv : Inv r0 tick base crc data msgs pre r) {k : Nat} (hk : k < numParts data.length)
    (hnew : newestSeen r0 (pre ++ [partMsg tick base crc data k]) = some tick)
    {r1 : Receiver} (hstep1 : r.step (partMsg tick base crc data k) = r1.step (partMsg tick base crc data k))
    (hmid : Mid tick base crc data (seenIn tick base crc data pre) r1)
    (hdup : seenIn tick base crc data pre k → r1 = r) (hnotall : ¬ SeenAll msgs pre) :
    Inv r0 tick base crc data msgs (pre ++ [partMsg tick base crc data k]) (r.step (partMsg tick base crc data k)).1 ∧
      Class msgs (delivery tick base crc data) pre (partMsg tick base crc data k) r := by
  have hmem : partMsg tick base crc data k ∈ msgs := (mem_parts_iff hmsgs).mpr ⟨k, hk, rfl⟩
  have htick : ∀ x, x ∈ msgs → x.tick = tick := fun x hx => by
    obtain ⟨i, _, rfl⟩ := (mem_parts_iff hmsgs).mp hx
    rfl
  rw [hstep1]
  rcases hmid.step_part hb hn hk with ⟨hs, hstep⟩ | ⟨hs, hall, hstep⟩ | ⟨hs, hall, hstep⟩
  · -- a repetition
    obtain rfl := hdup hs
    rw [hstep]
    exact ⟨hinv.snoc_same htick hmid.newest (Int.le_refl _) fun _ => hs.2, .dup hmem hnotall hs.2 hstep⟩
  · -- the last missing part
    have hall' : SeenAll msgs (pre ++ [partMsg tick base crc data k]) := by
      rw [seenAll_multi_iff hmsgs]
      intro i hi; exact (seenIn_snoc_part hk i).mpr (hall i hi)
    rw [hstep]
    exact ⟨⟨by rw [hnew]; rfl, Or.inr (Or.inr ⟨hall', rfl, rfl⟩)⟩,
      .last hmem (fun h => hs ⟨hk, h⟩) hall' (by rw [hstep1, hstep])⟩
  · -- a new part, more to come
    have hnall' : ¬ SeenAll msgs (pre ++ [partMsg tick base crc data k]) := by
      rw [seenAll_multi_iff hmsgs]
      intro h; exact hall (fun i hi => (seenIn_snoc_part hk i).mp (h i hi))
    rw [hstep]
    exact ⟨⟨hnew.trans (hmid.insert hk).newest.symm,
      Or.inr (Or.inl ⟨⟨_, hmem, List.mem_append_right _ (List.mem_singleton.mpr rfl)⟩, hnall',
        (hmid.insert hk).congr (seenIn_snoc_part hk)⟩)⟩,
      .part hmem (fun h => hs ⟨hk, h⟩) hnall' (by rw [hstep1, hstep])⟩

theorem inv_step (hb : inI32 base) (hlen : data.length ≤ maxParts * partSize)
    (hform : Form tick base crc data msgs) (hf : Fresh r0 tick)
    (hinv : Inv r0 tick base crc data msgs pre r)
    (hadm : m ∈ msgs ∨ ∃ t, newestSeen r0 pre = some t ∧ m.tick < t) :
    Inv r0 tick base crc data msgs (pre ++ [m]) (r.step m).1 ∧
      Class msgs (delivery tick base crc data) pre m r := by
  have hn := numParts_le _ hlen
  have htick := hform.tick_eq
  rcases hadm with hm | ⟨t, ht, hlt⟩
  swap
  · -- an older message
    have hrn : r.newest = some t := hinv.newest ▸ ht
    have hstep := older_rejected r m t hrn hlt
    have hle := hinv.newest_le hf t hrn
    rw [hstep]
    exact ⟨hinv.snoc_same htick hrn (Int.le_of_lt hlt) fun h => by omega,
      .older (fun h => by have := htick m h; omega) hstep⟩
  rcases hinv.state with ⟨hnone, rfl⟩ | ⟨hsome, hnotall, hmid⟩ | ⟨hall, hc, hp⟩
  · -- nothing of the transfer has arrived yet
    cases hform with
    | one h1 hmsgs =>
      subst hmsgs
      obtain rfl := List.mem_singleton.mp hm
      have hall : SeenAll [oneMsg tick base crc data] (pre ++ [oneMsg tick base crc data]) := by
        simp [SeenAll]
      have hs := step_fresh_oneMsg (crc := crc) (data := data) hb hf
      refine ⟨?_, .last hm (hnone _ hm) hall (by rw [hs])⟩
      rw [hs]
      exact ⟨by rw [newestSeen_snoc, hinv.newest, oneMsg_tick, hf.optMax]; rfl,
        Or.inr (Or.inr ⟨hall, rfl, rfl⟩)⟩
    | multi h2 hmsgs =>
      obtain ⟨k, hk, rfl⟩ := (mem_parts_iff hmsgs).mp hm
      have hnew : newestSeen r (pre ++ [partMsg tick base crc data k]) = some tick := by
        rw [newestSeen_snoc, hinv.newest, partMsg_tick, hf.optMax]
      have hempty : ∀ i, ¬ seenIn tick base crc data pre i :=
        fun i h => hnone _ ((mem_parts_iff hmsgs).mpr ⟨i, h.1, rfl⟩) h.2
      exact inv_step_part hb hn hmsgs hinv hk hnew (step_fresh_part hb hn hk hf)
        (startOf_mid.congr fun i => ⟨fun h => hempty i h, False.elim⟩) (fun h => (hempty k h).elim)
        (fun h => hnone _ hm (h _ hm))
  · -- the transfer is in progress: only the multi-part form has such a state
    cases hform with
    | one h1 hmsgs =>
      subst hmsgs
      exact (hnotall (by simpa [SeenAll] using hsome)).elim
    | multi h2 hmsgs =>
      obtain ⟨k, hk, rfl⟩ := (mem_parts_iff hmsgs).mp hm
      have hnew : newestSeen r0 (pre ++ [partMsg tick base crc data k]) = some tick := by
        rw [newestSeen_snoc, hinv.newest, partMsg_tick, hmid.newest, optMax_self]
      exact inv_step_part hb hn hmsgs hinv hk hnew rfl hmid (fun _ => rfl) hnotall
  · -- the transfer is complete
    have hstep := step_of_completed r m tick hc hp (Int.le_of_eq (htick m hm))
    rw [hstep]
    exact ⟨hinv.snoc_same htick (by simp only [Receiver.newest, hc, hp]) (Int.le_of_eq (htick m hm))
      fun _ => hall m hm, .after hm hall hstep⟩

theorem inv_init : Inv r0 tick base crc data msgs [] r0 where
  newest := rfl
  state := Or.inl ⟨fun _ _ h => by simp at h, rfl⟩

theorem inv_after (hb : inI32 base) (hlen : data.length ≤ maxParts * partSize)
    (hform : Form tick base crc data msgs) (hf : Fresh r0 tick) :
    ∀ (pre post : List Msg), Admissible r0 msgs (pre ++ post) →
      Inv r0 tick base crc data msgs pre (r0.after pre) := by
  intro pre
  induction pre using List.reverseRecOn with
  | nil => intro _ _; exact inv_init
  | append_singleton pre m ih =>
    intro post hadm
    have hinv := ih (m :: post) (by simpa using hadm)
    have := (inv_step hb hlen hform hf hinv (hadm pre m post (by simp))).1
    rw [after_snoc]; exact this

theorem classify (hb : inI32 base) (hlen : data.length ≤ maxParts * partSize)
    (hform : Form tick base crc data msgs) (hf : Fresh r0 tick)
    {ms : List Msg} (hadm : Admissible r0 msgs ms) (post : List Msg) (hsplit : ms = pre ++ m :: post) :
    Class msgs (delivery tick base crc data) pre m (r0.after pre) := by
  subst hsplit
  have hinv := inv_after hb hlen hform hf pre (m :: post) hadm
  exact (inv_step hb hlen hform hf hinv (hadm pre m post rfl)).2

end

def isDelivery (x : Result × List Warning) : Bool :=
  match x.1 with
  | .ok (some _) => true
  | _ => false

theorem Class.isDelivery_iff {msgs pre : List Msg} {d : Received} {m : Msg} {r : Receiver}
    (hc : Class msgs d pre m r) :
    isDelivery (r.step m).2 = true ↔ ¬ SeenAll msgs pre ∧ SeenAll msgs (pre ++ [m]) := by
  have old : m ∉ msgs ∨ m ∈ pre → SeenAll msgs (pre ++ [m]) → SeenAll msgs pre := by
    intro ho hall x hx
    rcases List.mem_append.mp (hall x hx) with h | h
    · exact h
    · obtain rfl := List.mem_singleton.mp h
      exact ho.elim (fun ho => (ho hx).elim) id
  cases hc with
  | older h hs => rw [hs]; exact ⟨fun h => absurd h Bool.false_ne_true, fun hn => (hn.1 (old (.inl h) hn.2)).elim⟩
  | after h hall hs => rw [hs]; exact ⟨fun h => absurd h Bool.false_ne_true, fun hn => (hn.1 hall).elim⟩
  | dup h hall hp hs => rw [hs]; exact ⟨fun h => absurd h Bool.false_ne_true, fun hn => (hn.1 (old (.inr hp) hn.2)).elim⟩
  | part h hp hall hs => rw [hs]; exact ⟨fun h => absurd h Bool.false_ne_true, fun hn => (hall hn.2).elim⟩
  | last h hp hall hs => rw [hs]; exact ⟨fun _ => ⟨fun ha => hp (ha m h), hall⟩, fun _ => rfl⟩

section
variable {r0 : Receiver} {tick base crc : Int} {data : List UInt8} {msgs : List Msg}

/-- Counting only (the induction over the sequence is in `classify`): each step's verdict moves the count
from 0 to 1 exactly when `SeenAll` becomes true. -/
theorem deliveries (hb : inI32 base) (hlen : data.length ≤ maxParts * partSize)
    (hform : Form tick base crc data msgs) (hf : Fresh r0 tick) :
    ∀ (pre post : List Msg), Admissible r0 msgs (pre ++ post) →
      (SeenAll msgs pre → (r0.run pre).countP isDelivery = 1) ∧
      (¬ SeenAll msgs pre → (r0.run pre).countP isDelivery = 0) := by
  intro pre
  induction pre using List.reverseRecOn with
  | nil =>
    intro _ _
    refine ⟨fun h => ?_, fun _ => rfl⟩
    obtain ⟨x, hx⟩ := List.exists_mem_of_ne_nil _ hform.ne_nil
    cases h x hx
  | append_singleton pre m ih =>
    intro post hadm
    have hadm' : Admissible r0 msgs (pre ++ m :: post) := by simpa using hadm
    obtain ⟨ih1, ih0⟩ := ih (m :: post) hadm'
    have hiff := (classify hb hlen hform hf hadm' post rfl).isDelivery_iff
    rw [run_snoc, List.countP_append, List.countP_singleton]
    -- the count goes up at the one message where `SeenAll` becomes true
    by_cases hall : SeenAll msgs pre
    · rw [ih1 hall, if_neg fun h => (hiff.mp h).1 hall]
      exact ⟨fun _ => rfl, fun hn => (hn (hall.snoc m)).elim⟩
    · rw [ih0 hall]
      by_cases hall' : SeenAll msgs (pre ++ [m])
      · rw [if_pos (hiff.mpr ⟨hall, hall'⟩)]
        exact ⟨fun _ => rfl, fun hn => (hn hall').elim⟩
      · rw [if_neg fun h => hall' (hiff.mp h).2]
        exact ⟨fun h => (hall' h).elim, fun _ => rfl⟩

end

theorem newest_mono (r : Receiver) (ms : List Msg) (t : Int) (h : r.newest = some t) :
    ∃ t', (r.after ms).newest = some t' ∧ t ≤ t' := by
  induction ms generalizing r t with
  | nil => exact ⟨t, h, Int.le_refl _⟩
  | cons m ms ih =>
    rcases step_newest r m with h1 | ⟨hc, h1⟩
    · exact ih (r.step m).1 t (h1.trans h)
    · obtain ⟨t', ht', hle⟩ := ih (r.step m).1 m.tick h1
      exact ⟨t', ht', Int.le_trans (canReceive_newest_le r _ hc t h) hle⟩

/-- An abandoned transfer is never continued, whatever arrives in between (`pre`). -/
theorem refused_after_newer (r : Receiver) (t tick : Int) (hn : r.newest = some t) (hlt : tick < t)
    (pre : List Msg) (x : Msg) (hx : x.tick ≤ tick) :
    (r.after pre).step x = (r.after pre, .error .oldDelta, []) := by
  obtain ⟨t', ht', hle⟩ := newest_mono r pre t hn
  exact older_rejected _ x t' ht' (by omega)

end Tw.SnapXfer
