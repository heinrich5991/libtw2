import Tw.Model.SnapMgr
import Tw.Proofs.SnapXferSeq

/-!
C13, the two halves of the receiving side.  `DeltaReceiver` under arbitrary interleavings of the sender's
transfers never hands out anything but what the sender cut up (`recv_step_safe`).  The receiving `Storage`
only ever holds the sender's snapshots (`addDelta_safe`), given what the protocol layer needs of the snapshot
layer (`Laws`, `LawsOn`).

Suffixes (this file, `SnapMgrSys`, `SnapMgrC`): `_total` — under these hypotheses the call evaluates to
`.ok …`; `_of_ok` — from `call = .ok r`, what `r` is; `_cases` — the outcomes of a call as a disjunction;
`_safe` — the step keeps the invariant and its result obeys the verdict.  A capitalised `…Ok` (`XferOk`,
`RecvOk`, …) and `Obs.ok` are predicates, not lemmas.
-/
namespace Tw.SnapMgr
open Tw.SnapXfer

def Xfer.chunks (x : Xfer) : Outcome (List Msg) := deltaChunks x.tick x.base x.bytes x.crc

/-- If the receiver is in the middle of a transfer, it is one of the sender's transfers and the
parts it holds are true parts of it. -/
def RecvOk (xfers : List Xfer) (r : Receiver) : Prop :=
  ∀ c, r.current = some c → ∃ x, x ∈ xfers ∧ x.tick = c.tick ∧ 2 ≤ numParts x.bytes.length ∧
    numParts x.bytes.length ≤ maxParts ∧ ∃ seen, Mid x.tick x.base x.crc x.bytes seen r

/-- One `delta_chunks` call per tick (the sender's ticks increase): the tick of a message tells its transfer. -/
def UniqueTicks (xfers : List Xfer) : Prop :=
  ∀ x, x ∈ xfers → ∀ x', x' ∈ xfers → x.tick = x'.tick → x = x'

theorem recvOk_of_current_none {xfers : List Xfer} {r : Receiver} (h : r.current = none) :
    RecvOk xfers r := by
  intro c hc; rw [h] at hc; cases hc

theorem recvOk_of_mid {xfers : List Xfer} {r : Receiver} {x : Xfer} (hx : x ∈ xfers)
    (h2 : 2 ≤ numParts x.bytes.length) (hn : numParts x.bytes.length ≤ maxParts) {seen : Nat → Prop}
    (hm : Mid x.tick x.base x.crc x.bytes seen r) : RecvOk xfers r := by
  intro c hc
  rw [hm.cur] at hc
  cases hc
  exact ⟨x, hx, rfl, h2, hn, seen, hm⟩

theorem RecvOk.mid {xfers : List Xfer} {r : Receiver} (h : RecvOk xfers r) {c : Current}
    (hc : r.current = some c) :
    ∃ x, x ∈ xfers ∧ x.tick = c.tick ∧ ∃ seen, Mid x.tick x.base x.crc x.bytes seen r :=
  have ⟨x, hx, ht, _, _, hmid⟩ := h c hc
  ⟨x, hx, ht, hmid⟩

theorem RecvOk.mono {xfers : List Xfer} {r : Receiver} (h : RecvOk xfers r) (x : Xfer) :
    RecvOk (x :: xfers) r := by
  intro c hc
  obtain ⟨x', h1, h2⟩ := h c hc
  exact ⟨x', List.mem_cons_of_mem _ h1, h2⟩

theorem recv_step_safe {xfers : List Xfer} (huniq : UniqueTicks xfers) {r : Receiver}
    (hr : RecvOk xfers r) {x : Xfer} (hx : x ∈ xfers) (hb : inI32 x.base)
    {ms : List Msg} (hms : x.chunks = .ok ms) {m : Msg} (hm : m ∈ ms) :
    RecvOk xfers (r.step m).1 ∧
      ∀ d, (r.step m).2.1 = .ok (some d) → d = delivery x.tick x.base x.crc x.bytes := by
  -- every branch below returns the delivery of `x` (`.inl`) or no delivery at all (`.inr`)
  have hres : ∀ {r' : Receiver} {res : Result} {ws : List Warning},
      res = .ok (some (delivery x.tick x.base x.crc x.bytes)) ∨ (∀ d, res ≠ .ok (some d)) →
      ∀ d, (r', res, ws).2.1 = .ok (some d) → d = delivery x.tick x.base x.crc x.bytes := by
    rintro _ _ _ (rfl | h) d hd
    · exact (Option.some.inj (Except.ok.inj hd)).symm
    · exact (h d hd).elim
  have refused : ∀ {e : Error} (d : Received), (.error e : Result) ≠ .ok (some d) := fun _ h => nomatch h
  cases deltaChunks_form hms with
  | one h1 hmsgs =>
    subst hmsgs
    obtain rfl := List.mem_singleton.mp hm
    rw [step_oneMsg hb]
    split
    · exact ⟨hr, hres (.inr refused)⟩
    · exact ⟨recvOk_of_current_none rfl, hres (.inl rfl)⟩
  | multi h2 hmsgs =>
    obtain ⟨k, hk, rfl⟩ := (mem_parts_iff hmsgs).mp hm
    by_cases hn : numParts x.bytes.length ≤ maxParts
    swap
    · obtain ⟨e, he⟩ := step_of_not_wellFormed r (partMsg x.tick x.base x.crc x.bytes k)
        fun h => hn (by exact_mod_cast h.2.1)
      rw [he]
      exact ⟨hr, hres (.inr refused)⟩
    by_cases hc : r.canReceive x.tick = true
    swap
    · rw [step_of_not_canReceive r (partMsg x.tick x.base x.crc x.bytes k) (Bool.eq_false_iff.mpr hc)]
      exact ⟨hr, hres (.inr refused)⟩
    -- the part continues this transfer, or starts it (dropping whatever was in progress)
    obtain ⟨r1, seen, hmid, hstep⟩ : ∃ r1 seen, Mid x.tick x.base x.crc x.bytes seen r1 ∧
        r.step (partMsg x.tick x.base x.crc x.bytes k) = r1.step (partMsg x.tick x.base x.crc x.bytes k) := by
      by_cases hsame : ∃ c, r.current = some c ∧ c.tick = x.tick
      · obtain ⟨c, hcur, hct⟩ := hsame
        obtain ⟨x', hx', hxt, seen, hmid⟩ := hr.mid hcur
        obtain rfl := huniq x' hx' x hx (hxt.trans hct)
        exact ⟨r, seen, hmid, rfl⟩
      · exact ⟨_, _, startOf_mid, step_fresh_part hb hn hk
          (fresh_iff.mpr ⟨hc, fun c hcur hct => hsame ⟨c, hcur, hct⟩⟩)⟩
    rw [hstep]
    rcases hmid.step_part hb hn hk with ⟨_, h⟩ | ⟨_, _, h⟩ | ⟨_, _, h⟩
    · rw [h]; exact ⟨recvOk_of_mid hx h2 hn hmid, hres (.inr refused)⟩
    · rw [h]; exact ⟨recvOk_of_current_none rfl, hres (.inl rfl)⟩
    · rw [h]; exact ⟨recvOk_of_mid hx h2 hn (hmid.insert hk), hres (.inr fun _ h => nomatch h)⟩

/-- What the protocol layer needs from the snapshot layer: the two statements of C09 (applying a
created delta reproduces the target; a written delta reads back), plus the
fact that a written delta is never zero bytes long (it starts with a three-integer header), and
that the cleared delta of a `SnapEmpty` means "same as base".  Assumed by `accepted_snapshot_is_senders`;
a concrete layer meets it on a subtype of good snapshots (`snapOps_laws`). -/
structure Laws {S D : Type} (ops : Ops S D) : Prop where
  apply_create : ∀ a b d, ops.create a b = some d → ops.apply a d = .ok b
  read_write : ∀ d bs, ops.write d = some bs → ops.read bs = .ok d
  write_nonempty : ∀ d bs, ops.write d = some bs → bs ≠ []
  /-- "same as base": applying the cleared delta (`SnapEmpty`) to a snapshot gives any snapshot the
  sender considers the same -/
  same_clear : ∀ a b, ops.same a b = true → ops.apply a ops.clear = .ok b

/-- The same laws, required only on the snapshots that satisfy `P` (the snapshots the sender
actually builds) and on the deltas created between them.  This is what an executable snapshot
layer over plain values can satisfy (`execOps_lawsOn`). -/
structure LawsOn {S D : Type} (ops : Ops S D) (P : S → Prop) : Prop where
  empty : P ops.empty
  apply_create : ∀ a b d, P a → P b → ops.create a b = some d → ops.apply a d = .ok b
  read_write : ∀ a b d bs, P a → P b → ops.create a b = some d → ops.write d = some bs →
    ops.read bs = .ok d
  write_nonempty : ∀ a b d bs, P a → P b → ops.create a b = some d → ops.write d = some bs → bs ≠ []
  same_clear : ∀ a b, P a → P b → ops.same a b = true → ops.apply a ops.clear = .ok b

theorem Laws.on {S D : Type} {ops : Ops S D} (l : Laws ops) : LawsOn ops (fun _ => True) where
  empty := trivial
  apply_create := fun a b d _ _ h => l.apply_create a b d h
  read_write := fun _ _ d bs _ _ _ h => l.read_write d bs h
  write_nonempty := fun _ _ d bs _ _ _ h => l.write_nonempty d bs h
  same_clear := fun a b _ _ h => l.same_clear a b h

/-- One snapshot per tick: an accepted snapshot is identified by its tick alone. -/
def Functional {S : Type} (sent : List (Int × S)) : Prop :=
  ∀ p, p ∈ sent → ∀ q, q ∈ sent → p.1 = q.1 → p = q

/-- The store is newest first: what `set_delta_tick` and `add_delta` drop as older than the tick is
its far end. -/
theorem keepFrom_prefix {S : Type} (snaps : List (Stored S)) (t : Int) : keepFrom snaps t <+: snaps :=
  List.takeWhile_prefix _

section
variable {S D : Type} {ops : Ops S D} {sent : List (Int × S)}

theorem evict_subset {α : Type} (l : List α) (n : Nat) : (if l.length > n then l.dropLast else l) ⊆ l := by
  split
  · exact List.dropLast_subset _
  · exact List.Subset.refl _

theorem finishDelta_cases (ops : Ops S D) (st : Storage S) (crc : Option Int) (tick : Int) (base : S) (d : D)
    (w : Bool) :
    (∃ e, ops.apply base d = .error e ∧ st.finishDelta ops crc tick base d w = (st, .error (.unpack e), w)) ∨
    ∃ new, ops.apply base d = .ok new ∧
      ((∃ c, crc = some c ∧ c ≠ ops.crc new ∧
          st.finishDelta ops crc tick base d w = ({ st with ackTick := none }, .error .invalidCrc, w)) ∨
       ((∀ c, crc = some c → c = ops.crc new) ∧ ∃ snaps, snaps ⊆ { tick := tick, snap := new } :: st.snaps ∧
          st.finishDelta ops crc tick base d w = ({ st with snaps := snaps, ackTick := some tick }, .ok new, w))) := by
  unfold Storage.finishDelta
  cases ops.apply base d with
  | error e => exact .inl ⟨e, rfl, rfl⟩
  | ok new =>
    refine .inr ⟨new, rfl, ?_⟩
    cases crc with
    | none => exact .inr ⟨(fun c hc => nomatch hc), _, evict_subset _ _, rfl⟩
    | some c =>
      by_cases hc : c = ops.crc new
      · exact .inr ⟨fun c' hc' => Option.some.inj hc' ▸ hc, _, evict_subset _ _, if_neg (by simp [hc])⟩
      · exact .inl ⟨c, rfl, hc, if_pos (by simp [hc])⟩

/-- The third case tests `dt < 0`, not `dt = -1`: it is the code's `delta_tick >= 0`. -/
theorem addDelta_cases (ops : Ops S D) (st : Storage S) (crc : Option Int) (dt tick : Int) (d : D) :
    st.addDelta ops crc dt tick d = (st, .error .oldDelta, false) ∨
    (∃ kept, kept ⊆ st.snaps ∧ st.addDelta ops crc dt tick d
        = ({ st with snaps := kept, ackTick := none }, .error .unknownSnap, false)) ∨
    ∃ kept base w, kept ⊆ st.snaps ∧
      ((dt < 0 ∧ base = ops.empty) ∨ (0 ≤ dt ∧ ∃ d0, d0 ∈ st.snaps ∧ d0.tick = dt ∧ d0.snap = base)) ∧
      st.addDelta ops crc dt tick d = Storage.finishDelta ops { st with snaps := kept } crc tick base d w := by
  unfold Storage.addDelta
  have hk := (keepFrom_prefix st.snaps dt).subset
  by_cases h1 : st.newestTick ≥ tick
  · exact .inl (if_pos h1)
  rw [if_neg h1]
  by_cases hge : dt ≥ 0
  · rw [if_pos hge]
    dsimp only
    cases hlast : (keepFrom st.snaps dt).getLast? with
    | none => exact .inr (.inl ⟨_, hk, rfl⟩)
    | some d0 =>
      dsimp only
      by_cases htick : d0.tick = dt
      · rw [if_pos htick]
        exact .inr (.inr ⟨_, _, _, hk, .inr ⟨hge, d0, hk (List.mem_of_getLast? hlast), htick, rfl⟩, rfl⟩)
      · rw [if_neg htick]
        exact .inr (.inl ⟨_, hk, rfl⟩)
  · rw [if_neg hge]
    exact .inr (.inr ⟨_, _, _, List.Subset.refl _, .inl ⟨Int.lt_of_not_ge hge, rfl⟩, rfl⟩)

/-- `b` is the snapshot a delta with base tick `base` is relative to. -/
def IsBase (ops : Ops S D) (sent : List (Int × S)) (base : Int) (b : S) : Prop :=
  (base = -1 ∧ b = ops.empty) ∨ (0 ≤ base ∧ (base, b) ∈ sent)

theorem IsBase.mono {base : Int} {b : S} (h : IsBase ops sent base b) (p : Int × S) :
    IsBase ops (p :: sent) base b :=
  h.imp id (And.imp_right (List.mem_cons_of_mem p))

theorem addDelta_safe (hfun : Functional sent) {st : Storage S}
    (hst : ∀ s', s' ∈ st.snaps → (s'.tick, s'.snap) ∈ sent)
    {tick base : Int} {s baseSnap : S} {d : D} {crc : Option Int} (hs : (tick, s) ∈ sent)
    (hbase : IsBase ops sent base baseSnap)
    (happly : ops.apply baseSnap d = .ok s)
    {st' : Storage S} {res : Except StorageError S} {w : Bool}
    (h : st.addDelta ops crc base tick d = (st', res, w)) :
    (∀ s', s' ∈ st'.snaps → (s'.tick, s'.snap) ∈ sent) ∧
    (∀ s', res = .ok s' → s' = s ∧ st'.ackTick = some tick) ∧
    (∀ e, res = .error e → st'.ackTick = st.ackTick ∨ st'.ackTick = none) := by
  rcases addDelta_cases ops st crc base tick d with h' | ⟨kept, hk, h'⟩ | ⟨kept, b, w', hk, hb, h'⟩
  · cases h'.symm.trans h
    exact ⟨hst, (fun _ h => nomatch h), fun _ _ => .inl rfl⟩
  · cases h'.symm.trans h
    exact ⟨fun s' hs' => hst s' (hk hs'), (fun _ h => nomatch h), fun _ _ => .inr rfl⟩
  -- the base `add_delta` found is the one the sender diffed against: `sent` has one snapshot per tick
  obtain rfl : b = baseSnap := by
    rcases hb with ⟨hlt, rfl⟩ | ⟨_, d0, hd0, hdt, rfl⟩
    · exact (hbase.resolve_right fun h => absurd h.1 (Int.not_le.mpr hlt)).2.symm
    · rcases hbase with ⟨h, _⟩ | ⟨_, h⟩
      · omega
      · exact congrArg Prod.snd (hfun _ (hst d0 hd0) _ h hdt)
  rcases finishDelta_cases ops { st with snaps := kept } crc tick b d w' with
    ⟨e, he, _⟩ | ⟨new, hnew, ⟨c, rfl, _, h''⟩ | ⟨_, snaps, hsub, h''⟩⟩
  · rw [happly] at he; cases he
  · -- a checksum that does not match only clears `ack_tick`
    cases (h'.trans h'').symm.trans h
    exact ⟨fun s' hs' => hst s' (hk hs'), (fun _ h => nomatch h), fun _ _ => .inr rfl⟩
  · cases happly.symm.trans hnew
    cases (h'.trans h'').symm.trans h
    refine ⟨fun s' hs' => ?_, fun _ h => ⟨(Except.ok.inj h).symm, rfl⟩, fun _ h => nomatch h⟩
    rcases List.mem_cons.mp (hsub hs') with rfl | h
    · exact hs
    · exact hst s' (hk h)

end

end Tw.SnapMgr
