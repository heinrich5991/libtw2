import Tw.Proofs.Conn

/-!
# Component lemmas for progress (C02 c): what a resend emits, what in-order delivery of it does, what
the returning ack does.  Shared online core only (no network model).
-/
namespace Tw.Conn
open Tw.Time

def vitals : List Chunk → List (Nat × Bytes)
  | [] => []
  | c :: cs =>
    match c.vital with
    | some (s, _) => (s, c.data) :: vitals cs
    | none => vitals cs

theorem vitals_append (a b : List Chunk) : vitals (a ++ b) = vitals a ++ vitals b := by
  induction a with
  | nil => rfl
  | cons c cs ih =>
    simp only [List.cons_append, vitals]
    cases c.vital with
    | none => exact ih
    | some v => obtain ⟨s, r⟩ := v; simp [ih]

theorem mem_vitals {cs : List Chunk} {c : Chunk} {sq : Nat} {r : Bool} (hc : c ∈ cs) (hv : c.vital = some (sq, r)) :
    (sq, c.data) ∈ vitals cs := by
  obtain ⟨a, b, rfl⟩ := List.append_of_mem hc
  simp [vitals_append, vitals, hv]

theorem vitals_ne_nil {cs : List Chunk} {ch : Chunk} (hm : ch ∈ cs) (hv : ch.vital.isSome = true) : vitals cs ≠ [] := by
  obtain ⟨⟨sq, r⟩, hv⟩ := Option.isSome_iff_exists.mp hv
  exact List.ne_nil_of_mem (mem_vitals hm hv)

theorem vitals_ne_nil_chunks {cs : List Chunk} (h : vitals cs ≠ []) : cs ≠ [] := by
  intro hc; subst hc; exact h rfl

theorem vitals_filter_nonvital (cs : List Chunk) : vitals (cs.filter nonvital) = [] := by
  induction cs with
  | nil => rfl
  | cons c cs ih =>
    simp only [List.filter]
    cases hv : c.vital with
    | none => simp [nonvital, hv, vitals, ih]
    | some v => simp [nonvital, hv, ih]

def flVitals (fl : List Flushed) : List (Nat × Bytes) := fl.flatMap fun f => vitals f.chunks

theorem flVitals_append (a b : List Flushed) : flVitals (a ++ b) = flVitals a ++ flVitals b := by
  simp [flVitals]

theorem vitals_flatMap (fls : List Flushed) : vitals (fls.flatMap (·.chunks)) = flVitals fls := by
  induction fls with
  | nil => rfl
  | cons f fls ih => simp [List.flatMap_cons, vitals_append, flVitals, ih] at *

theorem mem_flVitals {fls : List Flushed} {p : Flushed} {c : Chunk} {sq : Nat} {r : Bool} (hp : p ∈ fls)
    (hc : c ∈ p.chunks) (hv : c.vital = some (sq, r)) : (sq, c.data) ∈ flVitals fls :=
  List.mem_flatMap.mpr ⟨p, hp, mem_vitals hc hv⟩

theorem flVitals_eq_nil {fls : List Flushed} : flVitals fls = [] ↔ ∀ p ∈ fls, vitals p.chunks = [] :=
  List.flatMap_eq_nil_iff

theorem Online.flush_vitals (o : Online) : flVitals o.flush.2 ++ vitals o.flush.1.packet.chunks = vitals o.packet.chunks := by
  unfold Online.flush
  split
  · simp [flVitals]
  · simp [flVitals, PacketContents.empty, vitals]

/-- the vital chunks flushed and placed so far, followed by those still to place, do not change along the loop -/
theorem resendLoop_vitals {cfg : Cfg} {now : Nat} {todo : List ResendChunk} {o o' : Online} {send send' : Timeout}
    {acc fl : List Flushed} (he : resendLoop cfg now todo o send acc = .ok (o', send', fl)) :
    flVitals fl ++ vitals o'.packet.chunks =
      flVitals acc ++ vitals o.packet.chunks ++ todo.map (fun c => (c.seq, c.data)) := by
  have := resendLoop_rule
    (P := fun td o1 _ acc1 => flVitals acc1 ++ vitals o1.packet.chunks ++ td.map (fun c => (c.seq, c.data)) =
      flVitals acc ++ vitals o.packet.chunks ++ todo.map (fun c => (c.seq, c.data)))
    (fun c rest o1 _ acc1 h _ => by
      rw [← h, flVitals_append, List.append_assoc (flVitals acc1), Online.flush_vitals])
    (fun c rest o1 _ acc1 h _ => by
      rw [← h]; simp [Online.place, vitals_append, vitals])
    todo o send acc o' send' fl he rfl
  simpa using this

theorem Online.resend_vitals {cfg : Cfg} {now : Nat} {o o' : Online} {send send' : Timeout} {fl : List Flushed}
    (hnv : vitals o.packetNonvital.chunks = []) (hne : o.resendQueue ≠ [])
    (he : o.resend cfg now send = .ok (o', send', fl)) :
    flVitals (fl ++ o'.flush.2) ++ vitals o'.flush.1.packet.chunks = o.resendQueue.reverse.map (fun c => (c.seq, c.data)) := by
  unfold Online.resend at he
  rw [if_neg (by simpa using hne)] at he
  have := resendLoop_vitals he
  rw [flVitals_append, List.append_assoc, Online.flush_vitals, this]
  simp [flVitals, Online.resendStart, hnv, ResendChunk.restart, List.map_reverse]

theorem receiveEager_cons_none {c : Chunk} (h : c.vital = none) (ack : Nat) (rr : Bool) (cs : List Chunk) :
    receiveEager ack rr (c :: cs) = receiveEager ack rr cs := by
  rw [receiveEager]; simp [h]

theorem receiveEager_cons_some {c : Chunk} {s : Nat} {r : Bool} (h : c.vital = some (s, r)) (ack : Nat) (rr : Bool)
    (cs : List Chunk) :
    receiveEager ack rr (c :: cs) = receiveEager (seqUpdate ack s).1 (rr || (seqUpdate ack s).2 != .current) cs := by
  rw [receiveEager]; simp [h]

theorem receiveLazy_cons_none {c : Chunk} (h : c.vital = none) (ack : Nat) (cs : List Chunk) :
    receiveLazy ack (c :: cs) = .chunk c.data false :: receiveLazy ack cs := by
  rw [receiveLazy]; simp [h]

theorem receiveLazy_cons_some {c : Chunk} {s : Nat} {r : Bool} (h : c.vital = some (s, r)) (ack : Nat) (cs : List Chunk) :
    receiveLazy ack (c :: cs) =
      if (seqUpdate ack s).2 = .current then .chunk c.data true :: receiveLazy (seqUpdate ack s).1 cs
      else receiveLazy ack cs := by
  rw [receiveLazy]; simp [h]

theorem receiveEager_append (a b : List Chunk) (ack : Nat) (rr : Bool) :
    receiveEager ack rr (a ++ b) = receiveEager (receiveEager ack rr a).1 (receiveEager ack rr a).2 b := by
  induction a generalizing ack rr with
  | nil => rfl
  | cons c cs ih =>
    simp only [List.cons_append]
    cases hv : c.vital with
    | none => rw [receiveEager_cons_none hv, receiveEager_cons_none hv]; exact ih ack rr
    | some v =>
      obtain ⟨s, r⟩ := v
      rw [receiveEager_cons_some hv, receiveEager_cons_some hv]; exact ih _ _

theorem receiveLazy_append (a b : List Chunk) (ack : Nat) (rr : Bool) :
    receiveLazy ack (a ++ b) = receiveLazy ack a ++ receiveLazy (receiveEager ack rr a).1 b := by
  induction a generalizing ack rr with
  | nil => rfl
  | cons c cs ih =>
    simp only [List.cons_append]
    cases hv : c.vital with
    | none =>
      rw [receiveLazy_cons_none hv, receiveLazy_cons_none hv, receiveEager_cons_none hv, ih ack rr]; rfl
    | some v =>
      obtain ⟨s, r⟩ := v
      rw [receiveLazy_cons_some hv, receiveLazy_cons_some hv, receiveEager_cons_some hv]
      by_cases h : (seqUpdate ack s).2 = .current
      · rw [if_pos h, if_pos h, ih _ (rr || ((seqUpdate ack s).2 != .current))]; rfl
      · rw [if_neg h, if_neg h, ih ack (rr || ((seqUpdate ack s).2 != .current)), seqUpdate_reject_fst h]

theorem vitalPayloads_append (a b : List Event) : vitalPayloads (a ++ b) = vitalPayloads a ++ vitalPayloads b := by
  induction a with
  | nil => rfl
  | cons e es ih =>
    cases e with
    | chunk d v => cases v <;> simp [vitalPayloads, ih]
    | connless d => simp [vitalPayloads, ih]
    | ready => simp [vitalPayloads, ih]
    | disconnect r => simp [vitalPayloads, ih]

/-- the chunk list carries exactly the sender's chunks `a, a+1, …, a+m-1`, in order (non-vital
chunks may be interleaved; the resend flag is irrelevant) -/
inductive Consecutive (sub : List Bytes) : Nat → List Chunk → Nat → Prop where
  | nil (a : Nat) : Consecutive sub a [] 0
  | nonvital (a m : Nat) (data : Bytes) (cs : List Chunk) : Consecutive sub a cs m →
      Consecutive sub a (⟨none, data⟩ :: cs) m
  | vital (a m : Nat) (r : Bool) (data : Bytes) (cs : List Chunk) : sub[a]? = some data →
      Consecutive sub (a + 1) cs m → Consecutive sub a (⟨some ((a + 1) % 1024, r), data⟩ :: cs) (m + 1)

/-- a receiver that has been handed `d` chunks takes chunk number `a` (sequence `(a + 1) % 1024`) iff
`d = a`, as long as it is at most half the sequence space ahead -/
theorem seqNext_eq_iff {a d : Nat} (h1 : a ≤ d) (h2 : d ≤ a + 512) :
    seqNext (d % 1024) = (a + 1) % 1024 ↔ d = a := by
  rw [seqNext_eq]; omega

/-- **in-order delivery of a resend brings the receiver fully up to date**: a receiver that has been
handed `d` chunks and is fed the chunks `a … a+m-1` with `a ≤ d` (the first `d - a` are
retransmissions of what it already has; at most 512 of them) rejects the retransmissions, accepts
the rest: it ends with `max d (a + m)` chunks, is handed exactly `sub[d .. a+m)`, and asks for a resend iff there was a
retransmission -/
theorem receive_consecutive (sub : List Bytes) (cs : List Chunk) (a m : Nat) (h : Consecutive sub a cs m) :
    ∀ (d : Nat) (rr : Bool), a ≤ d → d ≤ a + 512 →
      (receiveEager (d % 1024) rr cs).1 = (max d (a + m)) % 1024 ∧
      vitalPayloads (receiveLazy (d % 1024) cs) = (sub.drop d).take (a + m - d) ∧
      (receiveEager (d % 1024) rr cs).2 = (rr || decide (a < d ∧ 0 < m)) := by
  induction h with
  | nil a =>
    intro d rr h1 _
    rw [Nat.add_zero, Nat.max_eq_left h1, Nat.sub_eq_zero_of_le h1]
    exact ⟨rfl, rfl, by simp [receiveEager]⟩
  | nonvital a m data cs _ ih =>
    intro d rr h1 h2
    rw [receiveEager_cons_none rfl, receiveLazy_cons_none rfl]
    exact ih d rr h1 h2
  | vital a m r data cs hd _ ih =>
    intro d rr h1 h2
    rw [receiveEager_cons_some rfl, receiveLazy_cons_some rfl, seqUpdate_accept_fst]
    by_cases hda : d = a
    · subst hda
      have hacc := (seqNext_eq_iff h1 h2).mpr rfl
      obtain ⟨i1, i2, i3⟩ := ih (d + 1) (rr || ((seqUpdate (d % 1024) ((d + 1) % 1024)).2 != .current))
        (Nat.le_refl _) (by omega)
      have hds : d < sub.length := (List.getElem?_eq_some_iff.mp hd).1
      rw [Nat.add_right_comm, Nat.max_eq_right (Nat.succ_le_succ (Nat.le_add_right d m))] at i1
      rw [if_pos ((seqUpdate_accept_snd _ _).mpr hacc), if_pos hacc, Nat.max_eq_right (Nat.le_add_right d (m + 1))]
      refine ⟨i1, ?_, by rw [i3]; simp [(seqUpdate_accept_snd _ _).mpr hacc]⟩
      simp only [vitalPayloads]
      rw [i2, List.drop_eq_getElem_cons hds, Nat.add_sub_cancel_left, Nat.add_sub_cancel_left, List.take_succ_cons, (List.getElem?_eq_some_iff.mp hd).2]
    · have hrej := mt (seqNext_eq_iff h1 h2).mp hda
      obtain ⟨i1, i2, i3⟩ := ih d (rr || ((seqUpdate (d % 1024) ((a + 1) % 1024)).2 != .current)) (by omega) (by omega)
      rw [Nat.add_right_comm] at i1 i2
      rw [if_neg (mt (seqUpdate_accept_snd _ _).mp hrej), if_neg hrej]
      exact ⟨i1, i2, by rw [i3]; simp [mt (seqUpdate_accept_snd _ _).mp hrej, show a < d by omega]⟩

theorem consecutive_of_vitals {sub : List Bytes} {cs : List Chunk} {a m : Nat}
    (hv : vitals cs = (List.range' a m).map (fun k => ((k + 1) % 1024, sub.getD k []))) (hl : a + m ≤ sub.length) :
    Consecutive sub a cs m := by
  induction cs generalizing a m with
  | nil =>
    cases m with
    | zero => exact .nil a
    | succ m => simp [vitals, List.range'] at hv
  | cons c cs ih =>
    obtain ⟨v, d⟩ := c
    cases v with
    | none => exact .nonvital a m d cs (ih (by simpa [vitals] using hv) hl)
    | some x =>
      obtain ⟨s, r⟩ := x
      cases m with
      | zero => simp [vitals, List.range'] at hv
      | succ m =>
        simp only [vitals, List.range', List.map_cons, List.cons.injEq, Prod.mk.injEq] at hv
        obtain ⟨⟨hs, hd⟩, hrest⟩ := hv
        subst hs hd
        have ha : a < sub.length := by omega
        refine .vital a m r _ cs ?_ (ih hrest (by omega))
        rw [List.getD_eq_getElem?_getD, List.getElem?_eq_getElem ha]; rfl

theorem receive_consecutive_max (sub : List Bytes) (cs : List Chunk) (a m : Nat) (h : Consecutive sub a cs m)
    (d : Nat) (rr : Bool) (h1 : a ≤ d) (h2 : d ≤ a + 512) :
    (receiveEager (d % 1024) rr cs).1 = (max d (a + m)) % 1024 ∧
    (vitalPayloads (receiveLazy (d % 1024) cs)).length = min (max d (a + m)) (max d sub.length) - d := by
  obtain ⟨i1, i2, _⟩ := receive_consecutive sub cs a m h d rr h1 h2
  refine ⟨i1, ?_⟩
  rw [i2, List.length_take, List.length_drop, ← Nat.sub_min_sub_right, ← Nat.sub_max_sub_right,
    ← Nat.sub_max_sub_right, Nat.sub_self, Nat.zero_max, Nat.zero_max]

/-- processing datagrams one after the other (the receiver's ack and resend-request flag thread
through) is processing the concatenation of their chunk lists -/
def recvAll : Nat → Bool → List (List Chunk) → (Nat × Bool) × List Event
  | ack, rr, [] => ((ack, rr), [])
  | ack, rr, p :: ps =>
    let r := recvAll (receiveEager ack rr p).1 (receiveEager ack rr p).2 ps
    (r.1, receiveLazy ack p ++ r.2)

theorem recvAll_flatten (ps : List (List Chunk)) : ∀ (ack : Nat) (rr : Bool),
    recvAll ack rr ps = (receiveEager ack rr ps.flatten, receiveLazy ack ps.flatten) := by
  induction ps with
  | nil => intro ack rr; rfl
  | cons p ps ih =>
    intro ack rr
    simp only [recvAll, List.flatten_cons, ih, receiveEager_append, receiveLazy_append p ps.flatten ack rr]

/-- an ack naming the newest unacknowledged chunk empties the resend queue -/
theorem Online.ackChunks_all {o : Online} {c : ResendChunk} {rest : List ResendChunk} (hq : o.resendQueue = c :: rest) :
    (o.ackChunks c.seq).resendQueue = [] := by
  unfold Online.ackChunks
  rw [hq]
  simp [List.findIdx?_cons]

end Tw.Conn
