import Tw.Model.Packet7
import Tw.Proofs.Packet7Read
import Tw.Proofs.Packet7Spec

/-! What the 0.7 reader accepts is `Valid` (`read_valid`): the writer's preconditions hold of it, so the round trip of
`Packet7Write` applies to it (`Props/C06`, `v7_accepted_is_rewritable`). -/
namespace Tw.Packet7
open Tw.Packet Tw.PacketBits Tw.Gen.Packet7

theorem readBody_valid {h : PacketHeader} (ha : h.ack < 1024) (hn : h.numChunks < 256) {wh : List Warning}
    {payload : List UInt8} {src : Src} {scratch : List UInt8} {total : Nat} {r : ReadOk}
    (hr : readBody h wh payload src scratch total = .ok r) : Valid r.pkt := by
  obtain ⟨hlen, _, ⟨c, loc, hcv, hp, _⟩ | ⟨hp, _⟩⟩ := readBody_ok hr
  · rw [hp]
    exact (valid_control_iff _ _ _).mpr ⟨ha, (controlValue_ok hcv).2.1⟩
  · rw [hp]
    exact ⟨ha, hn, hlen⟩

theorem readConnless_valid {bytes : List UInt8} {wh : List Warning} {r : ReadOk}
    (hlen : bytes.length ≤ MAX_PACKETSIZE)
    (hr : readConnless bytes wh = .ok r) : Valid r.pkt := by
  rw [(readConnless_ok hr).2.2.2]
  show (bytes.drop 9).length ≤ 1391
  rw [List.length_drop]
  exact Nat.sub_le_sub_right hlen 9

theorem read_valid (t : Huffman.Table) (bytes : List UInt8) (buffer : Option Nat)
    (r : ReadOk) (hr : read t bytes buffer = .ok r) : Valid r.pkt := by
  obtain ⟨hlen, _, hcase⟩ := read_ok_cases t bytes buffer r hr
  obtain ⟨_, ha, hnc⟩ := headerOf_lt bytes
  rcases hcase with h | h | ⟨_, _, _, _, _, h⟩
  · exact readConnless_valid hlen h
  · exact readBody_valid ha hnc h
  · exact readBody_valid ha hnc h

end Tw.Packet7
