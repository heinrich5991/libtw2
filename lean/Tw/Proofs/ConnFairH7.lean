import Tw.Proofs.ConnFairH
import Tw.Proofs.ConnTimed7
import Tw.Props.C03

/-! C02 (c), 0.7: the pending acceptor `pend7` (hence `gface7`), the handshake steps as equations, and the two handshake
rounds of the fair suffix: `token_round7` (from `Token` to `Connecting`) and `connect_round7` (the connector goes online).
The four deliveries that `handshake7_fair` of `Props/C02` lists are stated on `Conn7.feed`, so that they serve there too
(`recv_of_feed` reads them as deliveries of the world). -/
namespace Tw.NetSim.P7
open Tw.Conn Tw.Conn7 Tw.Time Tw.NetSim

theorem feedBody_ctl_pending (env : Env) (own their : Nat) (s : Timeout) (t' a k : Nat) :
    feedBody env ⟨.pending own their, s⟩ (.control a t' (kindOf k)) = .ok (⟨.pending own their, s⟩, {}) := by
  unfold kindOf; split <;> simp [feedBody]

theorem tick_pending (now : Nat) (own their : Nat) (s : Timeout) (h : s.triggered now = true) :
    P7.call now [] ⟨.pending own their, s⟩ .tick =
      .ok { conn := ⟨.pending own their, Timeout.after now sendUs⟩, sent := [.control 0 their .accept] } := by
  have hem := emit_one 0 their .accept nofun nofun nofun
  simp [P7.call, Conn7.tick, h, tickAction, sendControl, sendControlWith, State.theirToken?, hem]

/-- the pending acceptor of 0.7: it repeats its `Accept`; tokens `(own, their)` -/
def pend7 : PendIface iface7 where
  pend := fun t s => ⟨.pending t.1 t.2, s⟩
  ctl := fun t k a => .control a t.2 (kindOf k)
  kp := 1
  ctl_ka := fun _ _ => rfl
  view_ctl := fun _ _ _ => rfl
  core_pend := fun _ _ => rfl
  online_pend := fun _ _ => rfl
  timed_pend := fun _ _ _ h => h
  tick_pend := fun now t s h => tick_pending now t.1 t.2 s h
  recv_onl_ctl := by
    rintro now draws ⟨ownx, theirx⟩ ⟨own, their⟩ o o1 s k a alt hp hfa
    obtain rfl : theirx = own := hp
    exact recv_onl_ctl now draws theirx their o o1 s k a hfa
  recv_pend_chunk := by
    rintro now draws ⟨ownx, theirx⟩ ⟨own, their⟩ s f alt o2 s2 fl evs hp hrc hval
    obtain rfl : theirx = own := hp
    show P7.recv now draws ⟨.pending theirx their, s⟩ (ofFlushed theirx f) alt = _
    simp [P7.recv, feed, ofFlushed, expectedToken, State.ownToken?, feedBody, hrc,
      (Tw.Conn7.emit_flushed their hval).1]
    rfl
  recv_pend_ctl := by
    rintro now draws ⟨ownx, theirx⟩ ⟨own, their⟩ s k a alt hp
    obtain rfl : theirx = own := hp
    show P7.recv now draws ⟨.pending theirx their, s⟩ (.control a theirx (kindOf k)) alt = _
    have hk : expectedToken (.pending theirx their) (.control a theirx (kindOf k)) = theirx := by
      unfold kindOf; split <;> simp [expectedToken, State.ownToken?]
    simp [P7.recv, feed, hk, feedBody_ctl_pending]
    rfl

def gface7 : GIface proto7 core Conn7.cfg Timed := pend7.toG Conn7.cfg_ok

theorem tick_token (now : Nat) (own : Nat) (s : Timeout) (h : s.triggered now = true) (hown : own ≠ TOKEN_NONE) :
    P7.call now [] ⟨.token own, s⟩ .tick =
      .ok { conn := ⟨.token own, Timeout.after now sendUs⟩, sent := [.control 0 TOKEN_NONE (.token own)] } := by
  have hem := emit_one 0 TOKEN_NONE (.token own) nofun nofun
    (by intro r hr; injection hr with hr; subst hr; exact hown)
  simp [P7.call, Conn7.tick, h, tickAction, sendControl, sendControlWith, State.theirToken?, hem]

theorem tick_connecting (now : Nat) (own their : Nat) (s : Timeout) (h : s.triggered now = true)
    (hown : own ≠ TOKEN_NONE) :
    P7.call now [] ⟨.connecting own their, s⟩ .tick =
      .ok { conn := ⟨.connecting own their, Timeout.after now sendUs⟩, sent := [.control 0 their (.connect own)] } := by
  have hem := emit_one 0 their (.connect own) nofun
    (by intro r hr; injection hr with hr; subst hr; exact hown) (by intro r hr; cases hr)
  simp [P7.call, Conn7.tick, h, tickAction, sendControl, sendControlWith, State.theirToken?, hem]

theorem tick_pc (now : Nat) (own : Nat) (s : Timeout) :
    ∃ s', P7.call now [] ⟨.pendingConnect own, s⟩ .tick = .ok { conn := ⟨.pendingConnect own, s'⟩, sent := [] } := by
  by_cases h : s.triggered now = true
  · exact ⟨.inactive, by simp [P7.call, Conn7.tick, h, tickAction]⟩
  · exact ⟨s, by simp [P7.call, Conn7.tick, h]⟩

theorem tick_unconnected (now : Nat) (s : Timeout) :
    ∃ s', P7.call now [] ⟨.unconnected, s⟩ .tick = .ok { conn := ⟨.unconnected, s'⟩, sent := [] } := by
  by_cases h : s.triggered now = true
  · exact ⟨.inactive, by simp [P7.call, Conn7.tick, h, tickAction]⟩
  · exact ⟨s, by simp [P7.call, Conn7.tick, h]⟩

theorem recv_of_feed {now : Nat} {draws : List Nat} {c c' : Conn} {p : Packet} {out : Out}
    (h : feed ⟨now, draws⟩ c (some p) = .ok (c', out)) :
    P7.recv now draws c p () = .ok { conn := c', sent := out.sent, events := out.events } := by
  simp [P7.recv, h]

theorem feed_unc_token (now : Nat) (draws : List Nat) (s : Timeout) (ownA nt : Nat)
    (hnt : tokenRandom draws = some nt) :
    feed ⟨now, draws⟩ ⟨.unconnected, s⟩ (some (.control 0 TOKEN_NONE (.token ownA))) =
      .ok (⟨.pendingConnect nt, s⟩, { sent := [.control 0 ownA (.token nt)] }) := by
  have hem := emit_one 0 ownA (.token nt) nofun nofun
    (by intro r hr; injection hr with hr; subst hr; exact tokenRandom_ne hnt)
  simp [feed, expectedToken, State.ownToken?, feedBody, hnt, sendControlWith, hem]

theorem recv_pc_token (now : Nat) (draws : List Nat) (s : Timeout) (ownA ownB : Nat) (hB : ownB ≠ TOKEN_NONE) :
    P7.recv now draws ⟨.pendingConnect ownB, s⟩ (.control 0 TOKEN_NONE (.token ownA)) () =
      .ok { conn := ⟨.pendingConnect ownB, s⟩, sent := [.control 0 ownA (.token ownB)] } :=
  recv_of_feed (Tw.Props.C03.conn7_token_request_exception ⟨now, draws⟩ ownB s 0 ownA hB)

theorem feed_tok_token (now : Nat) (draws : List Nat) (s : Timeout) (ownA ownB : Nat) (hA : ownA ≠ TOKEN_NONE) :
    feed ⟨now, draws⟩ ⟨.token ownA, s⟩ (some (.control 0 ownA (.token ownB))) =
      .ok (⟨.connecting ownA ownB, Timeout.after now sendUs⟩, { sent := [.control 0 ownB (.connect ownA)] }) := by
  have hem := emit_one 0 ownB (.connect ownA) nofun
    (by intro r hr; injection hr with hr; subst hr; exact hA) (by intro r hr; cases hr)
  simp [feed, expectedToken, State.ownToken?, feedBody, tickAction, sendControl, sendControlWith,
    State.theirToken?, hem]

theorem recv_cng_token (now : Nat) (draws : List Nat) (s : Timeout) (ownA ownB t' : Nat) :
    P7.recv now draws ⟨.connecting ownA ownB, s⟩ (.control 0 ownA (.token t')) () =
      .ok { conn := ⟨.connecting ownA ownB, s⟩ } := by
  simp [P7.recv, feed, expectedToken, State.ownToken?, feedBody]

theorem feed_pc_connect (now : Nat) (draws : List Nat) (s : Timeout) (ownA ownB : Nat) :
    feed ⟨now, draws⟩ ⟨.pendingConnect ownB, s⟩ (some (.control 0 ownB (.connect ownA))) =
      .ok (⟨.pending ownB ownA, Timeout.after now sendUs⟩, { sent := [.control 0 ownA .accept] }) := by
  have hem := emit_one 0 ownA .accept nofun nofun nofun
  simp [feed, expectedToken, State.ownToken?, feedBody, tickAction, sendControl, sendControlWith,
    State.theirToken?, hem]

theorem recv_pend_connect (now : Nat) (draws : List Nat) (s : Timeout) (ownA ownB t' : Nat) :
    P7.recv now draws ⟨.pending ownB ownA, s⟩ (.control 0 ownB (.connect t')) () =
      .ok { conn := ⟨.pending ownB ownA, s⟩ } := by
  simp [P7.recv, feed, expectedToken, State.ownToken?, feedBody]

theorem feed_cng_accept (now : Nat) (draws : List Nat) (s : Timeout) (ownA ownB : Nat) :
    feed ⟨now, draws⟩ ⟨.connecting ownA ownB, s⟩ (some (.control 0 ownA .accept)) =
      .ok (⟨.online ownA ownB .new, s⟩, { events := [.ready] }) := by
  simp [feed, expectedToken, State.ownToken?, feedBody]

theorem recv_onl_accept (now : Nat) (draws : List Nat) (s : Timeout) (ownA ownB : Nat) :
    P7.recv now draws ⟨.online ownA ownB .new, s⟩ (.control 0 ownA .accept) () =
      .ok { conn := ⟨.online ownA ownB .new, s⟩ } :=
  recv_onl_ctl now draws ownA ownB .new .new s 1 0 (Online.new_feedAck (by rw [seqMod_eq]; omega))

theorem connect_round7 (draws : List Nat) (s : FairState proto7) (ownA ownB : Nat) (hA : ownA ≠ TOKEN_NONE)
    (hW : WInv proto7 core Conn7.cfg s.w) (hT : TInv Timed s.w)
    (sa : Timeout) (ha : s.w.a.conn = ⟨.connecting ownA ownB, sa⟩)
    (hb : (∃ sb, s.w.b.conn = ⟨.pendingConnect ownB, sb⟩) ∨ (∃ sb, s.w.b.conn = ⟨.pending ownB ownA, sb⟩))
    (hcb : s.cb = s.w.b.out.length) (pre L : List (Sent proto7.Packet)) (hout : s.w.a.out = pre ++ L)
    (hpre : pre.length = s.ca)
    (hL : ∀ sn ∈ L, sn.pkt = .control 0 ownB (.connect ownA) ∧ sn.nStamp = s.w.a.nAbs ∧
      s.w.b.nAbs ≤ sn.dStamp + 512) :
    ∃ s2, fairRoundT draws () s = some s2 ∧
      OnlineFH gface7 ((ownA, ownB), true) ((ownB, ownA), false) s2 [] ∧ Event.ready ∈ s2.w.a.events := by
  have hsa : SendDue s.w.now sa := by have := hT.1; rw [ha] at this; exact this
  obtain ⟨ea1, ea2⟩ := two_ticks (P := proto7) (mk := fun s => ⟨.connecting ownA ownB, s⟩)
    (fun now s h => tick_connecting now ownA ownB s h hA) hsa
  rw [← ha] at ea1
  generalize hT1 : s.w.now + resendUs = T1 at ea1 ea2
  generalize hT2 : T1 + sendUs = T2 at ea2
  -- `b`'s ticks, the `Connect`s reaching `b` (the first one is answered unless `b` is pending already,
  -- the others are ignored), and the `Accept`s reaching `a`
  obtain ⟨cb1, cb2, pb1, pb2, rb, sb3, tb1, tb2, hB, hA'⟩ : ∃ (cb1 cb2 : Conn) (pb1 pb2 rb : List Packet) (sb3 : Timeout),
      proto7.call T1 [] s.w.b.conn .tick = .ok (tickRet cb1 pb1) ∧ proto7.call T2 [] cb1 .tick = .ok (tickRet cb2 pb2) ∧
      Recvs (P := proto7) T2 draws () cb2 (List.replicate (L.length + 2) (.control 0 ownB (.connect ownA)))
        ⟨.pending ownB ownA, sb3⟩ rb [] ∧
      Recvs (P := proto7) T2 draws () ⟨.connecting ownA ownB, Timeout.after T2 sendUs⟩ (pb1 ++ pb2 ++ rb)
        ⟨.online ownA ownB .new, Timeout.after T2 sendUs⟩ [] [.ready] := by
    have hign : ∀ sb', proto7.recv T2 draws ⟨.pending ownB ownA, sb'⟩ (.control 0 ownB (.connect ownA)) () =
        .ok { conn := ⟨.pending ownB ownA, sb'⟩ } := fun sb' => recv_pend_connect T2 draws sb' ownA ownB ownA
    rcases hb with ⟨sb, hbP⟩ | ⟨sb, hbP⟩
    · obtain ⟨sb1, eb1⟩ := tick_pc T1 ownB sb
      obtain ⟨sb2, eb2⟩ := tick_pc T2 ownB sb1
      have hB := Recvs.cons (P := proto7) (alt := ()) (recv_of_feed (feed_pc_connect T2 draws sb2 ownA ownB)) (.replicate (hign _) (L.length + 1))
      have hA' := Recvs.cons (P := proto7) (alt := ()) (recv_of_feed (feed_cng_accept T2 draws (Timeout.after T2 sendUs) ownA ownB)) (.nil _)
      exact ⟨_, _, [], [], _, _, by rw [hbP]; exact eb1, eb2, hB, hA'⟩
    · have hsb : SendDue s.w.now sb := by have := hT.2; rw [hbP] at this; exact this
      obtain ⟨eb1, eb2⟩ := two_ticks (P := proto7) (mk := fun s => ⟨.pending ownB ownA, s⟩)
        (fun now s h => tick_pending now ownB ownA s h) hsb
      rw [hT1, hT2] at eb2
      rw [hT1, ← hbP] at eb1
      have hA' := Recvs.cons (P := proto7) (alt := ()) (recv_of_feed (feed_cng_accept T2 draws (Timeout.after T2 sendUs) ownA ownB))
        (.cons (recv_onl_accept T2 draws _ ownA ownB) (.nil _))
      exact ⟨_, _, _, _, [], _, eb1, eb2,
        .replicate (hign _) _, hA'⟩
  obtain ⟨s2, hround, r⟩ :=
    fairRoundT_calls sim7 loct7 draws () hW hT hcb hout hpre (fun sn h => (hL sn h).2) hT1.symm hT2.symm
      (pa1 := [.control 0 ownB (.connect ownA)]) (pa2 := [.control 0 ownB (.connect ownA)])
      ea1 tb1 ea2 tb2
      (by
        have hrep : L.map (·.pkt) ++ (List.replicate 2 (.control 0 ownB (.connect ownA)) : List proto7.Packet) =
            List.replicate (L.length + 2) (.control 0 ownB (.connect ownA)) := by
          rw [List.eq_replicate_iff.mpr ⟨List.length_map _, by simpa using fun sn h => (hL sn h).1⟩]
          exact List.replicate_append_replicate
        exact hrep ▸ hB) rfl
      hA' rfl
  exact ⟨s2, hround, ⟨⟨r.winv, r.tinv, ⟨.new, pend7.sh_online r.connA⟩, ⟨.new, pend7.sh_pending r.connB⟩, rfl, rfl⟩,
    r.hcb, r.hca, by simp⟩, by rw [r.evA]; simp⟩

theorem token_round7 (draws : List Nat) (nt : Nat) (hnt : tokenRandom draws = some nt) (w : World proto7)
    (ownA : Nat) (hA : ownA ≠ TOKEN_NONE) (hW : WInv proto7 core Conn7.cfg w) (hT : TInv Timed w)
    (sa : Timeout) (ha : w.a.conn = ⟨.token ownA, sa⟩)
    (hb : (∃ sb, w.b.conn = ⟨.unconnected, sb⟩) ∨
      (∃ ownB sb, w.b.conn = ⟨.pendingConnect ownB, sb⟩ ∧ ownB ≠ TOKEN_NONE)) :
    ∃ (s1 : FairState proto7) (ownB : Nat) (sa' sb : Timeout) (ea : List Event),
      fairRoundT draws () (FairState.start w) = some s1 ∧
      CalledRound core Conn7.cfg Timed (FairState.start w) s1 ⟨.connecting ownA ownB, sa'⟩ ⟨.pendingConnect ownB, sb⟩
        [.control 0 ownB (.connect ownA)] ea := by
  -- the two shapes of `b` behave alike
  obtain ⟨X, ownB, sb, hbX, htick, hrecv⟩ : ∃ (X : State) (ownB : Nat) (sb : Timeout), w.b.conn = ⟨X, sb⟩ ∧
      (∀ now s, ∃ s', P7.call now [] ⟨X, s⟩ .tick = .ok { conn := ⟨X, s'⟩, sent := [] }) ∧
      (∀ now s, P7.recv now draws ⟨X, s⟩ (.control 0 TOKEN_NONE (.token ownA)) () =
        .ok { conn := ⟨.pendingConnect ownB, s⟩, sent := [.control 0 ownA (.token ownB)] }) ∧ ownB ≠ TOKEN_NONE := by
    rcases hb with ⟨sb, h⟩ | ⟨ownB, sb, h, hne⟩
    · exact ⟨.unconnected, nt, sb, h, fun now s => tick_unconnected now s,
        fun now s => recv_of_feed (feed_unc_token now draws s ownA nt hnt), tokenRandom_ne hnt⟩
    · exact ⟨.pendingConnect ownB, ownB, sb, h, fun now s => tick_pc now ownB s,
        fun now s => recv_pc_token now draws s ownA ownB hne, hne⟩
  obtain ⟨hrecv, hBne⟩ := hrecv
  have hsa : SendDue w.now sa := by have := hT.1; rw [ha] at this; exact this
  obtain ⟨ea1, ea2⟩ := two_ticks (P := proto7) (mk := fun s => ⟨.token ownA, s⟩)
    (fun now s h => tick_token now ownA s h hA) hsa
  obtain ⟨sb1, eb1⟩ := htick (w.now + resendUs) sb
  obtain ⟨sb2, eb2⟩ := htick (w.now + resendUs + sendUs) sb1
  rw [← ha] at ea1
  rw [← hbX] at eb1
  obtain ⟨s1, hround, r⟩ :=
    fairRoundT_calls sim7 loct7 draws () (s := FairState.start w) hW hT rfl (pre := w.a.out) (L := [])
      (List.append_nil _).symm rfl (by simp) rfl rfl ea1 eb1 ea2 eb2
      -- the two requests are answered; the first answer takes `a` to `Connecting`
      (.cons (hrecv _ sb2) (.cons (recv_pc_token _ draws sb2 ownA ownB hBne) (.nil _))) rfl
      (.cons (recv_of_feed (feed_tok_token _ draws _ ownA ownB hA)) (.cons (recv_cng_token _ draws _ ownA ownB ownB) (.nil _))) rfl
  exact ⟨s1, ownB, _, _, _, hround, r⟩

end Tw.NetSim.P7
