import Tw.Model.NetFault

/-!
Lemmas about the endpoint under send faults (`Model/NetFault.lean`): a call that does not run
`Connection::resend` ends in the state of the infallible call, whatever `send` answered.
-/
namespace Tw.Net
open Tw.Conn Tw.Conn6 Tw.Time

theorem applyFaults_no_cut (cut : Nat → Bool) (hc : ∀ a, cut a = false) :
    ∀ (l : List (Nat × Packet)) (f : Arms), (applyFaults cut l f []).dead = [] := by
  intro l
  induction l with
  | nil => intro f; simp [applyFaults]
  | cons e rest ih =>
    intro f
    obtain ⟨a, p⟩ := e
    simp only [applyFaults, List.contains_nil, Bool.false_eq_true, if_false, hc, Bool.and_false]
    split <;> simp [ih]

theorem patchDead_nil (ps : Peers) : patchDead ps [] = ps := by
  simp [patchDead]

theorem stepF_state {env : Env} {net net' : Net} {arms arms' : Arms} {op : Op} {r : Ret} {o : Out}
    {x : List (Nat × Packet)} (hc : ∀ a, fromResend env net op a = false)
    (h : stepF env net arms op = .ok (net', r, o, x, arms')) :
    ∃ o0, step env net op = .ok (net', r, o0) := by
  unfold stepF at h
  split at h
  · cases h
  · rename_i net1 r1 o1 hs
    simp only [Except.ok.injEq, Prod.mk.injEq] at h
    obtain ⟨h1, h2, _⟩ := h
    rw [applyFaults_no_cut _ hc, patchDead_nil] at h1
    exact ⟨o1, by rw [hs, ← h1, ← h2]⟩

end Tw.Net
