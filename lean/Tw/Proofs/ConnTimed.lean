import Tw.Proofs.ConnProgressT
import Tw.Proofs.ConnTimers
import Tw.Proofs.ConnSafetySim

/-!
# C02 (c) over two full connections with clocks: the online phase

The round argument is run on a `GIface`: all it needs of a protocol variant is a *shape predicate* `Sh tok core conn`
("`conn` is this endpoint with token `tok` and online core `core`": online, or pending with the fresh core), the datagrams
`DgH` (chunk packets, control datagrams carrying an ack) and what the two ticks of a round and one delivery do to a shape.
Four timed rounds end quiescent: `timed_progressH`.  How a variant supplies the `GIface` is in `ConnIface` (`OnlineIface`,
`PendIface.toG`).

Names ending in `H` speak of shapes, that is of sides that may still be in the handshake; those ending in `D` take the
random draws of a delivery, as `deliverRangeD` of the model does.
-/
namespace Tw.NetSim
open Tw.Conn Tw.Time

/-- a datagram of a connection, without the token it is sent with -/
inductive DgH where
  | chunk (f : Flushed)
  /-- `k` numbers the control messages of the variant (`kindOf` of `ConnTimed6/7`): `0` is the keep-alive, `PendIface.kp` what a
  pending acceptor repeats -/
  | ctl (k : Nat) (ack : Nat)

/-- what the receiving core is fed: to the cores every control datagram is a keep-alive -/
def DgH.fl : DgH → Flushed
  | .chunk f => f
  | .ctl _ a => ⟨a, false, 0, []⟩

variable {P : Proto} {core : P.Conn → Option Online} {cfg : Cfg} {S : Nat → P.Conn → Prop}

theorem World.get_set_same (w : World P) (s : Side) (e : End P) : (w.set s e).get s = e := by
  cases s <;> rfl
theorem World.get_set_other (w : World P) (s : Side) (e : End P) : (w.set s e).get s.other = w.get s.other := by
  cases s <;> rfl
theorem World.set_set (w : World P) (s : Side) (e e' : End P) : (w.set s e).set s e' = w.set s e' := by
  cases s <;> rfl
theorem World.set_now (w : World P) (s : Side) (e : End P) : (w.set s e).now = w.now := by
  cases s <;> rfl
theorem World.set_get (w : World P) (s : Side) : w.set s (w.get s) = w := by
  cases s <;> rfl

def recvEndD (now : Nat) (draws : List Nat) (alt : P.Alt) (e : End P) (pk : P.Packet) : Option (End P) :=
  match P.recv now draws e.conn pk alt with
  | .ok r => some (e.book r [])
  | .error _ => none

/-- the endpoint after the datagrams have been delivered to it one after the other (`none`: a delivery does not return);
what a block of `deliver` moves does to the receiving side (`run_deliverSegment`) -/
def recvEndsD (now : Nat) (draws : List Nat) (alt : P.Alt) : End P → List P.Packet → Option (End P)
  | e, [] => some e
  | e, pk :: pks =>
    match recvEndD now draws alt e pk with
    | none => none
    | some e1 => recvEndsD now draws alt e1 pks

theorem recvEndsD_append (now : Nat) (draws : List Nat) (alt : P.Alt) (a b : List P.Packet) (e : End P) :
    recvEndsD now draws alt e (a ++ b) = (recvEndsD now draws alt e a).bind fun e1 => recvEndsD now draws alt e1 b := by
  induction a generalizing e with
  | nil => rfl
  | cons p ps ih =>
    simp only [List.cons_append, recvEndsD]
    cases recvEndD now draws alt e p with
    | none => rfl
    | some e1 => exact ih e1

theorem run_deliverSegment (to : Side) (draws : List Nat) (alt : P.Alt) : ∀ (sents old rest : List (Sent P.Packet))
    (w : World P), (w.get to.other).out = old ++ sents ++ rest →
    run w ((List.range' old.length sents.length).map fun i => Move.deliver to i draws alt) =
      (recvEndsD w.now draws alt (w.get to) (sents.map (·.pkt))).map (w.set to) := by
  intro sents
  induction sents with
  | nil =>
    intro old rest w _
    simp [run, recvEndsD, World.set_get]
  | cons sn sents ih =>
    intro old rest w hout
    have hidx : (w.get to.other).out[old.length]? = some sn := by
      rw [hout, List.append_assoc, List.getElem?_append_right (Nat.le_refl _)]; simp
    simp only [List.length_cons, List.range'_succ, List.map_cons, run, step, hidx, recvEndsD, recvEndD]
    cases hr : P.recv w.now draws (w.get to).conn sn.pkt alt with
    | error e => rfl
    | ok r =>
      simp only
      have := ih (old ++ [sn]) rest (w.set to ((w.get to).book r []))
        (by rw [World.get_set_other, hout]; simp)
      simp only [List.length_append, List.length_singleton] at this
      rw [this, World.get_set_same, World.set_now]
      cases recvEndsD w.now draws alt ((w.get to).book r []) (sents.map (·.pkt)) with
      | none => rfl
      | some e' => simp [World.set_set]

theorem run_deliverRest (to : Side) (draws : List Nat) (alt : P.Alt) {w : World P} {pre sents : List (Sent P.Packet)}
    (hout : (w.get to.other).out = pre ++ sents) {e' : End P}
    (hrecv : recvEndsD w.now draws alt (w.get to) (sents.map (·.pkt)) = some e') :
    run w (deliverRangeD to pre.length (w.get to.other).out.length draws alt) = some (w.set to e') := by
  have := run_deliverSegment to draws alt sents pre [] w (by rw [hout, List.append_nil])
  simp only [deliverRangeD]
  rw [show (w.get to.other).out.length - pre.length = sents.length by rw [hout]; simp, this, hrecv]; rfl

/-- H2 holds for a datagram of the suffix: it is stamped with the sender's present count of submitted chunks, and the
receiver has submitted at most 512 chunks more than the sender had been handed when the datagram went out (the window,
`DirInv.win`, nothing being submitted in the suffix) -/
theorem h2_fresh {cfg : Cfg} {e peer : End P} (h : AInv cfg (absEnd P core e) (absEnd P core peer))
    {dg : Sent P.Packet} (hdg : dg ∈ peer.out) (hn : dg.nStamp = peer.nAbs) (hd : e.nAbs ≤ dg.dStamp + 512) :
    ∀ ack cs, P.view dg.pkt = some (ack, cs) → e.nAbs < unwrap dg.dStamp ack + 1024 ∧
      ∀ c ∈ cs, ∀ s r', c.vital = some (s, r') → e.dAbs + 1 < unwrap dg.nStamp s + 1024 := by
  intro ack cs hv
  have hm := mem_absEnd_out (core := core) hdg hv
  have ha := h.1.acks _ hm
  have hn' := h.2.net _ hm
  dsimp only [AEnt.fl] at ha hn'
  obtain ⟨a1, _⟩ := ha
  obtain ⟨n1, n2, _⟩ := hn'
  have hpn : (absEnd P core peer).sub.length = peer.nAbs := rfl
  refine ⟨?_, ?_⟩
  · rw [unwrap_eq (Nat.le_refl _) (by omega) a1]; omega
  · intro c hcm s r' hvit
    obtain ⟨k, k1, k2, k3⟩ := n2 c hcm s r' hvit
    rw [unwrap_eq (q := k + 1) (by omega) (by omega) k3.2]
    have hdle := h.2.dle
    have : e.dAbs ≤ peer.nAbs := hdle
    omega

/-- what the reader guarantees of a datagram (ack and sequence numbers below 1024) holds of every datagram of a history -/
theorem entry_seqOk {cfg : Cfg} {e peer : End P} (h : AInv cfg (absEnd P core e) (absEnd P core peer))
    {dg : Sent P.Packet} (hdg : dg ∈ peer.out) {ack : Nat} {cs : List Chunk} (hv : P.view dg.pkt = some (ack, cs)) :
    ack < seqMod ∧ chunksSeqOk cs = true := by
  have hm := mem_absEnd_out (core := core) hdg hv
  have ha := h.1.acks _ hm
  have hn' := h.2.net _ hm
  dsimp only [AEnt.fl] at ha hn'
  obtain ⟨a1, _⟩ := ha
  obtain ⟨_, n2, _⟩ := hn'
  refine ⟨by rw [a1, seqMod_eq]; omega, ?_⟩
  simp only [chunksSeqOk, List.all_eq_true]
  intro c hcm
  cases hvit : c.vital with
  | none => rfl
  | some v =>
    obtain ⟨sq, r⟩ := v
    obtain ⟨k, _, _, hk⟩ := n2 c hcm sq r hvit
    simp only [decide_eq_true_eq]
    rw [hk.2, seqMod_eq]; omega

theorem book_nAbs (e : End P) (r : Ret P.Conn P.Packet) : (e.book r []).nAbs = e.nAbs := by
  simp [End.book, End.nAbs, End.submittedVital]

theorem book_dAbs_le (e : End P) (r : Ret P.Conn P.Packet) (sub : List (Bytes × Bool)) : e.dAbs ≤ (e.book r sub).dAbs := by
  simp [End.book, End.dAbs, End.deliveredVital, vitalPayloads_append]

theorem nAbs_of_submitted {e e' : End P} (h : e'.submitted = e.submitted) : e'.nAbs = e.nAbs := by
  simp [End.nAbs, End.submittedVital, h]

theorem dAbs_of_events {e e' : End P} (h : e'.events = e.events) : e'.dAbs = e.dAbs := by
  simp [End.dAbs, End.deliveredVital, h]

/-- `P.call … .tick` is `Connection::tick`, `P.recv` is `Connection::feed` on the datagram as read from the wire -/
structure GIface (P : Proto) (core : P.Conn → Option Online) (cfg : Cfg) (S : Nat → P.Conn → Prop) where
  Tok : Type
  Sh : Tok → Online → P.Conn → Prop
  pkt : Tok → DgH → P.Packet
  /-- `peer tx ty`: the datagrams of an endpoint holding `tx` pass the token check of `feed` at one holding `ty` -/
  peer : Tok → Tok → Prop
  core_sh : ∀ {t o c}, Sh t o c → core c = some o
  view_pkt : ∀ t d, P.view (pkt t d) = some (d.fl.ack, d.fl.chunks)
  /-- the two `tick`s of a round; the second sends something because the first has armed the send timer for exactly that moment -/
  tickPhase : ∀ {now0 t o c}, Sh t o c → o.Inv cfg → o.ack < seqMod → S now0 c →
    ∃ (c1 c2 : P.Conn) (o2 : Online) (d1 d2 : List DgH),
      P.call (now0 + resendUs) [] c .tick = .ok { conn := c1, sent := d1.map (pkt t) } ∧
      P.call (now0 + resendUs + sendUs) [] c1 .tick = .ok { conn := c2, sent := d2.map (pkt t) } ∧
      Sh t o2 c2 ∧ PhaseSpec cfg o o2 ((d1 ++ d2).map DgH.fl) ∧ d2 ≠ []
  /-- `feed` of a datagram of the peer; `fl` is the retransmission a `request_resend` asks for -/
  recv_dg : ∀ {now draws tx ty o c} (d : DgH) (alt : P.Alt), Sh ty o c → peer tx ty → o.Inv cfg →
    d.fl.ack < seqMod → chunksSeqOk d.fl.chunks = true →
    ∃ (o2 : Online) (r : Ret P.Conn P.Packet) (fl : List Flushed),
      P.recv now draws c (pkt tx d) alt = .ok r ∧ Sh ty o2 r.conn ∧ RecvRel cfg o d.fl o2 ∧
      r.sent = fl.map (fun f => pkt ty (.chunk f)) ∧ (o.resendQueue = [] → fl = [])
  /-- `P.online` is what `World.quiescentH` reads: it shows no core while the acceptor waits -/
  online_sh : ∀ {t o c}, Sh t o c → P.online c = some o ∨ (P.online c = none ∧ o = .new)

structure OnlineWH (I : GIface P core cfg S) (ta tb : I.Tok) (w : World P) : Prop where
  winv : WInv P core cfg w
  tinv : TInv S w
  ca : ∃ o, I.Sh ta o w.a.conn
  cb : ∃ o, I.Sh tb o w.b.conn
  pab : I.peer ta tb
  pba : I.peer tb ta

/-! ## A block of deliveries of datagrams of the peer's suffix

H2 holds for such a datagram (`h2_fresh`), so `Sim.recv` applies: `BlockKept`, whatever the receiver is.  With a shape on
the receiving side the deliveries also return and the cores are related: `GIface.Block`. -/

/-- `e'` is `e` after deliveries from `peer` at `now` -/
structure BlockKept (core : P.Conn → Option Online) (cfg : Cfg) (S : Nat → P.Conn → Prop) (now : Nat)
    (peer e e' : End P) : Prop where
  ainv : AInv cfg (absEnd P core e') (absEnd P core peer)
  timed : S now e'.conn
  submitted : e'.submitted = e.submitted
  dAbs : e.dAbs ≤ e'.dAbs

theorem BlockKept.nAbs {now : Nat} {peer e e' : End P} (k : BlockKept core cfg S now peer e e') : e'.nAbs = e.nAbs :=
  nAbs_of_submitted k.submitted

theorem BlockKept.refl {now : Nat} {peer e : End P} (h : AInv cfg (absEnd P core e) (absEnd P core peer))
    (hS : S now e.conn) : BlockKept core cfg S now peer e e :=
  ⟨h, hS, rfl, Nat.le_refl _⟩

theorem BlockKept.trans {now : Nat} {peer e e1 e2 : End P} (k1 : BlockKept core cfg S now peer e e1)
    (k2 : BlockKept core cfg S now peer e1 e2) : BlockKept core cfg S now peer e e2 :=
  ⟨k2.ainv, k2.timed, k2.submitted.trans k1.submitted, Nat.le_trans k1.dAbs k2.dAbs⟩

theorem recv_kept (hs : Sim P core cfg) (hl : LocT P S) {now : Nat} {draws : List Nat} {alt : P.Alt} {e peer : End P}
    {sn : Sent P.Packet} {r : Ret P.Conn P.Packet} (hmem : sn ∈ peer.out) (hn : sn.nStamp = peer.nAbs)
    (hd : e.nAbs ≤ sn.dStamp + 512) (h : AInv cfg (absEnd P core e) (absEnd P core peer)) (hS : S now e.conn)
    (hr : P.recv now draws e.conn sn.pkt alt = .ok r) : BlockKept core cfg S now peer e (e.book r []) :=
  ⟨hs.recv now draws e peer sn alt r hmem hr h (h2_fresh (core := core) h hmem hn hd),
    hl.recv now draws e.conn _ alt r hr hS, by simp [End.book], book_dAbs_le e r []⟩

theorem blockAny (hs : Sim P core cfg) (hl : LocT P S) {now : Nat} {draws : List Nat} (alt : P.Alt) (peer : End P) :
    ∀ (sents : List (Sent P.Packet)) (e e' : End P),
      (∀ sn ∈ sents, sn ∈ peer.out ∧ sn.nStamp = peer.nAbs ∧ e.nAbs ≤ sn.dStamp + 512) →
      AInv cfg (absEnd P core e) (absEnd P core peer) → S now e.conn →
      recvEndsD now draws alt e (sents.map (·.pkt)) = some e' → BlockKept core cfg S now peer e e' := by
  intro sents
  induction sents with
  | nil =>
    intro e e' _ h hS he
    simp [recvEndsD] at he
    subst he
    exact .refl h hS
  | cons sn sents ih =>
    intro e e' hst h hS he
    obtain ⟨hmem, hn, hd⟩ := hst sn (by simp)
    simp only [List.map_cons, recvEndsD, recvEndD] at he
    cases hr : P.recv now draws e.conn sn.pkt alt with
    | error x => rw [hr] at he; cases he
    | ok r =>
      rw [hr] at he
      simp only at he
      have k := recv_kept hs hl hmem hn hd h hS hr
      exact k.trans (ih (e.book r []) e'
        (fun y hy => by
          obtain ⟨y1, y2, y3⟩ := hst y (List.mem_cons_of_mem _ hy)
          exact ⟨y1, y2, by rw [book_nAbs]; exact y3⟩) k.ainv k.timed he)

/-- `e` with core `o` and token `ty` is delivered `dgs` of `peer` (token `tx`) and becomes `e'` with core `o'`; `reps` are its
answers.  The `Nat` beside a datagram is its `dStamp` -/
structure GIface.Block (I : GIface P core cfg S) (tx ty : I.Tok) (now : Nat) (draws : List Nat) (alt : P.Alt)
    (peer : End P) (dgs : List (DgH × Nat)) (e : End P) (o : Online) (e' : End P) (o' : Online)
    (reps : List (DgH × Nat)) : Prop extends BlockKept core cfg S now peer e e' where
  run : recvEndsD now draws alt e (dgs.map fun x => I.pkt tx x.1) = some e'
  sh : I.Sh ty o' e'.conn
  rel : RecvListRel cfg o (dgs.map fun x => x.1.fl) o'
  out : e'.out = e.out ++ reps.map (fun x => ⟨I.pkt ty x.1, e.nAbs, x.2⟩)
  stamps : ∀ x ∈ reps, e.dAbs ≤ x.2
  idle : o.resendQueue = [] → reps = []

theorem GIface.blockH (I : GIface P core cfg S) (hs : Sim P core cfg) (hl : LocT P S)
    {now : Nat} {draws : List Nat} {tx ty : I.Tok} (hp : I.peer tx ty) (alt : P.Alt) (peer : End P) :
    ∀ (dgs : List (DgH × Nat)) (e : End P) (o : Online),
      I.Sh ty o e.conn →
      (∀ x ∈ dgs, (⟨I.pkt tx x.1, peer.nAbs, x.2⟩ : Sent P.Packet) ∈ peer.out ∧ e.nAbs ≤ x.2 + 512) →
      AInv cfg (absEnd P core e) (absEnd P core peer) → S now e.conn →
      ∃ (e' : End P) (o' : Online) (reps : List (DgH × Nat)), I.Block tx ty now draws alt peer dgs e o e' o' reps := by
  intro dgs
  induction dgs with
  | nil =>
    intro e o he _ h hS
    exact ⟨e, o, [],
      { toBlockKept := .refl h hS, run := rfl, sh := he, rel := .nil o, out := by simp, stamps := nofun, idle := fun _ => rfl }⟩
  | cons x dgs ih =>
    intro e o he hst h hS
    obtain ⟨hmem, hd⟩ := hst x (by simp)
    have hview := I.view_pkt tx x.1
    have hinv : o.Inv cfg := (h.1.snd o (I.core_sh he)).inv
    obtain ⟨hack, hseq⟩ := entry_seqOk (core := core) h hmem hview
    obtain ⟨o2, r, fl, hr, hrc, hrel, hsent, hfl⟩ :=
      I.recv_dg (now := now) (draws := draws) x.1 alt he hp hinv hack hseq
    have k := recv_kept hs hl hmem rfl hd h hS hr
    obtain ⟨e', o', reps, b⟩ := ih (e.book r []) o2 hrc
      (fun y hy => by
        obtain ⟨y1, y2⟩ := hst y (List.mem_cons_of_mem _ hy)
        exact ⟨y1, by rw [book_nAbs]; exact y2⟩) k.ainv k.timed
    refine ⟨e', o', fl.map (fun f => (DgH.chunk f, e.dAbs)) ++ reps,
      { toBlockKept := k.trans b.toBlockKept, run := ?_, sh := b.sh, rel := .cons hrel b.rel, out := ?_, stamps := ?_, idle := ?_ }⟩
    · simp only [List.map_cons, recvEndsD, recvEndD, hr]
      exact b.run
    · rw [b.out, book_nAbs]
      simp only [End.book, hsent, List.map_map, List.map_append, List.append_assoc]
      rfl
    · intro y hy
      rcases List.mem_append.mp hy with hy | hy
      · simp only [List.mem_map] at hy
        obtain ⟨f, _, rfl⟩ := hy
        exact Nat.le_refl _
      · exact Nat.le_trans k.dAbs (b.stamps y hy)
    · intro hq
      have : o2.resendQueue = [] := hrel.rq.2 hq
      rw [hfl hq, b.idle this]; rfl

/-- the round argument (`View`) indexes the two sides by `Bool`, the world by `Side` -/
def sd : Bool → Side
  | true => .a
  | false => .b

def viewW (core : P.Conn → Option Online) (w : World P) : View :=
  ⟨fun x => (core (w.get (sd x)).conn).getD .new, fun x => (w.get (sd x)).submittedVital,
    fun x => (w.get (sd x)).deliveredVital⟩

theorem vinv_of_ainv {ea eb : End P} {oa ob : Online} (h : AInv cfg (absEnd P core ea) (absEnd P core eb))
    (ha : core ea.conn = some oa) (hb : core eb.conn = some ob) :
    VInv cfg ⟨fun x => if x then oa else ob, fun x => if x then ea.submittedVital else eb.submittedVital,
      fun x => if x then ea.deliveredVital else eb.deliveredVital⟩ := by
  have sa := h.1.snd oa ha
  have sb := h.2.snd ob hb
  have ra := h.2.rcv oa ha
  have rb := h.1.rcv ob hb
  refine ⟨?_, ?_, ?_, ?_, ?_, ?_, ?_⟩ <;> intro x <;> cases x
  · exact sb.inv
  · exact sa.inv
  · exact ra
  · exact rb
  · exact h.2.pre
  · exact h.1.pre
  · exact h.2.dle
  · exact h.1.dle
  · exact sb.qlen
  · exact sa.qlen
  · exact sb.qwin
  · exact sa.qwin
  · exact sb.q
  · exact sa.q

theorem viewW_eq (w : World P) {oa ob : Online} (ha : core w.a.conn = some oa) (hb : core w.b.conn = some ob) :
    viewW core w = ⟨fun x => if x then oa else ob, fun x => if x then w.a.submittedVital else w.b.submittedVital,
      fun x => if x then w.a.deliveredVital else w.b.deliveredVital⟩ := by
  simp only [viewW]
  congr 1 <;> funext x <;> cases x <;> simp [sd, World.get, ha, hb]

def tickRet (c : P.Conn) (pks : List P.Packet) : Ret P.Conn P.Packet := { conn := c, sent := pks }

/-- `mk s`: a handshake state repeating its request, or a pending acceptor; both ticks of a round find the send timer run out -/
theorem two_ticks {mk : Timeout → P.Conn} {ps : List P.Packet}
    (htick : ∀ now s, s.triggered now = true →
      P.call now [] (mk s) .tick = .ok (tickRet (mk (Timeout.after now sendUs)) ps))
    {now0 : Nat} {s : Timeout} (hs : SendDue now0 s) :
    P.call (now0 + resendUs) [] (mk s) .tick = .ok (tickRet (mk (Timeout.after (now0 + resendUs) sendUs)) ps) ∧
    P.call (now0 + resendUs + sendUs) [] (mk (Timeout.after (now0 + resendUs) sendUs)) .tick =
      .ok (tickRet (mk (Timeout.after (now0 + resendUs + sendUs) sendUs)) ps) :=
  ⟨htick _ _ (hs.triggered (by rw [sendUs_eq, resendUs_eq]; omega)),
    htick _ _ (by simp [Timeout.after, Timeout.triggered])⟩

theorem book_tick_logs (e : End P) (c : P.Conn) (pks : List P.Packet) :
    (e.book (tickRet c pks) []).submitted = e.submitted ∧ (e.book (tickRet c pks) []).events = e.events ∧
    (e.book (tickRet c pks) []).conn = c ∧
    (e.book (tickRet c pks) []).out = e.out ++ pks.map (fun p => ⟨p, e.nAbs, e.dAbs⟩) := by
  simp [End.book, tickRet]

structure Ticked (w w1 : World P) (pa pb : List P.Packet) : Prop where
  run : run w tickMoves = some w1
  outA : w1.a.out = w.a.out ++ pa.map (fun p => ⟨p, w.a.nAbs, w.a.dAbs⟩)
  outB : w1.b.out = w.b.out ++ pb.map (fun p => ⟨p, w.b.nAbs, w.b.dAbs⟩)
  subA : w1.a.submitted = w.a.submitted
  subB : w1.b.submitted = w.b.submitted
  evA : w1.a.events = w.a.events
  evB : w1.b.events = w.b.events

theorem ticks_world (w : World P) {T1 T2 : Nat} (hT1 : T1 = w.now + resendUs) (hT2 : T2 = T1 + sendUs)
    {ca1 cb1 ca2 cb2 : P.Conn} {pa1 pb1 pa2 pb2 : List P.Packet}
    (ha1 : P.call T1 [] w.a.conn .tick = .ok (tickRet ca1 pa1))
    (hb1 : P.call T1 [] w.b.conn .tick = .ok (tickRet cb1 pb1))
    (ha2 : P.call T2 [] ca1 .tick = .ok (tickRet ca2 pa2))
    (hb2 : P.call T2 [] cb1 .tick = .ok (tickRet cb2 pb2)) :
    ∃ w1, Ticked w w1 (pa1 ++ pa2) (pb1 ++ pb2) ∧ w1.now = T2 ∧ w1.a.conn = ca2 ∧ w1.b.conn = cb2 := by
  subst hT1; subst hT2
  refine ⟨{ a := (w.a.book (tickRet ca1 pa1) []).book (tickRet ca2 pa2) []
            b := (w.b.book (tickRet cb1 pb1) []).book (tickRet cb2 pb2) []
            now := w.now + resendUs + sendUs }, ⟨?_, ?_, ?_, ?_, ?_, ?_, ?_⟩, rfl, rfl, rfl⟩
  · simp only [tickMoves, NetSim.run, step, World.get, World.set, ha1, hb1]
    have e1 : (w.a.book (tickRet ca1 pa1) []).conn = ca1 := rfl
    have e2 : (w.b.book (tickRet cb1 pb1) []).conn = cb1 := rfl
    simp only [e1, e2, ha2, hb2]
  · simp [End.book, tickRet, End.nAbs, End.dAbs, End.submittedVital, End.deliveredVital]
  · simp [End.book, tickRet, End.nAbs, End.dAbs, End.submittedVital, End.deliveredVital]
  all_goals simp [End.book, tickRet]

theorem admissible_ticks {w w1 : World P} (h : run w tickMoves = some w1) : admissible w tickMoves = true := by
  refine admissible_of_run (fun m hm w => ?_) h
  simp only [tickMoves, List.mem_cons, List.not_mem_nil, or_false] at hm
  rcases hm with rfl | rfl | rfl | rfl | rfl | rfl <;> exact ⟨rfl, rfl⟩

/-- `oa`, `ob` are the cores before the four ticks, `oa2`, `ob2` after, `da`, `db` the datagrams sent -/
structure GIface.TickedH (I : GIface P core cfg S) (ta tb : I.Tok) (w w1 : World P) (oa ob oa2 ob2 : Online)
    (da db : List DgH) : Prop extends Ticked w w1 (da.map (I.pkt ta)) (db.map (I.pkt tb)) where
  coreA : core w.a.conn = some oa
  coreB : core w.b.conn = some ob
  shA : I.Sh ta oa2 w1.a.conn
  shB : I.Sh tb ob2 w1.b.conn
  winv : WInv P core cfg w1
  tinv : TInv S w1
  phaseA : PhaseSpec cfg oa oa2 (da.map DgH.fl)
  phaseB : PhaseSpec cfg ob ob2 (db.map DgH.fl)
  neA : da ≠ []
  neB : db ≠ []

theorem GIface.ticksWH (I : GIface P core cfg S) (hs : Sim P core cfg) (hl : LocT P S)
    {ta tb : I.Tok} {w : World P} (h : OnlineWH I ta tb w) :
    ∃ (w1 : World P) (oa ob oa2 ob2 : Online) (da db : List DgH), I.TickedH ta tb w w1 oa ob oa2 ob2 da db := by
  obtain ⟨oa, ha⟩ := h.ca
  obtain ⟨ob, hb⟩ := h.cb
  have hca : core w.a.conn = some oa := I.core_sh ha
  have hcb : core w.b.conn = some ob := I.core_sh hb
  have hwinv : AInv cfg (absEnd P core w.a) (absEnd P core w.b) := h.winv
  have hacka : oa.ack < seqMod := by rw [hwinv.2.rcv oa hca, seqMod_eq]; omega
  have hackb : ob.ack < seqMod := by rw [hwinv.1.rcv ob hcb, seqMod_eq]; omega
  obtain ⟨ca1, ca2, oa2, da1, da2, ea1, ea2, sha2, hpsa, hna⟩ :=
    I.tickPhase ha (hwinv.1.snd oa hca).inv hacka h.tinv.1
  obtain ⟨cb1, cb2, ob2, db1, db2, eb1, eb2, shb2, hpsb, hnb⟩ :=
    I.tickPhase hb (hwinv.2.snd ob hcb).inv hackb h.tinv.2
  obtain ⟨w1, t, _, hca1, hcb1⟩ := ticks_world w rfl rfl ea1 eb1 ea2 eb2
  exact ⟨w1, oa, ob, oa2, ob2, da1 ++ da2, db1 ++ db2,
    { toTicked := by simpa only [List.map_append] using t
      coreA := hca, coreB := hcb, shA := hca1 ▸ sha2, shB := hcb1 ▸ shb2
      winv := run_inv hs tickMoves w _ h.winv (admissible_ticks t.run) t.run
      tinv := run_loct hl tickMoves w _ h.tinv t.run
      phaseA := hpsa, phaseB := hpsb, neA := by simp [hna], neB := by simp [hnb] }⟩

theorem timedRound_spec (I : GIface P core cfg S) (hs : Sim P core cfg) (hl : LocT P S)
    (alt : P.Alt) {ta tb : I.Tok} {w : World P} (h : OnlineWH I ta tb w) :
    ∃ wb w', timedRound alt w = some w' ∧ OnlineWH I ta tb w' ∧
      RoundV cfg (viewW core w) (viewW core wb) (viewW core w') := by
  obtain ⟨w1, oa, ob, oa2, ob2, da, db, t⟩ := I.ticksWH hs hl h
  have hwinv : AInv cfg (absEnd P core w.a) (absEnd P core w.b) := h.winv
  have nAa := nAbs_of_submitted t.subA
  have nAb := nAbs_of_submitted t.subB
  have dAa := dAbs_of_events t.evA
  have dAb := dAbs_of_events t.evB
  have outa' : w1.a.out = w.a.out ++ (da.map fun d => (⟨I.pkt ta d, w1.a.nAbs, w.a.dAbs⟩ : Sent P.Packet)) := by
    rw [t.outA, nAa, List.map_map]; rfl
  -- block 1: a's tick datagrams to b
  obtain ⟨eb3, ob3, repb, g⟩ :=
    I.blockH hs hl (now := w1.now) (draws := []) h.pab alt w1.a (da.map fun d => (d, w.a.dAbs)) w1.b ob2 t.shB
      (by
        intro x hx
        simp only [List.mem_map] at hx
        obtain ⟨d, hd, rfl⟩ := hx
        refine ⟨?_, by rw [nAb]; exact hwinv.2.win⟩
        rw [outa']
        exact List.mem_append_right _ (List.mem_map_of_mem (f := fun d => (⟨I.pkt ta d, w1.a.nAbs, w.a.dAbs⟩ : Sent P.Packet)) hd))
      t.winv.symm t.tinv.2
  have grun := g.run
  have grel := g.rel
  simp only [List.map_map, Function.comp_def] at grun grel
  have hrun1 : run w1 (deliverRange .b w.a.out.length w1.a.out.length alt) = some (w1.set .b eb3) :=
    run_deliverRest .b [] alt (pre := w.a.out) outa' (by rw [List.map_map]; exact grun)
  -- block 2: b's tick datagrams to a
  have eb3out : eb3.out = w.b.out ++ (db.map fun d => (⟨I.pkt tb d, eb3.nAbs, w.b.dAbs⟩ : Sent P.Packet)) ++
      repb.map (fun x => ⟨I.pkt tb x.1, w1.b.nAbs, x.2⟩) := by
    rw [g.out, t.outB, g.nAbs, nAb, List.map_map]; rfl
  obtain ⟨ea3, oa3, repa, k⟩ :=
    I.blockH hs hl (now := w1.now) (draws := []) h.pba alt eb3 (db.map fun d => (d, w.b.dAbs)) w1.a oa2 t.shA
      (by
        intro x hx
        simp only [List.mem_map] at hx
        obtain ⟨d, hd, rfl⟩ := hx
        refine ⟨?_, by rw [nAa]; exact hwinv.1.win⟩
        rw [eb3out]
        exact List.mem_append_left _ (List.mem_append_right _
          (List.mem_map_of_mem (f := fun d => (⟨I.pkt tb d, eb3.nAbs, w.b.dAbs⟩ : Sent P.Packet)) hd)))
      g.ainv.symm t.tinv.1
  have krun := k.run
  have krel := k.rel
  simp only [List.map_map, Function.comp_def] at krun krel
  have hrun2 : run (w1.set .b eb3) (deliverRange .a w.b.out.length w1.b.out.length alt) =
      some ((w1.set .b eb3).set .a ea3) := by
    have := run_deliverSegment (P := P) .a [] alt
      (db.map fun d => (⟨I.pkt tb d, eb3.nAbs, w.b.dAbs⟩ : Sent P.Packet)) w.b.out
      (repb.map (fun x => ⟨I.pkt tb x.1, w1.b.nAbs, x.2⟩)) (w1.set .b eb3)
      (by simp only [Side.other, World.get, World.set]; rw [eb3out])
    have hlen : w1.b.out.length - w.b.out.length =
        (db.map fun d => (⟨I.pkt tb d, eb3.nAbs, w.b.dAbs⟩ : Sent P.Packet)).length := by rw [t.outB]; simp
    simp only [deliverRange]
    rw [hlen, this]
    simp only [World.get, World.set, List.map_map, Function.comp_def]
    rw [krun]; rfl
  have c1a := I.core_sh t.shA
  have c1b := I.core_sh t.shB
  have c3a := I.core_sh k.sh
  have c3b := I.core_sh g.sh
  refine ⟨w1, (w1.set .b eb3).set .a ea3, by simp only [timedRound, t.run, hrun1, hrun2],
    ⟨k.ainv, ⟨k.timed, g.timed⟩, ⟨oa3, k.sh⟩, ⟨ob3, g.sh⟩, h.pab, h.pba⟩, ?_⟩
  have hv' : viewW core ((w1.set .b eb3).set .a ea3) =
      ⟨fun x => if x then oa3 else ob3, fun x => if x then ea3.submittedVital else eb3.submittedVital,
        fun x => if x then ea3.deliveredVital else eb3.deliveredVital⟩ :=
    viewW_eq ((w1.set .b eb3).set .a ea3) (ob := ob3) c3a c3b
  rw [viewW_eq w t.coreA t.coreB, viewW_eq w1 c1a c1b, hv']
  refine ⟨vinv_of_ainv hwinv t.coreA t.coreB, vinv_of_ainv t.winv c1a c1b, vinv_of_ainv k.ainv c3a c3b, ?_, ?_, ?_, ?_, ?_⟩
  · funext x; cases x
    · simp [End.submittedVital, t.subB]
    · simp [End.submittedVital, t.subA]
  · funext x; cases x
    · simp [End.deliveredVital, t.evB]
    · simp [End.deliveredVital, t.evA]
  · funext x; cases x
    · simp [End.submittedVital, g.submitted, t.subB]
    · simp [End.submittedVital, k.submitted, t.subA]
  · intro y; cases y
    · have h1 := g.dAbs; have h2 := dAb
      simp only [End.dAbs] at h1 h2
      simp only [Bool.false_eq_true, if_false]; omega
    · have h1 := k.dAbs; have h2 := dAa
      simp only [End.dAbs] at h1 h2
      simp only [if_true]; omega
  · intro x; cases x
    · exact ⟨db.map DgH.fl, t.phaseB, krel⟩
    · exact ⟨da.map DgH.fl, t.phaseA, grel⟩

theorem timedRounds_succ (alt : P.Alt) (k : Nat) (w : World P) :
    timedRounds alt (k + 1) w = (timedRound alt w).bind (timedRounds alt k) := by
  simp only [timedRounds]
  cases timedRound alt w <;> rfl

/-- **timed progress, online phase**: from two connections of matching shapes (in a world
satisfying the safety invariant and the timer bounds) four timed rounds — clock + 1 s, both tick,
clock + 0.5 s, both tick, the tick datagrams are delivered in order — all return and end with
everything handed over, both resend queues and packets empty and no resend requested -/
theorem timed_progressH (I : GIface P core cfg S) (hs : Sim P core cfg) (hl : LocT P S)
    (alt : P.Alt) {ta tb : I.Tok} {w : World P} (h : OnlineWH I ta tb w) :
    ∃ w', timedRounds alt 4 w = some w' ∧ (viewW core w').quiescent ∧ OnlineWH I ta tb w' := by
  obtain ⟨b1, w1, e1, o1, R1⟩ := timedRound_spec I hs hl alt h
  obtain ⟨b2, w2, e2, o2, R2⟩ := timedRound_spec I hs hl alt o1
  obtain ⟨b3, w3, e3, o3, R3⟩ := timedRound_spec I hs hl alt o2
  obtain ⟨b4, w4, e4, o4, R4⟩ := timedRound_spec I hs hl alt o3
  refine ⟨w4, ?_, four_rounds R1 R2 R3 R4, o4⟩
  simp only [e1, e2, e3, e4, timedRounds]

theorem OnlineWH.quiescentH {I : GIface P core cfg S} {ta tb : I.Tok} {w : World P} (h : OnlineWH I ta tb w)
    (hq : (viewW core w).quiescent) : w.quiescentH := by
  obtain ⟨oa, ha⟩ := h.ca
  obtain ⟨ob, hb⟩ := h.cb
  have hca : core w.a.conn = some oa := I.core_sh ha
  have hcb : core w.b.conn = some ob := I.core_sh hb
  rw [viewW_eq w hca hcb] at hq
  have qa := hq true
  have qb := hq false
  simp only [Bool.not_true, Bool.not_false, if_true, Bool.false_eq_true, if_false] at qa qb
  -- a side that `P.online` shows is the core the view speaks of
  have key : ∀ {t : I.Tok} {o o' : Online} {c : P.Conn}, I.Sh t o c → P.online c = some o' → o' = o := by
    intro t o o' c hsh ho
    rcases I.online_sh hsh with h1 | ⟨h1, _⟩ <;> rw [h1] at ho <;> cases ho
    rfl
  refine ⟨qa.1, qb.1, fun s o ho => ?_⟩
  cases s with
  | a => exact key ha ho ▸ qa.2
  | b => exact key hb ho ▸ qb.2

end Tw.NetSim
