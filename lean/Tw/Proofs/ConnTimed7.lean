import Tw.Proofs.ConnIface
import Tw.Proofs.ConnTokens7

/-! C02 (c) timed, 0.7: what the generic round argument asks of the variant, as in `ConnTimed6` — the timer bounds in every
reachable world (`loct7`), the online connections as an `OnlineIface` (`iface7`), `onlineW7` — and the test schedule `busy7`,
evaluated. -/
namespace Tw.NetSim.P7
open Tw.Conn Tw.Conn7 Tw.Time Tw.NetSim

/-- as in 0.6; `PendingConnect` reports no deadline (finding D23) and is not constrained -/
def Timed (now : Nat) (c : Conn) : Prop :=
  match c.state with
  | .online _ _ o => SendDue now c.send ∧ RqDue now o
  | .token _ => SendDue now c.send
  | .connecting _ _ => SendDue now c.send
  | .pending _ _ => SendDue now c.send
  | _ => True

theorem timed_g {now : Nat} {c : Conn} : Timed now c ↔ c.g.Timed now := by
  obtain ⟨st, snd⟩ := c
  cases st <;> simp [Timed, GConn.Timed, Conn.g, State.armedKind, State.ph, Ph.core, RqDue.new]

theorem loct7 : LocT proto7 Timed where
  init := fun _ => trivial
  mono := fun _ _ _ hn h => timed_g.mpr ((timed_g.mp h).mono hn)
  call := fun _ _ _ _ _ hr h => timed_g.mpr ((call_step hr).timed (timed_g.mp h))
  recv := fun _ _ _ _ alt _ hr h => timed_g.mpr ((recv_step (alt := alt) hr).timed (timed_g.mp h))

theorem conn_eta {c : Conn} {st : State} (h : c.state = st) : c = ⟨st, c.send⟩ := h ▸ rfl

/-- a control message other than a close message (and without `TOKEN_NONE` as response token) is always small enough
to be sent -/
theorem emit_one (a tok : Nat) (ctl : Control) (h : ∀ r, ctl ≠ .close r)
    (hc : ∀ rt, ctl = .connect rt → rt ≠ TOKEN_NONE) (ht : ∀ rt, ctl = .token rt → rt ≠ TOKEN_NONE) :
    emit [.control a tok ctl] = .ok [.control a tok ctl] :=
  Tw.Conn7.emit_ok (by
    intro p hp; cases List.mem_singleton.mp hp
    exact Tw.Conn7.control_valid a tok ctl (fun r hr => absurd hr (h r)) hc ht)

/-- the control messages an online or pending connection ignores, by number (`0`: keep-alive) -/
def kindOf (k : Nat) : Control := if k = 1 then .accept else .keepAlive

theorem feedBody_ctl_online (env : Env) (own their : Nat) (o : Online) (s : Timeout) (t' a k : Nat) :
    feedBody env ⟨.online own their o, s⟩ (.control a t' (kindOf k)) = .ok (⟨.online own their o, s⟩, {}) := by
  unfold kindOf; split <;> simp [feedBody]

theorem recv_onl_ctl (now : Nat) (draws : List Nat) (own their : Nat) (o o1 : Online) (s : Timeout) (k a : Nat)
    (hfa : o.feedAck a = .ok o1) :
    P7.recv now draws ⟨.online own their o, s⟩ (.control a own (kindOf k)) () =
      .ok { conn := ⟨.online own their o1, s⟩ } := by
  have hk : expectedToken (.online own their o) (.control a own (kindOf k)) = own := by
    unfold kindOf; split <;> simp [expectedToken, State.ownToken?]
  simp [P7.recv, feed, hk, hfa, feedBody_ctl_online]

def iface7 : OnlineIface proto7 core Conn7.cfg Timed where
  Tok := Nat × Nat
  mkc := fun t o s => ⟨.online t.1 t.2 o, s⟩
  chunkPkt := fun t f => ofFlushed t.2 f
  kaPkt := fun t a => .control a t.2 .keepAlive
  peer := fun tx ty => tx.2 = ty.1
  core_mk := fun _ _ _ => rfl
  online_mk := fun _ _ _ => rfl
  timed_mk := fun _ _ _ _ h => h
  view_chunk := fun _ _ => rfl
  view_ka := fun _ _ => rfl
  tick_resend := by
    intro now t o s o1 s1 fl hd he hval
    show P7.call now [] ⟨.online t.1 t.2 o, s⟩ .tick = _
    simp [P7.call, Conn7.tick, hd, resendConn, he, (Tw.Conn7.emit_flushed t.2 hval).1]
    rfl
  tick_flush := by
    intro now t o s hd hs hcs hval
    show P7.call now [] ⟨.online t.1 t.2 o, s⟩ .tick = _
    simp [P7.call, Conn7.tick, hd, hs, tickAction, hcs, (Tw.Conn7.emit_flushed t.2 hval).1]
    rfl
  tick_ka := by
    intro now t o s hd hs hcs _
    show P7.call now [] ⟨.online t.1 t.2 o, s⟩ .tick = _
    simp [P7.call, Conn7.tick, hd, hs, tickAction, hcs, sendControl, sendControlWith, State.theirToken?,
      emit_one _ _ .keepAlive nofun nofun nofun]
    rfl
  recv_chunk := by
    intro now draws tx ty o s f alt o1 o2 s2 fl evs hp hfa hrc hval
    show P7.recv now draws ⟨.online ty.1 ty.2 o, s⟩ (ofFlushed tx.2 f) alt = _
    have hp' : tx.2 = ty.1 := hp
    simp [P7.recv, feed, ofFlushed, expectedToken, State.ownToken?, hp', hfa, feedBody, hrc,
      (Tw.Conn7.emit_flushed ty.2 hval).1]
    rfl
  recv_ka := by
    rintro now draws ⟨ownx, theirx⟩ ⟨own, their⟩ o s a alt o1 hp hfa
    obtain rfl : theirx = own := hp
    exact recv_onl_ctl now draws theirx their o o1 s 0 a hfa

theorem onlineW7 (sched : List (Move proto7)) (w : World proto7)
    (hadm : admissible (World.init proto7) sched = true) (hrun : run (World.init proto7) sched = some w)
    {oa ta ob tb : Nat} {ca cb : Online} (ha : w.a.conn.state = .online oa ta ca)
    (hb : w.b.conn.state = .online ob tb cb) : OnlineW iface7 (oa, ta) (ob, tb) w := by
  have hw := run_inv sim7 sched _ w (init_inv sim7) hadm hrun
  have ht := run_loct loct7 sched _ w (init_loct loct7) hrun
  have hg := agree7_run sched _ w agree7_init hrun
  have hab : ta = ob := hg.1.agree hg.2 (by rw [ha]; rfl) (by rw [hb]; rfl)
  have hba : tb = oa := hg.2.agree hg.1 (by rw [hb]; rfl) (by rw [ha]; rfl)
  exact ⟨hw, ht, ⟨ca, _, conn_eta ha⟩, ⟨cb, _, conn_eta hb⟩, hab, hba⟩

example : admissible (World.init proto7) busy7 = true := by decide +kernel
example : ((run (World.init proto7) busy7).map fun w =>
    ((online w.a.conn).isSome && (online w.b.conn).isSome, w.settled)) = some (true, false) := by decide +kernel
theorem busy7_timed : (((run (World.init proto7) busy7).bind (timedRounds () 4)).map World.settled) = some true := by
  decide +kernel
example : (((run (World.init proto7) busy7).bind (timedRounds () 4)).map World.settled) = some true :=
  busy7_timed

example : (((run (World.init proto7) busy7).bind fun w =>
    fairRoundsT (P := proto7) [] () 4 (FairState.start w)).map fun s => s.w.settled) = some true := by
  decide +kernel

end Tw.NetSim.P7
