import Tw.Model.Packet7
import Tw.Proofs.Packet7Spec
import Tw.Proofs.Packet7Headers
import Tw.Proofs.PacketCommon

/-! Reader of protocol7.rs (0.7): `read` and `decompress` in closed form and the ways they can end:
`read_panic_diverge` (when the reader does not return; `Props/C06` reads absence of panics and termination off
it), `read_ok_cases` (which arm accepted). -/
namespace Tw.Packet7
open Tw.Packet Tw.PacketBits Tw.Gen.Packet7

/-- the panic-free part of the reader returns; with arbitrary conclusions, so that it closes both halves of
`read_panic_diverge` at once -/
theorem lift_returns (x : Except (ReadError × List Warning) ReadOk) {P Q : Prop} :
    (∀ s, ReadResult.lift x = .panic s → P) ∧ (ReadResult.lift x = .diverge → Q) := by
  match x with
  | .ok _ => exact ⟨nofun, nofun⟩
  | .error (_, _) => exact ⟨nofun, nofun⟩

theorem lift_eq_ok {x : Except (ReadError × List Warning) ReadOk} {r : ReadOk} (h : ReadResult.lift x = .ok r) :
    x = .ok r := by
  cases x with
  | ok r' => simpa [ReadResult.lift] using h
  | error e => cases e; simp [ReadResult.lift] at h

/-- the parsed header of a datagram of at least 7 bytes, as `read`/`decompress` compute it -/
def headerOf (packet : List UInt8) : PacketHeader × List Warning :=
  PacketHeader.unpackWarn (packet.getD 0 0).toNat (packet.getD 1 0).toNat (packet.getD 2 0).toNat
    (tok4 (packet.drop 3))

theorem headerOf_lt (packet : List UInt8) :
    (headerOf packet).1.flags < 16 ∧ (headerOf packet).1.ack < 1024 ∧ (headerOf packet).1.numChunks < 256 := by
  have h1 := (packet.getD 1 0).toNat_lt
  rw [headerOf, ph_unpack_eq _ _ _ _ h1]
  exact ⟨Nat.mod_lt _ (by decide), join_lt _ _ 256 4 (Nat.mod_lt _ (by decide)) h1, (packet.getD 2 0).toNat_lt⟩

theorem hdrBytes_length (x : Nat × Nat × Nat) (tok : Token) : (hdrBytes x tok).length = 7 := rfl

theorem hdrBytes_append_length (x : Nat × Nat × Nat) (tok : Token) (body : List UInt8) :
    (hdrBytes x tok ++ body).length = body.length + 7 := by
  rw [List.length_append, hdrBytes_length, Nat.add_comm]

theorem headerOf_written (h : PacketHeader) (hf : h.flags < 16) (ha : h.ack < 1024) (hn : h.numChunks < 256)
    (body : List UInt8) :
    headerOf (hdrBytes (h.flags * 4 + h.ack / 256, h.ack % 256, h.numChunks) h.token ++ body) = (h, []) := by
  obtain ⟨h0, h1, hu⟩ := ph_unpack_packed h hf ha
  show PacketHeader.unpackWarn (UInt8.ofNat (h.flags * 4 + h.ack / 256)).toNat (UInt8.ofNat (h.ack % 256)).toNat
    (UInt8.ofNat h.numChunks).toNat h.token = _
  rw [UInt8.toNat_ofNat_of_lt' h0, UInt8.toNat_ofNat_of_lt' h1, UInt8.toNat_ofNat_of_lt' hn, hu]

/-- only `close` has a slice: its reason, behind the control byte -/
def ctrlLoc (c : Control) (src : Src) (off : Nat) : Option Loc :=
  match c with
  | .close _ => some { src := src, off := off + 1 }
  | _ => none

theorem controlValue_congr (h h' : PacketHeader) (p : List UInt8) (src src' : Src) (off total total' : Nat)
    (htok : h.token = h'.token) (hT : tooShortRequest h.token total ↔ tooShortRequest h.token total') :
    (controlValue h p src off total).map (·.1) = (controlValue h' p src' off total').map (·.1) := by
  cases p with
  | nil => rfl
  | cons c pl =>
    have hT' : (h.token = tokenNone ∧ total < TOKEN_REQUEST_PACKET_SIZE) =
        (h.token = tokenNone ∧ total' < TOKEN_REQUEST_PACKET_SIZE) := propext hT
    simp only [controlValue, ← htok, hT', apply_ite (Except.map _)]
    rfl

theorem responseToken_ok {pl : List UInt8} {rt : Token} (h : responseToken pl = .ok rt) : rt ≠ tokenNone := by
  unfold responseToken at h
  by_cases h1 : pl.length < 4
  · rw [if_pos h1] at h; cases h
  · rw [if_neg h1] at h
    by_cases h2 : tok4 pl = tokenNone
    · rw [if_pos h2] at h; cases h
    · rw [if_neg h2] at h; cases h; exact h2

theorem controlValue_ok {h : PacketHeader} {p : List UInt8} {src : Src} {off total : Nat} {c : Control}
    {loc : Option Loc} (hr : controlValue h p src off total = .ok (c, loc)) :
    loc = ctrlLoc c src off ∧ ValidControl c ∧ ∀ m, c = .close m → ∃ c0 pl, p = c0 :: pl ∧ m <+: pl := by
  cases p with
  | nil => cases hr
  | cons c0 pl =>
    simp only [controlValue] at hr
    by_cases h0 : c0.toNat = CTRLMSG_KEEPALIVE
    · rw [if_pos h0] at hr; cases hr; exact ⟨rfl, trivial, nofun⟩
    rw [if_neg h0] at hr
    by_cases h1 : c0.toNat = CTRLMSG_CONNECT
    · rw [if_pos h1] at hr
      cases hrt : responseToken pl with
      | error e => rw [hrt] at hr; cases hr
      | ok rt => rw [hrt] at hr; cases hr; exact ⟨rfl, responseToken_ok hrt, nofun⟩
    rw [if_neg h1] at hr
    by_cases h2 : c0.toNat = CTRLMSG_ACCEPT
    · rw [if_pos h2] at hr; cases hr; exact ⟨rfl, trivial, nofun⟩
    rw [if_neg h2] at hr
    by_cases h3 : c0.toNat = CTRLMSG_CLOSE
    · rw [if_pos h3] at hr
      cases hr
      exact ⟨rfl, take_min_nulPos pl _, fun m hm => by cases hm; exact ⟨c0, pl, rfl, List.take_prefix _ pl⟩⟩
    rw [if_neg h3] at hr
    by_cases h4 : c0.toNat = CTRLMSG_TOKEN
    · rw [if_pos h4] at hr
      by_cases h5 : h.token = tokenNone ∧ total < TOKEN_REQUEST_PACKET_SIZE
      · rw [if_pos h5] at hr; cases hr
      · rw [if_neg h5] at hr
        cases hrt : responseToken pl with
        | error e => rw [hrt] at hr; cases hr
        | ok rt => rw [hrt] at hr; cases hr; exact ⟨rfl, responseToken_ok hrt, nofun⟩
    · rw [if_neg h4] at hr; cases hr

theorem readConnless_ok {bytes : List UInt8} {wh : List Warning} {r : ReadOk}
    (hr : readConnless bytes wh = .ok r) :
    HEADER_SIZE_CONNLESS ≤ bytes.length ∧ r.scratch = [] ∧
      r.loc = some { src := .input, off := HEADER_SIZE_CONNLESS } ∧
      r.pkt = .connless (bytes.drop HEADER_SIZE_CONNLESS) (tok4 (bytes.drop 1)) (tok4 (bytes.drop 5)) := by
  unfold readConnless at hr
  by_cases hl : bytes.length < HEADER_SIZE_CONNLESS
  · rw [if_pos hl] at hr; cases hr
  rw [if_neg hl] at hr
  dsimp only at hr
  split at hr
  · cases hr
  · cases hr
    exact ⟨Nat.not_lt.mp hl, rfl, rfl, rfl⟩

def rrOf (h : PacketHeader) : Bool := h.flags &&& PACKETFLAG_REQUEST_RESEND ≠ 0

theorem readBody_ok {h : PacketHeader} {wh : List Warning} {payload : List UInt8} {src : Src}
    {scratch : List UInt8} {total : Nat} {r : ReadOk} (hr : readBody h wh payload src scratch total = .ok r) :
    payload.length ≤ READ_PAYLOAD_LIMIT ∧ r.scratch = scratch ∧
      ((∃ c loc, controlValue h payload src HEADER_SIZE total = .ok (c, loc) ∧
          r.pkt = .connected h.ack h.token (.control c) ∧ r.loc = loc) ∨
       (r.pkt = .connected h.ack h.token (.chunks (rrOf h) h.numChunks payload) ∧
          r.loc = some { src := src, off := HEADER_SIZE })) := by
  unfold readBody readControl at hr
  by_cases hl : payload.length > READ_PAYLOAD_LIMIT
  · rw [if_pos hl] at hr; cases hr
  rw [if_neg hl] at hr
  by_cases hctl : h.flags &&& PACKETFLAG_CONTROL ≠ 0
  · rw [if_pos hctl] at hr
    cases hcv : controlValue h payload src HEADER_SIZE total with
    | error e => rw [hcv] at hr; cases hr
    | ok cl =>
      obtain ⟨c, loc⟩ := cl
      rw [hcv] at hr
      cases hr
      exact ⟨Nat.not_lt.mp hl, rfl, Or.inl ⟨c, loc, rfl, rfl, rfl⟩⟩
  · rw [if_neg hctl] at hr
    cases hr
    exact ⟨Nat.not_lt.mp hl, rfl, Or.inr ⟨rfl, rfl⟩⟩

/-- the header `decompress` writes in front of the decompressed payload: the packet's header with
the compression flag cleared -/
def fakeHeader (packet : List UInt8) : List UInt8 :=
  let h := (headerOf packet).1
  hdrBytes ((h.flags &&& (255 - PACKETFLAG_COMPRESSION)) * 4 + h.ack / 256, h.ack % 256,
    h.numChunks) (tok4 (packet.drop 3))

theorem fakeHeader_length (packet : List UInt8) : (fakeHeader packet).length = 7 := rfl

theorem headerOf_decompressed (bytes out : List UInt8) :
    headerOf (fakeHeader bytes ++ out) =
      (⟨(headerOf bytes).1.flags &&& (255 - PACKETFLAG_COMPRESSION), (headerOf bytes).1.ack,
        (headerOf bytes).1.numChunks, tok4 (bytes.drop 3)⟩, []) :=
  have hb := headerOf_lt bytes
  headerOf_written ⟨_, _, _, _⟩ (Nat.lt_of_le_of_lt Nat.and_le_left hb.1) hb.2.1 hb.2.2 out

theorem needsDecompression_iff (bytes : List UInt8) :
    needsDecompression bytes = true ↔
      bytes.length ≤ MAX_PACKETSIZE ∧ HEADER_SIZE ≤ bytes.length ∧
      (headerOf bytes).1.flags &&& PACKETFLAG_CONNLESS = 0 ∧
      (headerOf bytes).1.flags &&& PACKETFLAG_COMPRESSION ≠ 0 := by
  unfold needsDecompression
  by_cases h1 : bytes.length > MAX_PACKETSIZE
  · rw [if_pos h1]
    exact ⟨nofun, fun h => absurd h.1 (Nat.not_le.mpr h1)⟩
  · rw [if_neg h1]
    by_cases h2 : bytes.length < HEADER_SIZE
    · rw [if_pos h2]
      exact ⟨nofun, fun h => absurd h.2.1 (Nat.not_le.mpr h2)⟩
    · rw [if_neg h2, decide_eq_true_eq]
      exact ⟨fun h => ⟨Nat.not_lt.mp h1, Nat.not_lt.mp h2, h⟩, fun h => h.2.2⟩

theorem decompress_eq (t : Huffman.Table) (packet : List UInt8) (cap : Nat)
    (hcap : MAX_PACKETSIZE ≤ cap) (hn : needsDecompression packet = true) :
    decompress t packet cap =
      match Huffman.decompress t (packet.drop 7) (cap - 7) with
      | .ok out => .ok (fakeHeader packet ++ out)
      | .capacity => .capacity
      | .diverge => .diverge := by
  have hb := headerOf_lt packet
  have hw : ∀ x tok, bufWrite cap [] (hdrBytes x tok) = some (hdrBytes x tok) :=
    fun x tok => bufWrite_nil (Nat.le_trans (show 7 ≤ MAX_PACKETSIZE by decide) hcap)
  unfold headerOf at hb
  simp only [decompress, if_neg (Nat.not_lt.mpr hcap), hn, not_true_eq_false, if_false,
    if_neg (Nat.not_lt.mpr ((needsDecompression_iff packet).mp hn).2.1),
    ph_pack_eq ⟨_, _, _, _⟩ (Nat.lt_of_le_of_lt Nat.and_le_left hb.1) hb.2.1, hw, hdrBytes_length]
  rfl

theorem decompressIfNeeded_eq (t : Huffman.Table) (bytes : List UInt8) (cap : Nat) (hcap : MAX_PACKETSIZE ≤ cap) :
    decompressIfNeeded t bytes cap =
      if needsDecompression bytes = true then
        match Huffman.decompress t (bytes.drop 7) (cap - 7) with
        | .ok out => .ok true (fakeHeader bytes ++ out)
        | .capacity => .err
        | .diverge => .diverge
      else .ok false [] := by
  unfold decompressIfNeeded
  rw [if_neg (Nat.not_lt.mpr hcap)]
  by_cases hn : needsDecompression bytes = true
  · rw [if_neg (not_not_intro hn), if_pos hn, decompress_eq t bytes cap hcap hn]
    cases Huffman.decompress t (bytes.drop 7) (cap - 7) <;> rfl
  · rw [if_pos hn, if_neg hn]

theorem decompressIfNeeded_cap {t : Huffman.Table} {bytes : List UInt8} {cap : Nat} {b : Bool} {s : List UInt8}
    (h : decompressIfNeeded t bytes cap = .ok b s) : MAX_PACKETSIZE ≤ cap := by
  apply Nat.not_lt.mp
  intro hcap
  rw [decompressIfNeeded, if_pos hcap] at h
  cases h

theorem decompressIfNeeded_ok {t : Huffman.Table} {bytes : List UInt8} {cap : Nat} {s : List UInt8}
    (h : decompressIfNeeded t bytes cap = .ok true s) :
    MAX_PACKETSIZE ≤ cap ∧ needsDecompression bytes = true ∧
      ∃ out, Huffman.decompress t (bytes.drop 7) (cap - 7) = .ok out ∧ s = fakeHeader bytes ++ out := by
  have hcap := decompressIfNeeded_cap h
  rw [decompressIfNeeded_eq t bytes cap hcap] at h
  split at h
  · rename_i hn
    split at h <;> cases h
    exact ⟨hcap, hn, _, ‹_›, rfl⟩
  · cases h

/-! The two-step path `decompress_if_needed` → `read_panic_on_decompression`, as in `Packet6Read`: what the first step
hands on is never a compressed packet, so the second meets its documented precondition and cannot panic
(`read_nobuf_ne_panic`; put together in `Props/C06`, `v7_two_step_never_panics`). -/

theorem decompressIfNeeded_output_not_compressed (t : Huffman.Table) (bytes : List UInt8) (cap : Nat) (s : List UInt8)
    (h : decompressIfNeeded t bytes cap = .ok true s) : needsDecompression s = false := by
  obtain ⟨_, _, out, _, rfl⟩ := decompressIfNeeded_ok h
  have c4 : (255 - PACKETFLAG_COMPRESSION) &&& PACKETFLAG_COMPRESSION = 0 := by decide
  apply Bool.eq_false_iff.mpr
  intro hn
  have := ((needsDecompression_iff _).mp hn).2.2.2
  rw [headerOf_decompressed, Nat.and_assoc, c4] at this
  exact this (Nat.and_zero _)

theorem decompressIfNeeded_false (t : Huffman.Table) (bytes : List UInt8) (cap : Nat)
    (h : decompressIfNeeded t bytes cap = .ok false []) : needsDecompression bytes = false := by
  rw [decompressIfNeeded_eq t bytes cap (decompressIfNeeded_cap h)] at h
  split at h
  · split at h <;> cases h
  · exact Bool.eq_false_iff.mpr ‹_›

/-- The compressed arm is that of `decompress_eq`: the `unwrap` on the decompressed header cannot fail. -/
theorem read_eq (t : Huffman.Table) (bytes : List UInt8) (buffer : Option Nat)
    (hs : ∀ cap, buffer = some cap → MAX_PACKETSIZE ≤ cap) (hlen : bytes.length ≤ MAX_PACKETSIZE)
    (h7 : HEADER_SIZE ≤ bytes.length) :
    read t bytes buffer =
      if (headerOf bytes).1.flags &&& PACKETFLAG_CONNLESS ≠ 0 then
        .lift (readConnless bytes (headerOf bytes).2)
      else if (headerOf bytes).1.flags &&& PACKETFLAG_COMPRESSION ≠ 0 then
        match (generalizing := false) buffer with
        | none => .panic "read_panic_on_decompression called on compressed packet"
        | some cap =>
          match Huffman.decompress t (bytes.drop 7) (cap - 7) with
          | .ok out =>
            .lift (readBody (headerOf bytes).1 (headerOf bytes).2 out .scratch (fakeHeader bytes ++ out) bytes.length)
          | .capacity => .err .compression (headerOf bytes).2
          | .diverge => .diverge
      else .lift (readBody (headerOf bytes).1 (headerOf bytes).2 (bytes.drop HEADER_SIZE) .input []
              bytes.length) := by
  have h2 : ¬ bytes.length > MAX_PACKETSIZE := Nat.not_lt.mpr hlen
  have h3 : ¬ bytes.length < HEADER_SIZE := Nat.not_lt.mpr h7
  unfold read
  cases buffer with
  | none =>
    rw [if_neg Bool.false_ne_true, if_neg h2, if_neg h3]
    rfl
  | some cap =>
    rw [if_neg fun hd => Nat.not_lt.mpr (hs cap rfl) (of_decide_eq_true hd), if_neg h2, if_neg h3]
    dsimp only
    show (if (headerOf bytes).1.flags &&& PACKETFLAG_CONNLESS ≠ 0 then _ else
      if (headerOf bytes).1.flags &&& PACKETFLAG_COMPRESSION ≠ 0 then _ else _) = _
    by_cases hc : (headerOf bytes).1.flags &&& PACKETFLAG_CONNLESS ≠ 0
    · rw [if_pos hc, if_pos hc]
      rfl
    rw [if_neg hc, if_neg hc]
    by_cases hz : (headerOf bytes).1.flags &&& PACKETFLAG_COMPRESSION ≠ 0
    · rw [if_pos hz, if_pos hz, decompress_eq t bytes cap (hs cap rfl)
        ((needsDecompression_iff bytes).mpr ⟨hlen, h7, Decidable.not_not.mp hc, hz⟩)]
      cases Huffman.decompress t (bytes.drop 7) (cap - 7) with
      | ok out =>
        dsimp only
        rw [if_neg (by rw [List.length_append, fakeHeader_length]; exact Nat.not_lt.mpr (Nat.le_add_right _ _))]
        rfl
      | capacity => rfl
      | diverge => rfl
    · rw [if_neg hz, if_neg hz]
      rfl

theorem read_panic_of_cap_lt (t : Huffman.Table) (bytes : List UInt8) (cap : Nat) (hc : cap < MAX_PACKETSIZE) :
    read t bytes (some cap) = .panic "read_impl: buffer.remaining() >= MAX_PACKETSIZE" :=
  if_pos (decide_eq_true hc)

theorem read_tooLong (t : Huffman.Table) (bytes : List UInt8) (buffer : Option Nat)
    (hs : ∀ cap, buffer = some cap → MAX_PACKETSIZE ≤ cap) (h : bytes.length > MAX_PACKETSIZE) :
    read t bytes buffer = .err .tooLong [] := by
  unfold read
  cases buffer with
  | none => rw [if_neg Bool.false_ne_true, if_pos h]
  | some cap => rw [if_neg fun hd => Nat.not_lt.mpr (hs cap rfl) (of_decide_eq_true hd), if_pos h]

theorem read_tooShort (t : Huffman.Table) (bytes : List UInt8) (buffer : Option Nat)
    (hs : ∀ cap, buffer = some cap → MAX_PACKETSIZE ≤ cap) (h : bytes.length < HEADER_SIZE) :
    read t bytes buffer = .err .tooShort [] := by
  have h2 : ¬ bytes.length > MAX_PACKETSIZE := Nat.not_lt.mpr (Nat.le_trans (Nat.le_of_lt h) (by decide))
  unfold read
  cases buffer with
  | none => rw [if_neg Bool.false_ne_true, if_neg h2, if_pos h]
  | some cap => rw [if_neg fun hd => Nat.not_lt.mpr (hs cap rfl) (of_decide_eq_true hd), if_neg h2, if_pos h]

theorem read_cases (t : Huffman.Table) (bytes : List UInt8) (buffer : Option Nat) :
    (∃ cap s, buffer = some cap ∧ cap < MAX_PACKETSIZE ∧ read t bytes buffer = .panic s) ∨
    (∃ e, read t bytes buffer = .err e []) ∨
    (bytes.length ≤ MAX_PACKETSIZE ∧ HEADER_SIZE ≤ bytes.length ∧
      ∀ cap, buffer = some cap → MAX_PACKETSIZE ≤ cap) := by
  by_cases hs : ∀ cap, buffer = some cap → MAX_PACKETSIZE ≤ cap
  · by_cases h2 : bytes.length > MAX_PACKETSIZE
    · exact Or.inr (Or.inl ⟨_, read_tooLong t bytes buffer hs h2⟩)
    · by_cases h3 : bytes.length < HEADER_SIZE
      · exact Or.inr (Or.inl ⟨_, read_tooShort t bytes buffer hs h3⟩)
      · exact Or.inr (Or.inr ⟨Nat.not_lt.mp h2, Nat.not_lt.mp h3, hs⟩)
  · cases buffer with
    | none => simp at hs
    | some cap =>
      have hc : cap < MAX_PACKETSIZE := by simpa using hs
      exact Or.inl ⟨cap, _, rfl, hc, read_panic_of_cap_lt t bytes cap hc⟩

theorem read_panic_diverge (t : Huffman.Table) (bytes : List UInt8) (buffer : Option Nat) :
    (∀ s, read t bytes buffer = .panic s →
      (∃ cap, buffer = some cap ∧ cap < MAX_PACKETSIZE) ∨ (buffer = none ∧ needsDecompression bytes = true)) ∧
    (read t bytes buffer = .diverge → ∃ input cap, Huffman.decompress t input cap = .diverge) := by
  rcases read_cases t bytes buffer with ⟨cap, _, hc, hlt, h⟩ | ⟨e, h⟩ | ⟨hlen, h7, hb⟩
  · rw [h]
    exact ⟨fun _ _ => Or.inl ⟨cap, hc, hlt⟩, nofun⟩
  · rw [h]
    exact ⟨nofun, nofun⟩
  · rw [read_eq t bytes _ hb hlen h7]
    by_cases hc : (headerOf bytes).1.flags &&& PACKETFLAG_CONNLESS = 0
    case neg =>
      rw [if_pos hc]
      exact lift_returns _
    rw [if_neg (fun h => h hc)]
    by_cases hz : (headerOf bytes).1.flags &&& PACKETFLAG_COMPRESSION ≠ 0
    case neg =>
      rw [if_neg hz]
      exact lift_returns _
    · rw [if_pos hz]
      cases buffer with
      | none => exact ⟨fun _ _ => Or.inr ⟨rfl, (needsDecompression_iff bytes).mpr ⟨hlen, h7, hc, hz⟩⟩, nofun⟩
      | some cap =>
        dsimp only
        cases hd : Huffman.decompress t (bytes.drop 7) (cap - 7) with
        | ok out => exact lift_returns _
        | capacity => exact ⟨nofun, nofun⟩
        | diverge => exact ⟨nofun, fun _ => ⟨_, _, hd⟩⟩

/-- `read_panic_on_decompression` under its documented precondition (not a compressed packet) -/
theorem read_nobuf_ne_panic (t : Huffman.Table) (bytes : List UInt8)
    (hn : needsDecompression bytes = false) (s : String) :
    read t bytes none ≠ .panic s := by
  intro h
  rcases (read_panic_diverge t bytes none).1 s h with ⟨_, hc, _⟩ | ⟨_, hc⟩
  · cases hc
  · exact Bool.false_ne_true (hn.symm.trans hc)

theorem read_ok_cases (t : Huffman.Table) (bytes : List UInt8) (buffer : Option Nat)
    (r : ReadOk) (hr : read t bytes buffer = .ok r) :
    bytes.length ≤ MAX_PACKETSIZE ∧ HEADER_SIZE ≤ bytes.length ∧
      (readConnless bytes (headerOf bytes).2 = .ok r ∨
       readBody (headerOf bytes).1 (headerOf bytes).2 (bytes.drop HEADER_SIZE) .input []
         bytes.length = .ok r ∨
       ∃ cap out, buffer = some cap ∧ MAX_PACKETSIZE ≤ cap ∧
         Huffman.decompress t (bytes.drop 7) (cap - 7) = .ok out ∧
         readBody (headerOf bytes).1 (headerOf bytes).2 out .scratch (fakeHeader bytes ++ out)
           bytes.length = .ok r) := by
  rcases read_cases t bytes buffer with ⟨_, _, _, _, h⟩ | ⟨e, h⟩ | ⟨hlen, h7, hb⟩
  · rw [h] at hr
    cases hr
  · rw [h] at hr
    cases hr
  · refine ⟨hlen, h7, ?_⟩
    rw [read_eq t bytes _ hb hlen h7] at hr
    split at hr
    · exact Or.inl (lift_eq_ok hr)
    split at hr
    · cases buffer with
      | none => cases hr
      | some cap =>
        dsimp only at hr
        cases hd : Huffman.decompress t (bytes.drop 7) (cap - 7) with
        | ok out =>
          rw [hd] at hr
          exact Or.inr (Or.inr ⟨cap, out, rfl, hb cap rfl, hd, lift_eq_ok hr⟩)
        | capacity => rw [hd] at hr; cases hr
        | diverge => rw [hd] at hr; cases hr
    · exact Or.inr (Or.inl (lift_eq_ok hr))

end Tw.Packet7
