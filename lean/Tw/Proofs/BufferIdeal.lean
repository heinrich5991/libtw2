import Tw.Model.Buffer
import Tw.Proofs.Buffer

/-!
The *ideal* semantics of the buffer abstraction — what property C19 says in words — and the proof
that the model of the code (`Tw.Model.Buffer`: memory + separate counter, copies written back on
release, set_len/narrowing in the destructors) refines it for **every** operation sequence.

In the ideal semantics there is no memory and no counter: a view is its capacity and the *log* of
the bytes committed through it, in order; committing appends to the log (never beyond the
capacity); releasing a nested view appends the child's log to the parent's; releasing the outermost
view appends its log to the vector's contents (or makes it the slice reference's contents).

The refinement goes through an abstraction *function*: `Sess.abs` computes the ideal session of a
model session (a view is its capacity and its initialised bytes), and under the invariant `Sess.Wf`
of `Proofs/Buffer.lean` every operation commutes with it: `abs (f s) = g (abs s)`, up to
`Sess.step_sim` and `Sess.run_sim`.
-/
namespace Tw.Buffer

structure IView where
  cap : Nat
  log : List UInt8
  deriving Repr

def IView.room (v : IView) : Nat := v.cap - v.log.length

def IView.commit (v : IView) (bs : List UInt8) : IView × Res :=
  ({ v with log := v.log ++ bs.take v.room }, if bs.length ≤ v.room then .ok else .cap)

/-- a nested view is released -/
def IView.absorb (p c : IView) : IView := { p with log := p.log ++ c.log }

/-- ideal container: for the vectors `cap` and `data` are capacity and contents; for a slice only
its length `cap` is tracked (its bytes beyond the committed prefix are whatever was there); for a
slice reference `data` is the slice -/
structure IStore where
  kind : Kind
  cap : Nat
  data : List UInt8
  deriving Repr

def IStore.room (s : IStore) : Nat :=
  match s.kind with
  | .vec | .arr | .raw => s.cap - s.data.length
  | .slice | .sref => s.cap

def IStore.release (s : IStore) (v : IView) : IStore :=
  match s.kind with
  | .vec | .arr | .raw => { s with data := s.data ++ v.log }
  | .slice => s
  | .sref => { s with cap := v.log.length, data := v.log }

structure ISess where
  store : IStore
  stack : List IView
  rdr : Rdr

def iUnwindFrom (st : IStore) (c : IView) : List IView → IStore
  | [] => st.release c
  | p :: rest => iUnwindFrom st (p.absorb c) rest

def iUnwindStack (st : IStore) : List IView → IStore
  | [] => st
  | c :: rest => iUnwindFrom st c rest

namespace ISess

def unwind (s : ISess) : ISess := { s with store := iUnwindStack s.store s.stack, stack := [] }

def pop (s : ISess) : ISess :=
  match s.stack with
  | [] => s
  | [v] => { s with store := s.store.release v, stack := [] }
  | c :: p :: rest => { s with stack := p.absorb c :: rest }

def baseRoom (s : ISess) : Nat :=
  match s.stack with
  | [] => s.store.room
  | p :: _ => p.room

def onTop (s : ISess) (f : IView → IView × Res) (okR capR : Resp) : ISess × Resp :=
  match s.stack with
  | [] => (s, .badOp)
  | v :: rest =>
    match f v with
    | (v', .ok) => ({ s with stack := v' :: rest }, okR)
    | (v', .cap) => ({ s with stack := v' :: rest }, capR)
    | (v', .panic) => (unwind { s with stack := v' :: rest }, .panic)

def openView (s : ISess) (caps : List Nat) : ISess :=
  { s with stack := { cap := caps.foldl min s.baseRoom, log := [] } :: s.stack }

/-- opening fails (panic) only for a caller-owned counter that already counted something -/
def canOpen (s : ISess) : Bool :=
  !(s.stack.isEmpty && (s.store.kind == .raw) && !s.store.data.isEmpty)

/-- a caller-owned `BufferRef` cannot be capped -/
def rawCapped (s : ISess) (caps : List Nat) : Bool :=
  s.stack.isEmpty && (s.store.kind == .raw) && !caps.isEmpty

/-- the test `k ≤ v.room` is the assertion of `advance`, which refuses a reader that claims more than
the room it was given -/
def readTop (s : ISess) : ISess × Resp :=
  match s.stack with
  | [] => (s, .badOp)
  | v :: rest =>
    let x := s.rdr.read v.room
    let s1 : ISess := { s with rdr := x.next }
    match x.ret with
    | .panic => (unwind s1, .panic)
    | .err => (s1.pop, .readErr)
    | .ok k =>
      if k ≤ v.room then
        -- exactly the `k` bytes the reader delivered are committed
        let v2 : IView := { v with log := v.log ++ x.wrote.take k }
        (pop { s1 with stack := v2 :: rest }, .readOk v2.log)
      else (unwind s1, .panic)

def step (s : ISess) : Op → ISess × Resp
  | .write bs => s.onTop (·.commit bs) (.wrote true) (.wrote false)
  | .extendRep b n => s.onTop (·.commit (List.replicate n b)) (.wrote true) (.wrote false)
  | .extendPanic bs =>
    s.onTop (fun v => match v.commit bs with
      | (v', .ok) => (v', .panic)
      | r => r) (.wrote true) (.wrote false)
  | .advance n fill =>
    s.onTop (fun v => if n ≤ v.room then ({ v with log := v.log ++ List.replicate n fill }, .ok)
      else (v, .panic)) .done .done
  | .remaining =>
    match s.stack with
    | [] => (s, .badOp)
    | v :: _ => (s, .num v.room)
  | .openV caps =>
    if s.rawCapped caps then (s, .badOp)
    else if s.canOpen then (s.openView caps, .opened)
    else (s.unwind, .panic)
  | .init =>
    match s.stack with
    | [] => (s, .badOp)
    | v :: _ => (s.pop, .closed (some v.log))
  | .drop =>
    match s.stack with
    | [] => (s, .badOp)
    | _ :: _ => (s.pop, .closed none)
  | .setr r => ({ s with rdr := r }, .done)
  | .read caps =>
    if s.rawCapped caps then (s, .badOp)
    else if s.canOpen then (s.openView caps).readTop
    else (s.unwind, .panic)

def run (s : ISess) : List Op → ISess × List Resp
  | [] => (s, [])
  | op :: ops =>
    let (s1, r) := s.step op
    let (s2, rs) := run s1 ops
    (s2, r :: rs)

end ISess

def IStore.fresh (k : Kind) (cap : Nat) (old : List UInt8) : IStore :=
  match k with
  | .vec | .arr => { kind := k, cap := cap, data := old }
  | .slice | .raw => { kind := k, cap := old.length, data := [] }
  | .sref => { kind := k, cap := old.length, data := old }

def ISess.fresh (st : IStore) : ISess := { store := st, stack := [], rdr := .empty }

theorem IStore.fresh_kind (k : Kind) (cap : Nat) (old : List UInt8) : (IStore.fresh k cap old).kind = k := by
  cases k <;> rfl

theorem IStore.fresh_cap (k : Kind) (cap : Nat) (old : List UInt8) :
    (IStore.fresh k cap old).cap = if k = .vec ∨ k = .arr then cap else old.length := by
  cases k <;> rfl

theorem overlay_length (a b : List UInt8) : (overlay a b).length = max a.length b.length := by
  rw [overlay, List.length_append, List.length_drop]; omega

/-- A composite reader passes on what its inner readers claim: `Take` asks for `min n limit` bytes,
`BufReader` delivers from the `k` bytes its inner reader claimed (which it checked against its own
capacity), `Chain` lets the second reader store over what the first stored. -/
theorem Rdr.read_claim (r : Rdr) : ∀ (n k : Nat), (r.read n).ret = .ok k →
    k ≤ (r.read n).wrote.length ∨ n < k := by
  induction r with
  | slice bs => rintro n k ⟨⟩; exact .inl (Nat.le_of_eq List.length_take.symm)
  | file bs => rintro n k ⟨⟩; exact .inl (Nat.le_of_eq List.length_take.symm)
  | rep b => rintro n k ⟨⟩; exact .inl (Nat.le_of_eq List.length_replicate.symm)
  | empty => rintro n k ⟨⟩; exact .inl (Nat.le_refl 0)
  | liar c f => intro n k; simp only [Rdr.read, RdRet.ok.injEq, List.length_replicate]; omega
  | fail f => intro n k h; cases h
  | take limit r ih =>
    intro n k
    have := ih (min n limit)
    grind [Rdr.read]
  | bufr cap buffered r ih =>
    intro n k
    have := ih n k
    have := ih cap
    grind [Rdr.read]
  | chain a b done iha ihb =>
    intro n k
    have := iha n k
    have := ihb n k
    grind [Rdr.read, overlay_length]

theorem commit_rep (iv : IView) (b : UInt8) (n : Nat) :
    iv.commit (List.replicate (min n (iv.room + 1)) b) = iv.commit (List.replicate n b) := by
  by_cases h : n ≤ iv.room
  · rw [Nat.min_eq_left (Nat.le_succ_of_le h)]
  · have h' := Nat.lt_of_not_le h
    simp only [IView.commit, List.take_replicate, List.length_replicate, Nat.min_eq_right h',
      Nat.min_eq_left (Nat.le_succ _), Nat.min_eq_left (Nat.le_of_lt h'), if_neg h,
      if_neg (Nat.not_succ_le_self _)]

def View.abs (v : View) : IView := ⟨v.mem.length, v.done⟩

def Store.abs (s : Store) : IStore :=
  ⟨s.kind, s.buf.length, match s.kind with
    | .vec | .arr | .raw => s.contents
    | .slice => []
    | .sref => s.buf⟩

def Sess.abs (s : Sess) : ISess := ⟨s.store.abs, s.stack.map View.abs, s.rdr⟩

theorem View.abs_room {v : View} (h : v.Wf) : v.abs.room = v.room := by
  rw [IView.room, View.abs, View.done_length h, View.room]

theorem Store.abs_room {s : Store} (h : s.Wf) : s.abs.room = s.room := by
  unfold IStore.room Store.abs Store.room Store.contents
  cases hk : s.kind <;> simp only [List.length_take, Nat.min_eq_left h.1]
  · rw [h.2 (Or.inl hk), Nat.sub_zero]
  · rw [h.2 (Or.inr hk), Nat.sub_zero]

theorem Store.abs_data {s : Store} (hk : s.kind ≠ .slice) : s.abs.data = s.contents := by
  unfold Store.abs Store.contents
  cases h : s.kind <;> first | rfl | exact absurd h hk

theorem Store.abs_data_length {s : Store} (h : s.Wf) (hk : s.kind ≠ .sref) : s.abs.data.length = s.len := by
  unfold Store.abs Store.contents
  cases hk' : s.kind <;> simp only [List.length_take, Nat.min_eq_left h.1]
  · exact (h.2 (.inl hk')).symm
  · exact absurd hk' hk

/-- what an operation on the innermost view has to satisfy -/
def VSim (f : View → View × Res) (g : IView → IView × Res) : Prop :=
  ∀ v, v.Wf → (f v).1.Wf ∧ (f v).1.mem.length = v.mem.length ∧ ((f v).1.abs, (f v).2) = g v.abs

theorem extend_sim (bs : List UInt8) : VSim (·.extend bs) (·.commit bs) := fun v h =>
  ⟨View.extend_wf h bs, View.extend_cap h bs, by
    have hr := View.abs_room h
    simp only [View.abs] at hr
    simp only [View.abs, IView.commit, View.extend_cap h, View.extend_done h, View.extend_res h, hr]⟩

theorem poke_abs {v : View} (h : v.Wf) (bs : List UInt8) : (v.poke bs).abs = v.abs := by
  rw [View.abs, View.poke_cap h, View.poke_done h, View.abs]

/-- the caller stores `bs` behind the initialised bytes, then counts `k` of them -/
theorem poke_advance {v : View} (h : v.Wf) (bs : List UInt8) {k : Nat} (hk : k ≤ v.room → k ≤ bs.length) :
    ((v.poke bs).advance k).1.Wf ∧ ((v.poke bs).advance k).1.mem.length = v.mem.length ∧
    (((v.poke bs).advance k).1.abs, ((v.poke bs).advance k).2) =
      if k ≤ v.abs.room then ({ v.abs with log := v.abs.log ++ bs.take k }, .ok) else (v.abs, .panic) := by
  refine ⟨View.advance_wf (View.poke_wf h bs) k, (View.advance_cap _ k).trans (View.poke_cap h bs), ?_⟩
  have hroom : (v.poke bs).room = v.room := by rw [View.room, View.poke_cap h]; rfl
  rw [View.advance_eq, hroom, View.abs_room h]
  by_cases hr : k ≤ v.room
  · rw [if_pos ⟨hr, View.poke_wf h bs⟩, if_pos hr]
    refine Prod.ext ?_ rfl
    show IView.mk _ ((v.poke bs).mem.take (v.init + k)) = _
    rw [View.poke_take_add h bs k (hk hr) hr, View.poke_cap h]
    rfl
  · rw [if_neg (fun h' => hr h'.1), if_neg hr, poke_abs h]

theorem Store.release_abs {s : Store} {v : View} (hs : s.Wf) (hv : v.Wf) (hf : v.mem.length ≤ s.room) :
    (s.release v).abs = s.abs.release v.abs := by
  cases hk : s.kind
  case slice =>
    have r2 := Store.release_slice_length hs hf hk
    have r4 := Store.release_kind s v
    simp only [Store.contents, r4, hk] at r2
    simp only [Store.abs, r4, hk, IStore.release, r2]
  case sref =>
    have r1 := Store.release_sref_contents hs hv hk
    have r3 := Store.release_kind s v
    simp only [Store.contents, r3, hk] at r1
    simp only [Store.abs, r3, hk, IStore.release, r1, View.abs]
  all_goals
    have hk' : s.kind = .vec ∨ s.kind = .arr ∨ s.kind = .raw := by simp [hk]
    simp only [Store.abs, Store.release_kind, hk, IStore.release, Store.release_vec_contents hs hv hk',
      Store.release_vec_cap hs hf hk', View.abs]

theorem writeBack_abs {p c : View} (hp : p.Wf) (hc : c.Wf) (hf : c.Fits p) :
    (p.writeBack c).abs = p.abs.absorb c.abs := by
  rw [View.abs, View.writeBack_cap hp hf, View.writeBack_done hp hc]; rfl

theorem unwindFrom_abs (st : Store) (hs : st.Wf) : ∀ (rest : List View) (c : View),
    stackOk st.room (c :: rest) → (unwindFrom st c rest).abs = iUnwindFrom st.abs c.abs (rest.map View.abs)
  | [], _, h => Store.release_abs hs h.head_wf h.head_le
  | _ :: rest, _, h => by
    rw [unwindFrom, List.map_cons, iUnwindFrom, ← writeBack_abs h.tail.head_wf h.head_wf h.head_fits]
    exact unwindFrom_abs st hs rest _ (stackOk_pop h)

namespace Sess

theorem unwind_abs {s : Sess} (h : s.Wf) : s.unwind.abs = s.abs.unwind := by
  obtain ⟨st, stack, r⟩ := s
  cases stack with
  | nil => rfl
  | cons c rest => exact congrArg (ISess.mk · [] r) (unwindFrom_abs st h.1 rest c h.2)

theorem pop_abs {s : Sess} (h : s.Wf) : s.pop.abs = s.abs.pop := by
  obtain ⟨st, stack, r⟩ := s
  match stack, h with
  | [], _ => rfl
  | [v], h => exact congrArg (ISess.mk · [] r) (Store.release_abs h.1 h.top_wf h.2.head_le)
  | c :: p :: rest, h =>
    exact congrArg (ISess.mk st.abs · r) (congrArg (· :: rest.map View.abs) (writeBack_abs h.2.tail.head_wf h.top_wf h.2.head_fits))

/-- the refinement statement for a session and the response that comes with it -/
def Sim {ρ : Type} (x : Sess × ρ) (y : ISess × ρ) : Prop := x.1.Wf ∧ (x.1.abs, x.2) = y

theorem Sim.unwind {s : Sess} (h : s.Wf) (r : Resp) : Sim (s.unwind, r) (s.abs.unwind, r) :=
  ⟨unwind_wf h, by rw [unwind_abs h]⟩

theorem Sim.pop {s : Sess} (h : s.Wf) (r : Resp) : Sim (s.pop, r) (s.abs.pop, r) :=
  ⟨pop_wf h, by rw [pop_abs h]⟩

theorem Wf.setTop {st : Store} {v v' : View} {rest : List View} {r : Rdr} (h : Sess.Wf ⟨st, v :: rest, r⟩)
    (hw : v'.Wf) (hl : v'.mem.length = v.mem.length) (r' : Rdr) : Sess.Wf ⟨st, v' :: rest, r'⟩ :=
  ⟨h.1, stackOk_update h.2 hw (Nat.le_of_eq hl)⟩

theorem onTop_sim {s : Sess} (h : s.Wf) {f : View → View × Res} {g : IView → IView × Res} (hfg : VSim f g)
    (okR capR : Resp) : Sim (s.onTop f okR capR) (s.abs.onTop g okR capR) := by
  obtain ⟨st, stack, r⟩ := s
  cases stack with
  | nil => exact ⟨h, rfl⟩
  | cons v rest =>
    obtain ⟨hw, hl, he⟩ := hfg v h.top_wf
    have key := h.setTop hw hl r
    simp only [Sess.onTop, ISess.onTop, Sess.abs, List.map_cons, ← he]
    generalize f v = x at hw hl key
    obtain ⟨v', res⟩ := x
    cases res
    · exact ⟨key, rfl⟩
    · exact ⟨key, rfl⟩
    · exact Sim.unwind key _

theorem rawCapped_abs (s : Sess) (caps : List Nat) : s.abs.rawCapped caps = s.rawCapped caps := by
  obtain ⟨st, stack, r⟩ := s
  cases stack <;> rfl

theorem abs_canOpen {st : Store} (h : st.Wf) (r : Rdr) : (Sess.abs ⟨st, [], r⟩).canOpen = true ↔ st.canOpen := by
  have hlen : (st.buf.take st.len).isEmpty = true ↔ st.len = 0 := by
    rw [List.isEmpty_iff_length_eq_zero, List.length_take, Nat.min_eq_left h.1]
  unfold ISess.canOpen Store.canOpen Sess.abs Store.abs Store.contents
  cases hk : st.kind <;> simp [hlen]

/-- The model can make a new view exactly when the ideal semantics can; the view spans the free
space of the innermost live view (of the container, if there is none) and its counter is 0. -/
theorem base_abs {s : Sess} (h : s.Wf) :
    if s.abs.canOpen then ∃ b, s.base = some b ∧ b.mem.length = s.abs.baseRoom ∧ b.init = 0 ∧
      stackOk s.store.room (b :: s.stack) else s.base = none := by
  obtain ⟨st, stack, r⟩ := s
  cases stack with
  | nil =>
    have hc := abs_canOpen h.1 r
    split
    next hco =>
      exact ⟨_, Store.top_eq h.1 (hc.1 hco), by
        simp only [ISess.baseRoom, Sess.abs, List.map_nil, Store.abs_room h.1, Store.room, List.length_drop],
        rfl, Nat.zero_le _, by simp only [roomBelow, Store.room, List.length_drop, Nat.le_refl], trivial⟩
    next hco => exact Store.top_none fun hco' => hco (hc.2 hco')
  | cons p rest =>
    rw [if_pos (show (Sess.abs ⟨st, p :: rest, r⟩).canOpen = true from rfl)]
    exact ⟨_, View.child_eq h.top_wf, by
      simp only [ISess.baseRoom, Sess.abs, List.map_cons, View.abs_room h.top_wf, View.room, List.length_drop],
      rfl, Nat.zero_le _, by simp only [roomBelow, View.room, List.length_drop, Nat.le_refl], h.2⟩

/-- `with_buffer`: the new (capped) view is pushed; a refused `BufferRef::new` unwinds. -/
theorem openView_abs {s : Sess} (h : s.Wf) (caps : List Nat) :
    ∃ s', s.openView caps = (s', s.abs.canOpen) ∧ s'.Wf ∧
      s'.abs = if s.abs.canOpen then s.abs.openView caps else s.abs.unwind := by
  have hb := base_abs h
  unfold Sess.openView
  split at hb
  next hc =>
    obtain ⟨b, hb, hlen, h0, hok⟩ := hb
    have hle := foldl_min_le caps b.mem.length
    rw [hb, hc, if_pos rfl]
    simp only
    rw [View.capAll_eq caps b h0]
    refine ⟨_, rfl, ⟨h.1, stackOk_update hok (by simp [View.Wf]) (by simp only [List.length_take]; omega)⟩, ?_⟩
    unfold ISess.openView
    rw [← hlen]
    simp only [Sess.abs, List.map_cons, View.abs, View.done, List.length_take, List.take_zero, Nat.min_eq_left hle]
  next hc =>
    rw [hb, (Bool.not_eq_true _).mp hc, if_neg (by decide)]
    exact ⟨_, rfl, unwind_wf h, unwind_abs h⟩

theorem readTop_sim {s : Sess} (h : s.Wf) : Sim s.readTop s.abs.readTop := by
  obtain ⟨st, stack, rdr⟩ := s
  cases stack with
  | nil => exact ⟨h, rfl⟩
  | cons v rest =>
    have hv := h.top_wf
    have hroom : v.mem.length - v.init = v.abs.room := (View.abs_room hv).symm
    simp only [Sess.readTop, ISess.readTop, Sess.abs, List.map_cons, hroom]
    have s2 := Rdr.read_claim rdr v.abs.room
    generalize rdr.read v.abs.room = x at s2
    have key1 := h.setTop (View.poke_wf hv x.wrote) (View.poke_cap hv _) x.next
    cases hret : x.ret with
    | panic => rw [← poke_abs hv x.wrote]; exact Sim.unwind key1 _
    | err => rw [← poke_abs hv x.wrote]; exact Sim.pop key1 _
    | ok k =>
      simp only
      -- a reader that claims more than it stored claims more than it was asked for, which `advance` refuses
      obtain ⟨hw2, hl2, he⟩ := poke_advance hv x.wrote (k := k) fun hk => by
        rcases s2 k hret with h' | h'
        · exact h'
        · rw [← View.abs_room hv] at hk; omega
      generalize (v.poke x.wrote).advance k = r at hw2 hl2 he
      obtain ⟨v2, res⟩ := r
      dsimp only at hw2 hl2 he
      have key2 := h.setTop hw2 hl2 x.next
      by_cases hk : k ≤ v.abs.room
      · rw [if_pos hk] at he ⊢
        obtain ⟨ha2, rfl⟩ := Prod.mk.inj he
        simp only [View.initialized_eq hw2]
        rw [← ha2, ← show v2.done = v.abs.log ++ x.wrote.take k from congrArg IView.log ha2]
        exact Sim.pop key2 _
      · rw [if_neg hk] at he ⊢
        obtain ⟨ha2, rfl⟩ := Prod.mk.inj he
        rw [← ha2]
        exact Sim.unwind key2 _

theorem step_sim {s : Sess} (h : s.Wf) (op : Op) : Sim (s.step op) (s.abs.step op) := by
  cases op with
  | write bs => exact onTop_sim h (extend_sim bs) _ _
  | extendRep b n =>
    refine onTop_sim h (fun v hv => ?_) _ _
    have e : v.mem.length - v.init = v.abs.room := (View.abs_room hv).symm
    simp only [e, ← commit_rep v.abs b n]
    exact extend_sim _ v hv
  | extendPanic bs =>
    refine onTop_sim h (fun v hv => ?_) _ _
    obtain ⟨hw, hl, he⟩ := extend_sim bs v hv
    dsimp only at hw hl he
    simp only [← he]
    generalize v.extend bs = x at hw hl
    obtain ⟨v', res⟩ := x
    cases res <;> exact ⟨hw, hl, rfl⟩
  | advance n fill =>
    refine onTop_sim h (fun v hv => ?_) _ _
    obtain ⟨hw, hl, he⟩ := poke_advance hv (List.replicate (min n v.room) fill) (k := n) fun hn => by simp [hn]
    refine ⟨hw, hl, he.trans ?_⟩
    split
    · next hn =>
      rw [View.abs_room hv] at hn
      rw [List.take_replicate, Nat.min_eq_left hn, Nat.min_self]
    · rfl
  | remaining =>
    obtain ⟨st, stack, r⟩ := s
    cases stack with
    | nil => exact ⟨h, rfl⟩
    | cons v rest =>
      simp only [Sess.step, ISess.step, Sess.abs, List.map_cons, View.remaining_eq h.top_wf, View.abs_room h.top_wf]
      exact ⟨h, rfl⟩
  | openV caps =>
    obtain ⟨s', e, hw, ha⟩ := openView_abs h caps
    simp only [Sess.step, ISess.step, rawCapped_abs, e]
    split
    · exact ⟨h, rfl⟩
    · cases hc : s.abs.canOpen <;> simp only [hc] at ha ⊢ <;> exact ⟨hw, by rw [ha]; rfl⟩
  | init =>
    obtain ⟨st, stack, r⟩ := s
    cases stack with
    | nil => exact ⟨h, rfl⟩
    | cons v rest =>
      simp only [Sess.step, ISess.step, View.initialized_eq h.top_wf]
      exact Sim.pop h _
  | drop =>
    obtain ⟨st, stack, r⟩ := s
    cases stack with
    | nil => exact ⟨h, rfl⟩
    | cons v rest => exact Sim.pop h _
  | setr r => exact ⟨h, rfl⟩
  | read caps =>
    obtain ⟨s', e, hw, ha⟩ := openView_abs h caps
    simp only [Sess.step, ISess.step, rawCapped_abs, e]
    split
    · exact ⟨h, rfl⟩
    · cases hc : s.abs.canOpen <;> simp only [hc, if_true, Bool.false_eq_true, if_false] at ha ⊢
      · exact ⟨hw, by rw [ha]⟩
      · rw [← ha]; exact readTop_sim hw

theorem run_sim (ops : List Op) : ∀ {s : Sess}, s.Wf → Sim (s.run ops) (s.abs.run ops) := by
  induction ops with
  | nil => intro s h; exact ⟨h, rfl⟩
  | cons op ops ih =>
    intro s h
    obtain ⟨h1, h2⟩ := step_sim h op
    obtain ⟨h3, h4⟩ := ih h1
    simp only [Sess.run, ISess.run, ← h2, ← h4]
    exact ⟨h3, rfl⟩

theorem step_wf {s : Sess} (h : s.Wf) (op : Op) : (s.step op).1.Wf := (step_sim h op).1

theorem run_wf {s : Sess} (h : s.Wf) (ops : List Op) : (s.run ops).1.Wf := (run_sim ops h).1

end Sess

theorem fresh_abs (k : Kind) (cap : Nat) (old : List UInt8) (junk : UInt8) (h : old.length ≤ cap) :
    (Sess.fresh (Store.fresh k cap old junk)).abs = ISess.fresh (IStore.fresh k cap old) := by
  cases k <;> simp [Sess.fresh, ISess.fresh, Sess.abs, Store.abs, Store.fresh, IStore.fresh, Store.contents] <;> omega

/-! ### the ideal container keeps its kind and (except for a slice reference) its capacity -/

def IStore.Same (a b : IStore) : Prop := a.kind = b.kind ∧ (b.kind ≠ .sref → a.cap = b.cap)

@[simp] theorem IStore.Same.refl (a : IStore) : a.Same a := ⟨rfl, fun _ => rfl⟩

theorem IStore.Same.trans {a b c : IStore} (h1 : a.Same b) (h2 : b.Same c) : a.Same c :=
  ⟨h1.1.trans h2.1, fun hc => (h1.2 (by rw [h2.1]; exact hc)).trans (h2.2 hc)⟩

@[simp] theorem IStore.release_same (s : IStore) (v : IView) : (s.release v).Same s := by
  unfold IStore.release IStore.Same
  cases hk : s.kind <;> simp [hk]

@[simp] theorem iUnwindFrom_same (st : IStore) :
    ∀ (rest : List IView) (c : IView), (iUnwindFrom st c rest).Same st
  | [], _ => IStore.release_same _ _
  | _ :: rest, _ => iUnwindFrom_same st rest _

namespace ISess

@[simp] theorem unwind_same (s : ISess) : s.unwind.store.Same s.store := by
  unfold unwind iUnwindStack
  split <;> simp

@[simp] theorem pop_same (s : ISess) : s.pop.store.Same s.store := by
  unfold pop
  split <;> simp

@[simp] theorem onTop_same (s : ISess) (f : IView → IView × Res) (a b : Resp) :
    (s.onTop f a b).1.store.Same s.store := by
  unfold onTop
  repeat' split
  all_goals simp

theorem readTop_same (s : ISess) : s.readTop.1.store.Same s.store := by
  simp only [readTop]
  repeat' split
  all_goals simp only [pop_same, unwind_same, IStore.Same.refl]

/-- The store changes only where a view is released: in `pop` and `unwind`. -/
theorem step_same (s : ISess) (op : Op) : (s.step op).1.store.Same s.store := by
  cases op <;> simp only [step]
  case read caps =>
    repeat' split
    · exact IStore.Same.refl _
    · exact readTop_same (s.openView caps)
    · exact unwind_same s
  all_goals repeat' split
  all_goals simp only [openView, onTop_same, pop_same, unwind_same, IStore.Same.refl]

theorem run_same (ops : List Op) : ∀ (s : ISess), (s.run ops).1.store.Same s.store := by
  induction ops with
  | nil => intro s; exact IStore.Same.refl _
  | cons op ops ih =>
    intro s
    simp only [run]
    exact (ih _).trans (step_same s op)

end ISess

end Tw.Buffer
