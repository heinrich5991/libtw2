import Tw.Proofs.DemoItems
import Tw.Proofs.HuffmanTable

/-! The typed-level round trip over whole histories (the induction behind `C15_full`), with the Huffman hypothesis of
`Demo` and `DemoHl` discharged. -/

/-- `HuffmanRoundTrip` holds: C07 `decompress_compress` for the built-in, kernel-checked table -/
theorem Tw.Demo.huffmanRoundTrip : Tw.Demo.HuffmanRoundTrip :=
  Tw.Huffman.roundTrip_table

namespace Tw.DemoHl
open Tw.Demo Tw.Snap

theorem expectedChunks_err (op : Op) (ops : List Op) (e : WriteError) (rs : List HResult) :
    expectedChunks (op :: ops) (.err e :: rs) = expectedChunks ops rs := by
  cases op <;> rfl

/-- The induction carries that the reader holds the writer's last snapshot and tick, which is what a delta chunk and an
inline tick delta are decoded against. -/
theorem run_read (objSize : Nat → Option Nat) : ∀ (ops : List Op) (w w' : DemoWriter) (rs : List HResult),
    w.Inv → (∀ op ∈ ops, op.valid) → w.run objSize ops = (w', rs) → (∀ r ∈ rs, ∀ s, r ≠ .panic s) →
    ∃ body, w'.inner.file = w.inner.file ++ body ∧
      ∀ (v : Version) (fuel : Nat), v.num ≥ 5 → body.length + 1 ≤ fuel →
        ∃ cs, DemoReader.readAllGo objSize fuel
            { raw := { data := body, version := v, currentTick := w.inner.prevTick }, snap := w.snap } = (cs, [], none)
          ∧ chunksAgree cs (expectedChunks ops rs) := by
  intro ops
  induction ops with
  | nil =>
    intro w w' rs _ _ hrun _
    cases hrun
    refine ⟨[], (List.append_nil _).symm, fun v fuel _ hf => ?_⟩
    obtain ⟨fuel, rfl⟩ := Nat.exists_eq_add_of_le' hf
    exact ⟨[], rfl, trivial⟩
  | cons op rest ih =>
    intro w w' rs hinv hval hrun hnp
    have hvalr : ∀ op ∈ rest, op.valid := fun o ho => hval o (List.mem_cons_of_mem _ ho)
    rw [DemoWriter.run_cons] at hrun
    generalize hst : w.step objSize op = st at hrun
    obtain ⟨w1, r⟩ := st
    generalize hrr : w1.run objSize rest = rr at hrun
    obtain ⟨w2, rs'⟩ := rr
    cases hrun
    have hnp' : ∀ r ∈ rs', ∀ s, r ≠ .panic s := fun r hr => hnp r (List.mem_cons_of_mem _ hr)
    cases r with
    | panic s => exact absurd rfl (hnp (.panic s) List.mem_cons_self s)
    | err e =>
      cases step_err_unchanged objSize w w1 hinv op e hst
      rw [expectedChunks_err]
      exact ih w w2 rs' hinv hvalr hrr hnp'
    | ok =>
      cases op with
      | snap t items =>
        obtain ⟨hti, hvi⟩ : Tw.Packer.inI32 t ∧ ∀ it ∈ items, it.valid := hval _ List.mem_cons_self
        have hinv1 := writeSnap_preserves_inv objSize w w1 hinv t items hvi hst
        obtain ⟨its, hits, hmem⟩ := accepted_snap_items objSize w w1 hinv t items hvi hst
        obtain ⟨body, hf, hrd⟩ := ih w1 w2 rs' hinv1 hvalr hrr hnp'
        obtain ⟨enc, hfe, hle, hstep⟩ := snap_step huffmanRoundTrip objSize w w1 hinv t hti items hvi hst
        refine ⟨enc ++ body, by rw [hf, hfe, List.append_assoc], fun v fuel hv hfuel => ?_⟩
        obtain ⟨r1, hn1, hn2⟩ := hstep v body w.snap hv (fun _ => rfl)
        rw [hits] at hn2
        rw [List.length_append] at hfuel
        obtain ⟨fuel, rfl, hrem⟩ := fuel_split hle hfuel
        obtain ⟨cs, hc1, hc2⟩ := hrd v fuel hv hrem
        exact ⟨.tick t :: .snapshot its :: cs, by simp only [DemoReader.readAllGo, hn1, hn2, hc1, List.nil_append],
          rfl, hmem, hc2⟩
      | msg bytes =>
        obtain ⟨hsn, _, _, _, enc, hfe, hle, hstep⟩ := msg_step huffmanRoundTrip objSize w w1 bytes hst
        obtain ⟨body, hf, hrd⟩ := ih w1 w2 rs' (writeMsg_preserves_inv w w1 bytes hinv hst) hvalr hrr hnp'
        refine ⟨enc ++ body, by rw [hf, hfe, List.append_assoc], fun v fuel hv hfuel => ?_⟩
        have hn := hstep v body w.snap hv
        rw [List.length_append] at hfuel
        obtain ⟨fuel, rfl, hrem⟩ := fuel_split hle hfuel
        obtain ⟨cs, hc1, hc2⟩ := hrd v fuel hv hrem
        rw [hsn] at hc1
        exact ⟨.message (pad4 bytes) :: cs, by simp only [DemoReader.readAllGo, hn, hc1, List.nil_append], rfl, hc2⟩

end Tw.DemoHl
