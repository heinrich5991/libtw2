import Tw.Proofs.SnapExt

/-! C11: what the readers accept can be used with every other operation: the invariant
`build_from_raw` establishes for any raw snapshot; `items()`, `item()`, `recycle()` never panic on
an accepted snapshot. -/
namespace Tw.Snap

attribute [local irreducible] uuidToData keyOf

/-- what `build_from_raw` establishes for *any* raw snapshot it accepts -/
structure Accepted (s : Snap) : Prop where
  raw_wf : s.raw.WF
  ext_sorted : Sorted s.ext
  ext_reg : ∀ u t, mfind u s.ext = some t →
    ∃ k d ex, (k, d) ∈ s.raw.items ∧ keyType k = typeIdEx ∧ keyId k = t ∧ dataToUuid d = some (u, ex)
  reg_ext : ∀ k d, (k, d) ∈ s.raw.items → keyType k = typeIdEx →
    ∃ u ex, dataToUuid d = some (u, ex) ∧ mfind u s.ext = some (keyId k)
  types_reg : ∀ p ∈ s.raw.items, offsetExt ≤ keyType p.1 →
    (mfind (keyOf typeIdEx (keyType p.1)) s.raw.items).isSome
  ext_count : s.ext.length = (s.raw.items.filter isReg).length

theorem accepted_of_buildFromRaw {raw : RawSnap} {s : Snap} {ws : List Warning} (hwf : raw.WF)
    (h : buildFromRaw raw = .ok (s, ws)) : Accepted s := by
  obtain ⟨hb, rfl⟩ := buildFromRaw_eq_ok.mp h
  have r := buildExt_eq sorted_nil hb
  refine ⟨hwf, r.sorted, ?_, r.reg_ext, r.types_reg, by simpa using r.count⟩
  intro u t hu
  rcases r.ext_reg u t hu with h' | h'
  · simp [mfind] at h'
  · exact h'

theorem typeId_ne_none {s : Snap} (hs : Accepted s) {p : Int × List Int} (hp : p ∈ s.raw.items) :
    s.typeId (keyType p.1) ≠ none := by
  unfold Snap.typeId
  split
  · simp
  · split
    · simp
    · rename_i h1 h2
      have hge : offsetExt ≤ keyType p.1 := by omega
      have := hs.types_reg p hp hge
      unfold RawSnap.item
      cases hf : mfind (keyOf typeIdEx (keyType p.1)) s.raw.items with
      | none => rw [hf] at this; simp at this
      | some d =>
        simp only
        cases dataToUuid d with
        | none => simp
        | some t => obtain ⟨u, ex⟩ := t; simp

theorem typeId_some_not_reg {s : Snap} {t : Nat} {tid : TypeId} (h : s.typeId t = some (some tid)) :
    t ≠ typeIdEx := by
  intro e
  unfold Snap.typeId at h
  simp [e] at h

theorem itemsLoop_ne_none {s : Snap} (hs : Accepted s) : ∀ (m : Items) (rem : Nat),
    (∀ p ∈ m, p ∈ s.raw.items) → (m.filter (fun p => !isReg p)).length ≤ rem → itemsLoop s m rem ≠ none := by
  intro m
  induction m with
  | nil => intro rem _ _; simp [itemsLoop]
  | cons q r ih =>
    obtain ⟨k, d⟩ := q
    intro rem hsub hcount
    have hr : ∀ p ∈ r, p ∈ s.raw.items := fun p hp => hsub p (by simp [hp])
    have hle : (r.filter (fun p => !isReg p)).length ≤ ((k, d) :: r |>.filter (fun p => !isReg p)).length := by
      rw [List.filter_cons]; split <;> simp
    simp only [itemsLoop]
    cases ht : s.typeId (keyType k) with
    | none => exact absurd ht (typeId_ne_none hs (hsub (k, d) (by simp)))
    | some o =>
      cases o with
      | none => exact ih rem hr (by omega)
      | some tid =>
        have hnr : isReg (k, d) = false := by
          simp [isReg]; exact typeId_some_not_reg ht
        have hc : (r.filter (fun p => !isReg p)).length + 1 ≤ rem := by
          rw [List.filter_cons] at hcount
          simp [hnr] at hcount
          omega
        have hne : ¬ rem = 0 := by omega
        simp only [hne, if_false]
        have := ih (rem - 1) hr (by omega)
        cases hl : itemsLoop s r (rem - 1) with
        | none => exact absurd hl this
        | some l => simp

theorem items_ne_none {s : Snap} (hs : Accepted s) : s.items ≠ none := by
  unfold Snap.items
  have hp := (List.filter_append_perm isReg s.raw.items).length_eq
  rw [List.length_append] at hp
  have hc := hs.ext_count
  have h1 : ¬ s.ext.length > s.raw.items.length := by omega
  simp only [h1, if_false]
  exact itemsLoop_ne_none hs s.raw.items _ (fun p hp => hp) (by omega)

theorem item_ne_none (s : Snap) (tid : TypeId) (id : Nat)
    (h : match tid with | .ordinal o => 0 < o ∧ o < offsetExt | .uuid _ => True) : s.item tid id ≠ none := by
  unfold Snap.item Snap.rawTypeId
  cases tid with
  | ordinal o =>
    simp only at h
    simp [h]
  | uuid u =>
    simp only
    cases mfind u s.ext <;> simp

theorem recycleNext_spec : ∀ (m : Items) (n : Nat), n ≤ 32768 →
    ∃ n', recycleNext m n = some n' ∧ n' ≤ 32768 ∧ (offsetExt ≤ n → offsetExt ≤ n') := by
  intro m
  induction m with
  | nil => intro n h; exact ⟨n, rfl, h, id⟩
  | cons q r ih =>
    obtain ⟨k, d⟩ := q
    intro n h
    rw [recycleNext]
    let M : Option Nat → Prop := fun o => ∃ n', o = some n' ∧ n' ≤ 32768 ∧ (offsetExt ≤ n → offsetExt ≤ n')
    refine ite_elim (motive := M) (fun _ => ⟨n, rfl, h, id⟩) fun _ =>
      ite_elim (motive := M) (fun hr => ?_) fun _ => ih n h
    refine ite_elim (motive := M) (fun hov => absurd hov (by omega)) fun _ =>
      ite_elim (motive := M) (fun _ => ?_) fun _ => ih n h
    obtain ⟨n', e1, e2, e3⟩ := ih (keyId k + 1) (by omega)
    exact ⟨n', e1, e2, fun _ => e3 (by omega)⟩

/-- `Snap::recycle` never panics on an accepted snapshot (since the fixes of D6 and D20), and the
builder it returns has its counter in `OFFSET_EXTENDED_TYPE_ID ..= 0x8000`. -/
theorem recycle_ne_none {s : Snap} (hs : Accepted s) :
    ∃ b, s.recycle = some b ∧ offsetExt ≤ b.nextTypeId ∧ b.nextTypeId ≤ 32768 ∧ b.snap.ext = s.ext := by
  obtain ⟨hS, hI, hN, hZ⟩ := hs.raw_wf
  obtain ⟨n', hn, hn1, hn2⟩ := recycleNext_spec s.raw.items offsetExt (by rw [offsetExt_eq]; omega)
  have hentry : ∀ u t, (u, t) ∈ s.ext → ∃ d ex, mfind (keyOf typeIdEx t) s.raw.items = some d ∧
      dataToUuid d = some (u, ex) := by
    intro u t hm
    obtain ⟨k, d, ex, hkd, hk, hid, hdu⟩ := hs.ext_reg u t (mfind_of_mem hs.ext_sorted hm)
    refine ⟨d, ex, ?_, hdu⟩
    have : keyOf typeIdEx t = k := by rw [← hk, ← hid]; exact keyOf_key (hI _ hkd).1
    rw [this]
    exact mfind_of_mem hS hkd
  obtain ⟨r, hr⟩ := recycleAdd_ok hS ⟨hN, hZ⟩ hs.ext_sorted hentry
  exact ⟨_, Snap.recycle_eq_some.mpr ⟨_, _, hn, hr, rfl⟩, hn2 (Nat.le_refl _), hn1, rfl⟩

theorem accepted_of_readBytes {bs : List UInt8} {s : Snap} {ws : List Warning}
    (h : Snap.readBytes bs = .ok (s, ws)) :
    Accepted s ∧ s.raw.items.length + dataLen s.raw.items + 2 ≤ bs.length := by
  obtain ⟨ws1, ws2, hr, hb, _⟩ := thenBuild_eq h
  exact ⟨accepted_of_buildFromRaw (RawSnap.readBytes_WF hr) hb, RawSnap.readBytes_size_le hr⟩

theorem accepted_of_readWithDelta {a s : Snap} {d : Delta} {ws : List Warning} (ha : a.raw.WF)
    (hd : ∀ p ∈ d.updated, I32 p.1 ∧ ∀ v ∈ p.2, I32 v) (h : a.readWithDelta d = .ok (s, ws)) : Accepted s := by
  obtain ⟨ws1, ws2, hr, hb, _⟩ := thenBuild_eq h
  exact accepted_of_buildFromRaw (applyDelta_WF ha hd hr) hb

end Tw.Snap
