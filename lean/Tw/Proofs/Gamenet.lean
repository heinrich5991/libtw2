import Tw.Model.GamenetTyping
import Tw.Proofs.Packer

/-! C14 lemmas about the interpreter over the protocol description language, by induction over descriptions
(`descr_induct`).  The decode side is one statement by the result (`Res.Sat`, `decM_decMs_sat`); its canonicity clause
(`Canon`) rests, for integers, on the full analysis of `readInt` from C08 (`Tw.Packer.readInt_inv`).  Encode-then-decode
gives the value back (`RoundTrips`); what decodes has its absent members at the end (`decMs_absentOk`), so can be
written back. -/
namespace Tw.Gamenet
open Tw.Packer (Warning readInt writeInt readString inI32 readInt_writeInt readInt_clean readString_append
  readString_some toNat_ofNat_lt)

theorem decM_twString (n : Nat) : decM (.twString n) = decM (.array n .tick) :=
  funext fun inp => by simp only [decM]

theorem wtM_twString (n : Nat) (v : Val) : wtM (.twString n) v = wtM (.array n .tick) v := by
  have : isI32 = wtM .tick := funext fun v => by cases v <;> rfl
  cases v with
  | list vs => simp only [wtM, this]
  | _ => rfl

/-- member types that are not made of other member types (`int32_twstring` is: an array of ticks) -/
def leaf : MT → Bool
  | .optional _ | .array _ _ | .object _ | .twString _ => false
  | _ => true

structure DescrCases (P : MT → Prop) (PL : ML → Prop) : Prop where
  leaf : ∀ t, leaf t = true → P t
  optional : ∀ t, P t → P (.optional t)
  array : ∀ n t, P t → P (.array n t)
  twString : ∀ n, P (.array n .tick) → P (.twString n)
  object : ∀ ms, PL ms → P (.object ms)
  nil : PL .nil
  cons : ∀ t ms, P t → PL ms → PL (.cons t ms)

mutual
theorem MT.induct {P : MT → Prop} {PL : ML → Prop} (c : DescrCases P PL) : ∀ t, P t
  | .optional t => c.optional t (MT.induct c t)
  | .array n t => c.array n t (MT.induct c t)
  | .twString n => c.twString n (c.array n .tick (c.leaf .tick rfl))
  | .object ms => c.object ms (ML.induct c ms)
  | .int32 .. | .boolean | .enum .. | .flags .. | .tick | .tuneParam | .string _ | .int32String | .data
  | .rest | .raw _ | .beUint16 | .uint8 | .packedAddresses | .serverinfoClient => c.leaf _ rfl
theorem ML.induct {P : MT → Prop} {PL : ML → Prop} (c : DescrCases P PL) : ∀ ms, PL ms
  | .nil => c.nil
  | .cons t ms => c.cons t ms (MT.induct c t) (ML.induct c ms)
end

theorem descr_induct {P : MT → Prop} {PL : ML → Prop} (c : DescrCases P PL) : (∀ t, P t) ∧ ∀ ms, PL ms :=
  ⟨MT.induct c, ML.induct c⟩

theorem readString_unterminated (s : List UInt8) (hn : hasNul s = false) : readString s = none := by
  cases h : readString s with
  | none => rfl
  | some p =>
    obtain ⟨-, rfl⟩ := readString_some h
    simp [hasNul] at hn

theorem isDigit_digit {d : Nat} (hd : d < 10) : isDigit (UInt8.ofNat (48 + d)) = true := by
  simp [isDigit]; omega

theorem parseDigits_digit {d : Nat} (hd : d < 10) (tail : List UInt8) (acc : Nat) :
    parseDigits (UInt8.ofNat (48 + d) :: tail) acc = parseDigits tail (acc * 10 + d) := by
  rw [parseDigits, if_pos (isDigit_digit hd), toNat_ofNat_lt (by omega), Nat.add_sub_cancel_left]

theorem parseDigits_snoc {d : Nat} (hd : d < 10) : ∀ (s : List UInt8) (acc : Nat),
    parseDigits (s ++ [UInt8.ofNat (48 + d)]) acc = (parseDigits s acc).map (· * 10 + d)
  | [], acc => parseDigits_digit hd [] acc
  | b :: s, acc => by
    simp only [List.cons_append, parseDigits]
    split
    · exact parseDigits_snoc hd s _
    · rfl

theorem parseDigits_decDigits : ∀ (f n : Nat), n < 10 ^ (f + 1) → parseDigits (decDigits f n) 0 = some n
  | 0, n, hn => by
    rw [decDigits, Nat.mod_eq_of_lt hn, parseDigits_digit hn, parseDigits, Nat.zero_mul, Nat.zero_add]
  | f + 1, n, hn => by
    rw [decDigits]
    split
    · rw [parseDigits_digit ‹_›, parseDigits, Nat.zero_mul, Nat.zero_add]
    · rw [parseDigits_snoc (Nat.mod_lt n (by decide)), parseDigits_decDigits f (n / 10) (by rw [Nat.pow_succ] at hn; omega),
        Option.map_some, Nat.div_add_mod']

theorem decDigits_ne_nil (f n : Nat) : decDigits f n ≠ [] := by
  cases f with
  | zero => simp [decDigits]
  | succ f => simp only [decDigits]; split <;> simp

theorem decDigits_isDigit : ∀ (f n : Nat), ∀ b ∈ decDigits f n, isDigit b = true
  | 0, n, b, hb => by
    rw [decDigits, List.mem_singleton] at hb
    exact hb ▸ isDigit_digit (Nat.mod_lt n (by decide))
  | f + 1, n, b, hb => by
    rw [decDigits] at hb
    split at hb
    · exact List.mem_singleton.mp hb ▸ isDigit_digit ‹_›
    · rcases List.mem_append.mp hb with hb | hb
      · exact decDigits_isDigit f _ b hb
      · exact List.mem_singleton.mp hb ▸ isDigit_digit (Nat.mod_lt n (by decide))

theorem hasNul_decDigits (f n : Nat) : hasNul (decDigits f n) = false := by
  simp only [hasNul, List.any_eq_false, beq_iff_eq]
  rintro b hb rfl
  exact absurd (decDigits_isDigit f n 0 hb) (by decide)

theorem hasNul_stringFromInt (v : Int) : hasNul (stringFromInt v) = false := by
  unfold stringFromInt
  split
  · simpa [hasNul] using hasNul_decDigits 10 (-v).toNat
  · exact hasNul_decDigits 10 v.toNat

theorem parseI32_stringFromInt (v : Int) (h : inI32 v) : parseI32 (stringFromInt v) = some v := by
  unfold inI32 at h
  unfold stringFromInt
  split
  · have hne : (decDigits 10 (-v).toNat).isEmpty = false := by simpa using decDigits_ne_nil 10 (-v).toNat
    simp only [parseI32, if_true, hne, parseDigits_decDigits 10 (-v).toNat (by omega)]
    rw [if_neg (by decide), if_pos (by omega)]
    congr 1
    omega
  · cases hd : decDigits 10 v.toNat with
    | nil => exact absurd hd (decDigits_ne_nil 10 v.toNat)
    | cons c rest =>
      -- the first character is a digit, so no sign
      have hc := decDigits_isDigit 10 v.toNat c (by simp [hd])
      have hc45 : c ≠ 45 := fun h0 => absurd (h0 ▸ hc) (by decide)
      have hc43 : c ≠ 43 := fun h0 => absurd (h0 ▸ hc) (by decide)
      simp only [parseI32, hc45, hc43, if_false]
      rw [← hd, parseDigits_decDigits 10 v.toNat (by omega)]
      simp only
      rw [if_pos (by omega)]
      congr 1
      omega

theorem parseI32_inI32 {s : List UInt8} {v : Int} (h : parseI32 s = some v) : inI32 v := by
  unfold parseI32 at h
  unfold inI32
  -- every path to `some` goes through a bound check
  repeat' split at h
  all_goals cases h
  all_goals omega

theorem readIntR_writeInt {x : Int} (hi : inI32 x) (rest : List UInt8) (k : Int → Option Val) :
    readIntR (writeInt x ++ rest) k =
      match k x with
      | some y => .ok y rest []
      | none => .err .intOutOfRange rest [] := by
  simp only [readIntR, readInt_writeInt x hi rest]
  cases k x <;> rfl

/-- One read followed by the reads of the rest: the step of `rep` and of `decMs`. -/
def Res.cons (a : Res Val) (k : List UInt8 → Res VL) : Res VL :=
  match a with
  | .panic s => .panic s
  | .err e r ws => .err e r ws
  | .ok v r ws =>
    match k r with
    | .panic s => .panic s
    | .err e r' ws' => .err e r' (ws ++ ws')
    | .ok vs r' ws' => .ok (.cons v vs) r' (ws ++ ws')

theorem rep_succ (f : List UInt8 → Res Val) (n : Nat) (inp : List UInt8) :
    rep f (n + 1) inp = (f inp).cons (rep f n) := rfl

theorem decMs_cons (t : MT) (ms : ML) (inp : List UInt8) :
    decMs (.cons t ms) inp = (decM t inp).cons (decMs ms) := by
  rw [decMs]; rfl

theorem Res.cons_ok {a : Res Val} {k : List UInt8 → Res VL} {vs : VL} {r : List UInt8} {ws : List Warning} :
    a.cons k = .ok vs r ws ↔
      ∃ v r₁ w₁ vs' w₂, a = .ok v r₁ w₁ ∧ k r₁ = .ok vs' r w₂ ∧ vs = .cons v vs' ∧ ws = w₁ ++ w₂ := by
  unfold Res.cons
  constructor
  · intro h
    split at h
    · cases h
    · cases h
    · split at h
      · cases h
      · cases h
      · cases h
        exact ⟨_, _, _, _, _, rfl, ‹_›, rfl, rfl⟩
  · rintro ⟨v, r₁, w₁, vs', w₂, rfl, hk, rfl, rfl⟩
    simp [hk]

theorem Enc.seq_ok {a b : Enc} {bs : List UInt8} (h : a.seq b = .ok bs) :
    ∃ x y, a = .ok x ∧ b = .ok y ∧ bs = x ++ y := by
  cases a <;> cases b <;> simp [Enc.seq] at h
  exact ⟨_, _, rfl, rfl, h.symm⟩

theorem Enc.ok_seq_ok (x y : List UInt8) : (Enc.ok x).seq (.ok y) = .ok (x ++ y) := rfl

/-- the check that follows `read_int` in the six member types that are one integer -/
def intCheck : MT → Option (Int → Option Val)
  | .int32 min max => some fun v => if checkRange min max v then some (.int v) else none
  | .boolean => some fun v => if checkRange (some 0) (some 1) v then some (.bool (v != 0)) else none
  | .enum _ lo n => some fun v => if inEnum lo n v then some (.int v) else none
  | .flags _ _ | .tick | .tuneParam => some fun v => some (.int v)
  | _ => none

theorem decM_of_intCheck {t : MT} {k : Int → Option Val} (h : intCheck t = some k) (inp : List UInt8) :
    decM t inp = readIntR inp k := by
  cases t with
  | int32 | boolean | enum | flags | tick | tuneParam => cases h; simp only [decM]
  | _ => cases h

theorem intCheck_sound {t : MT} {k : Int → Option Val} {x : Int} {v : Val} (h : intCheck t = some k)
    (hx : inI32 x) (hk : k x = some v) :
    wtM t v = true ∧ presentV v = true ∧ encM t v = .ok (writeInt x) := by
  cases t with
  | int32 | enum =>
    cases h
    dsimp only at hk
    split at hk
    · rename_i hc; cases hk; exact ⟨by simp [wtM, hx, hc], rfl, by simp [encM, hx, hc]⟩
    · cases hk
  | boolean =>
    cases h
    dsimp only at hk
    split at hk
    · rename_i hc
      cases hk
      simp only [checkRange, Bool.and_eq_true, decide_eq_true_eq] at hc
      obtain rfl | rfl : x = 0 ∨ x = 1 := by omega
      all_goals simp [wtM, presentV, encM]
    · cases hk
  | flags | tick | tuneParam => cases h; cases hk; exact ⟨by simp [wtM, hx], rfl, by simp [encM, encInt, hx]⟩
  | _ => cases h

theorem intCheck_complete {t : MT} {k : Int → Option Val} {v : Val} (h : intCheck t = some k)
    (hwt : wtM t v = true) : ∃ x, inI32 x ∧ k x = some v := by
  cases t with
  | boolean =>
    cases h
    cases v with
    | bool b => exact ⟨if b then 1 else 0, by cases b <;> decide, by cases b <;> simp [checkRange]⟩
    | _ => simp [wtM] at hwt
  | int32 | enum | flags | tick | tuneParam =>
    cases h
    cases v with
    | int x =>
      simp only [wtM, Bool.and_eq_true, decide_eq_true_eq] at hwt
      exact ⟨x, by simp [hwt], by simp [hwt]⟩
    | _ => simp [wtM] at hwt
  | _ => cases h

theorem decM_intCheck_reject {t : MT} {k : Int → Option Val} (h : intCheck t = some k) {x : Int}
    (hi : inI32 x) (hk : k x = none) (rest : List UInt8) :
    decM t (writeInt x ++ rest) = .err .intOutOfRange rest [] := by
  rw [decM_of_intCheck h, readIntR_writeInt hi, hk]

theorem presentL_eq_all : ∀ (vs : VL), presentL vs = VL.all presentV vs
  | .nil => rfl
  | .cons v vs => by rw [presentL, VL.all, presentL_eq_all vs]

/-- the two bytes of `u16::from_be_bytes([b0, b1])`, by `to_be_bytes` -/
theorem be16_bytes (b0 b1 : UInt8) :
    UInt8.ofNat ((↑b0.toNat * 256 + ↑b1.toNat : Int).toNat / 256) = b0 ∧
    UInt8.ofNat ((↑b0.toNat * 256 + ↑b1.toNat : Int).toNat % 256) = b1 := by
  have h1 := b1.toNat_lt
  have ht : (↑b0.toNat * 256 + ↑b1.toNat : Int).toNat = b0.toNat * 256 + b1.toNat := Int.toNat_natCast _
  rw [ht, Nat.mul_comm, Nat.mul_add_div (by decide), Nat.div_eq_of_lt h1, Nat.add_zero, Nat.mul_add_mod,
    Nat.mod_eq_of_lt h1, UInt8.ofNat_toNat, UInt8.ofNat_toNat]
  exact ⟨rfl, rfl⟩

theorem absentOk_of_allNone : ∀ (vs : VL), allNone vs = true → absentOk vs = true
  | .nil, _ => rfl
  | .cons v vs, h => by cases v <;> simp_all [allNone, absentOk]

theorem absentOk_cons {v : Val} {vs : VL} :
    absentOk (.cons v vs) = true ↔ absentOk vs = true ∧ (v = .none ∧ allNone vs = true ∨ presentV v = true) := by
  have := absentOk_of_allNone vs
  cases v <;> simp_all [absentOk, presentV, and_comm]

theorem absentOk_of_presentL : ∀ (vs : VL), presentL vs = true → absentOk vs = true
  | .nil, _ => rfl
  | .cons v vs, h => by
    simp only [presentL, Bool.and_eq_true] at h
    cases v <;> simp_all [absentOk, presentV, absentOk_of_presentL vs]

theorem noneThenSome_allFalse : ∀ (l : List Bool), (∀ b ∈ l, b = false) → noneThenSome l = false
  | [], _ => rfl
  | [_], _ => rfl
  | a :: b :: rest, h => by
    have hb : b = false := h b (by simp)
    have := noneThenSome_allFalse (b :: rest) (fun x hx => h x (by simp [hx]))
    subst hb
    simp [noneThenSome, this]

theorem optFlags_allNone : ∀ (ms : ML) (vs : VL), allNone vs = true → ∀ b ∈ optFlags ms vs, b = false
  | .nil, vs, _, b, hb => by cases vs <;> simp [optFlags] at hb
  | .cons t ms, .nil, _, b, hb => by cases t <;> simp [optFlags] at hb
  | .cons t ms, .cons v vs, hn, b, hb => by
    cases v with
    | none =>
      have ih := optFlags_allNone ms vs hn
      cases t with
      | optional t' => exact (List.mem_cons.mp hb).elim id (ih b)
      | _ => exact ih b hb
    | _ => cases hn

theorem noneThenSome_true_cons (l : List Bool) : noneThenSome (true :: l) = noneThenSome l := by
  cases l with
  | nil => rfl
  | cons b rest => simp [noneThenSome]

/-- The struct-level asserts pass when the absent members are the trailing ones. -/
theorem optGuard_absentOk : ∀ (ms : ML) (vs : VL), absentOk vs = true → noneThenSome (optFlags ms vs) = false
  | .nil, vs, _ => by cases vs <;> rfl
  | .cons t ms, .nil, _ => by cases t <;> rfl
  | .cons t ms, .cons v vs, ha => by
    obtain ⟨hab, hv⟩ := absentOk_cons.mp ha
    have ih := optGuard_absentOk ms vs hab
    cases t with
    | optional t' =>
      rcases hv with ⟨rfl, hn⟩ | hp
      · exact noneThenSome_allFalse _ (optFlags_allNone _ (.cons .none vs) hn)
      · have : optFlags (.cons (.optional t') ms) (.cons v vs) = true :: optFlags ms vs := by
          cases v with
          | none => cases hp
          | _ => rfl
        rw [this, noneThenSome_true_cons]
        exact ih
    | _ => exact ih

theorem guardWrap_absentOk {ms : ML} {vs : VL} (ha : absentOk vs = true) (e : Enc) :
    guardWrap (optGuard ms vs) e = e := by
  cases e <;> simp [guardWrap, optGuard, optGuard_absentOk ms vs ha]

theorem guardWrap_ok {ok : Bool} {e : Enc} {bs : List UInt8} (h : guardWrap ok e = .ok bs) : ok = true ∧ e = .ok bs := by
  cases e <;> cases ok <;> simp [guardWrap] at h ⊢
  exact h

/-- canonicity of one read that returned `v` and left `r`: what it consumed of `inp` is what `g` writes for `v` -/
def Canon (g : Val → Enc) (inp : List UInt8) (v : Val) (r : List UInt8) : Prop :=
  ∃ bs, inp = bs ++ r ∧ g v = .ok bs

/-- The form of the statements about a decoder: it does not panic, and what it returns satisfies `Q`; of a decoding
error nothing is claimed. -/
def Res.Sat {α : Type} (res : Res α) (Q : α → List UInt8 → List Warning → Prop) : Prop :=
  match res with
  | .ok v r ws => Q v r ws
  | .err _ _ _ => True
  | .panic _ => False

section
variable {α : Type} {res : Res α} {Q Q' : α → List UInt8 → List Warning → Prop}

theorem Res.Sat.of_ok (h : res.Sat Q) {v : α} {r : List UInt8} {ws : List Warning} (e : res = .ok v r ws) :
    Q v r ws := by
  subst e
  exact h

theorem Res.Sat.not_panic (h : res.Sat Q) (s : String) : res ≠ .panic s := by
  rintro rfl
  exact h

theorem Res.Sat.mono (h : res.Sat Q) (hq : ∀ v r ws, Q v r ws → Q' v r ws) : res.Sat Q' := by
  cases res with
  | ok v r ws => exact hq _ _ _ h
  | err => trivial
  | panic => exact h
end

theorem Res.cons_sat {a : Res Val} {k : List UInt8 → Res VL} {Q₁ : Val → List UInt8 → List Warning → Prop}
    {Q : VL → List UInt8 → List Warning → Prop} (ha : a.Sat Q₁)
    (hk : ∀ v r₁ w₁, Q₁ v r₁ w₁ → (k r₁).Sat fun vs r w₂ => Q (.cons v vs) r (w₁ ++ w₂)) : (a.cons k).Sat Q := by
  cases a with
  | ok v r₁ w₁ =>
    have := hk v r₁ w₁ ha
    simp only [Res.cons]
    generalize k r₁ = b at this ⊢
    cases b with
    | ok => exact this
    | err => trivial
    | panic => exact this
  | err => trivial
  | panic => exact ha

theorem Enc.seq_canon {e₁ e₂ : Enc} {inp r₁ r : List UInt8} (h₁ : ∃ bs, inp = bs ++ r₁ ∧ e₁ = .ok bs)
    (h₂ : ∃ bs, r₁ = bs ++ r ∧ e₂ = .ok bs) : ∃ bs, inp = bs ++ r ∧ e₁.seq e₂ = .ok bs := by
  obtain ⟨b₁, rfl, rfl⟩ := h₁
  obtain ⟨b₂, rfl, rfl⟩ := h₂
  exact ⟨b₁ ++ b₂, (List.append_assoc ..).symm, rfl⟩

theorem readIntR_sat (inp : List UInt8) (k : Int → Option Val) :
    (readIntR inp k).Sat fun y r ws => ∃ x, inI32 x ∧ k x = some y ∧ (ws = [] → inp = writeInt x ++ r) := by
  unfold readIntR
  split
  · trivial
  · rename_i x rest ws' hr
    split
    · exact ⟨x, (readInt_clean hr).1, ‹_›, (readInt_clean hr).2⟩
    · trivial

theorem decM_leaf_sat {t : MT} (hl : leaf t = true) (inp : List UInt8) :
    (decM t inp).Sat fun v r ws =>
      wtM t v = true ∧ presentV v = true ∧ (noIntStrM t = true → ws = [] → Canon (encM t) inp v r) := by
  cases hk : intCheck t with
  | some k =>
    rw [decM_of_intCheck hk]
    refine (readIntR_sat inp k).mono fun v r ws ⟨x, hx, hkx, hinp⟩ => ?_
    obtain ⟨h₁, h₂, h₃⟩ := intCheck_sound hk hx hkx
    exact ⟨h₁, h₂, fun _ hw => ⟨_, hinp hw, h₃⟩⟩
  | none =>
    cases t with
    | string strict =>
      simp only [decM]
      split
      · trivial
      · rename_i s rest hs
        obtain ⟨hn, hinp⟩ : hasNul s = false ∧ _ := readString_some hs
        split
        · trivial
        · rename_i hc
          have hc' : (strict && hasControl s) = false := by simpa using hc
          exact ⟨by simp [wtM, hn, hc'], rfl, fun _ _ => ⟨s ++ [0], by simp [hinp], by simp [encM, hn, hc']⟩⟩
    | int32String =>
      simp only [decM]
      split
      · trivial
      · split
        · rename_i hp
          exact ⟨by simp [wtM, parseI32_inI32 hp], rfl, fun hni => by simp [noIntStrM] at hni⟩
        · trivial
    | data =>
      simp only [decM]
      split
      · trivial
      · rename_i x rest ws' hr
        obtain ⟨hi, hcl⟩ := readInt_clean hr
        split
        · trivial
        · split
          · trivial
          · rename_i h0 hl
            have hlen : (rest.take x.toNat).length = x.toNat := List.length_take_of_le (Nat.le_of_not_gt hl)
            have hx : ((rest.take x.toNat).length : Int) = x := by
              rw [hlen, Int.toNat_of_nonneg (Int.not_lt.mp h0)]
            have hlt : (rest.take x.toNat).length < 2 ^ 31 := by unfold inI32 at hi; omega
            refine ⟨by simpa only [wtM, decide_eq_true_eq] using hlt, rfl,
              fun _ hw => ⟨writeInt x ++ rest.take x.toNat, by rw [hcl hw]; simp, ?_⟩⟩
            simp only [encM, hx]
            rw [if_pos hlt]
    | raw len =>
      simp only [decM, readRawR]
      split
      · trivial
      · have hlen : (inp.take len).length = len := by rw [List.length_take]; omega
        rw [if_neg (by simp [hlen])]
        exact ⟨by simp [wtM, hlen], rfl, fun _ _ => ⟨inp.take len, by simp, by simp [encM, hlen]⟩⟩
    | beUint16 =>
      simp only [decM, readRawR]
      split
      · trivial
      · rename_i hlen
        match inp, hlen with
        | b0 :: b1 :: rest, _ =>
          have h0 := b0.toNat_lt
          have h1 := b1.toNat_lt
          have hnn : (0 : Int) ≤ ↑b0.toNat * 256 + ↑b1.toNat ∧ (↑b0.toNat * 256 + ↑b1.toNat : Int) < 65536 := by omega
          refine ⟨by simp only [wtM, Bool.and_eq_true, decide_eq_true_eq]; exact hnn, rfl,
            fun _ _ => ⟨[b0, b1], rfl, ?_⟩⟩
          simp only [encM, hnn, and_self, if_true]
          rw [(be16_bytes b0 b1).1, (be16_bytes b0 b1).2]
        | [_], h => simp at h
        | [], h => simp at h
    | uint8 =>
      simp only [decM, readRawR]
      split
      · trivial
      · rename_i hlen
        match inp, hlen with
        | b0 :: rest, _ =>
          have h0 := b0.toNat_lt
          have hnn : (0 : Int) ≤ ↑b0.toNat ∧ (↑b0.toNat : Int) < 256 := by omega
          refine ⟨by simp only [wtM, Bool.and_eq_true, decide_eq_true_eq]; exact hnn, rfl,
            fun _ _ => ⟨[b0], rfl, ?_⟩⟩
          simp only [encM, hnn, and_self, if_true, Int.toNat_natCast, UInt8.ofNat_toNat]
        | [], h => simp at h
    | packedAddresses =>
      simp only [decM]
      rw [if_neg (by omega)]
      refine ⟨by simp only [wtM, decide_eq_true_eq, List.length_take]; omega, rfl, fun _ hw => ?_⟩
      have hrem : inp.length % 18 = 0 := by
        by_cases hz : inp.length % 18 = 0
        · exact hz
        · simp [hz] at hw
      exact ⟨inp, by simp, by simp [encM, hrem]⟩
    | rest | serverinfoClient =>
      simp only [decM]
      exact ⟨rfl, rfl, fun _ _ => ⟨inp, by simp, rfl⟩⟩
    | optional | array | object | twString => simp [leaf] at hl
    | _ => simp [intCheck] at hk

/-- `noOpt`, `noIntStr` stand for the element type's `noOptM`, `noIntStrM` -/
theorem rep_sat (f : List UInt8 → Res Val) (g : Val → Enc) (p : Val → Bool) (noOpt noIntStr : Prop)
    (h : ∀ inp, (f inp).Sat fun v r ws => p v = true ∧ (noOpt → presentV v = true) ∧
      (noIntStr → ws = [] → presentV v = true → Canon g inp v r)) :
    ∀ (n : Nat) (inp : List UInt8), (rep f n inp).Sat fun vs r ws =>
      vs.length = n ∧ VL.all p vs = true ∧ (noOpt → VL.all presentV vs = true) ∧
        (noIntStr → ws = [] → VL.all presentV vs = true → ∃ bs, inp = bs ++ r ∧ encList g vs = .ok bs)
  | 0, inp => ⟨rfl, rfl, fun _ => rfl, fun _ _ _ => ⟨[], rfl, rfl⟩⟩
  | n + 1, inp => Res.cons_sat (h inp) fun v r₁ w₁ ⟨hp, hno, hc⟩ =>
      (rep_sat f g p noOpt noIntStr h n r₁).mono fun vs r w₂ ⟨hl, ha, hnos, hcs⟩ =>
        ⟨by rw [VL.length, hl], by rw [VL.all, hp, ha]; rfl, fun h => by rw [VL.all, hno h, hnos h]; rfl,
          fun h hw hpr => by
            obtain ⟨rfl, rfl⟩ := List.append_eq_nil_iff.mp hw
            simp only [VL.all, Bool.and_eq_true] at hpr
            exact Enc.seq_canon (hc h rfl hpr.1) (hcs h rfl hpr.2)⟩

/-- The decode side in one statement: no description and no input make a decoder panic; what it accepts is a value
the description admits; without `optional` nothing is absent; and a value with nothing absent, read without
warning (and no `int32_string`), was read from its own encoding. -/
theorem decM_decMs_sat :
    (∀ (t : MT) (inp : List UInt8), (decM t inp).Sat fun v r ws =>
      wtM t v = true ∧ (noOptM t = true → presentV v = true) ∧
        (noIntStrM t = true → ws = [] → presentV v = true → Canon (encM t) inp v r)) ∧
    ∀ (ms : ML) (inp : List UInt8), (decMs ms inp).Sat fun vs r ws =>
      wtMs ms vs = true ∧ (noOptMs ms = true → presentL vs = true) ∧
        (noIntStrMs ms = true → ws = [] → presentL vs = true → ∃ bs, inp = bs ++ r ∧ encMs ms vs = .ok bs) := by
  refine descr_induct ⟨fun t hl inp => (decM_leaf_sat hl inp).mono fun v r ws ⟨h₁, h₂, h₃⟩ =>
      ⟨h₁, fun _ => h₂, fun hni hw _ => h₃ hni hw⟩, ?_, ?_, ?_, ?_, ?_, ?_⟩
  · intro t ih inp
    have := ih inp
    simp only [decM]
    generalize decM t inp = res at this ⊢
    cases res with
    | ok v r ws =>
      obtain ⟨h₁, _, h₃⟩ := this
      exact ⟨h₁, fun hn => by simp [noOptM] at hn, fun hni hw hp => by
        obtain ⟨bs, hb, he⟩ := h₃ hni hw hp
        exact ⟨bs, hb, by rw [encM, he]⟩⟩
    -- an absent member is what a failed read leaves behind, whatever the bytes were: no encoding is claimed for it
    | err => exact ⟨rfl, fun hn => by simp [noOptM] at hn, fun _ _ hp => by cases hp⟩
    | panic => exact this
  · intro n t ih inp
    have := rep_sat (decM t) (encM t) (wtM t) _ _ ih n inp
    simp only [decM]
    generalize rep (decM t) n inp = res at this ⊢
    cases res with
    | ok vs r ws =>
      obtain ⟨hl, ha, hno, hc⟩ := this
      refine ⟨by simp [wtM, hl, ha], fun hn => by rw [presentV, presentL_eq_all]; exact hno hn, fun hni hw hp => ?_⟩
      rw [presentV, presentL_eq_all] at hp
      obtain ⟨bs, hb, he⟩ := hc hni hw hp
      exact ⟨bs, hb, by simp [encM, hl, he]⟩
    | err => trivial
    | panic => exact this
  · intro n ih inp
    rw [decM_twString]
    exact (ih inp).mono fun v r ws ⟨h₁, h₂, _⟩ =>
      ⟨by rwa [wtM_twString], h₂, fun hni => by simp [noIntStrM] at hni⟩
  · intro ms ih inp
    have := ih inp
    simp only [decM]
    generalize decMs ms inp = res at this ⊢
    cases res with
    | ok vs r ws =>
      obtain ⟨h₁, h₂, h₃⟩ := this
      refine ⟨h₁, h₂, fun hni hw hp => ?_⟩
      obtain ⟨rfl, hex⟩ := List.append_eq_nil_iff.mp hw
      obtain rfl : r = [] := by cases r <;> simp_all
      obtain ⟨bs, hb, he⟩ := h₃ hni rfl hp
      exact ⟨bs, hb, by rw [encM, guardWrap_absentOk (absentOk_of_presentL vs hp), he]⟩
    | err => trivial
    | panic => exact this
  · exact fun inp => ⟨rfl, fun _ => rfl, fun _ _ _ => ⟨[], rfl, rfl⟩⟩
  · intro t ms iht ihl inp
    rw [decMs_cons]
    refine Res.cons_sat (iht inp) fun v r₁ w₁ ⟨hw₁, hp₁, hc₁⟩ => (ihl r₁).mono fun vs r w₂ ⟨hw₂, hp₂, hc₂⟩ => ?_
    simp only [wtMs, noOptMs, noIntStrMs, presentL, Bool.and_eq_true]
    refine ⟨⟨hw₁, hw₂⟩, fun hn => ⟨hp₁ hn.1, hp₂ hn.2⟩, fun hni hw hp => ?_⟩
    obtain ⟨rfl, rfl⟩ := List.append_eq_nil_iff.mp hw
    exact Enc.seq_canon (hc₁ hni.1 rfl hp.1) (hc₂ hni.2 rfl hp.2)

theorem decM_noPanic : ∀ (t : MT) (inp : List UInt8) (s : String), decM t inp ≠ .panic s :=
  fun t inp s => (decM_decMs_sat.1 t inp).not_panic s

theorem decMs_noPanic (ms : ML) (inp : List UInt8) (s : String) : decMs ms inp ≠ .panic s :=
  (decM_decMs_sat.2 ms inp).not_panic s

theorem decM_wt : ∀ (t : MT) (inp : List UInt8) (v : Val) (r : List UInt8) (ws : List Warning),
    decM t inp = .ok v r ws → wtM t v = true :=
  fun t inp _ _ _ h => ((decM_decMs_sat.1 t inp).of_ok h).1

theorem decMs_wt {ms : ML} {inp : List UInt8} {vs : VL} {r : List UInt8} {ws : List Warning}
    (h : decMs ms inp = .ok vs r ws) : wtMs ms vs = true :=
  ((decM_decMs_sat.2 ms inp).of_ok h).1

theorem decM_present {t : MT} {inp : List UInt8} {v : Val} {r : List UInt8} {ws : List Warning}
    (hn : noOptM t = true) (h : decM t inp = .ok v r ws) : presentV v = true :=
  ((decM_decMs_sat.1 t inp).of_ok h).2.1 hn

theorem decMs_present {ms : ML} {inp : List UInt8} {vs : VL} {r : List UInt8} {ws : List Warning}
    (hn : noOptMs ms = true) (h : decMs ms inp = .ok vs r ws) : presentL vs = true :=
  ((decM_decMs_sat.2 ms inp).of_ok h).2.1 hn

theorem decM_canon : ∀ (t : MT) (inp : List UInt8) (v : Val) (r : List UInt8), noOptM t = true →
    noIntStrM t = true → decM t inp = .ok v r [] → Canon (encM t) inp v r :=
  fun t inp _ _ hno hni h =>
    have := (decM_decMs_sat.1 t inp).of_ok h
    this.2.2 hni rfl (this.2.1 hno)

theorem decMs_canon {ms : ML} {inp : List UInt8} {vs : VL} {r : List UInt8} (hni : noIntStrMs ms = true)
    (hp : presentL vs = true) (h : decMs ms inp = .ok vs r []) : ∃ bs, inp = bs ++ r ∧ encMs ms vs = .ok bs :=
  ((decM_decMs_sat.2 ms inp).of_ok h).2.2 hni rfl hp

theorem optInnerOk_cases {t : MT} (h : optInnerOk t = true) :
    t = .int32 none none ∨ (∃ f m, t = .flags f m) ∨ t = .string false ∨ t = .data := by
  cases t with
  | int32 a b => cases a <;> cases b <;> simp_all [optInnerOk]
  | string s => cases s <;> simp_all [optInnerOk]
  | flags f m => exact .inr (.inl ⟨f, m, rfl⟩)
  | data => simp
  | _ => simp [optInnerOk] at h

theorem optInnerOk_wf (t : MT) (h : optInnerOk t = true) : wfM t = true ∧ greedy t = false ∧ noOptM t = true := by
  rcases optInnerOk_cases h with rfl | ⟨_, _, rfl⟩ | rfl | rfl <;> exact ⟨rfl, rfl, rfl⟩

theorem optInner_empty (t : MT) (h : optInnerOk t = true) : decM t [] = .err .unexpectedEnd [] [] := by
  rcases optInnerOk_cases h with rfl | ⟨_, _, rfl⟩ | rfl | rfl <;> simp [decM, readIntR, readInt, readString]

/-- Each of the four reads can fail only with `UnexpectedEnd`, which leaves no input behind: after an absent optional
member nothing is left for the members that follow. -/
theorem optInner_err {t : MT} (h : optInnerOk t = true) {inp r : List UInt8} {e : Err} {ws : List Warning}
    (hd : decM t inp = .err e r ws) : r = [] := by
  rcases optInnerOk_cases h with rfl | ⟨_, _, rfl⟩ | rfl | rfl
  · simp only [decM, readIntR] at hd
    split at hd
    · cases hd; rfl
    · simp [checkRange] at hd
  · simp only [decM, readIntR] at hd
    split at hd
    · cases hd; rfl
    · simp at hd
  · simp only [decM] at hd
    split at hd
    · cases hd; rfl
    · simp at hd
  · simp only [decM] at hd
    split at hd
    · cases hd; rfl
    · split at hd
      · cases hd; rfl
      · split at hd
        · cases hd; rfl
        · cases hd

theorem encMs_allNone : ∀ (ms : ML) (vs : VL), wtMs ms vs = true → allNone vs = true → encMs ms vs = .ok []
  | .nil, .nil, _, _ => rfl
  | .nil, .cons _ _, hwt, _ => by simp [wtMs] at hwt
  | .cons _ _, .nil, hwt, _ => by simp [wtMs] at hwt
  | .cons t ms, .cons v vs, hwt, hn => by
    simp only [wtMs, Bool.and_eq_true] at hwt
    cases v with
    | none =>
      cases t with
      | optional t' => simp [encMs, encM, encMs_allNone ms vs hwt.2 hn, Enc.ok_seq_ok]
      | _ => cases hwt.1
    | _ => simp [allNone] at hn

/-- A greedy member (`rest`, `packed_addresses`, `serverinfo_client`, an object: reads that take all the input)
reads back only when nothing follows; `wfMs` puts such a member last. -/
def RoundTrips (t : MT) (v : Val) : Prop :=
  ∃ bs, encM t v = .ok bs ∧ ∀ rest, (greedy t = true → rest = []) → decM t (bs ++ rest) = .ok v rest []

theorem decM_encM_leaf {t : MT} (hl : leaf t = true) {v : Val} (hwt : wtM t v = true) : RoundTrips t v := by
  cases hk : intCheck t with
  | some k =>
    obtain ⟨x, hx, hkx⟩ := intCheck_complete hk hwt
    exact ⟨_, (intCheck_sound hk hx hkx).2.2, fun rest _ => by
      rw [decM_of_intCheck hk, readIntR_writeInt hx, hkx]⟩
  | none =>
    cases t with
    | string strict =>
      cases v with
      | bytes s =>
        simp only [wtM, Bool.and_eq_true, Bool.not_eq_true'] at hwt
        refine ⟨s ++ [0], by simp [encM, hwt.1, hwt.2], fun rest _ => ?_⟩
        simp [decM, readString_append s hwt.1 rest, hwt.2]
      | _ => simp [wtM] at hwt
    | int32String =>
      cases v with
      | int x =>
        simp only [wtM, decide_eq_true_eq] at hwt
        refine ⟨stringFromInt x ++ [0], by simp [encM, hwt], fun rest _ => ?_⟩
        simp only [decM, List.append_assoc, List.singleton_append,
          readString_append _ (hasNul_stringFromInt x) rest, parseI32_stringFromInt x hwt]
      | _ => simp [wtM] at hwt
    | data =>
      cases v with
      | bytes d =>
        simp only [wtM, decide_eq_true_eq] at hwt
        refine ⟨writeInt d.length ++ d, by simp [encM, hwt], fun rest _ => ?_⟩
        have hi : inI32 (d.length : Int) := by unfold inI32; omega
        simp only [decM, List.append_assoc, readInt_writeInt _ hi (d ++ rest)]
        rw [if_neg (by omega), if_neg (by simp)]
        simp
      | _ => simp [wtM] at hwt
    | raw len =>
      cases v with
      | bytes d =>
        simp only [wtM, decide_eq_true_eq] at hwt
        subst hwt
        exact ⟨d, by simp [encM], fun rest _ => by simp [decM, readRawR]⟩
      | _ => simp [wtM] at hwt
    | beUint16 =>
      cases v with
      | int x =>
        simp only [wtM, Bool.and_eq_true, decide_eq_true_eq] at hwt
        refine ⟨_, by simp only [encM, hwt.1, hwt.2, and_self, if_true]; rfl, fun rest _ => ?_⟩
        obtain ⟨n, rfl⟩ := Int.eq_ofNat_of_zero_le hwt.1
        have hn : n < 256 * 256 := by omega
        have h1 := toNat_ofNat_lt (Nat.div_lt_of_lt_mul hn)
        have h2 := toNat_ofNat_lt (Nat.mod_lt n (by decide : 0 < 256))
        have hlen : ¬ ((UInt8.ofNat (n / 256) :: UInt8.ofNat (n % 256) :: rest).length < 2) := by simp
        simp only [decM, readRawR, Int.toNat_natCast, List.cons_append, List.nil_append, if_neg hlen, List.take,
          h1, h2, List.drop]
        congr 2
        omega
      | _ => simp [wtM] at hwt
    | uint8 =>
      cases v with
      | int x =>
        simp only [wtM, Bool.and_eq_true, decide_eq_true_eq] at hwt
        refine ⟨_, by simp only [encM, hwt.1, hwt.2, and_self, if_true]; rfl, fun rest _ => ?_⟩
        obtain ⟨n, rfl⟩ := Int.eq_ofNat_of_zero_le hwt.1
        have h1 := toNat_ofNat_lt (n := n) (by omega)
        have hlen : ¬ ((UInt8.ofNat n :: rest).length < 1) := by simp
        simp only [decM, readRawR, Int.toNat_natCast, List.cons_append, List.nil_append, if_neg hlen, List.take,
          h1, List.drop]
      | _ => simp [wtM] at hwt
    | packedAddresses =>
      cases v with
      | bytes d =>
        simp only [wtM, decide_eq_true_eq] at hwt
        exact ⟨d, by simp [encM, hwt], fun rest hg => by cases hg rfl; simp [decM, hwt]⟩
      | _ => simp [wtM] at hwt
    | rest | serverinfoClient =>
      cases v with
      | bytes d => exact ⟨d, by simp [encM], fun rest hg => by cases hg rfl; simp [decM]⟩
      | _ => simp [wtM] at hwt
    | optional | array | object | twString => simp [leaf] at hl
    | _ => simp [intCheck] at hk

theorem encList_rep (f : List UInt8 → Res Val) (g : Val → Enc) (p q : Val → Bool)
    (h : ∀ v, p v = true → q v = true → ∃ bs, g v = .ok bs ∧ ∀ rest, f (bs ++ rest) = .ok v rest []) :
    ∀ (vs : VL), VL.all p vs = true → VL.all q vs = true →
      ∃ bs, encList g vs = .ok bs ∧ ∀ rest, rep f vs.length (bs ++ rest) = .ok vs rest []
  | .nil, _, _ => ⟨[], rfl, fun _ => rfl⟩
  | .cons v vs, hp, hq => by
    simp only [VL.all, Bool.and_eq_true] at hp hq
    obtain ⟨b₁, he₁, hd₁⟩ := h v hp.1 hq.1
    obtain ⟨b₂, he₂, hd₂⟩ := encList_rep f g p q h vs hp.2 hq.2
    refine ⟨b₁ ++ b₂, by simp [encList, he₁, he₂, Enc.ok_seq_ok], fun rest => ?_⟩
    rw [VL.length, rep_succ, List.append_assoc]
    exact Res.cons_ok.mpr ⟨_, _, _, _, _, hd₁ _, hd₂ rest, rfl, rfl⟩

theorem decM_encM_decMs_encMs :
    (∀ (t : MT) (v : Val), wfM t = true → wtM t v = true → presentV v = true → RoundTrips t v) ∧
    ∀ (ms : ML) (vs : VL), wfMs ms = true → wtMs ms vs = true → absentOk vs = true →
      ∃ bs, encMs ms vs = .ok bs ∧ decMs ms bs = .ok vs [] [] := by
  refine descr_induct ⟨fun t hl v _ hwt _ => decM_encM_leaf hl hwt, ?_, ?_,
    fun n _ v hwf => by simp [wfM] at hwf, ?_, ?_, ?_⟩
  · intro t ih v hwf hwt hp
    cases v with
    | some x =>
      obtain ⟨hwf', hng, _⟩ := optInnerOk_wf t hwf
      obtain ⟨bs, he, hd⟩ := ih x hwf' hwt hp
      exact ⟨bs, by simp [encM, he], fun rest _ => by simp [decM, hd rest (by simp [hng])]⟩
    | none => simp [presentV] at hp
    | _ => simp [wtM] at hwt
  · intro n t ih v hwf hwt hp
    cases v with
    | list vs =>
      simp only [wfM, Bool.and_eq_true, Bool.not_eq_true'] at hwf
      simp only [wtM, Bool.and_eq_true, decide_eq_true_eq] at hwt
      rw [presentV, presentL_eq_all] at hp
      obtain ⟨bs, he, hd⟩ := encList_rep (decM t) (encM t) (wtM t) presentV (fun v hv hq =>
        (ih v hwf.1.1 hv hq).imp fun _ h => ⟨h.1, fun rest => h.2 rest (by simp [hwf.1.2])⟩) vs hwt.2 hp
      refine ⟨bs, by simp [encM, hwt.1, he], fun rest _ => ?_⟩
      simp [decM, ← hwt.1, hd rest]
    | _ => simp [wtM] at hwt
  · intro ms ih v hwf hwt hp
    cases v with
    | list vs =>
      have ha := absentOk_of_presentL vs hp
      obtain ⟨bs, he, hd⟩ := ih vs hwf hwt ha
      exact ⟨bs, by rw [encM, guardWrap_absentOk ha, he], fun rest hg => by cases hg rfl; simp [decM, hd]⟩
    | _ => simp [wtM] at hwt
  · intro vs _ hwt _
    cases vs with
    | nil => exact ⟨[], rfl, by simp [decMs]⟩
    | cons _ _ => simp [wtMs] at hwt
  · intro t ms iht ihl vs hwf hwt ha
    cases vs with
    | nil => simp [wtMs] at hwt
    | cons v vs =>
      simp only [wfMs, Bool.and_eq_true, Bool.or_eq_true, Bool.not_eq_true'] at hwf
      simp only [wtMs, Bool.and_eq_true] at hwt
      obtain ⟨hab, hv⟩ := absentOk_cons.mp ha
      obtain ⟨b2, he2, hd2⟩ := ihl vs hwf.2 hwt.2 hab
      simp only [decMs_cons]
      rcases hv with ⟨rfl, hn⟩ | hp
      · -- absent, and so is everything behind it: nothing is written
        cases (encMs_allNone ms vs hwt.2 hn).symm.trans he2
        cases t with
        | optional t' =>
          exact ⟨[], by simp [encMs, encM, he2, Enc.ok_seq_ok], Res.cons_ok.mpr
            ⟨.none, [], [], vs, [], by simp [decM, optInner_empty t' (by simpa [wfM] using hwf.1.1)], hd2, rfl, rfl⟩⟩
        | _ => simp [wtM] at hwt
      · obtain ⟨b1, he1, hd1⟩ := iht v hwf.1.1 hwt.1 hp
        have hg : greedy t = true → b2 = [] := fun hg => by
          rcases hwf.1.2 with hnil | hng
          · cases ms with
            | nil =>
              cases vs with
              | nil => cases he2; rfl
              | cons _ _ => simp [wtMs] at hwt
            | cons _ _ => simp [ML.isNil] at hnil
          · rw [hg] at hng; cases hng
        exact ⟨b1 ++ b2, by simp [encMs, he1, he2, Enc.ok_seq_ok],
          Res.cons_ok.mpr ⟨_, _, _, _, _, hd1 b2 hg, hd2, rfl, rfl⟩⟩

theorem decMs_encMs : ∀ (ms : ML) (vs : VL), wfMs ms = true → wtMs ms vs = true → presentL vs = true →
    ∃ bs, encMs ms vs = .ok bs ∧ decMs ms bs = .ok vs [] [] :=
  fun ms vs hwf hwt hp => decM_encM_decMs_encMs.2 ms vs hwf hwt (absentOk_of_presentL vs hp)

theorem decM_optional {t : MT} (hin : optInnerOk t = true) {inp : List UInt8} {v : Val} {r : List UInt8}
    {ws : List Warning} (h : decM (.optional t) inp = .ok v r ws) :
    presentV v = true ∨ (v = .none ∧ r = []) := by
  simp only [decM] at h
  split at h
  · rename_i hd
    cases h
    exact .inl (by rw [presentV]; exact decM_present (optInnerOk_wf t hin).2.2 hd)
  · rename_i hd
    cases h
    exact .inr ⟨rfl, optInner_err hin hd⟩
  · cases h

theorem decMs_allOptional_empty : ∀ (ms : ML) (vs : VL) (r : List UInt8) (ws : List Warning),
    wfMs ms = true → allOptional ms = true → decMs ms [] = .ok vs r ws → allNone vs = true
  | .nil, vs, r, ws, _, _, h => by simp only [decMs] at h; cases h; rfl
  | .cons t ms, vs, r, ws, hwf, ha, h => by
    cases t with
    | optional t' =>
      simp only [wfMs, wfM, Bool.and_eq_true] at hwf
      rw [decMs_cons] at h
      obtain ⟨v, r₁, w₁, vs', w₂, h₁, h₂, rfl, _⟩ := Res.cons_ok.mp h
      simp only [decM, optInner_empty t' hwf.1.1] at h₁
      cases h₁
      exact decMs_allOptional_empty ms vs' r w₂ hwf.2 ha h₂
    | _ => simp [allOptional] at ha

theorem optsLast_of_allOptional : ∀ (ms : ML), allOptional ms = true → optsLast ms = true
  | .nil, _ => rfl
  | .cons t ms, h => by
    cases t with
    | optional t' => exact h
    | _ => simp [allOptional] at h

theorem decMs_absentOk : ∀ (ms : ML) (inp : List UInt8) (vs : VL) (r : List UInt8) (ws : List Warning),
    wfMs ms = true → optsLast ms = true → decMs ms inp = .ok vs r ws → absentOk vs = true
  | .nil, inp, vs, r, ws, _, _, h => by simp only [decMs] at h; cases h; rfl
  | .cons t ms, inp, vs, r, ws, hwf, hol, h => by
    simp only [wfMs, Bool.and_eq_true] at hwf
    rw [decMs_cons] at h
    obtain ⟨v, r₁, w₁, vs', w₂, h₁, h₂, rfl, _⟩ := Res.cons_ok.mp h
    cases t with
    | optional t' =>
      rcases decM_optional (by simpa [wfM] using hwf.1.1) h₁ with hp | ⟨rfl, rfl⟩
      · exact absentOk_cons.mpr ⟨decMs_absentOk ms r₁ vs' r w₂ hwf.2 (optsLast_of_allOptional ms hol) h₂, .inr hp⟩
      · exact decMs_allOptional_empty ms vs' r w₂ hwf.2 hol h₂
    | _ =>
      simp only [optsLast, Bool.and_eq_true] at hol
      exact absentOk_cons.mpr ⟨decMs_absentOk ms r₁ vs' r w₂ hwf.2 hol.2 h₂, .inr (decM_present hol.1 h₁)⟩

theorem decodeMembers_ok {ms : ML} {bs : List UInt8} {v : VL} {ws : List Warning} :
    decodeMembers ms bs = .ok v ws ↔
      ∃ r ws', decMs ms bs = .ok v r ws' ∧ ws = ws' ++ if r.isEmpty then [] else [Warning.excessData] := by
  unfold decodeMembers
  split
  · rename_i h
    rw [h]
    exact ⟨fun e => by cases e; exact ⟨_, _, rfl, rfl⟩, fun ⟨_, _, e, hw⟩ => by cases e; rw [hw]⟩
  · rename_i h; simp [h]
  · rename_i h; simp [h]

theorem decodeMembers_clean {ms : ML} {bs : List UInt8} {v : VL} :
    decodeMembers ms bs = .ok v [] ↔ decMs ms bs = .ok v [] [] := by
  rw [decodeMembers_ok]
  constructor
  · rintro ⟨r, ws', h, hw⟩
    obtain ⟨rfl, hr⟩ := List.append_eq_nil_iff.mp hw.symm
    cases r with
    | nil => exact h
    | cons _ _ => simp at hr
  · exact fun h => ⟨[], [], h, rfl⟩

theorem clean_decode_canonical_present (ms : ML) (bs : List UInt8) (v : VL) (hp : presentL v = true)
    (hni : noIntStrMs ms = true) (hd : decodeMembers ms bs = .ok v []) : encStruct ms v = .ok bs := by
  obtain ⟨b, hb, he⟩ := decMs_canon hni hp (decodeMembers_clean.mp hd)
  rw [List.append_nil] at hb
  rw [encStruct, guardWrap_absentOk (absentOk_of_presentL v hp), he, hb]

theorem decodeId_encodeId (sys : Bool) (id : Ident) (h : idOk id = true) (rest : List UInt8) :
    ∃ bs, encodeId sys id = .ok bs ∧ decodeId (bs ++ rest) = .ok (sys, id) rest [] := by
  cases id with
  | ordinal i =>
    simp only [idOk, Bool.and_eq_true, decide_eq_true_eq] at h
    have hi : inI32 i := by unfold inI32; omega
    have hv : Tw.Packer.toI32 ((i.toNat * 2) % 2 ^ 32 + (if sys then 1 else 0)) = 2 * i + (if sys then 1 else 0) := by
      unfold Tw.Packer.toI32
      cases sys <;> simp <;> omega
    have hi2 : inI32 (2 * i + (if sys then 1 else 0)) := by unfold inI32; cases sys <;> simp <;> omega
    have h0 : ¬ i = 0 := by omega
    have h1 : ¬ i < 0 := by omega
    refine ⟨_, by simp only [encodeId, hi, not_true_eq_false, if_false, h0, h1, hv]; rfl, ?_⟩
    simp only [decodeId, readInt_writeInt _ hi2 rest]
    have hm : (2 * i + (if sys then 1 else 0)) / 2 = i := by cases sys <;> simp <;> omega
    have hs : ((2 * i + (if sys then 1 else 0)) % 2 != 0) = sys := by
      cases sys <;> simp <;> omega
    cases sys <;> simp_all
  | uuid u =>
    simp only [idOk, decide_eq_true_eq] at h
    refine ⟨_, by simp only [encodeId, h, if_true]; rfl, ?_⟩
    have hi : inI32 (if sys then 1 else 0) := by cases sys <;> decide
    simp only [decodeId, List.append_assoc, readInt_writeInt _ hi (u ++ rest)]
    cases sys <;> simp [h]

theorem decodeId_noPanic (inp : List UInt8) (s : String) : decodeId inp ≠ .panic s := by
  unfold decodeId
  split
  · simp
  · dsimp only
    split
    · simp
    · split
      · simp
      · split
        · rename_i h1 h2
          simp at h1 h2
          omega
        · simp

end Tw.Gamenet
