import Tw.Proofs.DemoItems
import Tw.Proofs.HuffmanTable
import Tw.Proofs.SnapTotal

/-! Reader totality: the fuel of the model's loops always suffices (`diverge` is impossible) and the
high-level reader never panics, on arbitrary file bytes.  Each reader step is a cascade of tests all of
whose branches are harmless, so the facts are stated as predicates of the *result* (`Shorter`,
`Progress`, `HProgress`) and checked at the leaves of the step function's case principle. -/
namespace Tw.Demo

theorem unpackMsg_no_diverge (fuel slots : Nat) (inp : Bytes) (h : inp.length ≤ fuel) :
    (unpackMsg fuel slots inp).1 ≠ .error .diverge := by
  fun_induction unpackMsg fuel slots inp
  case case2 => exact absurd h (Nat.not_succ_le_zero _)
  case case6 fuel _ _ _ rest _ hr _ _ _ _ hu ih =>
    -- the recursive call's error: `read_int` used at least one byte, so its fuel suffices too
    have hlt := (Tw.Snap.readInt_rest_lt hr).1
    have := ih (Nat.le_of_lt_succ (Nat.lt_of_lt_of_le hlt h))
    rw [hu] at this
    exact this
  all_goals nofun

/-- with `n` the length of the input: `read_chunk` consumes something, which is what the fuel of `readAllGo` counts -/
def Shorter (n : Nat) : HdrResult → Prop
  | .ok _ rest _ => rest.length < n
  | _ => True

theorem Shorter.ite {n : Nat} {c : Prop} [Decidable c] {a b : HdrResult} (ha : Shorter n a) (hb : Shorter n b) :
    Shorter n (if c then a else b) := by
  split <;> assumption

theorem shorter_readAbsolute {n : Nat} {rest : Bytes} (h : rest.length < n) (kf : Bool) (ws : List Tw.Demo.Warning) :
    Shorter n (readAbsolute kf rest ws) := by
  unfold readAbsolute
  cases ht : takeN 4 rest with
  | none => trivial
  | some p =>
    have := takeN_length ht
    show p.2.length < n
    omega

/-- a chunk header uses at least one byte: every branch of `readChunkHeader` returns a suffix of the tail -/
theorem shorter_readChunkHeader (v : Version) : ∀ bs : Bytes, Shorter bs.length (readChunkHeader v bs)
  | [] => trivial
  | f :: tl => by
    have hlt : tl.length < (f :: tl).length := Nat.lt_succ_self _
    refine .ite (.ite (.ite hlt (shorter_readAbsolute hlt _ _)) (.ite (shorter_readAbsolute hlt _ _) hlt))
      (.ite ?_ (.ite ?_ hlt))
    · cases tl with
      | nil => trivial
      | cons b tl => exact Nat.lt_succ_of_lt (Nat.lt_succ_self _)
    · match tl with
      | [] | [_] => trivial
      | _ :: _ :: tl => exact Nat.lt_succ_of_lt (Nat.lt_succ_of_lt (Nat.lt_succ_self _))

theorem decompressC_no_diverge (raw : Bytes) (cap : Nat) : decompressC table raw cap ≠ .diverge := by
  rw [decompressC_eq]
  exact Tw.Huffman.decompress_terminates _ Tw.Huffman.wellFormed_table raw cap

/-- what totality asks of one `read_chunk` on `n` bytes: never out of fuel, and a returned chunk has
used at least one byte -/
def Progress (n : Nat) : Reader × ReadResult × List Tw.Demo.Warning → Prop
  | (_, .error e, _) => e ≠ .diverge
  | (r', .chunk _, _) => r'.data.length < n
  | (_, .eof, _) => True

theorem progress_readChunk (r : Reader) : Progress r.data.length r.readChunk := by
  have hs := shorter_readChunkHeader r.version r.data
  fun_cases Reader.readChunk r
  case case12 => exact absurd ‹decompressC _ _ _ = _› (decompressC_no_diverge _ _)
  case case17 out _ e ws2 hu _ _ =>
    have := unpackMsg_no_diverge out.length (Tw.Gen.Demo.MAX_SNAPSHOT_SIZE / 4) out (Nat.le_refl _)
    rw [hu] at this
    exact fun he => this (congrArg Except.error he)
  -- a chunk without payload: the header used a byte
  case case4 | case5 | case8 | case9 =>
    rw [‹readChunkHeader _ _ = _›] at hs
    exact hs
  -- a chunk with payload: the payload is taken from what the header left
  case case13 | case14 | case15 | case16 =>
    rw [‹readChunkHeader _ _ = _›] at hs
    have := takeN_length ‹takeN _ _ = _›
    exact Nat.lt_of_le_of_lt (Nat.le.intro this) hs
  case case1 => trivial
  all_goals nofun

theorem Reader.readAllGo_no_diverge (fuel : Nat) (r : Reader) (h : r.data.length + 1 ≤ fuel) :
    (Reader.readAllGo fuel r).2.2 ≠ some .diverge := by
  fun_induction Reader.readAllGo fuel r
  case case1 => exact absurd h (Nat.not_succ_le_zero _)
  case case2 => nofun
  case case3 r _ e _ hrc =>
    have hp := progress_readChunk r
    rw [hrc] at hp
    exact fun he => hp (Option.some.inj he)
  case case4 r r' _ _ hrc _ _ _ hgo ih =>
    have hp : r'.data.length < r.data.length := by
      have := progress_readChunk r
      rwa [hrc] at this
    have := ih (by omega)
    rwa [hgo] at this

end Tw.Demo

namespace Tw.DemoHl
open Tw.Demo Tw.Snap

theorem accepted_empty : Accepted Snap.empty := accepted_of_extOk Builder.new_inv.ok

/-- what totality asks of one `next_chunk` on `n` bytes: no panic, never out of fuel, and after a chunk
the snapshot kept is `Accepted` and at least one byte was used -/
def HProgress (n : Nat) : DemoReader × HReadResult × List HWarning → Prop
  | (_, .error e, _) => e ≠ .panic ∧ e ≠ .inner .diverge
  | (r', .chunk _, _) => Accepted r'.snap ∧ r'.raw.data.length < n
  | (_, .eof, _) => True

theorem hprogress_snapshot {n : Nat} {r raw' : DemoReader} {s : Snap} {ws : List HWarning} (hs : Accepted s)
    (hl : raw'.raw.data.length < n) (hr : raw'.snap = s) :
    HProgress n (match snapItems s with
      | none => (r, .error .panic, ws)
      | some items => (raw', .chunk (.snapshot items), ws)) := by
  cases hi : snapItems s with
  | none => exact absurd hi (snapItems_ne_none_of_accepted hs)
  | some items => exact ⟨hr ▸ hs, hl⟩

theorem hprogress_nextChunk (objSize : Nat → Option Nat) (r : DemoReader) (hs : Accepted r.snap) :
    HProgress r.raw.data.length (r.nextChunk objSize) := by
  unfold DemoReader.nextChunk
  have hp := progress_readChunk r.raw
  revert hp
  obtain ⟨raw', res, ws⟩ := r.raw.readChunk
  cases res with
  | eof => exact fun _ => trivial
  | error e => exact fun hp => ⟨nofun, fun he => hp (HReadError.inner.inj he)⟩
  | chunk c =>
    intro (hl : raw'.data.length < r.raw.data.length)
    cases c with
    | unknown | tick | message => exact ⟨hs, hl⟩
    | snapshot bs =>
      simp only []
      cases hrb : Snap.readBytes bs with
      | err e => exact ⟨nofun, nofun⟩
      | panic q => exact absurd hrb (Snap.readBytes_not_panic bs q)
      | ok t => exact hprogress_snapshot (accepted_of_readBytes hrb).1 hl rfl
    | delta bs =>
      simp only []
      cases hrd : readDelta objSize (.bytes bs) with
      | err e => exact ⟨nofun, nofun⟩
      | panic q => exact absurd hrd (readDelta_not_panic objSize _ q)
      | ok t =>
        simp only []
        cases hrw : r.snap.readWithDelta t.1 with
        | err e => exact ⟨nofun, nofun⟩
        | panic q => exact absurd hrw (Snap.readWithDelta_not_panic hs.raw_wf.1 _ q)
        | ok t2 =>
          exact hprogress_snapshot
            (accepted_of_readWithDelta hs.raw_wf (readDelta_I32 objSize (src := .bytes bs) trivial hrd).2 hrw) hl rfl

theorem DemoReader.readAllGo_total (objSize : Nat → Option Nat) (fuel : Nat) (r : DemoReader) (hs : Accepted r.snap)
    (h : r.raw.data.length + 1 ≤ fuel) :
    (DemoReader.readAllGo objSize fuel r).2.2 ≠ some .panic ∧
    (DemoReader.readAllGo objSize fuel r).2.2 ≠ some (.inner .diverge) := by
  fun_induction DemoReader.readAllGo objSize fuel r
  case case1 => exact absurd h (Nat.not_succ_le_zero _)
  case case2 => exact ⟨nofun, nofun⟩
  case case3 r _ e _ hnc =>
    have hp := hprogress_nextChunk objSize r hs
    rw [hnc] at hp
    exact ⟨fun he => hp.1 (Option.some.inj he), fun he => hp.2 (Option.some.inj he)⟩
  case case4 r r' _ _ hnc _ _ _ hgo ih =>
    have hp := hprogress_nextChunk objSize r hs
    rw [hnc] at hp
    have := ih hp.1 (by have := hp.2; omega)
    rwa [hgo] at this

end Tw.DemoHl
