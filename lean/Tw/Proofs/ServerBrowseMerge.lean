import Tw.Model.ServerBrowse
import Tw.Model.ServerBrowseEnc  -- for `rangeMask` only
import Tw.Proofs.ServerBrowseOrder

/-! Merging the parts of one multi-part server info: one merge step (a fresh part is appended, anything else refused),
the specification-level definitions (`Family`, its parts, what "all parts seen" means), and the last step common to
`merge` and its repaired version (`Family.finish`): `get_info` on an accumulator that holds the header and the clients
collected from a repetition-free sequence of parts.  At the end the concrete families and byte strings that
`Props/C18` uses for its examples and the D10 witness. -/
namespace Tw.ServerBrowse
open Tw.Gen.Browse

/-- `acc.merge(p)` for every `p` in order, errors ignored (as the callers in the repository do) -/
def mergeAll (acc : PartialInfo) (ps : List PartialInfo) : PartialInfo :=
  ps.foldl (fun s p => (merge s p).1) acc

@[simp] theorem mergeAll_nil (acc : PartialInfo) : mergeAll acc [] = acc := rfl
@[simp] theorem mergeAll_cons (acc p : PartialInfo) (ps : List PartialInfo) :
    mergeAll acc (p :: ps) = mergeAll (merge acc p).1 ps := rfl

def ServerInfo.withClients (i : ServerInfo) (cs : List ClientInfo) : ServerInfo := { i with clients := cs }

@[simp] theorem withClients_clients (i : ServerInfo) (cs : List ClientInfo) : (i.withClients cs).clients = cs := rfl
@[simp] theorem withClients_token (i : ServerInfo) (cs : List ClientInfo) : (i.withClients cs).token = i.token := rfl
@[simp] theorem withClients_version (i : ServerInfo) (cs : List ClientInfo) : (i.withClients cs).infoVersion = i.infoVersion := rfl
@[simp] theorem withClients_numClients (i : ServerInfo) (cs : List ClientInfo) : (i.withClients cs).numClients = i.numClients := rfl
@[simp] theorem withClients_withClients (i : ServerInfo) (a b : List ClientInfo) :
    (i.withClients a).withClients b = i.withClients b := rfl

/-- `merge` with the mask of the new accumulator left open: `merge` itself keeps the mask of the
packet that ends up in front (`fun a _ => a`), the repaired version takes the union. -/
def mergeWith (f : Nat → Nat → Nat) (self other : PartialInfo) : PartialInfo × Option MergeError :=
  if self.info.token ≠ other.info.token then (self, some .differingTokens)
  else if self.info.infoVersion ≠ other.info.infoVersion then (self, some .differingVersions)
  else if self.info.infoVersion ≠ .v664 ∧ self.info.infoVersion ≠ .v6Ex then (self, some .notMultipartVersion)
  else if self.received &&& other.received = other.received then (self, none)
  else if self.received &&& other.received ≠ 0 then (self, some .overlappingInfos)
  else
    let (a, b) := if self.info.infoVersion = .v6Ex ∧ self.received &&& 1 = 0 then (other, self) else (self, other)
    ({ info := { a.info with clients := a.info.clients ++ b.info.clients }, received := f a.received b.received }, none)

theorem merge_eq_mergeWith : merge = mergeWith fun a _ => a := rfl

/-- all tests of `merge` pass: same token, same multi-part version, `o` neither known nor overlapping -/
def Fresh (s o : PartialInfo) : Prop :=
  s.info.token = o.info.token ∧ s.info.infoVersion = o.info.infoVersion ∧
    (s.info.infoVersion = .v664 ∨ s.info.infoVersion = .v6Ex) ∧
    s.received &&& o.received ≠ o.received ∧ s.received &&& o.received = 0

def refusal (s o : PartialInfo) : Option MergeError :=
  if s.info.token ≠ o.info.token then some .differingTokens
  else if s.info.infoVersion ≠ o.info.infoVersion then some .differingVersions
  else if s.info.infoVersion ≠ .v664 ∧ s.info.infoVersion ≠ .v6Ex then some .notMultipartVersion
  else if s.received &&& o.received = o.received then none
  else some .overlappingInfos

/-- a fresh part is appended (after the swap that keeps the main packet of an extended info in front) -/
theorem mergeWith_fresh (f : Nat → Nat → Nat) {s o : PartialInfo} (h : Fresh s o) :
    mergeWith f s o =
      (if s.info.infoVersion = .v6Ex ∧ s.received &&& 1 = 0
        then { info := o.info.withClients (o.info.clients ++ s.info.clients), received := f o.received s.received }
        else { info := s.info.withClients (s.info.clients ++ o.info.clients), received := f s.received o.received },
       none) := by
  obtain ⟨h1, h2, h3, h4, h5⟩ := h
  unfold mergeWith
  rw [if_neg (fun h => h h1), if_neg (fun h => h h2), if_neg (fun h => h3.elim h.1 h.2), if_neg h4,
    if_neg (fun h => h h5)]
  by_cases hc : s.info.infoVersion = .v6Ex ∧ s.received &&& 1 = 0
  · rw [if_pos hc, if_pos hc]; rfl
  · rw [if_neg hc, if_neg hc]; rfl

/-- under the union the order of the swap does not show in the mask -/
theorem mergeWith_fresh_union {s o : PartialInfo} (h : Fresh s o) :
    (mergeWith (· ||| ·) s o).1.received = s.received ||| o.received := by
  rw [mergeWith_fresh _ h]
  split
  · exact Nat.or_comm _ _
  · rfl

theorem mergeWith_not_fresh (f : Nat → Nat → Nat) {s o : PartialInfo} (h : ¬ Fresh s o) :
    mergeWith f s o = (s, refusal s o) := by
  unfold mergeWith refusal
  by_cases h1 : s.info.token ≠ o.info.token
  · rw [if_pos h1, if_pos h1]
  rw [if_neg h1, if_neg h1]
  by_cases h2 : s.info.infoVersion ≠ o.info.infoVersion
  · rw [if_pos h2, if_pos h2]
  rw [if_neg h2, if_neg h2]
  by_cases h3 : s.info.infoVersion ≠ .v664 ∧ s.info.infoVersion ≠ .v6Ex
  · rw [if_pos h3, if_pos h3]
  rw [if_neg h3, if_neg h3]
  by_cases h4 : s.received &&& o.received = o.received
  · rw [if_pos h4, if_pos h4]
  rw [if_neg h4, if_neg h4, if_pos]
  exact fun h5 => h ⟨Decidable.not_not.1 h1, Decidable.not_not.1 h2, Decidable.or_iff_not_not_and_not.2 h3, h4, h5⟩

theorem mergeWith_known (f : Nat → Nat → Nat) {s o : PartialInfo} (htok : s.info.token = o.info.token)
    (hver : s.info.infoVersion = o.info.infoVersion)
    (hmulti : s.info.infoVersion = .v664 ∨ s.info.infoVersion = .v6Ex)
    (hold : s.received &&& o.received = o.received) : mergeWith f s o = (s, none) := by
  rw [mergeWith_not_fresh f (fun h => h.2.2.2.1 hold), refusal, if_neg (fun h => h htok), if_neg (fun h => h hver),
    if_neg (fun h => hmulti.elim h.1 h.2), if_pos hold]

theorem mergeWith_congr (f g : Nat → Nat → Nat) (s o : PartialInfo) :
    (mergeWith f s o).1.info = (mergeWith g s o).1.info ∧ (mergeWith f s o).2 = (mergeWith g s o).2 := by
  by_cases h : Fresh s o
  · rw [mergeWith_fresh f h, mergeWith_fresh g h]
    refine ⟨?_, rfl⟩
    by_cases hc : s.info.infoVersion = .v6Ex ∧ s.received &&& 1 = 0
    · rw [if_pos hc, if_pos hc]
    · rw [if_neg hc, if_neg hc]
  · rw [mergeWith_not_fresh f h, mergeWith_not_fresh g h]
    exact ⟨rfl, rfl⟩

theorem mergeWith_error (f : Nat → Nat → Nat) (s o : PartialInfo) (e : MergeError)
    (h : (mergeWith f s o).2 = some e) : (mergeWith f s o).1 = s := by
  by_cases hf : Fresh s o
  · rw [mergeWith_fresh f hf] at h; cases h
  · rw [mergeWith_not_fresh f hf]

/-- what an `iex+` packet leaves in the info fields: everything default but version and token -/
def moreHdr (token : Int) : ServerInfo := { infoVersion := .v6Ex, token := token }

/-- abstract description of a part of an extended info: packet number (0 = main) and clients -/
structure ExPart where
  no : Nat
  clients : List ClientInfo

def exPart (hdr : ServerInfo) (e : ExPart) : PartialInfo :=
  if e.no = 0 then { info := hdr.withClients e.clients, received := 1 }
  else { info := (moreHdr hdr.token).withClients e.clients, received := 1 <<< e.no }

theorem exPart_received (hdr : ServerInfo) (e : ExPart) : (exPart hdr e).received = 2 ^ e.no := by
  unfold exPart
  split
  · rename_i h; simp [h]
  · simp [Nat.one_shiftLeft]

theorem exPart_clients (hdr : ServerInfo) (e : ExPart) : (exPart hdr e).info.clients = e.clients := by
  unfold exPart; split <;> rfl

theorem getInfo_result (s : PartialInfo) :
    (getInfo s).2 =
      if GET_INFO_REQUIRES_MAIN = true ∧ s.info.infoVersion = .v6Ex ∧ s.received &&& 1 = 0 then none
      else if (s.info.clients.length : Int) ≠ s.info.numClients then none
      else some (s.info.withClients (sortClients s.info.clients)) := by
  unfold getInfo
  by_cases h1 : GET_INFO_REQUIRES_MAIN = true ∧ s.info.infoVersion = .v6Ex ∧ s.received &&& 1 = 0
  · rw [if_pos h1, if_pos h1]
  · rw [if_neg h1, if_neg h1]
    by_cases h2 : (s.info.clients.length : Int) ≠ s.info.numClients
    · rw [if_pos h2, if_pos h2]
    · rw [if_neg h2, if_neg h2]; rfl

/-- `get_info` touches the accumulator only to sort the clients it reports -/
theorem getInfo_fst (s : PartialInfo) :
    (getInfo s).1 = match (getInfo s).2 with
      | none => s
      | some info => { s with info := info } := by
  unfold getInfo
  by_cases h1 : GET_INFO_REQUIRES_MAIN = true ∧ s.info.infoVersion = .v6Ex ∧ s.received &&& 1 = 0
  · rw [if_pos h1]
  · by_cases h2 : (s.info.clients.length : Int) ≠ s.info.numClients
    · rw [if_neg h1, if_pos h2]
    · rw [if_neg h1, if_neg h2]

theorem getInfo_of_info (s : PartialInfo) (hdr : ServerInfo) (cs : List ClientInfo)
    (hinfo : s.info = hdr.withClients cs)
    (hmain : ¬ (GET_INFO_REQUIRES_MAIN = true ∧ s.info.infoVersion = .v6Ex ∧ s.received &&& 1 = 0)) :
    (getInfo s).2 = if (cs.length : Int) = hdr.numClients then some (hdr.withClients (sortClients cs)) else none := by
  rw [getInfo_result, if_neg hmain, hinfo]
  by_cases h : (cs.length : Int) = hdr.numClients
  · simp [h]
  · simp [h]

/-- The parts a server sends for one info. `ex = false`: legacy 64-player info (`dtsf`), every
part repeats the header and carries its clients' offset; `ex = true`: extended info, part 0 is the
main packet (`iext`), part `i > 0` an `iex+` packet with packet number `nos[i]`. -/
structure Family where
  ex : Bool
  hdr : ServerInfo
  chunks : List (List ClientInfo)
  nos : List Nat

namespace Family

def size (f : Family) : Nat := f.chunks.length
def chunk (f : Family) (i : Nat) : List ClientInfo := f.chunks.getD i []
def no (f : Family) (i : Nat) : Nat := f.nos.getD i 0
/-- client slot of the first client of part `i` -/
def offset (f : Family) (i : Nat) : Nat := ((List.range i).map fun k => (f.chunk k).length).sum

/-- part `i` as the accumulator type (what `Info664Response::parse` / `Info6ExResponse::parse` /
`Info6ExMoreResponse::parse` return for the datagram) -/
def part (f : Family) (i : Nat) : PartialInfo :=
  if f.ex then exPart f.hdr ⟨f.no i, f.chunk i⟩
  else { info := f.hdr.withClients (f.chunk i), received := rangeMask (f.offset i) (f.chunk i).length }

def allClients (f : Family) : List ClientInfo := (List.range f.size).flatMap f.chunk

def completeInfo (f : Family) : ServerInfo := f.hdr.withClients (sortClients f.allClients)

def WellFormed (f : Family) : Prop :=
  0 < f.size ∧
  f.hdr.infoVersion = (if f.ex then Version.v6Ex else Version.v664) ∧
  (f.allClients.length : Int) = f.hdr.numClients ∧
  -- every part but (possibly) the main packet / a single legacy packet carries a client
  (∀ i < f.size, f.chunk i ≠ [] ∨ (i = 0 ∧ (f.ex = true ∨ f.size = 1))) ∧
  -- extended: packet numbers are distinct, below 64, and 0 exactly for the main packet
  (f.ex = true → (∀ i < f.size, (f.no i = 0 ↔ i = 0) ∧ f.no i < RECEIVED_BITS) ∧
    ∀ i < f.size, ∀ j < f.size, f.no i = f.no j → i = j) ∧
  -- legacy: one slot of the 64-bit mask per client
  (f.ex = false → f.allClients.length ≤ RECEIVED_BITS)

instance (f : Family) : Decidable f.WellFormed := by unfold WellFormed; infer_instance

def mergeSeq (f : Family) : List Nat → Option PartialInfo
  | [] => none
  | i :: rest => some (mergeAll (f.part i) (rest.map f.part))

def result (f : Family) (seq : List Nat) : Option ServerInfo :=
  match f.mergeSeq seq with
  | none => none
  | some s => (getInfo s).2

def Covers (f : Family) (seq : List Nat) : Prop := ∀ i < f.size, i ∈ seq

instance (f : Family) (seq : List Nat) : Decidable (f.Covers seq) := by unfold Covers; infer_instance

theorem WellFormed.size_pos {f : Family} (h : f.WellFormed) : 0 < f.size := h.1

theorem WellFormed.version {f : Family} (h : f.WellFormed) :
    f.hdr.infoVersion = if f.ex then Version.v6Ex else Version.v664 := h.2.1

theorem WellFormed.count {f : Family} (h : f.WellFormed) : (f.allClients.length : Int) = f.hdr.numClients := h.2.2.1

theorem WellFormed.carries {f : Family} (h : f.WellFormed) {i : Nat} (hi : i < f.size) :
    f.chunk i ≠ [] ∨ (i = 0 ∧ (f.ex = true ∨ f.size = 1)) := h.2.2.2.1 i hi

theorem WellFormed.no_zero {f : Family} (h : f.WellFormed) (hex : f.ex = true) {i : Nat} (hi : i < f.size) :
    f.no i = 0 ↔ i = 0 := ((h.2.2.2.2.1 hex).1 i hi).1

theorem WellFormed.no_lt {f : Family} (h : f.WellFormed) (hex : f.ex = true) {i : Nat} (hi : i < f.size) :
    f.no i < RECEIVED_BITS := ((h.2.2.2.2.1 hex).1 i hi).2

theorem WellFormed.no_inj {f : Family} (h : f.WellFormed) (hex : f.ex = true) {i j : Nat} (hi : i < f.size)
    (hj : j < f.size) (e : f.no i = f.no j) : i = j := (h.2.2.2.2.1 hex).2 i hi j hj e

theorem WellFormed.slots {f : Family} (h : f.WellFormed) (hex : f.ex = false) : f.allClients.length ≤ RECEIVED_BITS :=
  h.2.2.2.2.2 hex

theorem offset_succ (f : Family) (i : Nat) : f.offset (i + 1) = f.offset i + (f.chunk i).length := by
  simp [offset, List.range_succ, List.sum_append]

theorem offset_mono (f : Family) {i j : Nat} (h : i < j) : f.offset i + (f.chunk i).length ≤ f.offset j := by
  induction j with
  | zero => omega
  | succ j ih =>
    rw [offset_succ]
    by_cases e : i = j
    · subst e; omega
    · have := ih (by omega); omega

theorem offset_size (f : Family) : f.offset f.size = f.allClients.length := by
  simp [offset, allClients, List.length_flatMap]

theorem offset_add_le (f : Family) {i : Nat} (hi : i < f.size) :
    f.offset i + (f.chunk i).length ≤ f.allClients.length :=
  f.offset_size ▸ f.offset_mono hi

theorem chunk_mem (f : Family) {i : Nat} (hi : i < f.size) : f.chunk i ∈ f.chunks := by
  unfold chunk size at *
  simp [List.getD_eq_getElem?_getD, List.getElem?_eq_getElem hi]

end Family

theorem perm_filter_range {n : Nat} {seq : List Nat} (hnd : seq.Nodup) (hr : ∀ i ∈ seq, i < n) :
    seq.Perm ((List.range n).filter (fun i => decide (i ∈ seq))) := by
  refine (List.perm_ext_iff_of_nodup hnd ((List.filter_sublist).nodup List.nodup_range)).2 ?_
  intro a
  simp only [List.mem_filter, List.mem_range, decide_eq_true_eq]
  exact ⟨fun h => ⟨hr a h, h⟩, fun h => h.2⟩

theorem collected {α : Type} {n : Nat} {seq : List Nat} (g : Nat → List α) (hnd : seq.Nodup) (hr : ∀ i ∈ seq, i < n) :
    ∃ rest, (seq.flatMap g ++ rest).Perm ((List.range n).flatMap g) ∧ (rest = [] ↔ ∀ i < n, i ∉ seq → g i = []) := by
  refine ⟨((List.range n).filter (fun i => !decide (i ∈ seq))).flatMap g, ?_, ?_⟩
  · rw [← List.flatMap_append]
    exact (((perm_filter_range hnd hr).append_right _).trans (List.filter_append_perm _ _)).flatMap_right g
  · rw [List.flatMap_eq_nil_iff]
    simp only [List.mem_filter, List.mem_range, Bool.not_eq_true', decide_eq_false_iff_not, and_imp]

namespace Family

theorem part_clients (f : Family) (i : Nat) : (f.part i).info.clients = f.chunk i := by
  unfold part
  split
  · exact exPart_clients _ _
  · rfl

theorem finish (f : Family) (hwf : f.WellFormed) (seq : List Nat) (hnd : seq.Nodup) (hr : ∀ i ∈ seq, i < f.size)
    (s : PartialInfo)
    (hmain : ¬ (GET_INFO_REQUIRES_MAIN = true ∧ s.info.infoVersion = .v6Ex ∧ s.received &&& 1 = 0))
    (cs : List ClientInfo) (hperm : cs.Perm (seq.flatMap f.chunk)) (hinfo : s.info = f.hdr.withClients cs)
    (hcov : (∀ i < f.size, i ∉ seq → f.chunk i = []) ↔ f.Covers seq) :
    (getInfo s).2 = if f.Covers seq then some f.completeInfo else none := by
  rw [getInfo_of_info s f.hdr cs hinfo hmain, ← hwf.count]
  obtain ⟨rest, hp, hrest⟩ := collected (n := f.size) f.chunk hnd hr
  rw [hcov] at hrest
  have hall : (cs ++ rest).Perm f.allClients := (hperm.append_right rest).trans hp
  by_cases hc : f.Covers seq
  · rw [hrest.2 hc, List.append_nil] at hall
    rw [if_pos hc, if_pos (by rw [hall.length_eq]), completeInfo, sortClients_eq_of_perm hall]
  · have hlen := hall.length_eq
    rw [List.length_append] at hlen
    have hne : rest.length ≠ 0 := fun e => hc (hrest.1 (List.length_eq_zero_iff.1 e))
    rw [if_neg hc, if_neg (fun e => by omega)]

end Family

/-! ### Concrete families (used for non-vacuity examples and the D10 witness) -/

def clientA : ClientInfo := { name := [97], clan := [], country := 0, score := 1, flags := 0 }
def clientB : ClientInfo := { name := [98], clan := [], country := 0, score := 2, flags := 0 }

def witnessHdr (v : Version) : ServerInfo :=
  { infoVersion := v, token := 7, version := [118], name := [110], map := [109], gameType := [103],
    mapCrc := if v = .v6Ex then some 0 else none, mapSize := if v = .v6Ex then some 0 else none,
    numPlayers := 2, maxPlayers := 2, numClients := 2, maxClients := 2 }

def witnessEx : Family := { ex := true, hdr := witnessHdr .v6Ex, chunks := [[clientA], [clientB]], nos := [0, 1] }

def witnessLegacy : Family := { ex := false, hdr := witnessHdr .v664, chunks := [[clientA], [clientB]], nos := [] }

def clientC : ClientInfo := { name := [99], clan := [], country := 0, score := 3, flags := 0 }

def witnessEx3 : Family :=
  { ex := true, hdr := { witnessHdr .v6Ex with numClients := 3, maxClients := 3, numPlayers := 3, maxPlayers := 3 },
    chunks := [[clientA], [clientB], [clientC]], nos := [0, 1, 2] }

def nul (fields : List (List UInt8)) : List UInt8 := fields.flatMap (· ++ [0])

/-! The datagram payloads of the parts of `witnessEx` / `witnessLegacy`, as in
`corpus/browse/finding-d10-merge-repeat.txt`.  55 = `'7'` is the token; 118, 110, 109, 103 = `v`, `n`, `m`, `g`
stand for version, name, map and game type; 48 … 50 are the digits `0` … `2`; 97, 98 = `a`, `b` the client names. -/

def witnessExMainBytes : List UInt8 :=
  nul [[55], [118], [110], [109], [48], [48], [103], [48], [50], [50], [50], [50], [], [97], [], [48], [49], [49], []]
def witnessExMoreBytes : List UInt8 := nul [[55], [49], [], [98], [], [48], [50], [49], []]
def witnessLegacy0Bytes : List UInt8 :=
  nul [[55], [118], [110], [109], [103], [48], [50], [50], [50], [50], [48], [97], [], [48], [49], [49]]
def witnessLegacy1Bytes : List UInt8 :=
  nul [[55], [118], [110], [109], [103], [48], [50], [50], [50], [50], [49], [98], [], [48], [50], [49]]

end Tw.ServerBrowse
