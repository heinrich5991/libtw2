import Tw.Model.DemoHl
import Tw.Proofs.Demo
import Tw.Proofs.SnapLayer

/-! The high-level demo model (`Tw.Model.DemoHl`): the invariant of the writer's states, what `write_msg` and `write_snap`
do when they refuse and when they accept, one accepted call read back by `DemoReader::next_chunk`, and the vocabulary of
whole histories. -/
namespace Tw.DemoHl
open Tw.Demo Tw.Snap

/-- objects the typed writer can hand over: a valid type id, a `u16` id, `i32` fields -/
def Item.valid (it : Item) : Prop := it.tid.Valid ∧ it.id < 65536 ∧ ∀ x ∈ it.data, I32 x

/-- the state invariant of the (repaired) writer: the builder is the recycled last snapshot and both
satisfy the snapshot invariants -/
structure DemoWriter.Inv (w : DemoWriter) : Prop where
  /-- `write_snap` leaves `self.snap.clone().recycle()` there whenever it returns -/
  builder : nextBuilder w.snap = some w.builder
  binv : w.builder.Inv
  sok : ExtOk w.snap

theorem DemoWriter.new_eq {a : HeaderArgs} {w : DemoWriter} (h : DemoWriter.new a = some w) :
    ∃ iw, Writer.new a = some iw ∧
      w = { inner := iw, lastTick := Tw.Gen.Demo.initial_last_tick, lastKeyframe := none, snap := Snap.empty,
            builder := Builder.new } := by
  unfold DemoWriter.new at h
  split at h
  · cases h
  · exact ⟨_, ‹_›, (Option.some.inj h).symm⟩

theorem new_inv (a : HeaderArgs) (w : DemoWriter) (h : DemoWriter.new a = some w) : w.Inv := by
  obtain ⟨_, _, rfl⟩ := DemoWriter.new_eq h
  exact ⟨(by decide : nextBuilder Snap.empty = some Builder.new), Builder.new_inv, Builder.new_inv.ok⟩

theorem writeMsg_cases (w : DemoWriter) (msg : Bytes) :
    (¬ fitsMessage msg ∧ w.writeMsg msg = (w, .err .tooLongNetMsg)) ∨
    (fitsMessage msg ∧ ∃ inner', w.inner.writeMessage msg = (inner', .ok) ∧
      inner'.prevTick = w.inner.prevTick ∧ w.writeMsg msg = ({ w with inner := inner' }, .ok)) := by
  unfold DemoWriter.writeMsg
  by_cases hfit : fitsMessage msg
  · refine .inr ⟨hfit, ?_⟩
    obtain ⟨h1, h2, h3⟩ := hfit
    rcases writeData_cases w.inner .message (Tw.Demo.packInts (msgInts msg)) with ⟨_, _, _, _, e⟩ | ⟨hn, _⟩
    · have e' : w.inner.writeMessage msg = _ := (writeMessage_eq ..).trans ((if_pos ⟨h1, h2⟩).trans e)
      exact ⟨_, e', rfl, by rw [if_neg (Nat.not_lt.mpr h1), if_neg (not_not_intro ⟨h1, h2, h3⟩), e']⟩
    · exact absurd h3 hn
  · refine .inl ⟨hfit, ?_⟩
    by_cases h1 : msg.length > Tw.Gen.Demo.MAX_SNAPSHOT_SIZE
    · exact if_pos h1
    · exact (if_neg h1).trans (if_pos hfit)

theorem writeMsg_accepted (w w' : DemoWriter) (msg : Bytes) (h : w.writeMsg msg = (w', .ok)) :
    ∃ inner', w.inner.writeMessage msg = (inner', .ok) ∧ inner'.prevTick = w.inner.prevTick ∧
      w' = { w with inner := inner' } := by
  rcases writeMsg_cases w msg with ⟨_, e⟩ | ⟨_, inner', hwm, hp, e⟩
  · rw [e] at h; exact nomatch (Prod.mk.inj h).2
  · rw [e] at h; exact ⟨inner', hwm, hp, (Prod.mk.inj h).1.symm⟩

/-- `write_msg` never panics: `Writer::fits_message` checks the limits of the low-level writer first and reports
`TooLongNetMsg` (D29). -/
theorem writeMsg_no_panic (w : DemoWriter) (msg : Bytes) (s : String) : (w.writeMsg msg).2 ≠ .panic s := by
  rcases writeMsg_cases w msg with ⟨_, e⟩ | ⟨_, _, _, _, e⟩ <;> rw [e] <;> nofun

theorem writeMsg_too_long (w : DemoWriter) (msg : Bytes) (h : msg.length > Tw.Gen.Demo.MAX_SNAPSHOT_SIZE) :
    w.writeMsg msg = (w, .err .tooLongNetMsg) :=
  ((writeMsg_cases w msg).resolve_right fun hfit => absurd hfit.1.1 (Nat.not_le.mpr h)).2

theorem DemoWriter.isKeyframe_iff (w : DemoWriter) (tick : Int) :
    w.isKeyframe tick = true ↔ (w.lastKeyframe = none ∨ ∃ k, w.lastKeyframe = some k ∧ tick - k > 250) := by
  unfold DemoWriter.isKeyframe
  cases w.lastKeyframe with
  | none => simp
  | some k => simp [keyframeInterval, Tw.Gen.Demo.keyframe_test]

theorem writeSnap_err_unchanged (objSize : Nat → Option Nat) (w w' : DemoWriter) (hinv : w.Inv) (tick : Int)
    (items : List Item) (e : WriteError) (h : w.writeSnap objSize tick items = (w', .err e)) : w' = w := by
  have hb := hinv.builder
  revert h
  fun_cases DemoWriter.writeSnap objSize w tick items
  all_goals intro h
  -- a refusal either leaves `w` alone or puts the recycled last snapshot into the builder: the one it holds
  all_goals first
    | exact (Prod.mk.inj h).1.symm
    | (rename_i b hnb
       cases Option.some.inj (hb.symm.trans hnb)
       exact (Prod.mk.inj h).1.symm)
    | cases (Prod.mk.inj h).2

theorem writeMsg_err_unchanged (w w' : DemoWriter) (msg : Bytes) (e : WriteError)
    (h : w.writeMsg msg = (w', .err e)) : w' = w := by
  rcases writeMsg_cases w msg with ⟨_, e'⟩ | ⟨_, _, _, _, e'⟩
  · rw [e'] at h; exact (Prod.mk.inj h).1.symm
  · rw [e'] at h; exact nomatch (Prod.mk.inj h).2

theorem addItems_inv (items : List Item) (hv : ∀ it ∈ items, it.valid)
    (b b' : Builder) (hb : b.Inv) (h : addItems b items = .ok b') : b'.Inv := by
  fun_induction addItems b items
  case case1 => exact AddResult.ok.inj h ▸ hb
  case case4 b it rest b1 ha ih =>
    obtain ⟨h1, h2, h3⟩ := hv it List.mem_cons_self
    exact ih (fun i hi => hv i (List.mem_cons_of_mem _ hi)) (Builder.addItem_inv hb h1 h2 h3 ha) h
  all_goals cases h

/-- What `write_snap` did when it returned `Ok`: `b` is the builder after the objects went in, `b'` the one recycled
for the next call. -/
structure WriteSnapAccepted (objSize : Nat → Option Nat) (w w' : DemoWriter) (tick : Int) (items : List Item)
    (b b' : Builder) (bs : Bytes) (inner1 : Writer) : Prop where
  tick_lt : w.lastTick < tick
  added : addItems w.builder items = .ok b
  payload : snapPayload objSize (w.isKeyframe tick) w.snap b.snap = .ok bs
  fits : fitsChunk bs
  tickWritten : w.inner.writeTick (w.isKeyframe tick) tick = (inner1, .ok)
  dataWritten : inner1.writeData (if w.isKeyframe tick then .snapshot else .delta) bs = (w'.inner, .ok)
  recycled : nextBuilder b.snap = some b'
  eq : w' = { inner := w'.inner, lastTick := tick,
              lastKeyframe := if w.isKeyframe tick then some tick else w.lastKeyframe, snap := b.snap,
              builder := b' }

theorem writeSnap_accepted (objSize : Nat → Option Nat) (w w' : DemoWriter) (tick : Int) (items : List Item)
    (h : w.writeSnap objSize tick items = (w', .ok)) :
    ∃ b b' bs inner1, WriteSnapAccepted objSize w w' tick items b b' bs inner1 := by
  revert h
  fun_cases DemoWriter.writeSnap objSize w tick items
  all_goals intro h
  -- the last case is the only one that ends in `Ok`
  case case13 hlt _ b hadd _ bs hpay hfit inner1 hwt inner2 hwd b' hnb =>
    cases (Prod.mk.inj h).1
    exact ⟨b, b', bs, inner1, Int.not_le.mp hlt, hadd, hpay, Decidable.not_not.mp hfit, hwt, hwd, hnb, rfl⟩
  all_goals cases (Prod.mk.inj h).2

theorem writeSnap_preserves_inv (objSize : Nat → Option Nat) (w w' : DemoWriter) (hinv : w.Inv) (tick : Int)
    (items : List Item) (hv : ∀ it ∈ items, it.valid)
    (h : w.writeSnap objSize tick items = (w', .ok)) : w'.Inv := by
  obtain ⟨b, b', bs, inner1, ha⟩ := writeSnap_accepted objSize w w' tick items h
  have hb := addItems_inv items hv w.builder b hinv.binv ha.added
  obtain ⟨b'', h1, h2, _, _⟩ := Builder.recycle_inv hb
  cases h1.symm.trans ha.recycled
  rw [ha.eq]
  exact ⟨h1, h2, hb.ok⟩

theorem keyframe_payload_roundtrip {b : Builder} (hb : b.Inv) {old : Snap} {objSize : Nat → Option Nat} {bs : Bytes}
    (h : snapPayload objSize true old b.snap = .ok bs) : Snap.readBytes bs = .ok (b.snap, []) := by
  unfold snapPayload at h
  rw [if_pos rfl] at h
  split at h
  next bs' hw =>
    cases h
    exact readBytes_writeBytes hb.ok hw
  all_goals cases h

/-- Sizes need no hypothesis: `Delta::create` and `Delta::write` panic where they disagree (D15), and `h` says that
they returned. -/
theorem delta_payload_roundtrip {old : Snap} {b : Builder} (ho : ExtOk old) (hb : b.Inv) {objSize : Nat → Option Nat}
    {bs : Bytes} (h : snapPayload objSize false old b.snap = .ok bs) :
    ∃ d, readDelta objSize (.bytes bs) = .ok (d, []) ∧ old.readWithDelta d = .ok (b.snap, []) := by
  revert h
  fun_cases snapPayload objSize false old b.snap
  all_goals intro h
  case case7 _ d hd xs hwi z _ =>
    obtain rfl : Tw.Snap.packInts xs = bs := Payload.ok.inj h
    exact ⟨d, readDelta_packInts (createDelta_WF ho.raw_wf hb.ok.raw_wf hd).1 hwi,
      readWithDelta_createDelta ho.raw_wf hb.ok hd⟩
  all_goals first | contradiction | cases h

/-- An accepted `write_snap`, read back by two calls of `DemoReader::next_chunk`.  When a key frame is due the
reader may hold any snapshot `s0`, otherwise it has to hold the writer's previous one. -/
theorem snap_step (hH : HuffmanRoundTrip) (objSize : Nat → Option Nat) (w w' : DemoWriter) (hinv : w.Inv)
    (tick : Int) (ht : Tw.Packer.inI32 tick) (items : List Item) (hv : ∀ it ∈ items, it.valid)
    (h : w.writeSnap objSize tick items = (w', .ok)) :
    ∃ enc, w'.inner.file = w.inner.file ++ enc ∧ 2 ≤ enc.length ∧
      ∀ (v : Version) (rest : Bytes) (s0 : Snap), v.num ≥ 5 → (w.isKeyframe tick = false → s0 = w.snap) →
        ∃ r1, DemoReader.nextChunk objSize
            { raw := { data := enc ++ rest, version := v, currentTick := w.inner.prevTick }, snap := s0 } =
              (r1, .chunk (.tick tick), []) ∧
          DemoReader.nextChunk objSize r1 =
            match snapItems w'.snap with
            | some its => ({ raw := { data := rest, version := v, currentTick := w'.inner.prevTick },
                             snap := w'.snap }, .chunk (.snapshot its), [])
            | none => (r1, .error .panic, []) := by
  obtain ⟨b, b', bs, inner1, ha⟩ := writeSnap_accepted objSize w w' tick items h
  have hb := addItems_inv items hv w.builder b hinv.binv ha.added
  have hsnap : w'.snap = b.snap := by rw [ha.eq]
  -- the fields that mention the key-frame test are taken out first: `generalize … at *` does not look inside `ha`
  have hpay := ha.payload
  have hwt := ha.tickWritten
  have hwd := ha.dataWritten
  generalize w.isKeyframe tick = kf at *
  obtain ⟨e1, hf1, hl1, hr1⟩ := writeChunk_accepted hH w.inner inner1 (.tick tick kf) ht hwt
  obtain ⟨e2, hf2, hl2, hr2⟩ := writeChunk_accepted hH inner1 w'.inner (if kf then .snapshot bs else .delta bs)
    (by cases kf <;> trivial) (by cases kf <;> exact hwd)
  refine ⟨e1 ++ e2, by rw [hf2, hf1, List.append_assoc], by rw [List.length_append]; omega,
    fun v rest s0 hv5 hs0 => ?_⟩
  have h1 := hr1 v (e2 ++ rest) hv5
  have h2 := hr2 v rest hv5
  refine ⟨{ raw := { data := e2 ++ rest, version := v, currentTick := inner1.prevTick }, snap := s0 }, ?_, ?_⟩
  · simp only [DemoReader.nextChunk, List.append_assoc, h1, Chunk.padded, List.map_nil]
  · rw [hsnap]
    cases kf with
    | true =>
      simp only [DemoReader.nextChunk, h2, Chunk.padded, keyframe_payload_roundtrip hb hpay, if_true, List.map_nil,
        List.append_nil]
      cases snapItems b.snap <;> rfl
    | false =>
      obtain ⟨d, hrd, hrw⟩ := delta_payload_roundtrip hinv.sok hb hpay
      cases hs0 rfl
      simp only [DemoReader.nextChunk, h2, Chunk.padded, hrd, hrw, Bool.false_eq_true, if_false, List.map_nil,
        List.append_nil]
      cases snapItems b.snap <;> rfl

/-- `snap_step` when no key frame is due.  `hag` and `hok` are implied by `h` (`delta_payload_roundtrip`); the proof
does not look at them. -/
theorem delta_step (hH : HuffmanRoundTrip) (objSize : Nat → Option Nat) (w w' : DemoWriter) (hinv : w.Inv)
    (tick : Int) (ht : Tw.Packer.inI32 tick) (items : List Item) (hv : ∀ it ∈ items, it.valid)
    (hk : w.isKeyframe tick = false) (h : w.writeSnap objSize tick items = (w', .ok))
    (hag : SizesAgree w.snap.raw w'.snap.raw) (hok : SizesOk objSize w'.snap.raw.items) :
    ∃ enc, w'.inner.file = w.inner.file ++ enc ∧ 2 ≤ enc.length ∧
      ∀ (v : Version) (rest : Bytes), v.num ≥ 5 →
        ∃ r1, DemoReader.nextChunk objSize
            { raw := { data := enc ++ rest, version := v, currentTick := w.inner.prevTick }, snap := w.snap } =
              (r1, .chunk (.tick tick), []) ∧
          DemoReader.nextChunk objSize r1 =
            match snapItems w'.snap with
            | some its => ({ raw := { data := rest, version := v, currentTick := w'.inner.prevTick },
                             snap := w'.snap }, .chunk (.snapshot its), [])
            | none => (r1, .error .panic, []) :=
  have ⟨enc, hf, hl, hs⟩ := snap_step hH objSize w w' hinv tick ht items hv h
  ⟨enc, hf, hl, fun v rest hv5 => hs v rest w.snap hv5 (fun _ => rfl)⟩

theorem msg_step (hH : HuffmanRoundTrip) (objSize : Nat → Option Nat) (w w' : DemoWriter) (msg : Bytes)
    (h : w.writeMsg msg = (w', .ok)) :
    w'.snap = w.snap ∧ w'.builder = w.builder ∧ w'.lastTick = w.lastTick ∧ w'.lastKeyframe = w.lastKeyframe ∧
    ∃ enc, w'.inner.file = w.inner.file ++ enc ∧ 1 ≤ enc.length ∧
      ∀ (v : Version) (rest : Bytes) (s0 : Snap), v.num ≥ 5 →
        DemoReader.nextChunk objSize
            { raw := { data := enc ++ rest, version := v, currentTick := w.inner.prevTick }, snap := s0 } =
          ({ raw := { data := rest, version := v, currentTick := w'.inner.prevTick }, snap := s0 },
            .chunk (.message (pad4 msg)), []) := by
  obtain ⟨inner', hwm, _, rfl⟩ := writeMsg_accepted w w' msg h
  obtain ⟨enc, hf, hl, hr⟩ := writeChunk_accepted hH w.inner inner' (.message msg) trivial hwm
  exact ⟨rfl, rfl, rfl, rfl, enc, hf, hl, fun v rest s0 hv5 => by
    simp only [DemoReader.nextChunk, hr v rest hv5, Chunk.padded, List.map_nil]⟩

theorem writeMsg_preserves_inv (w w' : DemoWriter) (msg : Bytes) (hinv : w.Inv)
    (h : w.writeMsg msg = (w', .ok)) : w'.Inv := by
  obtain ⟨_, _, _, rfl⟩ := writeMsg_accepted w w' msg h
  exact ⟨hinv.builder, hinv.binv, hinv.sok⟩

inductive Op where
  | snap (tick : Int) (items : List Item)
  | msg (bytes : Bytes)
  deriving Repr

/-- what the typed interface guarantees of a call's arguments -/
def Op.valid : Op → Prop
  | .snap t items => Tw.Packer.inI32 t ∧ ∀ it ∈ items, it.valid
  | .msg _ => True

/-- It repeats the case split of `step`; proofs enter through `run_cons`. -/
def DemoWriter.run (objSize : Nat → Option Nat) (w : DemoWriter) : List Op → DemoWriter × List HResult
  | [] => (w, [])
  | .snap t items :: rest =>
    let (w1, r) := w.writeSnap objSize t items
    let (w2, rs) := DemoWriter.run objSize w1 rest
    (w2, r :: rs)
  | .msg b :: rest =>
    let (w1, r) := w.writeMsg b
    let (w2, rs) := DemoWriter.run objSize w1 rest
    (w2, r :: rs)

def DemoWriter.step (objSize : Nat → Option Nat) (w : DemoWriter) : Op → DemoWriter × HResult
  | .snap t items => w.writeSnap objSize t items
  | .msg b => w.writeMsg b

theorem DemoWriter.run_cons (objSize : Nat → Option Nat) (w : DemoWriter) (op : Op) (rest : List Op) :
    w.run objSize (op :: rest) =
      (((w.step objSize op).1.run objSize rest).1, (w.step objSize op).2 :: ((w.step objSize op).1.run objSize rest).2) := by
  cases op <;> rfl

theorem step_err_unchanged (objSize : Nat → Option Nat) (w w' : DemoWriter) (hinv : w.Inv) (op : Op) (e : WriteError)
    (h : w.step objSize op = (w', .err e)) : w' = w := by
  cases op with
  | snap t items => exact writeSnap_err_unchanged objSize w w' hinv t items e h
  | msg b => exact writeMsg_err_unchanged w w' b e h

/-- two chunk lists agree up to the order of the objects inside each snapshot: the same chunks, the
same object *sets* -/
def chunksAgree : List HChunk → List HChunk → Prop
  | [], [] => True
  | .snapshot a :: r, .snapshot b :: r' => (∀ it, it ∈ a ↔ it ∈ b) ∧ chunksAgree r r'
  | c :: r, c' :: r' => c = c' ∧ chunksAgree r r'
  | _, _ => False

/-- what the reader must report for a history and its results: for each accepted call its chunks -/
def expectedChunks : List Op → List HResult → List HChunk
  | .snap t items :: ops, .ok :: rs => .tick t :: .snapshot items :: expectedChunks ops rs
  | .msg b :: ops, .ok :: rs => .message (pad4 b) :: expectedChunks ops rs
  | _ :: ops, _ :: rs => expectedChunks ops rs
  | _, _ => []

end Tw.DemoHl
