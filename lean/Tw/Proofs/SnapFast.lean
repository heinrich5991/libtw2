import Tw.Model.SnapFast
import Tw.Proofs.SnapDelta

/-! The tree-backed twins of `Tw/Model/SnapFast.lean` compute exactly what the list model computes
(unconditionally: no well-formedness hypothesis), so the driver may use them. -/
namespace Tw.Snap.Fast
open Tw.Snap Std

def Rep (f : FSnap) (m : Items) : Prop := f.map.toList = m ∧ f.dlen = dataLen m

theorem tree_sorted (t : Tree) : Sorted t.toList := by
  unfold Sorted
  rw [List.pairwise_map]
  exact (TreeMap.ordered_keys_toList (t := t)).imp (fun h => by
    exact Int.compare_eq_lt.mp h)

theorem tree_get (t : Tree) (k : Int) : t[k]? = mfind k t.toList := by
  cases h : mfind k t.toList with
  | some v =>
    have := mem_of_mfind h
    exact (TreeMap.mem_toList_iff_getElem?_eq_some).mp this
  | none =>
    cases h2 : t[k]? with
    | none => rfl
    | some v =>
      have := (TreeMap.mem_toList_iff_getElem?_eq_some (t := t)).mpr h2
      have := mfind_of_mem (tree_sorted t) this
      rw [h] at this; cases this

theorem tree_insert (t : Tree) (k : Int) (v : List Int) : (t.insert k v).toList = minsert k v t.toList := by
  apply sorted_ext (tree_sorted _) (sorted_minsert (tree_sorted t))
  intro k'
  rw [← tree_get, mfind_minsert, ← tree_get, TreeMap.getElem?_insert]
  by_cases e : k' = k
  · subst e; simp
  · have : ¬ compare k k' = .eq := by
      intro h; exact e (compare_eq_iff_eq.mp h).symm
    simp [this, e]

theorem rep_get {f : FSnap} {m : Items} (h : Rep f m) (k : Int) : f.map[k]? = mfind k m := by
  rw [tree_get, h.1]

theorem rep_size {f : FSnap} {m : Items} (h : Rep f m) : f.map.size = m.length := by
  rw [← h.1, TreeMap.length_toList]

theorem rep_sorted {f : FSnap} {m : Items} (h : Rep f m) : Sorted m := by
  rw [← h.1]; exact tree_sorted _

theorem rep_empty : Rep FSnap.empty [] := by
  constructor
  · show (∅ : Tree).toList = []
    have h := TreeMap.length_toList (t := (∅ : Tree))
    rw [TreeMap.size_emptyc] at h
    exact List.eq_nil_of_length_eq_zero h
  · rfl

theorem rep_vacantCheck {f : FSnap} {m : Items} (h : Rep f m) (size : Nat) :
    vacantCheckF f size = vacantCheck m size := by
  unfold vacantCheckF vacantCheck
  rw [rep_size h, h.2]

theorem rep_insert_new {f : FSnap} {m : Items} (h : Rep f m) {k : Int} {v : List Int} (hk : mfind k m = none) :
    Rep ⟨f.map.insert k v, f.dlen + v.length⟩ (minsert k v m) := by
  constructor
  · show (f.map.insert k v).toList = minsert k v m
    rw [tree_insert, h.1]
  · show f.dlen + v.length = dataLen (minsert k v m)
    rw [dataLen_minsert_of_none hk, h.2]

theorem rep_insert_same {f : FSnap} {m : Items} (h : Rep f m) {k : Int} {v old : List Int}
    (hk : mfind k m = some old) (hl : v.length = old.length) :
    Rep ⟨f.map.insert k v, f.dlen⟩ (minsert k v m) := by
  constructor
  · show (f.map.insert k v).toList = minsert k v m
    rw [tree_insert, h.1]
  · show f.dlen = dataLen (minsert k v m)
    rw [(minsert_replace_measure (rep_sorted h) hk hl).2, h.2]

inductive ExRel {ε α β : Type} (R : α → β → Prop) : Except ε α → Except ε β → Prop
  | ok {a : α} {b : β} : R a b → ExRel R (.ok a) (.ok b)
  | error (e : ε) : ExRel R (.error e) (.error e)

theorem addItem_sim {f : FSnap} {s : RawSnap} (h : Rep f s.items) (k : Int) (d : List Int) :
    ExRel (fun f' s' => Rep f' s'.items) (f.addItem k d) (s.addItem k d) := by
  unfold FSnap.addItem RawSnap.addItem
  rw [rep_get h, rep_vacantCheck h]
  cases hk : mfind k s.items with
  | some v => exact .error _
  | none =>
    cases hv : vacantCheck s.items d.length with
    | some e => exact .error _
    | none => exact .ok (rep_insert_new h hk)

theorem buildFastLoop_sim : ∀ (its : List (Int × List Int)) (i : Nat) (f : FSnap) (s : RawSnap), Rep f s.items →
    ExRel (fun f' s' => Rep f' s'.items) (buildFastLoop its i f) (buildList its i s) := by
  intro its
  induction its with
  | nil => intro i f s h; exact .ok h
  | cons p r ih =>
    obtain ⟨k, d⟩ := p
    intro i f s h
    have hs := addItem_sim h k d
    simp only [buildFastLoop, buildList]
    generalize f.addItem k d = x, s.addItem k d = y at hs ⊢
    cases hs with
    | error e => exact .error _
    | ok h' => exact ih (i + 1) _ _ h'

theorem buildFast_eq (its : List (Int × List Int)) : buildFast its = buildList its 0 RawSnap.empty := by
  have h := buildFastLoop_sim its 0 FSnap.empty RawSnap.empty rep_empty
  unfold buildFast
  generalize buildFastLoop its 0 FSnap.empty = x, buildList its 0 RawSnap.empty = y at h ⊢
  cases h with
  | error e => rfl
  | ok h => simp only [FSnap.toRaw, h.1]

inductive ResRel {α β : Type} (R : α → β → Prop) : Res α → Res β → Prop
  | ok {a : α} {b : β} : R a b → ResRel R (.ok a) (.ok b)
  | err (e : Error) : ResRel R (.err e) (.err e)
  | panic (p : String) : ResRel R (.panic p) (.panic p)

theorem toTree_get (m : Items) (k : Int) : (toTree m)[k]? = mfind k m := by
  unfold toTree
  suffices h : ∀ (t : Tree), (m.foldl (fun t p => t.insertIfNew p.1 p.2) t)[k]? = (t[k]?).or (mfind k m) by
    rw [h ∅, TreeMap.getElem?_emptyc]; simp
  induction m with
  | nil => intro t; simp [mfind]
  | cons p r ih =>
    obtain ⟨k', v⟩ := p
    intro t
    simp only [List.foldl_cons]
    rw [ih, TreeMap.getElem?_insertIfNew]
    by_cases e : k = k'
    · subst e
      simp only [compare_eq_iff_eq, true_and, mfind, if_true]
      by_cases hm : k ∈ t
      · simp [hm]
      · simp [hm]
    · have : ¬ compare k' k = .eq := by
        intro h; exact e (compare_eq_iff_eq.mp h).symm
      simp [this, mfind, e]

theorem copyUndeletedF_sim (deleted : List Int) : ∀ (r : Items) (f : FSnap) (out : Items) (n : Nat), Rep f out →
    ResRel (fun x y => Rep x.1 y.1 ∧ x.2 = y.2)
      (copyUndeletedF (TreeSet.ofList deleted compare) r f n) (copyUndeleted deleted r out n) := by
  intro r
  induction r with
  | nil => intro f out n h; exact .ok ⟨h, rfl⟩
  | cons q r ih =>
    obtain ⟨k, d⟩ := q
    intro f out n h
    simp only [copyUndeletedF, copyUndeleted, TreeSet.contains_ofList]
    by_cases hdel : deleted.contains k = true
    · rw [if_pos hdel, if_pos hdel]
      exact ih f out (n + 1) h
    · rw [if_neg hdel, if_neg hdel, rep_get h, rep_vacantCheck h]
      cases hk : mfind k out with
      | some old =>
        simp only
        by_cases hl : old.length ≠ d.length
        · rw [if_pos hl, if_pos hl]; exact .panic _
        · rw [if_neg hl, if_neg hl]
          simp at hl
          exact ih _ _ n (rep_insert_same h hk hl.symm)
      | none =>
        simp only
        cases hv : vacantCheck out d.length with
        | some e => exact .err _
        | none => exact ih _ _ n (rep_insert_new h hk)

theorem applyUpdatesF_sim (a : Items) : ∀ (upd : Items) (f : FSnap) (out : Items), Rep f out →
    ResRel Rep (applyUpdatesF (toTree a) upd f) (applyUpdates a upd out) := by
  intro upd
  induction upd with
  | nil => intro f out h; exact .ok h
  | cons q r ih =>
    obtain ⟨k, diff⟩ := q
    intro f out h
    simp only [applyUpdatesF, applyUpdates]
    rw [rep_get h, rep_vacantCheck h, toTree_get]
    cases hk : mfind k out with
    | some old =>
      simp only
      by_cases hl : diff.length ≠ old.length
      · rw [if_pos hl, if_pos hl]; exact .err _
      · rw [if_neg hl, if_neg hl]
        simp at hl
        cases ha : applyItemDelta (mfind k a) diff with
        | none => exact .err _
        | some v =>
          simp only
          exact ih _ _ (rep_insert_same h hk (by rw [applyItemDelta_length ha, hl]))
    | none =>
      simp only
      cases hv : vacantCheck out diff.length with
      | some e => exact .err _
      | none =>
        simp only
        cases ha : applyItemDelta (mfind k a) diff with
        | none => exact .err _
        | some v =>
          simp only
          have := rep_insert_new (v := v) h hk
          rw [applyItemDelta_length ha] at this
          exact ih _ _ this

theorem applyDeltaFast_eq (a : RawSnap) (d : Delta) : applyDeltaFast a d = applyDelta a d := by
  unfold applyDeltaFast applyDelta
  have h1 := copyUndeletedF_sim d.deleted a.items FSnap.empty [] 0 rep_empty
  generalize copyUndeletedF _ a.items FSnap.empty 0 = x, copyUndeleted d.deleted a.items [] 0 = y at h1 ⊢
  cases h1 with
  | err e => rfl
  | panic p => rfl
  | @ok x y h =>
    obtain ⟨f1, n1⟩ := x
    obtain ⟨out1, n2⟩ := y
    obtain ⟨hr, rfl⟩ := h
    have h2 := applyUpdatesF_sim a.items d.updated f1 out1 hr
    dsimp only at hr h2 ⊢
    generalize applyUpdatesF (toTree a.items) d.updated f1 = x, applyUpdates a.items d.updated out1 = y at h2 ⊢
    cases h2 with
    | err e => rfl
    | panic p => rfl
    | ok h => simp only [FSnap.toRaw, h.1]

theorem readWithDeltaFast_eq (a : Snap) (d : Delta) : readWithDeltaFast a d = a.readWithDelta d := by
  unfold readWithDeltaFast
  rw [applyDeltaFast_eq]
  rfl

end Tw.Snap.Fast
