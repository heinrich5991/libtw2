import Tw.Model.Packet6
import Tw.Proofs.Packet6Read
import Tw.Proofs.Packet6Spec

/-! What the 0.6 reader accepts is `Valid` (`read_valid`): the writer's preconditions hold of it, so the round trip of
`Packet6Write` applies to it (`Props/C06`, `v6_accepted_is_rewritable`). -/
namespace Tw.Packet6
open Tw.Packet Tw.PacketBits Tw.Gen.Packet6

theorem readBody_valid {h : PacketHeader} (ha : h.ack < 1024) (hn : h.numChunks < 256) {wh : List Warning}
    {payload : List UInt8} {src : Src} {scratch : List UInt8} {hint : Option Bool} {r : ReadOk}
    (hr : readBody h wh payload src scratch hint = .ok r) : Valid r.pkt := by
  obtain ⟨hlen, _, x, tok, rfl, ⟨c, loc, hcv, hp, _⟩ | ⟨hp, _⟩⟩ := readBody_ok hr
  · rw [hp]
    exact (valid_control_iff _ _ _).mpr ⟨ha, (controlValue_ok hcv).2.1⟩
  · rw [List.length_append, tokBytes_length] at hlen
    rw [hp]
    exact ⟨ha, hn, hlen⟩

theorem readConnless_valid {bytes payload0 : List UInt8} {wh : List Warning} {r : ReadOk}
    (hlen : payload0.length ≤ MAX_PACKETSIZE - 3)
    (hr : readConnless bytes payload0 wh = .ok r) : Valid r.pkt := by
  rw [(readConnless_ok hr).2.2.2]
  show (payload0.drop 3).length ≤ 1394
  rw [List.length_drop]
  exact Nat.sub_le_sub_right hlen 3

theorem read_valid (t : Huffman.Table) (bytes : List UInt8) (hint : Option Bool) (buffer : Option Nat)
    (r : ReadOk) (hr : read t bytes hint buffer = .ok r) : Valid r.pkt := by
  obtain ⟨hlen, _, hcase⟩ := read_ok_cases t bytes hint buffer r hr
  obtain ⟨_, ha, hnc⟩ := headerOf_lt bytes
  rcases hcase with h | h | ⟨_, _, _, _, _, h⟩
  · exact readConnless_valid (by rw [List.length_drop]; exact Nat.sub_le_sub_right hlen 3) h
  · exact readBody_valid ha hnc h
  · exact readBody_valid ha hnc h

end Tw.Packet6
