import Tw.Proofs.DemoHl
import Tw.Proofs.SnapAccepted

/-! The objects of a snapshot built by the high-level writer are the objects handed in. -/
namespace Tw.DemoHl
open Tw.Demo Tw.Snap

/-- `Snap::type_id` only looks at the raw items -/
def rawTypeOf (r : RawSnap) (t : Nat) : Option (Option TypeId) := (Snap.mk r []).typeId t

theorem typeId_eq_rawTypeOf (s : Snap) (t : Nat) : s.typeId t = rawTypeOf s.raw t := rfl

/-- the typed view of one raw item: `none` for registry items and items of unknown type -/
def viewRaw (r : RawSnap) (p : Int × List Int) : Option Item :=
  match rawTypeOf r (keyType p.1) with
  | some (some tid) => some ⟨tid, keyId p.1, p.2⟩
  | _ => none

theorem viewRaw_reg (r : RawSnap) (p : Int × List Int) (h : keyType p.1 = typeIdEx) : viewRaw r p = none := by
  unfold viewRaw rawTypeOf Snap.typeId
  simp [h]

theorem viewRaw_of_type (r : RawSnap) (k : Int) (d : List Int) (tid : TypeId)
    (h : rawTypeOf r (keyType k) = some (some tid)) : viewRaw r (k, d) = some ⟨tid, keyId k, d⟩ := by
  simp only [viewRaw, h]

theorem itemsLoop_spec (s : Snap) (m : Items) (rem : Nat) (l : List (TypeId × Nat × List Int))
    (h : itemsLoop s m rem = some l) :
    l.map (fun (x : TypeId × Nat × List Int) => (⟨x.1, x.2.1, x.2.2⟩ : Item)) = m.filterMap (viewRaw s.raw) := by
  fun_induction itemsLoop s m rem generalizing l
  case case1 => cases h; rfl
  case case3 k d r rem ht ih =>
    have hv : rawTypeOf s.raw (keyType k) = some none := ht
    simp only [List.filterMap_cons, viewRaw, hv]
    exact ih l h
  case case6 k d r rem tid ht _ l' hl ih =>
    cases h
    have hv : rawTypeOf s.raw (keyType k) = some (some tid) := ht
    simp only [List.filterMap_cons, viewRaw, hv, List.map_cons, ih l' hl]
  all_goals cases h

theorem snapItems_spec (s : Snap) (its : List Item) (h : snapItems s = some its) :
    its = s.raw.items.filterMap (viewRaw s.raw) := by
  unfold snapItems at h
  cases hi : s.items with
  | none => simp [hi] at h
  | some l =>
    simp only [hi, Option.some.injEq] at h
    subst h
    unfold Snap.items at hi
    split at hi
    · cases hi
    · exact itemsLoop_spec s _ _ l hi

-- keys and UUID data are compared as they stand: unfolding them in a unification runs into their arithmetic
attribute [local irreducible] uuidToData keyOf

/-- the raw items are the registry items plus exactly one item for every object of `added` -/
structure TracksRaw (r : RawSnap) (added : List Item) : Prop where
  sound : ∀ p ∈ r.items, keyType p.1 = typeIdEx ∨ ∃ it ∈ added, viewRaw r p = some it
  complete : ∀ it ∈ added, ∃ p ∈ r.items, viewRaw r p = some it

theorem rawTypeOf_minsert (r : RawSnap) (k : Int) (d : List Int) (t : Nat) (hk : keyOf typeIdEx t ≠ k) :
    rawTypeOf ⟨minsert k d r.items⟩ t = rawTypeOf r t := by
  unfold rawTypeOf Snap.typeId RawSnap.item
  simp only [mfind_minsert, hk, if_false]

theorem viewRaw_minsert {r : RawSnap} {k : Int} {d : List Int}
    (hne : ∀ p ∈ r.items, keyOf typeIdEx (keyType p.1) ≠ k) :
    ∀ p ∈ r.items, viewRaw ⟨minsert k d r.items⟩ p = viewRaw r p := by
  intro p hp
  unfold viewRaw
  rw [rawTypeOf_minsert r k d (keyType p.1) (hne p hp)]

/-- One lemma for both inserts `Builder::add_item` makes: the view of the new item is nothing for the registry item of a
UUID type (`hreg`), the object otherwise.  `hne` keeps the views of the items already there. -/
theorem tracksRaw_minsert {r : RawSnap} {added : List Item} (ht : TracksRaw r added)
    {k : Int} {d : List Int} (hk : mfind k r.items = none)
    (hne : ∀ p ∈ r.items, keyOf typeIdEx (keyType p.1) ≠ k)
    (hreg : viewRaw ⟨minsert k d r.items⟩ (k, d) = none → keyType k = typeIdEx) :
    TracksRaw ⟨minsert k d r.items⟩ ((viewRaw ⟨minsert k d r.items⟩ (k, d)).toList ++ added) := by
  have hview := viewRaw_minsert (d := d) hne
  have hmem : ∀ p, p ∈ minsert k d r.items ↔ p ∈ (k, d) :: r.items := fun _ => (minsert_perm hk).mem_iff
  constructor
  · intro p hp
    rcases List.mem_cons.mp ((hmem p).mp hp) with rfl | hp'
    · cases hv : viewRaw ⟨minsert k d r.items⟩ (k, d) with
      | none => exact .inl (hreg hv)
      | some it => exact .inr ⟨it, List.mem_cons_self, rfl⟩
    · rcases ht.sound p hp' with h | ⟨it, hit, hv⟩
      · exact .inl h
      · exact .inr ⟨it, List.mem_append_right _ hit, (hview p hp').trans hv⟩
  · intro it hit
    rcases List.mem_append.mp hit with h | hit'
    · exact ⟨(k, d), (hmem _).mpr List.mem_cons_self, Option.mem_toList.mp h⟩
    · obtain ⟨p, hp, hv⟩ := ht.complete it hit'
      exact ⟨p, (hmem p).mpr (List.mem_cons_of_mem _ hp), (hview p hp).trans hv⟩

theorem tracksRaw_rawAddItem {r raw : RawSnap} {added : List Item} (ht : TracksRaw r added)
    {t id : Nat} {data : List Int} {tid : TypeId} (ht0 : 0 < t) (htl : t < 65536) (hid : id < 65536)
    (ha : r.addItem (keyOf t id) data = .ok raw) (htype : rawTypeOf raw t = some (some tid)) :
    TracksRaw raw (⟨tid, id, data⟩ :: added) := by
  obtain ⟨hitems, hnone⟩ := RawSnap.addItem_eq ha
  obtain rfl : raw = ⟨minsert (keyOf t id) data r.items⟩ := by cases raw; exact congrArg _ hitems
  have h0 : typeIdEx < 65536 := by rw [typeIdEx_eq]; omega
  have hnew : viewRaw ⟨minsert (keyOf t id) data r.items⟩ (keyOf t id, data) = some ⟨tid, id, data⟩ := by
    have := viewRaw_of_type ⟨minsert (keyOf t id) data r.items⟩ (keyOf t id) data tid
      (by rw [keyType_keyOf htl hid]; exact htype)
    rwa [keyId_keyOf hid] at this
  have := tracksRaw_minsert (d := data) ht hnone
    (fun p _ => keyOf_ne_of_type h0 htl (keyType_lt _) hid (by rw [typeIdEx_eq]; omega))
    (fun h => nomatch hnew.symm.trans h)
  rwa [hnew] at this

theorem rawSnap_eta (r : RawSnap) : r = ⟨r.items⟩ := by cases r; rfl

theorem rawTypeOf_ordinal (r : RawSnap) {o : Nat} (h0 : 0 < o) (h1 : o < offsetExt) :
    rawTypeOf r o = some (some (.ordinal o)) := by
  unfold rawTypeOf Snap.typeId
  have : ¬ o = typeIdEx := by rw [typeIdEx_eq]; omega
  simp only [this, if_false, h1, if_true]

theorem rawTypeOf_uuid (r : RawSnap) {t : Nat} {u : Int} (ht : offsetExt ≤ t) (hu : IsUuid u)
    (h : mfind (keyOf typeIdEx t) r.items = some (uuidToData u)) :
    rawTypeOf r t = some (some (.uuid u)) := by
  unfold rawTypeOf Snap.typeId RawSnap.item
  have h0 : ¬ t = typeIdEx := by rw [typeIdEx_eq]; rw [offsetExt_eq] at ht; omega
  have h1 : ¬ t < offsetExt := by omega
  simp only [h0, if_false, h1, h, dataToUuid_uuidToData hu]

theorem tracksRaw_addItem {b b' : Builder} {it : Item} {added : List Item} (hb : b.Inv) (hv : it.valid)
    (ht : TracksRaw b.snap.raw added) (h : b.addItem it.tid it.id it.data = some (b', none)) :
    TracksRaw b'.snap.raw (it :: added) := by
  obtain ⟨tid, id, data⟩ := it
  obtain ⟨hvt, hid, hd⟩ := hv
  simp only at hvt hid h
  obtain ⟨hnr1, hnr2⟩ := hb.next_range
  rw [offsetExt_eq] at hnr1
  have h0 : typeIdEx < 65536 := by rw [typeIdEx_eq]; omega
  revert h
  fun_cases Builder.addItem b tid id data
  all_goals intro h
  case case3 o ho raw ha =>
    -- an ordinal type is its own type number
    cases h
    have ho := Decidable.not_not.mp ho
    exact tracksRaw_rawAddItem ht ho.1 (by have := ho.2; rw [offsetExt_eq] at this; omega) hid ha
      (rawTypeOf_ordinal _ ho.1 ho.2)
  case case5 u t hf raw ha =>
    -- a UUID type seen before: its registry item is in the snapshot and stays
    cases h
    obtain ⟨hr1, hr2⟩ := hb.ext_range u t hf
    obtain ⟨_, htl, hreg⟩ := hb.ok.ext_reg u t hf
    rw [offsetExt_eq] at hr1
    refine tracksRaw_rawAddItem ht (by omega) htl hid ha (rawTypeOf_uuid _ (by rw [offsetExt_eq]; omega) hvt ?_)
    rw [(RawSnap.addItem_eq ha).1, mfind_minsert, if_neg (keyOf_ne_of_type h0 htl htl hid (by rw [typeIdEx_eq]; omega))]
    exact hreg
  case case10 u hf t _ hlt raw1 ha1 b1 raw2 ha2 =>
    -- a new UUID type: first its registry item under the next free number, then the object's item
    have hb' := (Prod.mk.inj (Option.some.inj h)).1
    subst hb'
    have hlt := Decidable.not_not.mp hlt
    obtain ⟨hitems1, hnone1⟩ := RawSnap.addItem_eq ha1
    have htl : b.nextTypeId < 65536 := by omega
    have t1 := tracksRaw_minsert (d := uuidToData u) ht hnone1
      (by
        intro p hp e
        have := congrArg keyId e
        rw [keyId_keyOf (keyType_lt _), keyId_keyOf htl] at this
        rcases hb.types p hp with hlow | ⟨u', hu'⟩
        · rw [offsetExt_eq] at hlow; omega
        · have := (hb.ext_range u' _ hu').2; omega)
      (fun _ => keyType_keyOf h0 htl)
    rw [viewRaw_reg _ (_, uuidToData u) (keyType_keyOf h0 htl), ← hitems1, ← rawSnap_eta] at t1
    refine tracksRaw_rawAddItem t1 (by omega) htl hid ha2
      (rawTypeOf_uuid _ (by rw [offsetExt_eq]; omega) hvt ?_)
    rw [(RawSnap.addItem_eq ha2).1, mfind_minsert, if_neg (keyOf_ne_of_type h0 htl htl hid (by rw [typeIdEx_eq]; omega)),
      hitems1, mfind_minsert, if_pos rfl]
  all_goals simp at h

theorem tracksRaw_addItems (items : List Item) (hv : ∀ it ∈ items, it.valid)
    (b b' : Builder) (added : List Item) (hb : b.Inv) (ht : TracksRaw b.snap.raw added)
    (h : addItems b items = .ok b') : TracksRaw b'.snap.raw (items.reverse ++ added) := by
  fun_induction addItems b items generalizing added
  case case1 => exact AddResult.ok.inj h ▸ ht
  case case4 b it rest b1 ha ih =>
    have hvi := hv it List.mem_cons_self
    have := ih (fun i hi => hv i (List.mem_cons_of_mem _ hi)) (it :: added)
      (Builder.addItem_inv hb hvi.1 hvi.2.1 hvi.2.2 ha) (tracksRaw_addItem hb hvi ht ha) h
    rwa [List.reverse_cons, List.append_assoc]
  all_goals cases h

/-- what a recycled builder holds (`Snap::recycle` keeps the registry items of the UUID types and drops the objects) -/
def Clean (r : RawSnap) : Prop := ∀ p ∈ r.items, keyType p.1 = typeIdEx

theorem tracksRaw_of_clean {r : RawSnap} (h : Clean r) : TracksRaw r [] :=
  ⟨fun p hp => Or.inl (h p hp), fun it hit => by simp at hit⟩

theorem TracksRaw.mem_iff {r : RawSnap} {added : List Item} (ht : TracksRaw r added) (it : Item) :
    it ∈ r.items.filterMap (viewRaw r) ↔ it ∈ added := by
  rw [List.mem_filterMap]
  constructor
  · rintro ⟨p, hp, hvw⟩
    rcases ht.sound p hp with h0 | ⟨it', hit', hv'⟩
    · rw [viewRaw_reg _ _ h0] at hvw; cases hvw
    · cases Option.some.inj (hv'.symm.trans hvw); exact hit'
  · exact ht.complete it

theorem built_items {b0 b : Builder} {items its : List Item} (hb0 : b0.Inv) (hc : Clean b0.snap.raw)
    (hv : ∀ it ∈ items, it.valid) (hadd : addItems b0 items = .ok b) (hs : snapItems b.snap = some its) :
    ∀ it, it ∈ its ↔ it ∈ items := by
  intro it
  rw [snapItems_spec b.snap its hs, (tracksRaw_addItems items hv b0 b [] hb0 (tracksRaw_of_clean hc) hadd).mem_iff,
    List.append_nil, List.mem_reverse]

theorem snapItems_ne_none_of_accepted {s : Snap} (hs : Accepted s) : snapItems s ≠ none := by
  have := items_ne_none hs
  unfold snapItems
  cases h : s.items with
  | none => exact absurd h this
  | some l => simp

theorem accepted_of_extOk {s : Snap} (hs : ExtOk s) : Accepted s :=
  accepted_of_buildFromRaw hs.raw_wf (buildFromRaw_of_extOk hs)

theorem snapItems_ne_none {s : Snap} (hs : ExtOk s) : snapItems s ≠ none :=
  snapItems_ne_none_of_accepted (accepted_of_extOk hs)

/-- the form `Props/C15.accepted_snapshot_objects` is stated with; it follows from `Inv` (`Inv.inv2`) -/
structure DemoWriter.Inv2 (w : DemoWriter) : Prop where
  inv : w.Inv
  clean : Clean w.builder.snap.raw

/-- the builder of a reachable state is a recycled snapshot, so it holds registry items only -/
theorem DemoWriter.Inv.inv2 {w : DemoWriter} (h : w.Inv) : w.Inv2 := ⟨h, recycle_items_reg h.sok h.builder⟩

theorem accepted_snap_items (objSize : Nat → Option Nat) (w w' : DemoWriter) (hinv : w.Inv) (tick : Int)
    (items : List Item) (hv : ∀ it ∈ items, it.valid)
    (h : w.writeSnap objSize tick items = (w', .ok)) :
    ∃ its, snapItems w'.snap = some its ∧ ∀ it, it ∈ its ↔ it ∈ items := by
  obtain ⟨b, b', bs, inner1, ha⟩ := writeSnap_accepted objSize w w' tick items h
  have hb := addItems_inv items hv w.builder b hinv.binv ha.added
  have hsnap : w'.snap = b.snap := by rw [ha.eq]
  rw [hsnap]
  cases hs : snapItems b.snap with
  | none => exact absurd hs (snapItems_ne_none hb.ok)
  | some its => exact ⟨its, rfl, built_items hinv.binv hinv.inv2.clean hv ha.added hs⟩

end Tw.DemoHl
