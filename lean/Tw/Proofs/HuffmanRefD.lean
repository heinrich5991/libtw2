import Tw.Proofs.HuffmanTree

/-! Whenever `CHuffman::Decompress` (model `refDecompress`: lookup table, 32-bit bit buffer with its
unsigned wrap-around, "no more bits" error) decodes an input successfully, the Rust decoder (model
`decompress`) returns the same bytes. -/
namespace Tw.Huffman

/-- `(Bits, Bitcount, pSrc..pSrcEnd)` represents the explicit bit list `L` (followed by endless
zeros): either the buffer is in its normal state, or the input is exhausted and `Bitcount` has
wrapped around (its value is then meaningless, `Bits` is 0). -/
def Rep (bits bc : Nat) (src : List UInt8) (L : List Bool) : Prop :=
  (bc ≤ 32 ∧ bits < 2 ^ bc ∧ L = natBits bc bits ++ src.flatMap byteBits)
    ∨ (bits = 0 ∧ src = [] ∧ L = [])

/-- the last conjunct: the reference looks up the low `LUTBITS` bits before it refills -/
theorem refFill_rep (src : List UInt8) :
    ∀ (bits bc : Nat) (L : List Bool), Rep bits bc src L →
      Rep (refFill bits bc src).1 (refFill bits bc src).2.1 (refFill bits bc src).2.2 L
        ∧ ((refFill bits bc src).2.1 ≥ 24 ∨ (refFill bits bc src).2.2 = [])
        ∧ (bc ≥ LUTBITS → (refFill bits bc src).1 % LUTSIZE = bits % LUTSIZE) := by
  simp only [LUTBITS, LUTSIZE]
  induction src with
  | nil => intro bits bc L h; simp [refFill, h]
  | cons b src ih =>
    intro bits bc L h
    rcases h with ⟨h1, h2, h3⟩ | ⟨_, h2, _⟩
    · by_cases hc : bc < 24
      · simp only [refFill, hc, if_true]
        obtain ⟨hlt, hin⟩ := natBits_or_shift bc bits 8 b.toNat h2 b.toNat_lt
        have hrep : Rep (bits ||| (b.toNat <<< bc)) (bc + 8) src L :=
          Or.inl ⟨by omega, hlt, by rw [hin, h3, List.flatMap_cons, List.append_assoc]; rfl⟩
        obtain ⟨i1, i2, i3⟩ := ih _ _ L hrep
        refine ⟨i1, i2, fun h10 => ?_⟩
        -- the byte lies above the low ten bits
        have : 2 ^ bc = 1024 * 2 ^ (bc - 10) := by
          rw [show (1024 : Nat) = 2 ^ 10 by rfl, ← Nat.pow_add]; congr 1; omega
        rw [i3 (by omega), Nat.or_comm, ← Nat.shiftLeft_add_eq_or_of_lt h2, Nat.shiftLeft_eq, this,
          Nat.mul_left_comm, Nat.mul_add_mod]
      · simp only [refFill, hc, if_false]
        exact ⟨Or.inl ⟨h1, h2, h3⟩, Or.inl (by omega), fun _ => trivial⟩
    · cases h2

theorem lutWalk_inner (t : Table) (h : WellFormed t) (k : Nat) : ∀ (nd v : Nat), Inner nd →
    NUM_SYMBOLS ≤ lutWalk t k nd v → Inner (lutWalk t k nd v) := by
  induction k with
  | zero => intro nd v hi _; exact hi
  | succ k ihk =>
    intro nd v hi
    simp only [lutWalk, lutWalkF]
    by_cases hc : childF (node t) nd (v % 2 == 1) < NUM_SYMBOLS
    · simp only [hc, if_true]
      exact fun hh => absurd hh (Nat.not_le.mpr hc)
    · simp only [hc, if_false]
      exact ihk _ _ (hi.child h (Nat.le_of_not_lt hc))

theorem wrapSub_of_le (a b : Nat) (ha : a ≤ 32) (hb : b ≤ a) : wrapSub a b = a - b := by
  have h1 : a + TWO32 - b % TWO32 = TWO32 + (a - b) := by
    rw [Nat.mod_eq_of_lt (by simp only [TWO32]; omega)]; omega
  rw [wrapSub, h1, Nat.add_mod_left, Nat.mod_eq_of_lt (by simp only [TWO32]; omega)]

/-- Either the `d` bits are there, or the input is exhausted and the missing ones are `k` of the implicit zeros
(`Bitcount` then wraps around, which `Rep` allows once `src = []`). -/
theorem rep_take (bits bc : Nat) (src : List UInt8) (L : List Bool) (d : Nat)
    (h : Rep bits bc src L) (hd : bc ≥ d ∨ src = []) :
    ∃ L' k, L ++ List.replicate k false = natBits d bits ++ L'
      ∧ Rep (bits / 2 ^ d) (wrapSub bc d) src L' := by
  rcases h with ⟨h1, h2, h3⟩ | ⟨h1, h2, h3⟩
  · by_cases hge : bc ≥ d
    · refine ⟨natBits (bc - d) (bits / 2 ^ d) ++ src.flatMap byteBits, 0, ?_, Or.inl ⟨?_, ?_, ?_⟩⟩
      · have : bc = d + (bc - d) := by omega
        rw [h3]
        conv => lhs; rw [this, natBits_add]
        simp
      · rw [wrapSub_of_le bc d h1 hge]; omega
      · rw [wrapSub_of_le bc d h1 hge]
        exact div_two_pow_lt (by rwa [Nat.sub_add_cancel hge])
      · rw [wrapSub_of_le bc d h1 hge]
    · have hs : src = [] := by rcases hd with h | h; omega; exact h
      subst hs
      have hz : bits / 2 ^ d = 0 := by
        apply Nat.div_eq_of_lt
        exact lt_two_pow_of_le h2 (by omega)
      have hz' : bits / 2 ^ bc = 0 := Nat.div_eq_of_lt h2
      refine ⟨[], d - bc, ?_, Or.inr ⟨hz, rfl, rfl⟩⟩
      have : d = bc + (d - bc) := by omega
      rw [h3]
      conv => rhs; rw [this, natBits_add, hz', natBits_zero]
      simp
  · subst h1 h2 h3
    refine ⟨[], d, ?_, Or.inr ⟨by simp, rfl, rfl⟩⟩
    simp [natBits_zero]

theorem refDeep_leaf (t : Table) (h : WellFormed t) (src : List UInt8) (fuel : Nat) :
    ∀ (nd bits bc : Nat) (L : List Bool), Inner nd → Rep bits bc src L → (bc ≥ 1 ∨ src = []) →
      ∀ r bits' bc', refDeep t fuel nd bits bc = .leaf r bits' bc' →
        ∃ p L' k, walk t nd p = some r ∧ L ++ List.replicate k false = p ++ L'
          ∧ Rep bits' bc' src L' := by
  induction fuel with
  | zero => intro nd bits bc L _ _ _ r bits' bc' hd; simp [refDeep] at hd
  | succ f ih =>
    intro nd bits bc L hi hrep hbc r bits' bc' hd
    obtain ⟨L1, k1, e1, hrep1⟩ := rep_take bits bc src L 1 hrep hbc
    simp only [natBits, Nat.pow_one, List.cons_append, List.nil_append] at e1 hrep1
    simp only [refDeep, child] at hd
    by_cases hleaf : childF (node t) nd (bits % 2 == 1) < NUM_SYMBOLS
    · simp only [hleaf, if_true] at hd
      cases hd
      exact ⟨[bits % 2 == 1], L1, k1, walk_leaf hleaf, by simpa using e1, hrep1⟩
    · simp only [hleaf, if_false] at hd
      by_cases hz : wrapSub bc 1 = 0
      · simp [hz] at hd
      · simp only [hz, if_false] at hd
        obtain ⟨p, L', k, w, e2, hrep2⟩ := ih _ _ _ L1 (hi.child h (Nat.le_of_not_lt hleaf)) hrep1
          (Or.inl (by omega)) r bits' bc' hd
        refine ⟨(bits % 2 == 1) :: p, L', k1 + k, (walk_inner (Nat.le_of_not_lt hleaf) p).trans w, ?_,
          hrep2⟩
        · rw [← List.replicate_append_replicate, ← List.append_assoc, e1, List.cons_append, e2]
          rfl

theorem refLoop_agrees (t : Table) (h : WellFormed t) (cap : Nat) (fuel : Nat) :
    ∀ (bits bc : Nat) (src : List UInt8) (out : List UInt8) (L : List Bool) (res : List UInt8),
      Rep bits bc src L → out.length ≤ cap →
      refLoop t cap fuel bits bc src out = .ok res → run t cap ROOT_IDX out L = .ok res := by
  induction fuel with
  | zero => intro bits bc src out L res _ _ hr; simp [refLoop] at hr
  | succ f ih =>
    intro bits bc src out L res hrep hlen hr
    obtain ⟨hrep1, hfull, hlow⟩ := refFill_rep src bits bc L hrep
    rw [refLoop] at hr
    generalize hb1 : (refFill bits bc src).1 = b1 at *
    generalize hc1 : (refFill bits bc src).2.1 = c1 at *
    generalize hs1 : (refFill bits bc src).2.2 = s1 at *
    have hnd : refNode t bits bc b1 = lut t (b1 % LUTSIZE) := by
      simp only [refNode]
      by_cases h10 : bc ≥ LUTBITS
      · simp only [h10, if_true]
        rw [hlow h10]
      · simp only [h10, if_false]
    simp only [hnd, refBody] at hr
    have hmod : b1 % LUTSIZE < LUTSIZE := Nat.mod_lt _ (by decide)
    obtain ⟨lw1, lw2⟩ := lutWalk_spec t LUTBITS ROOT_IDX (b1 % LUTSIZE) (by decide)
    -- what happens after a symbol `r` was decoded with the buffer in state (b2, c2) ~ L2
    have hfin : ∀ (r b2 c2 : Nat) (P L2 : List Bool) (k : Nat), walk t ROOT_IDX P = some r →
        L ++ List.replicate k false = P ++ L2 → Rep b2 c2 s1 L2 →
        (if r = EOF then RefDec.ok out.reverse
          else if out.length ≥ cap then RefDec.error
          else refLoop t cap f b2 c2 s1 (UInt8.ofNat r :: out)) = .ok res →
        run t cap ROOT_IDX out L = .ok res := by
      intro r b2 c2 P L2 k hw hL hrep2 hres
      rw [← run_append_zeros t h cap k L ROOT_IDX out inner_root hlen, hL,
        run_walk t cap P ROOT_IDX out L2 r hw]
      by_cases he : r = EOF
      · simp only [he, if_true] at hres ⊢
        cases hres; rfl
      · simp only [he, if_false] at hres ⊢
        by_cases hc : out.length ≥ cap
        · simp [hc] at hres
        · simp only [hc, if_false] at hres ⊢
          exact ih b2 c2 s1 _ L2 res hrep2 (by simp; omega) hres
    by_cases hleaf : lut t (b1 % LUTSIZE) < NUM_SYMBOLS
    · -- the table found a symbol
      simp only [hleaf, if_true] at hr
      have hd := (lutOk_iff t).mp h.lutOk _ hmod hleaf
      obtain ⟨d1, d2, d3⟩ := lw1 hleaf
      rw [← hd] at d1 d2 d3
      have hd10 : symLen t (lut t (b1 % LUTSIZE)) ≤ 10 := d2
      have hw : walk t ROOT_IDX (natBits (symLen t (lut t (b1 % LUTSIZE))) b1) =
          some (lut t (b1 % LUTSIZE)) := by
        rw [← natBits_mod _ 10 b1 hd10]; exact d3
      obtain ⟨L2, k, e, hrep2⟩ := rep_take b1 c1 s1 L (symLen t (lut t (b1 % LUTSIZE))) hrep1
        (hfull.imp_left fun hf => by omega)
      exact hfin _ _ _ _ L2 k hw e hrep2 hr
    · -- the walk continues below the table
      simp only [hleaf, if_false] at hr
      have hge : NUM_SYMBOLS ≤ lut t (b1 % LUTSIZE) := by omega
      obtain ⟨L1, k1, e1, hrep2⟩ := rep_take b1 c1 s1 L LUTBITS hrep1
        (hfull.imp_left fun hf => by simp only [LUTBITS]; omega)
      have hbc : wrapSub c1 LUTBITS ≥ 1 ∨ s1 = [] := by
        rcases hfull with hf | hf
        · rcases hrep1 with ⟨g1, _, _⟩ | ⟨_, g2, _⟩
          · left; rw [wrapSub_of_le c1 LUTBITS g1 (by simp only [LUTBITS]; omega)]
            simp only [LUTBITS]; omega
          · right; exact g2
        · right; exact hf
      have hinner := lutWalk_inner t h LUTBITS ROOT_IDX (b1 % LUTSIZE) inner_root hge
      revert hr
      cases hdeep : refDeep t NUM_NODES (lut t (b1 % LUTSIZE)) (b1 / 2 ^ LUTBITS) (wrapSub c1 LUTBITS) with
      | error => intro hr; simp at hr
      | diverge => intro hr; simp at hr
      | leaf r b2 c2 =>
        intro hr
        simp only at hr
        obtain ⟨p, L2, k2, w, e2, hrep3⟩ := refDeep_leaf t h s1 NUM_NODES _ _ _ L1 hinner hrep2 hbc
          r b2 c2 hdeep
        have hw : walk t ROOT_IDX (natBits LUTBITS b1 ++ p) = some r := by
          have hm : natBits LUTBITS (b1 % LUTSIZE) = natBits LUTBITS b1 :=
            natBits_mod LUTBITS 10 b1 (by decide)
          have := lw2 hge p
          rw [hm] at this
          rw [this]; exact w
        refine hfin r b2 c2 _ L2 (k1 + k2) hw ?_ hrep3 hr
        rw [← List.replicate_append_replicate, ← List.append_assoc, e1, List.append_assoc, e2, List.append_assoc]

theorem refDecompress_agrees (t : Table) (h : WellFormed t) (fuel : Nat)
    (input : List UInt8) (cap : Nat) (res : List UInt8)
    (hr : refDecompress t fuel input cap = .ok res) : decompress t input cap = .ok res := by
  rw [decompress_eq_run]
  apply refLoop_agrees t h cap fuel 0 0 input [] _ res _ (by simp) hr
  left
  exact ⟨by omega, by simp, by simp [natBits]⟩

end Tw.Huffman
