import Tw.Model.ServerBrowse
import Tw.Model.ServerBrowseEnc  -- for `rangeMask` only
import Tw.Proofs.Packer

/-! What `parse_server_info` returns: never a panic, sane counts, the `received` mask of each kind;
and that the fuel the model gives the client loop suffices.

What a change of the source may falsify about the regenerated constants (`SLOT_SKIP_FROM`,
`PACKET_NO_REJECT_FROM` against `RECEIVED_BITS`) is a hypothesis (`hs`, `hg`) of the lemma that needs
it, which `Props/C18` discharges by `decide`: `≤` for totality, `=` for the round trip of
`ServerBrowseEncode`, where every slot below `RECEIVED_BITS` must be kept. -/
namespace Tw.ServerBrowse
open Tw.Gen.Browse

/-! ### bit masks

Equalities between masks are proved bit by bit; a statement about one bit is a Boolean combination
of comparisons of indices, which `omega` decides once it is read as a proposition. -/

theorem two_pow_and_ne {a b : Nat} (h : a ≠ b) : 2 ^ a &&& 2 ^ b = 0 := by
  apply Nat.eq_of_testBit_eq
  intro i
  rw [Nat.testBit_and, Nat.testBit_two_pow, Nat.testBit_two_pow, Nat.zero_testBit, Bool.eq_false_iff]
  simp only [ne_eq, Bool.and_eq_true, decide_eq_true_eq]
  omega

theorem rangeMask_testBit (off len i : Nat) :
    (rangeMask off len).testBit i = (decide (off ≤ i) && decide (i < off + len)) := by
  unfold rangeMask
  rw [Nat.testBit_shiftLeft, Nat.testBit_two_pow_sub_one, Bool.eq_iff_iff]
  simp only [Bool.and_eq_true, decide_eq_true_eq, ge_iff_le]
  omega

theorem rangeMask_disjoint {o1 l1 o2 l2 : Nat} (h : o1 + l1 ≤ o2 ∨ o2 + l2 ≤ o1) :
    rangeMask o1 l1 &&& rangeMask o2 l2 = 0 := by
  apply Nat.eq_of_testBit_eq
  intro i
  rw [Nat.testBit_and, rangeMask_testBit, rangeMask_testBit, Nat.zero_testBit, Bool.eq_false_iff]
  simp only [ne_eq, Bool.and_eq_true, decide_eq_true_eq]
  omega

theorem rangeMask_zero (off : Nat) : rangeMask off 0 = 0 := by simp [rangeMask]

theorem rangeMask_ne_zero {off len : Nat} (h : 0 < len) : rangeMask off len ≠ 0 := by
  intro e
  have := rangeMask_testBit off len off
  rw [e, Nat.zero_testBit] at this
  simp only [Nat.le_refl, decide_true, Bool.true_and, Bool.false_eq, decide_eq_false_iff_not] at this
  omega

theorem rangeMask_succ (j n : Nat) : 2 ^ j ||| rangeMask (j + 1) n = rangeMask j (n + 1) := by
  apply Nat.eq_of_testBit_eq
  intro i
  rw [Nat.testBit_or, rangeMask_testBit, rangeMask_testBit, Nat.testBit_two_pow, Bool.eq_iff_iff]
  simp only [Bool.or_eq_true, Bool.and_eq_true, decide_eq_true_eq]
  omega

/-! ### What a parser returns

Each layer of `parse_server_info` is described once, in the form "nothing, or a value of which this
holds"; that it does not panic and what holds of a value it returned are read off that. -/

def Yields {α : Type} (x : Outcome (Option α)) (P : α → Prop) : Prop :=
  x = .ok none ∨ ∃ a, x = .ok (some a) ∧ P a

theorem Yields.ne_panic {α : Type} {x : Outcome (Option α)} {P : α → Prop} (h : Yields x P) (s : String) :
    x ≠ .panic s := by
  rcases h with h | ⟨a, h, -⟩ <;> rw [h] <;> exact fun e => nomatch e

theorem Yields.of_eq {α : Type} {x : Outcome (Option α)} {P : α → Prop} (h : Yields x P) {a : α}
    (hx : x = .ok (some a)) : P a := by
  rcases h with h | ⟨b, h, hb⟩
  · rw [h] at hx; cases hx
  · rw [h] at hx; cases hx; exact hb

theorem Yields.none {α : Type} {P : α → Prop} : Yields (.ok none) P := Or.inl rfl

theorem Yields.some {α : Type} {P : α → Prop} {a : α} (h : P a) : Yields (.ok (some a)) P := Or.inr ⟨a, rfl, h⟩

theorem Yields.mono {α : Type} {x : Outcome (Option α)} {P Q : α → Prop} (h : Yields x P) (hpq : ∀ a, P a → Q a) :
    Yields x Q :=
  Or.imp id (fun ⟨a, hx, ha⟩ => ⟨a, hx, hpq a ha⟩) h

theorem shl1_ok {site : String} {n : Nat} (h : n < RECEIVED_BITS) : shl1 site n = .ok (1 <<< n) := by
  unfold shl1
  rw [if_neg (by omega)]

/-- the `received` bit `parseBody` starts from: that of the packet number for an extended info -/
theorem shl1_ite_ok {c : Prop} [Decidable c] {site : String} {n : Nat} (h : n < RECEIVED_BITS) :
    (if c then shl1 site n else .ok 0) = .ok (if c then 1 <<< n else 0) := by
  split
  · exact shl1_ok h
  · rfl

/-- The client loop appends the `n` clients it keeps; the legacy version sets exactly the bits of
their slots (none from `SLOT_SKIP_FROM` on, so the shift never overflows), the others leave the
mask alone. -/
theorem parseClients_yields (hs : SLOT_SKIP_FROM ≤ RECEIVED_BITS) (ri : Reader Int) (ver : Version) :
    ∀ (fuel j : Nat) (bs : List UInt8) (acc : List ClientInfo) (recv : Nat),
      Yields (parseClients ri ver fuel j bs acc recv) fun r => ∃ n, r.1.length = acc.length + n ∧
        r.2 = (if ver = .v664 then recv ||| rangeMask j n else recv) ∧
        (ver = .v664 → n = 0 ∨ j + n ≤ SLOT_SKIP_FROM) := by
  intro fuel
  induction fuel with
  | zero =>
    exact fun j bs acc recv => .some ⟨0, rfl, by rw [rangeMask_zero, Nat.or_zero, ite_self], fun _ => Or.inl rfl⟩
  | succ fuel ih =>
    intro j bs acc recv
    unfold parseClients
    cases readClient ri ver bs with
    | stop => exact .some ⟨0, rfl, by rw [rangeMask_zero, Nat.or_zero, ite_self], fun _ => Or.inl rfl⟩
    | fail => exact .none
    | client c rest =>
      simp only
      by_cases hv : ver = .v664
      · rw [if_pos hv]
        by_cases hj : j ≥ SLOT_SKIP_FROM
        · rw [if_pos hj]
          refine (ih (j + 1) rest acc recv).mono fun r ⟨n, hl, hr, hb⟩ => ?_
          have hn : n = 0 := by rcases hb hv with h0 | h0 <;> omega
          subst hn
          exact ⟨0, hl, hr, fun _ => Or.inl rfl⟩
        · rw [if_neg hj, shl1_ok (by omega)]
          refine (ih (j + 1) rest (acc ++ [c]) (recv ||| 1 <<< j)).mono fun r ⟨n, hl, hr, hb⟩ =>
            ⟨n + 1, by rw [hl, List.length_append, List.length_singleton, Nat.add_assoc, Nat.add_comm 1], ?_,
              fun _ => Or.inr ?_⟩
          · rw [hr, if_pos hv, if_pos hv, Nat.one_shiftLeft, Nat.or_assoc, rangeMask_succ]
          · rcases hb hv with h0 | h0 <;> omega
      · rw [if_neg hv]
        exact (ih (j + 1) rest (acc ++ [c]) recv).mono fun r ⟨n, hl, hr, _⟩ =>
          ⟨n + 1, by rw [hl, List.length_append, List.length_singleton, Nat.add_assoc, Nat.add_comm 1],
            by rw [hr, if_neg hv, if_neg hv], fun e => absurd e hv⟩

/-- the `received` mask `parseBody` gives a packet: the slots of its clients (legacy), the bit of its
packet number (extended), nothing (single-packet versions) -/
def BodyMask (ver : Version) (packetNo offset : Nat) (p : PartialInfo) : Prop :=
  if ver = .v664 then
    ∃ n, p.received = rangeMask offset n ∧ p.info.clients.length = n ∧ (n = 0 ∨ offset + n ≤ RECEIVED_BITS)
  else p.received = if ver = .v6Ex then 1 <<< packetNo else 0

theorem parseBody_yields (hs : SLOT_SKIP_FROM ≤ RECEIVED_BITS) (ri : Reader Int) (ver : Version)
    (info : ServerInfo) (packetNo offset : Nat) (bs : List UInt8) (hp : packetNo < RECEIVED_BITS) :
    Yields (parseBody ri ver info packetNo offset bs) fun p =>
      (∃ cs, p.info = { info with clients := cs }) ∧ BodyMask ver packetNo offset p := by
  unfold parseBody
  cases skipExtra ver bs with
  | none => exact .none
  | some bs' =>
    simp only [shl1_ite_ok hp]
    rcases parseClients_yields hs ri ver (bs'.length + 1) offset bs' []
      (if ver = Version.v6Ex then 1 <<< packetNo else 0) with h | ⟨⟨cs, r⟩, h, n, hl, hr, hb⟩
    · rw [h]; exact .none
    · rw [h]
      refine .some ⟨⟨cs, rfl⟩, ?_⟩
      unfold BodyMask
      by_cases hv : ver = .v664
      · have h6 : ¬ ver = .v6Ex := by rw [hv]; decide
        rw [if_pos hv]
        simp only [if_pos hv, if_neg h6, Nat.zero_or, List.length_nil, Nat.zero_add] at hl hr
        exact ⟨n, hr, hl, (hb hv).imp id (fun h => by omega)⟩
      · rw [if_neg hv]
        simp only [if_neg hv] at hr
        exact hr

theorem parseHeadMore_some {ri : Reader Int} {token : Int} {bs : List UInt8} {info : ServerInfo} {n : Nat}
    {rest : List UInt8} (h : parseHeadMore ri token bs = some (info, n, rest)) :
    info = { infoVersion := .v6Ex, token := token } ∧ PACKET_NO_MIN ≤ n ∧ n < PACKET_NO_REJECT_FROM := by
  unfold parseHeadMore at h
  cases hr : ri bs with
  | none => rw [hr] at h; cases h
  | some p =>
    rw [hr] at h
    simp only [Option.bind_eq_bind, Option.bind_some] at h
    split at h
    · cases h
    · cases h
      exact ⟨rfl, by omega, by omega⟩

/-- counts of an info are sane: `0 ≤ players ≤ clients ≤ max_clients`, `0 ≤ max_players ≤
max_clients`, and `max_clients` within the version's maximum -/
def CountsSane (i : ServerInfo) : Prop :=
  0 ≤ i.numPlayers ∧ i.numPlayers ≤ i.numClients ∧ i.numClients ≤ i.maxClients ∧
  0 ≤ i.maxPlayers ∧ i.maxPlayers ≤ i.maxClients ∧
  ∀ m, i.infoVersion.maxClients = some m → i.maxClients ≤ (m : Int)

theorem checkHead_sane {ver : Version} {token : Int} {h : RawHead} {info : ServerInfo} {off : Nat}
    (hc : checkHead ver token h = some (info, off)) : CountsSane info ∧ info.infoVersion = ver ∧ info.clients = [] := by
  unfold checkHead at hc
  split at hc
  · cases hc
  split at hc
  · cases hc
  rename_i h1 _
  cases hc
  simp only [not_or] at h1
  have hcounts : 0 ≤ h.numPlayers ∧ h.numPlayers ≤ h.numClients ∧ h.numClients ≤ h.maxClients ∧ 0 ≤ h.maxPlayers ∧
      h.maxPlayers ≤ h.maxClients := by omega
  refine ⟨⟨hcounts.1, hcounts.2.1, hcounts.2.2.1, hcounts.2.2.2.1, hcounts.2.2.2.2, fun m hm => ?_⟩, rfl, rfl⟩
  have hx := h1.2.2.2.1
  simp only [Version.exceedsMax, show ver.maxClients = some m from hm, decide_eq_true_eq] at hx
  exact Int.not_lt.1 hx

/-- the mask of a packet by kind: a normal packet has packet number 0 and carries its offset, an
`iex+` packet the bit of a packet number its head check lets through -/
def KindMask : Received → PartialInfo → Prop
  | .normal ver, p => ∃ offset, BodyMask ver 0 offset p
  | .v6ExMore, p => ∃ n, PACKET_NO_MIN ≤ n ∧ n < PACKET_NO_REJECT_FROM ∧ p.received = 1 <<< n

theorem parseServerInfo_yields (hg : PACKET_NO_REJECT_FROM ≤ RECEIVED_BITS) (hs : SLOT_SKIP_FROM ≤ RECEIVED_BITS)
    (ri : Reader Int) (rv : Received) (bs : List UInt8) :
    Yields (parseServerInfo ri rv bs) fun p =>
      CountsSane p.info ∧ p.info.infoVersion = rv.version ∧ KindMask rv p := by
  unfold parseServerInfo
  cases ri bs with
  | none => exact .none
  | some q =>
    obtain ⟨token, bs1⟩ := q
    cases rv with
    | normal ver =>
      simp only [parseHeadNormal]
      cases readHead ri ver bs1 with
      | none => exact .none
      | some q1 =>
        obtain ⟨raw, bs2⟩ := q1
        simp only
        cases h2 : checkHead ver token raw with
        | none => exact .none
        | some q2 =>
          obtain ⟨info, off⟩ := q2
          obtain ⟨hsane, hver, -⟩ := checkHead_sane h2
          exact (parseBody_yields hs ri ver info 0 off bs2 (by decide)).mono fun p ⟨⟨cs, hcs⟩, hm⟩ =>
            ⟨by rw [hcs]; exact hsane, by rw [hcs]; exact hver, off, hm⟩
    | v6ExMore =>
      simp only
      cases h1 : parseHeadMore ri token bs1 with
      | none => exact .none
      | some q1 =>
        obtain ⟨info, n, bs2⟩ := q1
        obtain ⟨rfl, hlo, hhi⟩ := parseHeadMore_some h1
        refine (parseBody_yields hs ri .v6Ex _ n 0 bs2 (by omega)).mono fun p ⟨⟨cs, hcs⟩, hm⟩ =>
          ⟨?_, by rw [hcs]; rfl, n, hlo, hhi, hm⟩
        rw [hcs]
        exact ⟨Int.le_refl 0, Int.le_refl 0, Int.le_refl 0, Int.le_refl 0, Int.le_refl 0, fun m hm => by cases hm⟩

/-! ### The fuel of the client loop suffices: every iteration consumes at least one byte -/

/-- not strict, so that `Reader.ret` is `Consuming`; that an iteration of the client loop takes at
least one byte is `readStr_rest_lt` -/
def Consuming {α : Type} (r : Reader α) : Prop := ∀ bs a rest, r bs = some (a, rest) → rest.length ≤ bs.length

theorem readStr_rest_lt {bs s rest : List UInt8} (h : readStr bs = some (s, rest)) : rest.length < bs.length := by
  unfold readStr at h
  split at h
  · cases h
  · rename_i hr
    split at h <;> cases h
    exact (Tw.Packer.readString_rest hr).1

theorem readStr_consuming : Consuming readStr := fun _ _ _ h => Nat.le_of_lt (readStr_rest_lt h)

theorem readIntV5_consuming : Consuming readIntV5 := by
  intro bs v rest h
  unfold readIntV5 at h
  split at h
  · cases h
  · rename_i hr
    split at h
    · split at h <;> cases h
      exact Nat.le_of_lt (Tw.Packer.readString_rest hr).1
    · cases h

theorem readIntV7_consuming : Consuming readIntV7 := by
  intro bs v rest h
  unfold readIntV7 at h
  split at h
  · cases h
  · rename_i hr
    cases h
    exact Nat.le_of_lt (Tw.Packer.readInt_rest hr).1

theorem InfoKind.reader_consuming (k : InfoKind) : Consuming k.reader := by
  cases k <;> first | exact readIntV5_consuming | exact readIntV7_consuming

theorem consuming_andThen {α β : Type} {r : Reader α} {f : α → Reader β} (hr : Consuming r)
    (hf : ∀ a, Consuming (f a)) : Consuming (r.andThen f) := by
  intro bs b rest h
  unfold Reader.andThen at h
  cases h1 : r bs with
  | none => simp [h1] at h
  | some p =>
    obtain ⟨a, mid⟩ := p
    simp only [h1] at h
    have := hr _ _ _ h1
    have := hf a _ _ _ h
    omega

theorem consuming_ret {α : Type} (a : α) : Consuming (Reader.ret a) := by
  intro bs b rest h
  simp only [Reader.ret, Option.some.injEq, Prod.mk.injEq] at h
  rw [← h.2]; exact Nat.le_refl _

theorem consuming_ite {α : Type} {c : Prop} [Decidable c] {r1 r2 : Reader α} (h1 : Consuming r1) (h2 : Consuming r2) :
    Consuming (if c then r1 else r2) := by
  split <;> assumption

theorem readClientTail_consuming {ri : Reader Int} (hri : Consuming ri) (ver : Version) (name : List UInt8) :
    Consuming (readClientTail ri ver name) := by
  unfold readClientTail
  refine consuming_andThen (consuming_ite ?_ (consuming_ret _)) (fun p => ?_)
  · exact consuming_andThen readStr_consuming fun _ => consuming_andThen hri fun _ => consuming_ret _
  · obtain ⟨clan, country⟩ := p
    refine consuming_andThen hri fun _ => consuming_andThen ?_ fun _ => consuming_andThen ?_ fun _ => consuming_ret _
    · exact consuming_ite (consuming_ite hri (consuming_andThen hri fun _ => consuming_ret _)) (consuming_ret _)
    · exact consuming_ite (consuming_andThen readStr_consuming fun _ => consuming_ret _) (consuming_ret _)

theorem readClient_rest_lt {ri : Reader Int} (hri : Consuming ri) {ver : Version} {bs rest : List UInt8} {c : ClientInfo}
    (h : readClient ri ver bs = .client c rest) : rest.length < bs.length := by
  unfold readClient at h
  cases h1 : readStr bs with
  | none => simp [h1] at h
  | some p =>
    obtain ⟨name, mid⟩ := p
    simp only [h1] at h
    cases h2 : readClientTail ri ver name mid with
    | none => simp [h2] at h
    | some q =>
      obtain ⟨c', rest'⟩ := q
      simp only [h2, ClientRead.client.injEq] at h
      have := readStr_rest_lt h1
      have := readClientTail_consuming hri ver name _ _ _ h2
      rw [← h.2]; omega

/-- more fuel than bytes changes nothing: the loop ends by running out of input, never of fuel -/
theorem parseClients_fuel {ri : Reader Int} (hri : Consuming ri) (ver : Version) :
    ∀ (fuel₁ fuel₂ j : Nat) (bs : List UInt8) (acc : List ClientInfo) (recv : Nat),
      bs.length < fuel₁ → bs.length < fuel₂ →
      parseClients ri ver fuel₁ j bs acc recv = parseClients ri ver fuel₂ j bs acc recv := by
  intro fuel₁
  induction fuel₁ with
  | zero => intro _ _ _ _ _ h; omega
  | succ f1 ih =>
    intro fuel₂ j bs acc recv h1 h2
    cases fuel₂ with
    | zero => omega
    | succ f2 =>
      unfold parseClients
      cases hc : readClient ri ver bs with
      | stop => rfl
      | fail => rfl
      | client c rest =>
        have hl := readClient_rest_lt hri hc
        -- every recursive call is on `rest`, with the smaller fuels
        simp only [fun j' acc' recv' => ih f2 j' rest acc' recv' (by omega) (by omega)]

end Tw.ServerBrowse
