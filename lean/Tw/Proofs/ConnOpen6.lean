import Tw.Proofs.ConnFairH6

/-!
# 0.6: from a reachable world with one connecting side to a quiescent one

`open_progress6` goes by cases on the two handshake states, of which `Agree6` leaves four: `a` connecting against an
unconnected or pending `b` (one `ready_round6`, then `PendIface.opened`), `a` online against a pending or online `b`
(`PendIface.opened` at once).  Before it, why the role hypothesis is there: a simultaneous open never completes.
-/
namespace Tw.NetSim.P6
open Tw.Conn Tw.Conn6 Tw.Time Tw.NetSim

variable {tl : Bool}

/-- **the connector is told `Ready` (0.6)**: in every reachable world, a side that sent a `Connect`
and is online has `Ready` among its events (and by C01 at most once) -/
theorem ready_of_connector6 (tl : Bool) (sched : List (Move (proto6 tl))) (w : World (proto6 tl))
    (hrun : NetSim.run (World.init (proto6 tl)) sched = some w) (s : Side) {t : Option Nat} {o : Online}
    (hon : (w.get s).conn.state = .online t o) (hcon : hasConnect (w.get s)) : Event.ready ∈ (w.get s).events :=
  ((agree6_run sched _ w (agree6_init tl) hrun).side s).rdy t o hon hcon

/-- **simultaneous open never completes (0.6)**: in every reachable world in which both sides have
sent a `Connect`, neither side is pending or online, and neither has been told `Ready` — each ignores
the other's `Connect`.  So "the connecting side becomes ready" needs the hypothesis that exactly one
side connects; it cannot hold from every reachable state. -/
theorem simultaneous_open6 (tl : Bool) (sched : List (Move (proto6 tl))) (w : World (proto6 tl))
    (hadm : admissible (World.init (proto6 tl)) sched = true) (hrun : run (World.init (proto6 tl)) sched = some w)
    (ha : hasConnect w.a) (hb : hasConnect w.b) :
    (∀ s : Side, stTok (w.get s).conn.state = none) ∧
      Event.ready ∉ w.a.events ∧ Event.ready ∉ w.b.events := by
  have hg := agree6_run sched _ w (agree6_init tl) hrun
  have hsafe : Safe w := safe_of (run_inv (sim6 tl) sched _ w (init_inv (sim6 tl)) hadm hrun)
    (run_hs (hs6 tl) sched _ w init_hs hrun)
  have key : ∀ (e peer : End (proto6 tl)), G tl e peer → G tl peer e → hasConnect e → hasConnect peer →
      stTok e.conn.state = none := by
    intro e peer g1 g2 he hp
    cases hst : e.conn.state with
    | pending t => exact absurd he (g1.pnd t hst).1
    | online t o =>
      rcases g1.onl t o hst with ⟨h1, _, _⟩ | ⟨_, _, tp, h3, _⟩
      · exact absurd he h1
      · exact absurd h3 (g2.excl hp tp)
    | unconnected => rfl
    | connecting => rfl
    | disconnected => rfl
  -- who has sent a `Connect` has sent no `ConnectAccept`, so its peer has not been told `Ready`
  have noacc : ∀ (e peer : End (proto6 tl)), G tl e peer → hasConnect e →
      ¬ ∃ dg ∈ e.out, (proto6 tl).isAccept dg.pkt = true := by
    rintro e peer g he ⟨dg, hdg, hacc⟩
    cases hpk : dg.pkt with
    | control ack t c =>
      cases c <;> simp [proto6, isAccept, hpk] at hacc
      exact g.excl he t ⟨dg, hdg, by rw [hpk]; rfl⟩
    | connless d => simp [proto6, isAccept, hpk] at hacc
    | chunks ack t rr n cs => simp [proto6, isAccept, hpk] at hacc
  refine ⟨fun s => ?_, fun hr => noacc _ _ hg.2 hb (hsafe.ready_after_a hr),
    fun hr => noacc _ _ hg.1 ha (hsafe.ready_after_b hr)⟩
  cases s with
  | a => exact key w.a w.b hg.1 hg.2 ha hb
  | b => exact key w.b w.a hg.2 hg.1 hb ha

/-- … and such worlds are reachable: both applications call `connect` -/
example : ((run (World.init (proto6 false)) [.call .a [] .connect, .call .b [] .connect]).map fun w =>
    (decide (w.a.conn.state = .connecting), decide (w.b.conn.state = .connecting))) = some (true, true) := by
  decide +kernel

def Opened (draws : List Nat) (alt : (proto6 tl).Alt) (w : World (proto6 tl)) : Prop :=
  ∃ k, k ≤ 5 ∧ ∃ s', fairRoundsT draws alt k (FairState.start w) = some s' ∧ s'.w.quiescentH ∧
    (∃ t o s, s'.w.a.conn = ⟨.online t o, s⟩) ∧ Event.ready ∈ s'.w.a.events

theorem opened_of_fh (draws : List Nat) (alt : (proto6 tl).Alt) {w : World (proto6 tl)} {j : Nat} (hj : j ≤ 1)
    {s1 : FairState (proto6 tl)} {ta tb : Option Nat} {La : List (DgH × Nat)}
    (e1 : fairRoundsT draws alt j (FairState.start w) = some s1)
    (hF : OnlineFH (gface6 tl) (ta, true) (tb, false) s1 La) (hr : Event.ready ∈ s1.w.a.events) :
    Opened draws alt w := by
  obtain ⟨s', e, hq, ⟨o, s, hs⟩, hr'⟩ := (pend6 tl).opened Conn6.cfg_ok (sim6 tl) (loct6 tl) draws alt e1 hF hr
  exact ⟨j + 4, by omega, s', e, hq, ⟨ta, o, s, hs⟩, hr'⟩

theorem open_progress6 (tl : Bool) (draws : List Nat) (alt : (proto6 tl).Alt) (nt : Nat)
    (hnt : tokenRandom draws = some nt) (sched : List (Move (proto6 tl))) (w : World (proto6 tl))
    (hadm : admissible (World.init (proto6 tl)) sched = true)
    (hrun : NetSim.run (World.init (proto6 tl)) sched = some w)
    (ha : hasConnect w.a) (hb : ¬ hasConnect w.b)
    (hda : w.a.conn.state ≠ .disconnected) (hdb : w.b.conn.state ≠ .disconnected) :
    Opened draws alt w := by
  have hw := run_inv (sim6 tl) sched _ w (init_inv (sim6 tl)) hadm hrun
  have ht := run_loct (loct6 tl) sched _ w (init_loct (loct6 tl)) hrun
  have hl := run_loc (loc6 tl) sched _ w (init_loc (loc6 tl)) hrun
  have hg := agree6_run sched _ w (agree6_init tl) hrun
  cases hsa : w.a.conn.state with
  | unconnected => exact absurd ha (hg.1.unc hsa).1
  | pending t => exact absurd ha (hg.1.pnd t hsa).1
  | disconnected => exact absurd hsa hda
  | connecting =>
    have hca := conn_eta hsa
    cases hsb : w.b.conn.state with
    | unconnected =>
      have hcb := conn_eta hsb
      obtain ⟨s1, tb, La, e1, hF, hrd⟩ :=
        ready_round6 tl draws alt nt hnt w hw ht _ hca (Or.inl ⟨_, hcb⟩)
      exact opened_of_fh draws alt (j := 1) (Nat.le_refl _) (fairRoundsT_one e1) hF hrd
    | pending t =>
      have hcb := conn_eta hsb
      have hts : t.isSome = !tl := hl.2.1 t (by simp [State.token?, hsb])
      obtain ⟨s1, tb, La, e1, hF, hrd⟩ :=
        ready_round6 tl draws alt nt hnt w hw ht _ hca (Or.inr ⟨t, _, hcb, hts⟩)
      exact opened_of_fh draws alt (j := 1) (Nat.le_refl _) (fairRoundsT_one e1) hF hrd
    | connecting => exact absurd (hg.2.cng hsb).1 hb
    | online t o => exact absurd hsb (no_online_acceptor_while_connecting6 tl sched w hrun .a hsa hb t o)
    | disconnected => exact absurd hsb hdb
  | online ta oa =>
    have hca := conn_eta hsa
    have hrd : Event.ready ∈ w.a.events := hg.1.rdy ta oa hsa ha
    have key : ∀ (tb : Option Nat) (ob : Online), stTok w.b.conn.state = some tb →
        w.b.conn.state.token? = some tb → (pend6 tl).Sh (tb, false) ob w.b.conn → Opened draws alt w := by
      intro tb ob hst htk hsh
      have hab : ta = tb := hg.1.agree hg.2 hl.1.1 hl.2.1 hsa hst
      have htb : tl = true → tb = none := tokS_none hl.2.1 htk
      refine opened_of_fh draws alt (j := 0) (Nat.zero_le _) rfl (ta := ta) (tb := tb) (OnlineFH.start
        ⟨hw, ht, ⟨oa, (pend6 tl).sh_online hca⟩, ⟨ob, hsh⟩, ⟨hab, htb⟩,
          ⟨hab.symm, by rw [hab]; exact htb⟩⟩) hrd
    cases hsb : w.b.conn.state with
    | unconnected =>
      rcases hg.1.onl ta oa hsa with ⟨h1, _⟩ | ⟨_, _, tp, h3, _⟩
      · exact absurd ha h1
      · exact absurd h3 ((hg.2.unc hsb).2 tp)
    | pending t =>
      have hcb := conn_eta hsb
      exact key t .new (by rw [hsb]; rfl) (by rw [hsb]; rfl) ((pend6 tl).sh_pending hcb)
    | connecting => exact absurd (hg.2.cng hsb).1 hb
    | online t o =>
      have hcb := conn_eta hsb
      exact key t o (by rw [hsb]; rfl) (by rw [hsb]; rfl) ((pend6 tl).sh_online hcb)
    | disconnected => exact absurd hsb hdb

/-! non-vacuity: (1) `a` has just called `connect`, `b` is untouched: five rounds, `a` online and told
`Ready` once, `b` pending (0.6 acceptors go online with the first chunk packet); (2) `a` is online
with an unflushed vital chunk, `b` still pending: four rounds, both online, the chunk delivered. -/
def exA : List (Move (proto6 false)) := [.call .a [] .connect]
def exB : List (Move (proto6 false)) :=
  [.call .a [] .connect, .deliver .b 0 [7] .exact, .deliver .a 0 [] .exact, .call .a [] (.send [5] true)]

example : admissible (World.init (proto6 false)) exA = true ∧ admissible (World.init (proto6 false)) exB = true := by
  decide +kernel
example : ((NetSim.run (World.init (proto6 false)) exA).map fun w =>
    (w.a.out.any (fun dg => isConnect dg.pkt), w.b.out.any (fun dg => isConnect dg.pkt),
      w.a.conn.state matches .connecting, w.b.conn.state matches .unconnected)) = some (true, false, true, true) := by
  decide +kernel
example : (((NetSim.run (World.init (proto6 false)) exA).bind fun w =>
    fairRoundsT (P := proto6 false) [7] Alt.exact 5 (FairState.start w)).map fun s =>
    ((P6.online s.w.a.conn).isSome, readyCount s.w.a.events, s.w.b.conn.state matches .pending _)) =
    some (true, 1, true) := by decide +kernel
example : ((NetSim.run (World.init (proto6 false)) exB).map fun w =>
    (w.a.out.any (fun dg => isConnect dg.pkt), w.b.out.any (fun dg => isConnect dg.pkt),
      w.a.conn.state matches .online _ _, w.b.conn.state matches .pending _, w.settled)) =
    some (true, false, true, true, false) := by decide +kernel
example : (((NetSim.run (World.init (proto6 false)) exB).bind fun w =>
    fairRoundsT (P := proto6 false) [7] Alt.exact 4 (FairState.start w)).map fun s =>
    (s.w.settled, readyCount s.w.a.events, s.w.b.deliveredVital)) = some (true, 1, [[5]]) := by decide +kernel

end Tw.NetSim.P6
