import Tw.Model.SnapMgrC
import Tw.Proofs.SnapChain
import Tw.Proofs.SnapMgrSys
import Tw.Proofs.SnapMgrInst

/-!
C13 for the concrete model with builder, free list and the glue's buffer (`Model/SnapMgrC.lean`):
under application-level hypotheses the only panic left on the sending side is the 64 KiB buffer.
The snapshots the sender stores lie on one builder chain (`Anc`, Proofs/SnapLayer.lean), so `Delta::create`
and `Delta::write` between them succeed; `InvB` carries this through every event as long as no packed delta
exceeds the buffer.  At the end, the laws of the protocol layer for the executable snapshot layer on
builder-made snapshots (`execOps_lawsOn`).
-/
namespace Tw.Snap

/-- what the application may add: a valid type, a `u16` id, `i32` data of the size fixed for that `(type, id)`
(the premises of `Step.add`; an ordinal type below the extended range so that `Builder::add_item` does not panic) -/
def ItemOk (size : TypeId → Nat → Nat) (it : TypeId × Nat × List Int) : Prop :=
  it.1.Valid ∧ (∀ o, it.1 = .ordinal o → 0 < o ∧ o < offsetExt) ∧ it.2.1 < 65536 ∧
    (∀ x ∈ it.2.2, I32 x) ∧ it.2.2.length = size it.1 it.2.1

section
variable {size : TypeId → Nat → Nat} {it : TypeId × Nat × List Int} (h : ItemOk size it)
include h

theorem ItemOk.valid : it.1.Valid := h.1
theorem ItemOk.ordinalRange : ∀ o, it.1 = .ordinal o → 0 < o ∧ o < offsetExt := h.2.1
theorem ItemOk.id_u16 : it.2.1 < 65536 := h.2.2.1
theorem ItemOk.data_i32 : ∀ x ∈ it.2.2, I32 x := h.2.2.2.1
theorem ItemOk.size_eq : it.2.2.length = size it.1 it.2.1 := h.2.2.2.2

end

end Tw.Snap

namespace Tw.SnapMgr
open Tw.Snap Tw.SnapXfer

variable {objSize : Nat → Option Nat} {size : TypeId → Nat → Nat} {Q : Tw.Snap.Snap → Prop}

theorem addItems_total : ∀ (items : List Item) (b0 b : Builder),
    Chain size Builder.new b0 → Chain size b0 b → (∀ it, it ∈ items → ItemOk size it) →
    ∃ r, addItems b items = .ok r ∧
      ∀ s, r = .ok s → ∃ c, Chain size b0 c ∧ c.snap = s := by
  intro items
  induction items with
  | nil =>
    intro b0 b _ h1 _
    exact ⟨_, rfl, fun s hs => by injection hs with hs; exact ⟨b, h1, hs⟩⟩
  | cons it rest ih =>
    obtain ⟨tid, id, data⟩ := it
    intro b0 b h0 h1 hok
    have hbi := (chain_inv_new (chain_trans h0 h1)).1
    have hit := hok (tid, id, data) List.mem_cons_self
    rw [addItems]
    split
    · next hadd => exact absurd hadd (hbi.addItem_ne_none hit.ordinalRange)
    · next b' hadd =>
      exact ih b0 b' h0 (Chain.tail h1 (Step.add hit.valid hit.id_u16 hit.data_i32 hit.size_eq hadd))
        (fun it hit => hok it (List.mem_cons_of_mem _ hit))
    · exact ⟨_, rfl, fun s hs => nomatch hs⟩

/-- `new_builder()`, the application's calls, `finish()`: no panic, and the result continues the
chain of the seed -/
theorem build_total {seed : Tw.Snap.Snap} {items : List Item} {b0 : Builder}
    (h0 : Chain size Builder.new b0) (hs : b0.snap = seed) (hok : ∀ it, it ∈ items → ItemOk size it) :
    ∃ r, execBuild.build seed items = .ok r ∧
      ∀ s, r = .ok s → ∃ c, Chain size b0 c ∧ c.snap = s := by
  obtain ⟨b1, hr, _⟩ := Builder.recycle_inv (chain_inv_new h0).1
  simp only [execBuild, ← hs, hr]
  exact addItems_total items b0 b1 h0 (Chain.tail (Chain.refl _) (Step.recycle hr)) hok

theorem build_anc {s seed T : Tw.Snap.Snap} {items : List Item} (h : Anc size s seed)
    (hok : ∀ it, it ∈ items → ItemOk size it) (hb : execBuild.build seed items = .ok (.ok T)) :
    Anc size s T := by
  obtain ⟨a, b, ha0, hab, has, hbs⟩ := h
  obtain ⟨r, hr, hrc⟩ := build_total (chain_trans ha0 hab) hbs hok
  cases hr.symm.trans hb
  obtain ⟨c, hc, hcT⟩ := hrc T rfl
  exact ⟨a, c, ha0, chain_trans hab hc, has, hcT⟩

/-- the object-size table of the protocol agrees with the sizes the application uses, and knows
nothing about the registry type and the extended type numbers -/
structure TableOk (objSize : Nat → Option Nat) (size : TypeId → Nat → Nat) : Prop where
  registry : objSize typeIdEx = none
  extended : ∀ t, offsetExt ≤ t → objSize t = none
  ordinal : ∀ o n id, 0 < o → o < offsetExt → objSize o = some n → size (.ordinal o) id = n

theorem TableOk.agrees (ht : TableOk objSize size) : Tw.DemoHl.ObjSizeAgrees size objSize := by
  intro t n h
  have h0 : 0 < t := Nat.pos_of_ne_zero fun e => by
    rw [e, ← typeIdEx_eq, ht.registry] at h
    cases h
  have h1 : t < offsetExt := Nat.lt_of_not_le fun hle => by
    rw [ht.extended t hle] at h
    cases h
  exact ⟨h0, h1, fun id => ht.ordinal t n id h0 h1 h⟩

/-- the packed delta of two snapshots (that satisfy `Q`) does not fit the buffer the server glue
reserves -/
def Oversize (objSize : Nat → Option Nat) (Q : Tw.Snap.Snap → Prop := fun _ => True) : Prop :=
  ∃ (a b : Tw.Snap.Snap) (d : Tw.Snap.Delta) (xs : List Int), Q a ∧ Q b ∧ a.raw.WF ∧ b.raw.WF ∧
    createDelta a.raw b.raw = some d ∧
    d.writeInts objSize = some xs ∧ (packInts xs).length > writeCapacity

theorem writeCapacity_eq : writeCapacity = 65536 := rfl

theorem execOps_write {ref : Bool} {d : Tw.Snap.Delta} {bs : List UInt8}
    (h : (execOps objSize ref).write d = some bs) :
    ∃ xs, d.writeInts objSize = some xs ∧ bs = packInts xs := by
  simp only [execOps] at h
  split at h
  · cases h
  next xs hxs =>
  split at h
  · cases h
  · cases h; exact ⟨xs, hxs, rfl⟩

theorem sendSnap_concrete (ht : TableOk objSize size) (hfit : ¬ Oversize objSize Q)
    (st : Storage Tw.Snap.Snap) (tick : Int) (T : Tw.Snap.Snap)
    (ref : Bool)
    (hbase : Anc size (st.baseOf (execOps objSize ref) ({ tick := tick, snap := T } :: st.snaps)) T)
    (hQa : Q (st.baseOf (execOps objSize ref) ({ tick := tick, snap := T } :: st.snaps))) (hQT : Q T) :
    ∃ x ms, sendSnap (execOps objSize ref) st tick T
        = .ok ({ st with snaps := { tick := tick, snap := T } :: st.snaps }, x, ms) := by
  obtain ⟨d, xs, hd, hxs⟩ := hbase.writes (objSize := objSize) ht.agrees
  have hwa := hbase.built_left.extOk.raw_wf
  have hwb := hbase.built_right.extOk.raw_wf
  have hsmall : ¬ (packInts xs).length > writeCapacity :=
    fun hbig => hfit ⟨_, _, d, xs, hQa, hQT, hwa, hwb, hd, hxs, hbig⟩
  have hw : (execOps objSize ref).write d = some (packInts xs) := by
    simp only [execOps, hxs, hsmall, if_false]
  exact sendSnap_total (ops := execOps objSize ref) hd (.inr ⟨_, hw, Nat.le_of_not_lt hsmall⟩)

/-- Every stored snapshot is an ancestor of the newest (`head?`), from which the next is built.  `Q` is an
extra predicate the builder keeps (`EvQ`), e.g. a size budget. -/
structure InvB (size : TypeId → Nat → Nat) (Q : Tw.Snap.Snap → Prop) (y : SysB Tw.Snap.Snap) : Prop where
  free : ∀ s, s ∈ y.free → Built size s ∧ Q s
  stored : ∀ s n, s ∈ y.sys.sender.snaps → y.sys.sender.snaps.head? = some n →
    Anc size s.snap n.snap ∧ Q s.snap

/-- application-level hypothesis on one event: the items are well-typed and type-sized; ready-made
snapshots are not injected -/
def EvOk (size : TypeId → Nat → Nat) : EvB Tw.Snap.Snap (List Item) → Prop
  | .sendItems _ items => ∀ it, it ∈ items → ItemOk size it
  | .other (.send _ _) => False
  | .other _ => True

/-- What the application owes for `Q`; `SnapBound` instantiates `Q` with the size budget. -/
def EvQ (size : TypeId → Nat → Nat) (Q : Tw.Snap.Snap → Prop) : EvB Tw.Snap.Snap (List Item) → Prop
  | .sendItems _ items => ∀ seed T, Built size seed → Q seed → Built size T →
      execBuild.build seed items = .ok (.ok T) → Q T
  | _ => True

theorem invB_init (size : TypeId → Nat → Nat) (Q : Tw.Snap.Snap → Prop) :
    InvB size Q ({} : SysB Tw.Snap.Snap) where
  free := by intro s hs; cases hs
  stored := by intro s n hs; cases hs

theorem InvB.stored_mem {y : SysB Tw.Snap.Snap}
    (hinv : InvB size Q y) {s : Stored Tw.Snap.Snap} (hs : s ∈ y.sys.sender.snaps) :
    ∃ n, y.sys.sender.snaps.head? = some n ∧ Anc size s.snap n.snap ∧ Q s.snap := by
  cases hh : y.sys.sender.snaps.head? with
  | none => rw [List.head?_eq_none_iff.mp hh] at hs; cases hs
  | some n => exact ⟨n, rfl, hinv.stored s n hs hh⟩

theorem head?_of_prefix {α : Type} {l1 l2 : List α} (h : l1 <+: l2) {a : α} (h1 : l1.head? = some a) :
    l2.head? = some a := by
  obtain ⟨t, rfl⟩ := h
  cases l1 with
  | nil => cases h1
  | cons x r => exact h1

theorem invB_of_sender {y : SysB Tw.Snap.Snap}
    (hinv : InvB size Q y)
    (sys' : Sys Tw.Snap.Snap) (free' : List Tw.Snap.Snap)
    (hp : sys'.sender.snaps <+: y.sys.sender.snaps)
    (hf : ∀ s, s ∈ free' → s ∈ y.free ∨ ∃ st, st ∈ y.sys.sender.snaps ∧ st.snap = s) :
    InvB size Q { sys := sys', free := free' } where
  free := by
    intro s hs
    rcases hf s hs with h | ⟨st, hst, rfl⟩
    · exact hinv.free s h
    · obtain ⟨n, _, ha, hq⟩ := hinv.stored_mem hst
      exact ⟨ha.built_left, hq⟩
  stored := fun s n hs hn => hinv.stored s n (hp.subset hs) (head?_of_prefix hp hn)

theorem seed_built {y : SysB Tw.Snap.Snap} (hinv : InvB size Q y) (hQ0 : Q Tw.Snap.Snap.empty) :
    Built size (y.seed execBuild) ∧ Q (y.seed execBuild) :=
  SysB.seed_ind (R := fun s => Built size s ∧ Q s) execBuild y ⟨built_empty size, hQ0⟩ hinv.free fun _ hx =>
    have ⟨_, _, ha, hq⟩ := hinv.stored_mem hx
    ⟨ha.built_left, hq⟩

theorem stepB_total (ht : TableOk objSize size) (hfit : ¬ Oversize objSize Q)
    (ref : Bool) (hQ0 : Q Tw.Snap.Snap.empty)
    {y : SysB Tw.Snap.Snap} (hinv : InvB size Q y) (e : EvB Tw.Snap.Snap (List Item)) (he : EvOk size e)
    (hq : EvQ size Q e) :
    ∃ y' o, y.step (execOps objSize ref) execBuild e = .ok (y', o) ∧ InvB size Q y' := by
  cases e with
  | sendItems tick items =>
    obtain ⟨hseed, hQseed⟩ := seed_built hinv hQ0
    have ⟨b0, hb0, hs0⟩ := hseed
    obtain ⟨r, hr, -⟩ := build_total hb0 hs0 he
    have hdrop : ∀ s, s ∈ y.free.dropLast → s ∈ y.free ∨ ∃ st, st ∈ y.sys.sender.snaps ∧ st.snap = s :=
      fun s hs => Or.inl (List.dropLast_subset _ hs)
    cases r with
    | error e =>
      exact ⟨{ y with free := y.free.dropLast }, .builderError e, by simp only [SysB.step, hr],
        invB_of_sender hinv y.sys _ (List.prefix_refl _) hdrop⟩
    | ok T =>
      have hT : ∀ s, Anc size s (y.seed execBuild) → Anc size s T := fun s h => build_anc h he hr
      have hbuiltT := (hT _ hseed.anc_self).built_right
      have hQT : Q T := hq _ _ hseed hQseed hbuiltT hr
      -- every stored snapshot is an ancestor of the new one: the seed is the newest stored one
      have hnew : ∀ s, s ∈ ({ tick := tick, snap := T } : Stored Tw.Snap.Snap) :: y.sys.sender.snaps →
          Anc size s.snap T ∧ Q s.snap := by
        intro s hs
        rcases List.mem_cons.mp hs with rfl | hs'
        · exact ⟨hbuiltT.anc_self, hQT⟩
        · obtain ⟨n, hh, ha, hQs⟩ := hinv.stored_mem hs'
          have hseedn : n.snap = y.seed execBuild := by simp only [SysB.seed, hh]
          exact ⟨hT _ (hseedn ▸ ha), hQs⟩
      have hbase := y.sys.sender.baseOf_ind (ops := execOps objSize ref) (R := fun s => Anc size s T ∧ Q s) _
        ⟨hT _ hseed.anc_empty, hQ0⟩ hnew
      obtain ⟨x, ms, hsend⟩ := sendSnap_concrete ht hfit y.sys.sender tick T ref hbase.1 hbase.2 hQT
      refine ⟨{ sys := { y.sys with
                  sender := { y.sys.sender with snaps := { tick := tick, snap := T } :: y.sys.sender.snaps },
                  msgs := y.sys.msgs ++ ms, sent := (tick, T) :: y.sys.sent, xfers := x :: y.sys.xfers },
                free := y.free.dropLast }, .obs .quiet,
        by simp only [SysB.step, hr, Sys.step, hsend], ?_⟩
      constructor
      · intro s hs; exact hinv.free s (List.dropLast_subset _ hs)
      · intro s n hs hn
        cases hn
        exact hnew s hs
  | other e =>
    have hne : ∀ t s, e ≠ .send t s := fun t s h => by subst h; exact he
    obtain ⟨sys', o', hstep, hpre, -⟩ := Sys.step_other (execOps objSize ref) y.sys hne
    obtain ⟨free', hB⟩ := SysB.step_other_total execBuild hstep
    exact ⟨_, _, hB, invB_of_sender hinv _ _ hpre (SysB.step_other_of_ok hB).2⟩

theorem runB_total (ht : TableOk objSize size) (hfit : ¬ Oversize objSize Q)
    (ref : Bool) (hQ0 : Q Tw.Snap.Snap.empty) :
    ∀ (evs : List (EvB Tw.Snap.Snap (List Item))) (y : SysB Tw.Snap.Snap), InvB size Q y →
      (∀ e, e ∈ evs → EvOk size e) → (∀ e, e ∈ evs → EvQ size Q e) →
      ∃ r, SysB.run (execOps objSize ref) execBuild y evs = .ok r := by
  intro evs
  induction evs with
  | nil => intro y _ _ _; exact ⟨_, rfl⟩
  | cons e rest ih =>
    intro y hinv hev hqs
    obtain ⟨y', o, hs, hinv'⟩ :=
      stepB_total ht hfit ref hQ0 hinv e (hev e List.mem_cons_self) (hqs e List.mem_cons_self)
    obtain ⟨⟨y'', os⟩, hr⟩ := ih y' hinv' (fun e' he' => hev e' (List.mem_cons_of_mem _ he'))
      (fun e' he' => hqs e' (List.mem_cons_of_mem _ he'))
    exact ⟨(y'', o :: os), by simp only [SysB.run, hs, hr]⟩

/-- No panic but the buffer: a history panics only if `Oversize` holds, which is a statement about the
table and `Q`, not about the history. -/
theorem runB_total_or_oversize (ht : TableOk objSize size)
    (ref : Bool) (hQ0 : Q Tw.Snap.Snap.empty)
    (evs : List (EvB Tw.Snap.Snap (List Item))) (y : SysB Tw.Snap.Snap) (hinv : InvB size Q y)
    (hev : ∀ e, e ∈ evs → EvOk size e) (hqs : ∀ e, e ∈ evs → EvQ size Q e) :
    (∃ r, SysB.run (execOps objSize ref) execBuild y evs = .ok r) ∨
    ((∃ s, SysB.run (execOps objSize ref) execBuild y evs = .panic s) ∧ Oversize objSize Q) := by
  by_cases hover : Oversize objSize Q
  · cases SysB.run (execOps objSize ref) execBuild y evs with
    | ok r => exact .inl ⟨r, rfl⟩
    | panic s => exact .inr ⟨⟨s, rfl⟩, hover⟩
  · exact .inl (runB_total ht hover ref hQ0 evs y hinv hev hqs)

/-- As `snapOps_laws` for `snapOps`, but on plain values restricted by `Built size` instead of the subtype
of `GoodSnap`s (`Built size s` gives `ExtOk s`, not conversely). -/
theorem execOps_lawsOn (objSize : Nat → Option Nat) (size : TypeId → Nat → Nat) (ref : Bool) :
    LawsOn (execOps objSize ref) (Built size) where
  empty := built_empty size
  apply_create := by
    intro a b d ha hb h
    show (resName (a.readWithDelta d)).map (·.1) = .ok b
    rw [readWithDelta_createDelta ha.extOk.raw_wf hb.extOk h]
    rfl
  read_write := by
    intro a b d bs ha hb hc hw
    obtain ⟨xs, hxs, rfl⟩ := execOps_write hw
    show (resName (readDelta objSize (.bytes (packInts xs)))).map (·.1) = .ok d
    rw [readDelta_packInts (createDelta_WF ha.extOk.raw_wf hb.extOk.raw_wf hc).1 hxs]
    rfl
  write_nonempty := by
    intro a b d bs _ _ _ hw
    obtain ⟨xs, hxs, rfl⟩ := execOps_write hw
    exact packInts_writeInts_ne_nil hxs
  same_clear := by
    intro a b ha _ h
    obtain rfl : a = b := of_decide_eq_true h
    show (resName (a.readWithDelta Tw.Snap.Delta.empty)).map (·.1) = .ok a
    rw [readWithDelta_empty ha.extOk]
    rfl

theorem execBuild_keeps (e : EvB Tw.Snap.Snap (List Item)) (he : EvOk size e) :
    BuildKeeps execBuild (Built size) e := by
  cases e with
  | sendItems t items =>
    exact fun seed s hseed hb => (build_anc hseed.anc_self he hb).built_right
  | other e =>
    cases e with
    | send t s => exact he.elim
    | deliver i => trivial
    | ack => trivial
    | deliverAck j => trivial
    | forgedAck v => trivial
    | clientReset => trivial

end Tw.SnapMgr
