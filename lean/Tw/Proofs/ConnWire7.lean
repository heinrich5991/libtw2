import Tw.Model.Conn7
import Tw.Model.Packet7
import Tw.Proofs.Packet7Spec
import Tw.Proofs.Packet7Chunks
import Tw.Proofs.Conn7
import Tw.Proofs.ConnSeq

/-!
# C04 ∘ C05 (0.7): the structured packets of the 0.7 connection model on the byte level
(see `ConnWire6.lean`; 0.7 chunk headers have 12 size bits and no duplicated sequence bits)
-/
namespace Tw.Wire7
open Tw.Packet Tw.Packet7

/-- chunk flags byte value: `CHUNKFLAG_VITAL | CHUNKFLAG_RESEND` -/
def flagsOf : Option (Nat × Bool) → Nat
  | none => 0
  | some (_, false) => 1
  | some (_, true) => 3

def encHeader (len : Nat) : Option (Nat × Bool) → List UInt8
  | none => ofNat2 (len / 64, len % 64)
  | some (s, r) =>
    ofNat3 (flagsOf (some (s, r)) * 64 + len / 64, s / 256 * 64 + len % 64, s % 256)

def encChunk (c : Tw.Conn.Chunk) : List UInt8 := encHeader c.data.length c.vital ++ c.data

def encChunks : List Tw.Conn.Chunk → List UInt8
  | [] => []
  | c :: cs => encChunk c ++ encChunks cs

theorem encHeader_length (len : Nat) (v : Option (Nat × Bool)) :
    (encHeader len v).length = Tw.Conn.chunkHeaderSize v.isSome := by
  cases v with
  | none => rfl
  | some x => obtain ⟨s, r⟩ := x; rfl

theorem encChunk_length (c : Tw.Conn.Chunk) : (encChunk c).length = c.size := by
  simp [encChunk, encHeader_length, Tw.Conn.Chunk.size]

theorem encChunks_length (cs : List Tw.Conn.Chunk) : (encChunks cs).length = Tw.Conn.chunksSize cs := by
  induction cs with
  | nil => rfl
  | cons c cs ih => simp [encChunks, Tw.Conn.chunksSize, encChunk_length, ih]

theorem encHeader_eq (d : List UInt8) (v : Option (Nat × Bool)) : encHeader d.length v = chunkHdr d v := by
  cases v with
  | none => rfl
  | some x =>
    obtain ⟨s, r⟩ := x
    cases r <;>
      simp [encHeader, chunkHdr, flagsOf, chunkFlagsOf, Tw.Gen.Packet7.CHUNKFLAG_VITAL, Tw.Gen.Packet7.CHUNKFLAG_RESEND]

theorem writeChunk_enc (c : Tw.Conn.Chunk) (cap : Nat) (acc : List UInt8) (hl : c.data.length < 4096)
    (hs : ∀ s r, c.vital = some (s, r) → s < 1024) (hcap : acc.length + (encChunk c).length ≤ cap) :
    Packet7.writeChunk c.data c.vital cap acc = .ok (acc ++ encChunk c) := by
  rw [writeChunk_eq c.data c.vital cap acc ⟨hl, hs⟩, ← encHeader_eq, if_pos, List.append_assoc]
  · rfl
  · rw [Nat.add_assoc]
    simpa [encChunk] using hcap

def ChunkEnc (c : Tw.Conn.Chunk) : Prop := c.data.length < 4096 ∧ ∀ s r, c.vital = some (s, r) → s < 1024

def proj (ch : Tw.Packet.Chunk) : List UInt8 × Option (Nat × Bool) := (ch.data, ch.vital)
def projC (c : Tw.Conn.Chunk) : List UInt8 × Option (Nat × Bool) := (c.data, c.vital)

theorem encChunks_eq (cs : List Tw.Conn.Chunk) : encChunks cs = encodeChunks chunkHdr (cs.map projC) := by
  induction cs with
  | nil => rfl
  | cons c cs ih => simp [encChunks, encChunk, encodeChunks, projC, encHeader_eq, ih] at *

/-- `ChunksIter::new(payload, num_chunks)` drained: the queued chunks (same payload bytes, same vital /
sequence / resend information), no warning -/
theorem drain_encChunks (cs : List Tw.Conn.Chunk) (hcs : ∀ c ∈ cs, ChunkEnc c) :
    ∃ chs it', Iter.drain codec (Iter.new (encChunks cs) cs.length) = (chs, [], it', false) ∧
      chs.map proj = cs.map projC := by
  obtain ⟨h1, h2, h3⟩ := Iter.drain_encoded codec chunkHdr ChunkOk chunkEnc (cs.map projC)
    (fun x hx => by obtain ⟨c, hc, rfl⟩ := List.mem_map.mp hx; exact hcs c hc)
    (Iter.new (encChunks cs) cs.length) (encChunks_eq cs) (by simp [Iter.new]) rfl _ (Nat.lt_succ_self _)
  generalize hr : Iter.drainFuel codec _ (Iter.new (encChunks cs) cs.length) = r at h1 h2 h3
  obtain ⟨chs, ws, it', b⟩ := r
  cases h2
  cases h3
  exact ⟨chs, it', hr, h1⟩

def tok (n : Nat) : Token :=
  ⟨UInt8.ofNat (n / 2 ^ 24), UInt8.ofNat (n / 2 ^ 16), UInt8.ofNat (n / 2 ^ 8), UInt8.ofNat n⟩

theorem tok_ne_none (n : Nat) (h : n < 2 ^ 32) (hn : n ≠ Tw.Conn7.TOKEN_NONE) : tok n ≠ tokenNone := by
  intro he
  have ht : tokenNone = ⟨255, 255, 255, 255⟩ := by decide
  rw [ht] at he
  simp only [tok, Token.mk.injEq] at he
  obtain ⟨h0, h1, h2, h3⟩ := he
  have f : ∀ x : Nat, UInt8.ofNat x = 255 → x % 256 = 255 := by
    intro x hx
    have := congrArg UInt8.toNat hx
    rw [UInt8.toNat_ofNat'] at this
    simpa using this
  have a0 := f _ h0
  have a1 := f _ h1
  have a2 := f _ h2
  have a3 := f _ h3
  apply hn
  rw [Tw.Conn7.TOKEN_NONE_eq]
  omega

def ctl : Tw.Conn7.Control → Packet7.Control
  | .keepAlive => .keepAlive
  | .connect rt => .connect (tok rt)
  | .accept => .accept
  | .close r => .close r
  | .token rt => .token (tok rt)

def toWire : Tw.Conn7.Packet → Packet7.Packet
  | .connless t rt d => .connless d (tok t) (tok rt)
  | .control ack t c => .connected ack (tok t) (.control (ctl c))
  | .chunks ack t rr n cs => .connected ack (tok t) (.chunks rr n (encChunks cs))

/-- response tokens are 32-bit values (the model's tokens are natural numbers) -/
def tokRange : Tw.Conn7.Packet → Prop
  | .control _ _ (.connect rt) => rt < 2 ^ 32
  | .control _ _ (.token rt) => rt < 2 ^ 32
  | _ => True

theorem toWire_valid (p : Tw.Conn7.Packet) (hv : p.valid = true) (hs : p.seqOk) (ht : tokRange p) :
    Packet7.Valid (toWire p) ∧ Packet7.expectedWarnings (toWire p) = [] := by
  cases p with
  | connless t rt d =>
    simp only [Tw.Conn7.Packet.valid, decide_eq_true_eq] at hv
    have e : Tw.Gen.Conn.P7.connlessMax = Tw.Gen.Packet7.CONNLESS_WRITE_LIMIT := rfl
    rw [e] at hv
    exact ⟨hv, rfl⟩
  | control ack t c =>
    have ha : ack < 1024 := hs
    cases c with
    | close r =>
      simp only [Tw.Conn7.Packet.valid, Bool.and_eq_true, decide_eq_true_eq, List.all_eq_true] at hv
      refine ⟨⟨ha, hv.2.1, ?_⟩, rfl⟩
      intro b hb; simpa using hv.2.2 b hb
    | keepAlive => exact ⟨ha, rfl⟩
    | accept => exact ⟨ha, rfl⟩
    | connect rt =>
      simp only [Tw.Conn7.Packet.valid, Tw.Conn7.Packet.writeOk, Bool.and_eq_true, bne_iff_ne, ne_eq] at hv
      exact ⟨⟨ha, tok_ne_none rt ht hv.1.2⟩, rfl⟩
    | token rt =>
      simp only [Tw.Conn7.Packet.valid, Tw.Conn7.Packet.writeOk, Bool.and_eq_true, bne_iff_ne, ne_eq] at hv
      exact ⟨⟨ha, tok_ne_none rt ht hv.1.2⟩, rfl⟩
  | chunks ack t rr n cs =>
    have hw := (Tw.Conn7.valid_wire hv).1
    simp only [Tw.Conn7.Packet.valid, Bool.and_eq_true, decide_eq_true_eq, Bool.or_eq_true] at hv
    obtain ⟨⟨⟨⟨_, hn⟩, hcnt⟩, _⟩, hne⟩ := hv
    refine ⟨⟨hs.1, ?_, ?_⟩, ?_⟩
    · rw [hn]; have := Tw.Conn.maxNumChunks_eq; omega
    · simp only [encChunks_length]
      simp only [Tw.Conn7.Packet.wireSize, Tw.Conn.maxPacketSize_eq] at hw
      have h1 : Tw.Gen.Conn.P7.HEADER_SIZE = 7 := rfl
      have h4 : Tw.Gen.Packet7.READ_PAYLOAD_LIMIT = 1393 := rfl
      rw [h1] at hw; rw [h4]; omega
    · simp only [toWire, Packet7.expectedWarnings]
      cases rr with
      | true => rfl
      | false =>
        cases n with
        | zero => rcases hne with hne | hne <;> simp at hne
        | succ n => rfl

theorem chunkEnc_of_valid {ack t : Nat} {rr : Bool} {n : Nat} {cs : List Tw.Conn.Chunk}
    (hv : (Tw.Conn7.Packet.chunks ack t rr n cs).valid = true) (hs : (Tw.Conn7.Packet.chunks ack t rr n cs).seqOk) :
    ∀ c ∈ cs, ChunkEnc c := by
  intro c hc
  simp only [Tw.Conn7.Packet.valid, Bool.and_eq_true, decide_eq_true_eq, List.all_eq_true] at hv
  exact ⟨Tw.Conn7.cfg_ok _ (hv.1.2 c hc), fun s r hvv => hs.2 c hc s r hvv⟩

end Tw.Wire7
