import Tw.Proofs.TeehistRun

/-! The reference semantics `interp`: the shape of parsed records, totality, induction over the
records as `interp` reads them, and the reader before the repair of finding D18. -/
namespace Tw.Teehistorian
open Tw.Packer Spec

/-- How the item id `k`, read first, goes with the record `it` that `parseRest k` decodes behind
it: `Reader.pre` sees only `k`, `Reader.post` only `it`, and this is what the two have in common. -/
inductive RecClass (k : Kind) (it : FItem) : Prop
  | finish : it = .finish → k = .finish → RecClass k it
  | skip (dt : Int) : it = .tickSkip dt → k = .tickSkip → 0 ≤ dt → RecClass k it
  | msg : (∀ dt, it ≠ .tickSkip dt) → it ≠ .finish → k ≠ .tickSkip → k ≠ .finish →
      (k.playerCid = match msgKind it with | .player c => some c | _ => none) → RecClass k it

/-- The absolute values a record carries are `i32`s. -/
def ItemInRange : FItem → Prop
  | .playerNew _ x y => inI32 x ∧ inI32 y
  | .inputNew _ v => ∀ a ∈ v, inI32 a
  | _ => True

/-- What `parseAll` guarantees of each record it returns (`parseAll_wf`). -/
def RecWf (r : Rec) : Prop := RecClass r.kind r.item ∧ ItemInRange r.item

theorem yields_decodeExPayload (uuid data : List UInt8) :
    (decodeExPayload uuid data).Yields fun it => ∃ o, it = .other o := by
  intro s it r h
  unfold decodeExPayload at h
  split at h
  · split at h
    · simp only [PR.ok.injEq] at h; exact ⟨_, h.1.symm⟩
    · cases h
    · cases h
  · simp only [PR.ok.injEq] at h; exact ⟨_, h.1.symm⟩

theorem parseRest_wf (k : Kind) : (parseRest k).Yields fun it => RecClass k it ∧ ItemInRange it := by
  cases k with
  | finish => exact yields_pure ⟨.finish rfl rfl, trivial⟩
  | tickSkip =>
    exact yields_andThen_any fun dt => yields_ite (fun _ => yields_fail _ _) fun h =>
      yields_pure ⟨.skip dt rfl rfl (Int.not_lt.mp h), trivial⟩
  | playerDiff c =>
    exact yields_andThen_any fun _ => yields_andThen_any fun _ =>
      yields_pure ⟨.msg (fun _ => nofun) nofun nofun nofun rfl, trivial⟩
  | playerNew c =>
    exact yields_andThen yields_pInt fun _ hx => yields_andThen yields_pInt fun _ hy =>
      yields_pure ⟨.msg (fun _ => nofun) nofun nofun nofun rfl, hx, hy⟩
  | playerOld c => exact yields_pure ⟨.msg (fun _ => nofun) nofun nofun nofun rfl, trivial⟩
  | inputDiff =>
    exact yields_andThen_any fun _ => yields_andThen_any fun _ =>
      yields_pure ⟨.msg (fun _ => nofun) nofun nofun nofun rfl, trivial⟩
  | inputNew =>
    exact yields_andThen_any fun _ => yields_andThen (yields_pInts _) fun _ hv =>
      yields_pure ⟨.msg (fun _ => nofun) nofun nofun nofun rfl, hv⟩
  | message =>
    exact yields_andThen_any fun _ => yields_andThen_any fun _ =>
      yields_pure ⟨.msg (fun _ => nofun) nofun nofun nofun rfl, trivial⟩
  | join => exact yields_andThen_any fun _ => yields_pure ⟨.msg (fun _ => nofun) nofun nofun nofun rfl, trivial⟩
  | drop =>
    exact yields_andThen_any fun _ => yields_andThen_any fun _ =>
      yields_pure ⟨.msg (fun _ => nofun) nofun nofun nofun rfl, trivial⟩
  | consoleCommand =>
    exact yields_andThen_any fun _ => yields_andThen_any fun _ => yields_andThen_any fun _ => yields_andThen_any fun n =>
      yields_ite (fun _ => yields_fail _ _) fun _ => yields_andThen_any fun _ =>
        yields_pure ⟨.msg (fun _ => nofun) nofun nofun nofun rfl, trivial⟩
  | ex =>
    refine yields_andThen_any fun _ => yields_andThen_any fun _ => (yields_decodeExPayload _ _).mono ?_
    rintro _ ⟨o, rfl⟩
    exact ⟨.msg (fun _ => nofun) nofun nofun nofun rfl, trivial⟩

/-- How the record list of `parseAll` ends: not out of fuel, and `afterFinish` only behind a
`Finish` record. -/
def EndsProperly : List Rec → Tail → Prop
  | [], t => t ≠ .afterFinish ∧ t ≠ .outOfFuel
  | r :: rs, t => r.item = .finish ∨ EndsProperly rs t

theorem parseAll_wf (hasEx : Bool) (f : Nat) (s : List UInt8) : ∀ r ∈ (parseAll hasEx f s).1, RecWf r := by
  fun_induction parseAll hasEx f s
  case case6 f s rest it rest' hk hr =>
    exact List.forall_mem_singleton.mpr (parseRest_wf _ _ _ _ hr)
  case case7 f s k rest hk it rest' hr hfin r ih =>
    exact List.forall_mem_cons.mpr ⟨parseRest_wf _ _ _ _ hr, ih⟩
  all_goals exact fun _ h => (List.not_mem_nil h).elim

theorem parseAll_ends (hasEx : Bool) (f : Nat) (s : List UInt8) (hf : s.length < f) :
    EndsProperly (parseAll hasEx f s).1 (parseAll hasEx f s).2 := by
  fun_induction parseAll hasEx f s
  case case1 => omega
  case case6 f s rest it rest' hk hr =>
    rw [parseRest_finish] at hr
    simp only [PR.ok.injEq] at hr
    exact .inl hr.1.symm
  case case7 f s k rest hk it rest' hr hfin r ih =>
    have := parseKind_consumes hk
    have := (good_parseRest k).rest_le hr
    exact .inr (ih (by omega))
  all_goals exact ⟨nofun, nofun⟩

theorem interp_total (cfg : Cfg) (rd : Reader) (rs : List Rec) (t : Tail) (h : EndsProperly rs t) :
    (interp cfg rd rs t).final ≠ .outOfFuel := by
  fun_induction interp cfg rd rs t
  case case1 => exact absurd rfl h.1
  case case4 => exact absurd rfl h.2
  case case7 rd k its x => exact absurd (congrArg Prod.snd x) (preAll_four rd k)
  case case10 rd k e its x => exact absurd (congrArg Prod.snd x) (preAll_four rd k)
  case case11 rd r rs t its x => exact absurd (congrArg Prod.snd x) (preAll_four rd r.kind)
  case case13 rd r rs t its rd' x it rd'' hpost o ih =>
    refine ih (h.resolve_left fun hfin => ?_)
    rw [hfin, post_finish] at hpost
    cases hpost
  all_goals nofun

theorem runWhole_final (cfg : Cfg) (s : List UInt8) : (runWhole cfg s).final ≠ .outOfFuel :=
  interp_total cfg _ _ _ (parseAll_ends cfg.hasEx (s.length + 1) s (by omega))

theorem interp_not_cbErr (cfg : Cfg) (rd : Reader) (rs : List Rec) (t : Tail) :
    (interp cfg rd rs t).final ≠ .cbErr := by
  fun_induction interp cfg rd rs t
  case case13 ih => exact ih
  all_goals nofun

theorem runWhole_not_cbErr (cfg : Cfg) (s : List UInt8) : (runWhole cfg s).final ≠ .cbErr :=
  interp_not_cbErr cfg _ _ _

/-- Induction over the records as `interp` reads them: reading stops behind synthesised items
only (at an error, or out of fuel), it stops at a `Finish` record, or it reports the record and
goes on.  `stop` forgets which error it was, and the tables then: a claim about them needs an
induction of its own. -/
theorem interp_induction {cfg : Cfg} {t : Tail} {P : Reader → List Rec → Output → Prop}
    (stop : ∀ rd rs n k its pe f a, preAll n rd k = (its, pe) → f ≠ .finished → P rd rs ⟨its, f, a⟩)
    (finish : ∀ rd r rs its rd', preAll 4 rd r.kind = (its, .ready rd') → r.item = .finish →
      P rd (r :: rs) ⟨its, .finished, rd'.access⟩)
    (step : ∀ rd r rs its rd' it rd'' o, preAll 4 rd r.kind = (its, .ready rd') →
      rd'.post r.item = .item it rd'' → P rd'' rs o → P rd (r :: rs) ((o.cons it).prepend its))
    (rd : Reader) (rs : List Rec) : P rd rs (interp cfg rd rs t) := by
  fun_induction interp cfg rd rs t
  case case13 rd r rs t its rd' x it rd'' hpost o ih => exact step rd r rs its rd' it rd'' o x hpost ih
  case case14 rd r rs t its rd' x rd'' hpost =>
    have hfin := post_finished hpost
    rw [hfin, post_finish] at hpost
    cases hpost
    exact finish rd r rs its rd' x hfin
  -- the other thirteen branches stop: behind the items of `preAll 4`, or (fuel 0) behind none
  all_goals first
    | exact stop _ _ 4 _ _ _ _ _ ‹_› nofun
    | exact stop _ [] 0 .finish _ _ _ _ rfl nofun

/-! ### The legacy tables (before the repair of finding D18) -/

/-- The legacy reader gave `PLAYER_NEW`/`INPUT_NEW` records slot `cid` of tables that could not grow
(`Legacy.post`). -/
def cidOk (n : Nat) : FItem → Bool
  | .playerNew c _ _ => decide (c.toNat < n)
  | .inputNew c _ => decide (c.toNat < n)
  | _ => true

def CidsBelow (n : Nat) (rs : List Rec) : Prop := ∀ r ∈ rs, cidOk n r.item = true

instance (n : Nat) (rs : List Rec) : Decidable (CidsBelow n rs) := by unfold CidsBelow; infer_instance

theorem Legacy.post_of_cidOk {slots : Nat} {it : FItem} (h : cidOk slots it = true) (rd : Reader) :
    Legacy.post slots rd it = some (rd.post it) := by
  unfold Legacy.post
  cases hs : Legacy.slotOf it with
  | none => rfl
  | some c =>
    simp only
    have hc : c < slots := by
      unfold Legacy.slotOf at hs
      cases it <;> simp only [cidOk, decide_eq_true_eq] at h <;> simp at hs
      all_goals (obtain ⟨_, rfl⟩ := hs; exact h)
    rw [if_neg (by omega)]

theorem Legacy.interp_of_below (slots : Nat) (cfg : Cfg) : ∀ (rs : List Rec) (t : Tail) (rd : Reader),
    CidsBelow slots rs → Legacy.interp slots cfg rd rs t = some (Teehistorian.interp cfg rd rs t) := by
  intro rs
  induction rs with
  | nil => intro t rd _; rfl
  | cons r rs ih =>
    intro t rd h
    unfold Legacy.interp Teehistorian.interp
    cases hp : preAll 4 rd r.kind with
    | mk its pe =>
      cases pe with
      | stuck => rfl
      | err e rd2 => rfl
      | ready rd2 =>
        simp only
        rw [Legacy.post_of_cidOk (h r (List.mem_cons_self ..))]
        cases hpost : rd2.post r.item with
        | finished rd3 => rfl
        | err e rd3 => rfl
        | item it rd3 =>
          simp only
          rw [ih t rd3 (fun r' hr' => h r' (List.mem_cons_of_mem _ hr'))]

theorem Legacy.interp_none_of_first {slots : Nat} {cfg : Cfg} {rd rd' : Reader} {r : Rec} {rs : List Rec}
    {t : Tail} {its : List Item} {c : Nat} (hp : preAll 4 rd r.kind = (its, .ready rd'))
    (hc : Legacy.slotOf r.item = some c) (hle : slots ≤ c) :
    Legacy.interp slots cfg rd (r :: rs) t = none := by
  unfold Legacy.interp
  rw [hp]
  simp only [Legacy.post, hc]
  rw [if_pos hle]

end Tw.Teehistorian
