import Tw.Model.Packet7
import Tw.Proofs.Packet7Read
import Tw.Proofs.Packet7Spec

/-! Slice bounds of the 0.7 reader (see `Packet6Bounds.lean`). -/
namespace Tw.Packet7
open Tw.Packet Tw.PacketBits

theorem readConnless_located {bytes : List UInt8} {wh : List Warning} {r : ReadOk}
    (hr : readConnless bytes wh = .ok r) : r.Located bytes ∧ r.scratch = [] := by
  obtain ⟨h9, hsc, hloc, hp⟩ := readConnless_ok hr
  refine ⟨?_, hsc⟩
  simp only [ReadOk.Located, hp, hloc, Packet.slice, resolve_eq, bufOf]
  exact located_of_prefix bytes _ _ h9 (List.prefix_refl _)

theorem readBody_located {h : PacketHeader} {wh : List Warning} {payload : List UInt8} (src : Src)
    {scratch : List UInt8} {total : Nat} {r : ReadOk} (input : List UInt8)
    (hbuf : payload = (bufOf src input scratch).drop Tw.Gen.Packet7.HEADER_SIZE)
    (hlen : Tw.Gen.Packet7.HEADER_SIZE ≤ (bufOf src input scratch).length)
    (hr : readBody h wh payload src scratch total = .ok r) : r.Located input ∧ r.scratch = scratch := by
  obtain ⟨_, hsc, ⟨c, loc, hcv, hp, hloc⟩ | ⟨hp, hloc⟩⟩ := readBody_ok hr
  · refine ⟨?_, hsc⟩
    obtain ⟨rfl, _, hcl⟩ := controlValue_ok hcv
    cases c with
    | close m =>
      -- the reason is a prefix of what follows the control byte, which is where the header ends + 1
      obtain ⟨c0, pl, rfl, hpm⟩ := hcl m rfl
      have hpb : m <+: (bufOf src input scratch).drop (Tw.Gen.Packet7.HEADER_SIZE + 1) := by
        rw [← List.drop_drop, ← hbuf]
        exact hpm
      have hoff : Tw.Gen.Packet7.HEADER_SIZE + 1 ≤ (bufOf src input scratch).length := by
        have := congrArg List.length hbuf
        rw [List.length_drop, List.length_cons] at this
        omega
      simp only [ReadOk.Located, hp, hloc, hsc, Packet.slice, ctrlLoc, resolve_eq]
      exact located_of_prefix _ _ _ hoff hpb
    | _ => simp only [ReadOk.Located, hp, hloc, Packet.slice, ctrlLoc]
  · refine ⟨?_, hsc⟩
    simp only [ReadOk.Located, hp, hloc, hsc, Packet.slice, resolve_eq]
    exact located_of_prefix (bufOf src input scratch) payload Tw.Gen.Packet7.HEADER_SIZE hlen
      (by rw [← hbuf]; exact List.prefix_refl _)

/-- `buffer.getD 0`: without a scratch buffer (`read_panic_on_decompression`) nothing is put into it, so the slice
lies in the input. -/
theorem read_located (t : Huffman.Table) (hb : HuffmanBounded t) (bytes : List UInt8)
    (buffer : Option Nat) (r : ReadOk) (hr : read t bytes buffer = .ok r) :
    r.Located bytes ∧ r.scratch.length ≤ buffer.getD 0 := by
  have hH : Tw.Gen.Packet7.HEADER_SIZE = 7 := rfl
  obtain ⟨hlen, h7, hcase⟩ := read_ok_cases t bytes buffer r hr
  rcases hcase with h | h | ⟨cap, out, rfl, hcap, hout, h⟩
  · obtain ⟨h1, h2⟩ := readConnless_located h
    exact ⟨h1, by rw [h2]; exact Nat.zero_le _⟩
  · obtain ⟨h1, h2⟩ := readBody_located .input bytes rfl (by simpa [bufOf] using h7) h
    exact ⟨h1, by rw [h2]; exact Nat.zero_le _⟩
  · -- the scratch buffer: fake header (7 bytes) followed by at most `cap - 7` decompressed bytes
    have hlen' : (fakeHeader bytes ++ out).length = 7 + out.length := by
      rw [List.length_append, fakeHeader_length]
    obtain ⟨h1, h2⟩ := readBody_located .scratch bytes (List.drop_left' (fakeHeader_length bytes)).symm
      (by rw [bufOf, hlen', hH]; omega) h
    refine ⟨h1, ?_⟩
    have := hb _ _ _ hout
    have hM : Tw.Gen.Packet7.MAX_PACKETSIZE = 1400 := rfl
    show r.scratch.length ≤ cap
    rw [h2, hlen']
    omega

end Tw.Packet7
