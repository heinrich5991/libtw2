import Tw.Model.ServerBrowse
import Tw.Proofs.ServerBrowseFold

/-! **Hypothetical repair of D10.** `mergeRepaired` is `merge` with the one statement the code lacks
(`self.received |= other.received` after the swap). It does not describe the code that exists; it shows that with
this statement the full merge property (`C18_merge_full`, any order, any repetition) holds, i.e. that the missing
mask update is the only obstacle: beside the invariant of `ServerBrowseFold`, which both merges keep, the repaired
one keeps every merged part recognisable in the mask, so a repetition is a no-op. -/
namespace Tw.ServerBrowse
open Tw.Gen.Browse

/-- `merge` + `self.received |= other.received` (NOT the code under test), spelled out to be read against
`merge` line by line -/
def mergeRepaired (self other : PartialInfo) : PartialInfo × Option MergeError :=
  if self.info.token ≠ other.info.token then (self, some .differingTokens)
  else if self.info.infoVersion ≠ other.info.infoVersion then (self, some .differingVersions)
  else if self.info.infoVersion ≠ .v664 ∧ self.info.infoVersion ≠ .v6Ex then (self, some .notMultipartVersion)
  else if self.received &&& other.received = other.received then (self, none)
  else if self.received &&& other.received ≠ 0 then (self, some .overlappingInfos)
  else
    let (a, b) := if self.info.infoVersion = .v6Ex ∧ self.received &&& 1 = 0 then (other, self) else (self, other)
    ({ info := { a.info with clients := a.info.clients ++ b.info.clients }, received := a.received ||| b.received }, none)

def mergeAllRepaired (acc : PartialInfo) (ps : List PartialInfo) : PartialInfo :=
  ps.foldl (fun s p => (mergeRepaired s p).1) acc

theorem mergeRepaired_eq_mergeWith : mergeRepaired = mergeWith (· ||| ·) := rfl

namespace Family

def Known (f : Family) (seen : List Nat) (s : PartialInfo) : Prop := ∀ i ∈ seen, s.received &&& f.mask i = f.mask i

/-- `seen'` is `seen` for a part seen before, `seen ++ [q]` (by `inv_step`) otherwise -/
theorem repaired_step (f : Family) (hwf : f.WellFormed) {seen : List Nat} {s : PartialInfo} (hinv : Inv f seen s)
    (hknown : Known f seen s) {q : Nat} (hq : q < f.size) :
    ∃ seen', (Inv f seen' (mergeRepaired s (f.part q)).1 ∧ Known f seen' (mergeRepaired s (f.part q)).1) ∧
      ∀ i, i ∈ seen' ↔ i ∈ seen ∨ i = q := by
  rw [mergeRepaired_eq_mergeWith]
  by_cases hmem : q ∈ seen
  · obtain ⟨htok, hver, hmulti⟩ := hinv.compat hwf hq
    rw [mergeWith_known _ htok hver hmulti (hknown q hmem)]
    exact ⟨seen, ⟨hinv, hknown⟩, fun i => ⟨Or.inl, fun h => h.elim id (fun e => e ▸ hmem)⟩⟩
  · have h2 : (mergeWith (· ||| ·) s (f.part q)).1.received = s.received ||| f.mask q := by
      by_cases hz : f.mask q = 0
      · obtain ⟨htok, hver, hmulti⟩ := hinv.compat hwf hq
        rw [mergeWith_known _ htok hver hmulti (show s.received &&& f.mask q = f.mask q by rw [hz, Nat.and_zero]),
          hz, Nat.or_zero]
      · exact mergeWith_fresh_union (hinv.fresh hwf hq hmem hz)
    refine ⟨seen ++ [q], ⟨f.inv_step hwf (fun _ _ => Or.inr rfl) hinv hq hmem, fun i hi => ?_⟩, fun i => by simp⟩
    rw [h2, Nat.and_or_distrib_right]
    rcases List.mem_append.1 hi with hi | hi
    · rw [hknown i hi, f.mask_disjoint hwf hq (hinv.range i hi) (fun e => hmem (e ▸ hi)), Nat.or_zero]
    · rw [List.mem_singleton.1 hi, hinv.disj q hq hmem, Nat.and_self, Nat.zero_or]

theorem repaired_fold (f : Family) (hwf : f.WellFormed) (rest : List Nat) :
    ∀ (seen : List Nat) (s : PartialInfo), Inv f seen s → Known f seen s → (∀ i ∈ rest, i < f.size) →
      ∃ seen', Inv f seen' (mergeAllRepaired s (rest.map f.part)) ∧ ∀ i, i ∈ seen' ↔ i ∈ seen ∨ i ∈ rest := by
  induction rest with
  | nil => intro seen s h _ _; exact ⟨seen, h, by simp⟩
  | cons q rest ih =>
    intro seen s hinv hknown hr
    obtain ⟨hq, hr'⟩ := List.forall_mem_cons.1 hr
    obtain ⟨seen1, ⟨h1, hk⟩, hm1⟩ := f.repaired_step hwf hinv hknown hq
    obtain ⟨seen2, h2, hm2⟩ := ih seen1 _ h1 hk hr'
    exact ⟨seen2, h2, fun i => by rw [hm2, hm1, List.mem_cons, or_assoc]⟩

def resultRepaired (f : Family) : List Nat → Option ServerInfo
  | [] => none
  | i :: rest => (getInfo (mergeAllRepaired (f.part i) (rest.map f.part))).2

theorem resultRepaired_spec (f : Family) (hwf : f.WellFormed) (hreq : GET_INFO_REQUIRES_MAIN = true) (seq : List Nat)
    (hne : seq ≠ []) (hr : ∀ i ∈ seq, i < f.size) :
    f.resultRepaired seq = if f.Covers seq then some f.completeInfo else none := by
  cases seq with
  | nil => exact absurd rfl hne
  | cons i0 rest =>
    obtain ⟨hi0, hr'⟩ := List.forall_mem_cons.1 hr
    obtain ⟨seen, hinv, hmem⟩ := f.repaired_fold hwf rest [i0] (f.part i0) (f.inv_start hwf i0 hi0)
      (fun i hi => by rw [List.mem_singleton.1 hi]; exact Nat.and_self _) hr'
    have hcov : f.Covers seen ↔ f.Covers (i0 :: rest) := by
      simp only [Covers, hmem, List.mem_cons, List.not_mem_nil, or_false]
    exact (hinv.getInfo_eq hwf hreq).trans (by simp only [hcov])

end Family

end Tw.ServerBrowse
