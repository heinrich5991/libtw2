import Tw.Model.TeehistorianSpec

/-! The two halves of one `Reader::read` call on reader states: what `Reader.pre` synthesises
before a record (`Emits`, `preAll`), and the cases in which `Reader.post` reports it (`Reports`).

Names, here and in the modules above: `f_spec` says what `f` returns case by case, as a `match` on
the result; its projections are named after the case (`pre_emit`, `pre_proceed`, `post_reports`). -/
namespace Tw.Teehistorian
open Spec

/-- The look-ahead cleared, as `Reader::read` leaves it first thing (`self.next_kind.take()`).
`Reader.pre`/`Reader.post` never look at `nextKind`, so what is defined from them alone takes the
same value on `rd.norm` and `rd`, by `rfl`. -/
def Reader.norm (rd : Reader) : Reader := { rd with nextKind := none }

theorem Reader.norm_eq_self {rd : Reader} (h : rd.nextKind = none) : rd.norm = rd := by
  cases rd; cases h; rfl

/-- the test `prev_player_cid >= cid` of the implicit tick end, for the client id of item id `k` -/
def kindPrevGe (rd : Reader) (k : Kind) : Bool :=
  match k.playerCid with
  | some cid => prevGe rd.prevCid cid
  | none => false

theorem kindPrevGe_player {rd : Reader} {k : Kind} (h : kindPrevGe rd k = true) :
    k ≠ .tickSkip ∧ k ≠ .finish := by
  cases k <;> simp [kindPrevGe, Kind.playerCid] at h ⊢

theorem kindPrevGe_of_prevCid_none {rd : Reader} (h : rd.prevCid = none) (k : Kind) : kindPrevGe rd k = false := by
  cases k <;> simp [kindPrevGe, Kind.playerCid, prevGe, h]

theorem pre_eq (rd : Reader) (k : Kind) :
    rd.pre k =
      if k ≠ .tickSkip ∧ k ≠ .finish ∧ rd.inTick = false then
        .emit (.tickStart rd.tick) { rd with nextKind := some k, inTick := true }
      else if kindPrevGe rd k then
        if rd.tick + 1 > i32Max then .err .tickOverflow
        else .emit (.tickEnd rd.tick)
          { rd with tick := rd.tick + 1, prevCid := none, nextKind := some k, inTick := false }
      else if k = .finish ∧ rd.inTick = true then
        .emit (.tickEnd rd.tick) { rd with nextKind := some k, inTick := false }
      else .proceed := by
  unfold Reader.pre kindPrevGe
  cases k <;> rfl

/-- The three ways `Reader.pre` synthesises an item: the start of a tick in front of a record
that lies in one, the end of a tick in front of a player record whose client id does not
increase, and the end of the open tick in front of `Finish`. -/
inductive Emits (rd : Reader) (k : Kind) : Item → Reader → Prop
  | start : rd.inTick = false → k ≠ .tickSkip → k ≠ .finish →
      Emits rd k (.tickStart rd.tick) { rd with nextKind := some k, inTick := true }
  | implicit : rd.inTick = true → kindPrevGe rd k = true →
      Emits rd k (.tickEnd rd.tick)
        { rd with tick := rd.tick + 1, prevCid := none, nextKind := some k, inTick := false }
  | finish : rd.inTick = true → k = .finish →
      Emits rd k (.tickEnd rd.tick) { rd with nextKind := some k, inTick := false }

theorem pre_spec (rd : Reader) (k : Kind) :
    ∀ res, rd.pre k = res →
      match res with
      | .emit it rd' => Emits rd k it rd'
      | .proceed =>
        (k ≠ .tickSkip → k ≠ .finish → rd.inTick = true) ∧ kindPrevGe rd k = false ∧
        (k = .finish → rd.inTick = false)
      | .err _ => True := by
  intro res h
  subst h
  have hin : ¬ (k ≠ .tickSkip ∧ k ≠ .finish ∧ rd.inTick = false) → k ≠ .tickSkip → k ≠ .finish →
      rd.inTick = true := fun hs h1 h2 => by
    cases hi : rd.inTick with
    | true => rfl
    | false => exact absurd ⟨h1, h2, hi⟩ hs
  rw [pre_eq]
  by_cases hs : k ≠ .tickSkip ∧ k ≠ .finish ∧ rd.inTick = false
  · rw [if_pos hs]
    exact .start hs.2.2 hs.1 hs.2.1
  · rw [if_neg hs]
    by_cases hg : kindPrevGe rd k = true
    · have hk := kindPrevGe_player hg
      rw [if_pos hg]
      by_cases ho : rd.tick + 1 > i32Max
      · rw [if_pos ho]; trivial
      · rw [if_neg ho]
        exact .implicit (hin hs hk.1 hk.2) hg
    · rw [if_neg hg]
      by_cases hf : k = .finish ∧ rd.inTick = true
      · rw [if_pos hf]
        exact .finish hf.2 hf.1
      · rw [if_neg hf]
        refine ⟨hin hs, by simpa using hg, fun hk => ?_⟩
        cases hi : rd.inTick with
        | false => rfl
        | true => exact absurd ⟨hk, hi⟩ hf

theorem pre_emit {rd rd' : Reader} {k : Kind} {it : Item} (h : rd.pre k = .emit it rd') :
    Emits rd k it rd' :=
  pre_spec rd k _ h

theorem pre_proceed {rd : Reader} {k : Kind} (h : rd.pre k = .proceed) :
    (k ≠ .tickSkip → k ≠ .finish → rd.inTick = true) ∧ kindPrevGe rd k = false ∧
    (k = .finish → rd.inTick = false) :=
  pre_spec rd k _ h

/-- How many items `Reader.pre` is still going to synthesise for item id `k`. -/
def phase (rd : Reader) (k : Kind) : Nat :=
  if k ≠ .tickSkip ∧ k ≠ .finish ∧ rd.inTick = false then (if kindPrevGe rd k then 3 else 1)
  else if kindPrevGe rd k then 2
  else if k = .finish ∧ rd.inTick = true then 1
  else 0

theorem phase_norm (rd : Reader) (k : Kind) : phase rd.norm k = phase rd k := rfl

theorem pre_phase {rd rd' : Reader} {k : Kind} {it : Item} (h : rd.pre k = .emit it rd') :
    phase rd' k < phase rd k := by
  cases pre_emit h with
  | start hi h1 h2 =>
    have hg : kindPrevGe { rd with nextKind := some k, inTick := true } k = kindPrevGe rd k := rfl
    simp only [phase, hg]
    cases kindPrevGe rd k <;> simp [h1, h2, hi]
  | implicit hi hg =>
    have hk := kindPrevGe_player hg
    simp [phase, kindPrevGe_of_prevCid_none, hg, hk, hi]
  | finish hi hk => subst hk; simp [phase, hi, kindPrevGe, Kind.playerCid]

theorem preAll_proceed {rd : Reader} {k : Kind} (n : Nat) (h : rd.pre k = .proceed) :
    preAll (n + 1) rd k = ([], .ready rd) := by
  simp only [preAll, h]

theorem preAll_err {rd : Reader} {k : Kind} {e : Err} (n : Nat) (h : rd.pre k = .err e) :
    preAll (n + 1) rd k = ([], .err e rd) := by
  simp only [preAll, h]

theorem preAll_emit {rd rd' : Reader} {k : Kind} {it : Item} (n : Nat) (h : rd.pre k = .emit it rd') :
    preAll (n + 1) rd k = (it :: (preAll n rd'.norm k).1, (preAll n rd'.norm k).2) := by
  simp only [preAll, h, Reader.norm]

theorem preAll_allTicks : ∀ (n : Nat) (rd : Reader) (k : Kind), (preAll n rd k).1.all isTick = true
  | 0, _, _ => rfl
  | n + 1, rd, k => by
    cases hpre : rd.pre k with
    | proceed => rw [preAll_proceed n hpre]; rfl
    | err e => rw [preAll_err n hpre]; rfl
    | emit it rd' =>
      have hit : isTick it = true := by cases pre_emit hpre <;> rfl
      rw [preAll_emit n hpre]
      simp only [List.all_cons, hit, preAll_allTicks n rd'.norm k, Bool.and_self]

theorem preAll_ready : ∀ (n : Nat) (rd : Reader) (k : Kind) (rd2 : Reader), (preAll n rd k).2 = .ready rd2 →
    rd2.pre k = .proceed ∧ rd2.players = rd.players ∧ rd2.inputs = rd.inputs
  | 0, _, _, _, h => by simp [preAll] at h
  | n + 1, rd, k, rd2, h => by
    cases hpre : rd.pre k with
    | proceed =>
      rw [preAll_proceed n hpre] at h
      obtain rfl : rd = rd2 := by simpa using h
      exact ⟨hpre, rfl, rfl⟩
    | err e => rw [preAll_err n hpre] at h; simp at h
    | emit it rd' =>
      rw [preAll_emit n hpre] at h
      obtain ⟨h1, h2, h3⟩ := preAll_ready n rd'.norm k rd2 h
      have hit : rd'.players = rd.players ∧ rd'.inputs = rd.inputs := by
        cases pre_emit hpre <;> exact ⟨rfl, rfl⟩
      exact ⟨h1, h2.trans hit.1, h3.trans hit.2⟩

theorem preAll_fuel : ∀ (n : Nat) (rd : Reader) (k : Kind), phase rd k < n →
    (preAll n rd k).2 ≠ .stuck ∧ preAll (n + 1) rd k = preAll n rd k
  | 0, _, _, h => by omega
  | n + 1, rd, k, h => by
    cases hpre : rd.pre k with
    | proceed => exact ⟨by rw [preAll_proceed n hpre]; nofun, by rw [preAll_proceed _ hpre, preAll_proceed _ hpre]⟩
    | err e => exact ⟨by rw [preAll_err n hpre]; nofun, by rw [preAll_err _ hpre, preAll_err _ hpre]⟩
    | emit it rd' =>
      have hp := pre_phase hpre
      have ih := preAll_fuel n rd'.norm k (by rw [phase_norm]; omega)
      exact ⟨by rw [preAll_emit n hpre]; exact ih.1, by rw [preAll_emit _ hpre, preAll_emit _ hpre, ih.2]⟩

theorem phase_le (rd : Reader) (k : Kind) : phase rd k ≤ 3 := by
  unfold phase; repeat' split
  all_goals omega

/-- At most three items are synthesised in front of a record. -/
theorem preAll_four (rd : Reader) (k : Kind) : (preAll 4 rd k).2 ≠ .stuck :=
  (preAll_fuel 4 rd k (Nat.lt_succ_of_le (phase_le rd k))).1

theorem post_finish (rd : Reader) : rd.post .finish = .finished rd := rfl

theorem post_tickSkip (rd : Reader) (dt : Int) :
    rd.post (.tickSkip dt) =
      if rd.tick + 1 > i32Max ∨ rd.tick + 1 + dt > i32Max then .err .tickOverflow rd
      else if rd.inTick then
        .item (.tickEnd rd.tick) { rd with tick := rd.tick + 1 + dt, prevCid := none, inTick := false }
      else
        .item (.tickStart (rd.tick + 1 + dt)) { rd with tick := rd.tick + 1 + dt, prevCid := none, inTick := true } :=
  rfl

/-- The cases in which `Reader.post` reports an item: the record, the item, the reader left. -/
inductive Reports (rd : Reader) : FItem → Item → Reader → Prop
  | skipEnd {dt : Int} : rd.inTick = true → Reports rd (.tickSkip dt) (.tickEnd rd.tick)
      { rd with tick := rd.tick + 1 + dt, prevCid := none, inTick := false }
  | skipStart {dt : Int} : rd.inTick = false → Reports rd (.tickSkip dt) (.tickStart (rd.tick + 1 + dt))
      { rd with tick := rd.tick + 1 + dt, prevCid := none, inTick := true }
  | other {o : Other} : Reports rd (.other o) (.other o)
      (o.cid.elim rd fun c => { rd with maxCid := maxInt rd.maxCid c })
  | playerNew {c x y : Int} : Reports rd (.playerNew c x y) (.playerNew c x y)
      { rd with maxCid := maxInt rd.maxCid c, prevCid := some c, players := tSet rd.players c.toNat (x, y) }
  | playerDiff {c dx dy x y : Int} : tGet rd.players c.toNat = some (x, y) →
      Reports rd (.playerDiff c dx dy) (.playerChange c (wrap32 (x + dx)) (wrap32 (y + dy)) x y)
        { rd with maxCid := maxInt rd.maxCid c, prevCid := some c,
                  players := tSet rd.players c.toNat (wrap32 (x + dx), wrap32 (y + dy)) }
  | playerOld {c x y : Int} : tGet rd.players c.toNat = some (x, y) →
      Reports rd (.playerOld c) (.playerOld c x y)
        { rd with maxCid := maxInt rd.maxCid c, prevCid := some c, players := tErase rd.players c.toNat }
  | inputNew {c : Int} {v : List Int} : Reports rd (.inputNew c v) (.input c v)
      { rd with maxCid := maxInt rd.maxCid c, inputs := tSet rd.inputs c.toNat v }
  | inputDiff {c : Int} {d inp : List Int} : tGet rd.inputs c.toNat = some inp →
      Reports rd (.inputDiff c d) (.input c (zipAdd inp d))
        { rd with maxCid := maxInt rd.maxCid c, inputs := tSet rd.inputs c.toNat (zipAdd inp d) }

/-- Which error `Reader.pre` or `Reader.post` returns, and when, is left open here: what is claimed
of a reading that ends in an error is about the items reported before it. -/
theorem post_spec (rd : Reader) (it : FItem) :
    ∀ res, rd.post it = res →
      match res with
      | .item out rd' => Reports rd it out rd'
      | .finished _ => it = .finish
      | .err _ _ => True := by
  intro res h
  cases it with
  | finish => subst h; rfl
  | other o =>
    subst h
    obtain ⟨_, cid, _⟩ := o
    cases cid <;> exact .other
  | tickSkip dt =>
    rw [post_tickSkip] at h
    split at h
    · subst h; trivial
    · cases hin : rd.inTick <;> simp only [hin, if_true, if_false, Bool.false_eq_true] at h <;> subst h
      · exact .skipStart hin
      · exact .skipEnd hin
  | _ =>
    simp only [Reader.post, FItem.cid] at h
    repeat' split at h
    all_goals
      subst h
      first
        | trivial
        | (constructor; assumption)
        | constructor

theorem post_reports {rd rd' : Reader} {it : FItem} {out : Item} (h : rd.post it = .item out rd') :
    Reports rd it out rd' :=
  post_spec rd it _ h

theorem post_finished {rd rd' : Reader} {it : FItem} (h : rd.post it = .finished rd') : it = .finish :=
  post_spec rd it _ h

theorem post_nextKind {rd rd' : Reader} {fit : FItem} {it : Item} (h : rd.post fit = .item it rd') :
    rd'.nextKind = rd.nextKind := by
  cases post_reports h with
  | @other o => obtain ⟨_, cid, _⟩ := o; cases cid <;> rfl
  | _ => rfl

end Tw.Teehistorian
