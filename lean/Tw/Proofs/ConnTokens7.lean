import Tw.Proofs.ConnSafety7

/-! 0.7 handshake (C02): handshake states are numbered by `tag`, a datagram by the tag of the state that sends it (`kind`), and
`Edge` is the graph of tag changes with what each change takes (the call `connect`, a datagram of some kind read, `Ready`).
`T7` says this, and what happens to the tokens, for one returning call or delivery; `G` accumulates it over the histories
(what an endpoint has sent bounds its tag from below; every response token it sent is its own token; the peer token it
holds is a response token the peer sent), whence `G.agree`. -/
namespace Tw.NetSim.P7
open Tw.Conn Tw.Conn7 Tw.Time Tw.NetSim

def rtok : Packet → Option Nat
  | .control _ _ (.token rt) => some rt
  | .control _ _ (.connect rt) => some rt
  | _ => none

def tag : State → Nat
  | .unconnected => 0
  | .token _ => 1
  | .connecting _ _ => 2
  | .pendingConnect _ => 3
  | .pending _ _ => 4
  | .online _ _ _ => 5
  | .disconnected => 6

/-- `Connect` 2, `Accept` 4, chunk packet 5: the tag of the state that sends it -/
def kind : Packet → Option Nat
  | .control _ _ (.connect _) => some 2
  | .control _ _ .accept => some 4
  | .chunks _ _ _ _ _ => some 5
  | _ => none

/-- the tag graph, with what each edge takes: `0 → 1` is the call `connect` (`ic`); the other changes of tag happen on
a datagram read (`rx`), of the `kind` named where the world invariant needs it; a connector goes online with `Ready` -/
inductive Edge (rx : Option Packet) (evs : List Event) (ic : Bool) : Nat → Nat → Prop
  | refl (a : Nat) : Edge rx evs ic a a
  | disc (a : Nat) : Edge rx evs ic a 6
  | e01 (h : ic = true) : Edge rx evs ic 0 1
  | e03 : Edge rx evs ic 0 3
  | e12 (h : rx ≠ none) : Edge rx evs ic 1 2
  | e25 (h : ∃ q, rx = some q ∧ kind q = some 4) (hr : Event.ready ∈ evs) : Edge rx evs ic 2 5
  | e34 (h : ∃ q, rx = some q ∧ kind q = some 2) : Edge rx evs ic 3 4
  | e45 (h : ∃ q, rx = some q ∧ kind q = some 5) : Edge rx evs ic 4 5

structure T7 (st st' : State) (sent : List Packet) (rx : Option Packet) (evs : List Event) (ic : Bool) : Prop where
  g : Edge rx evs ic (tag st) (tag st')
  m : ∀ p ∈ sent, ∀ k, kind p = some k → tag st' = k
  m0 : sent ≠ [] → tag st' ≠ 0
  r1 : ∀ p ∈ sent, ∀ rt, rtok p = some rt → st'.ownToken? = some rt
  r2 : ∀ o, st.ownToken? = some o → st'.ownToken? = some o ∨ st' = .disconnected
  r3 : ∀ t, st'.theirToken? = some t → st.theirToken? = some t ∨ ∃ q, rx = some q ∧ rtok q = some t
  ok : ∀ o, st'.ownToken? = some o → st.ownToken? = some o ∨ o ≠ TOKEN_NONE

variable {rx : Option Packet} {evs : List Event} {ic : Bool} {sent : List Packet}

/-- the sets of tags the world invariant speaks of are closed under steps (an acceptor's, `s03456`, with the one
exception `0 → 1`, the `connect` call) -/
structure Edge.Up (a b : Nat) : Prop where
  s1256 : a = 1 ∨ a = 2 ∨ a = 5 ∨ a = 6 → b = 1 ∨ b = 2 ∨ b = 5 ∨ b = 6
  s256 : a = 2 ∨ a = 5 ∨ a = 6 → b = 2 ∨ b = 5 ∨ b = 6
  s456 : a = 4 ∨ a = 5 ∨ a = 6 → b = 4 ∨ b = 5 ∨ b = 6
  s56 : a = 5 ∨ a = 6 → b = 5 ∨ b = 6
  ne0 : a ≠ 0 → b ≠ 0
  s03456 : a = 0 ∨ a = 3 ∨ a = 4 ∨ a = 5 ∨ a = 6 → (a = 0 ∧ b = 1) ∨ b = 0 ∨ b = 3 ∨ b = 4 ∨ b = 5 ∨ b = 6
  s6 : a = 6 → b = 6

theorem Edge.up {a b : Nat} (h : Edge rx evs ic a b) : Edge.Up a b := by
  cases h <;> constructor <;> simp +contextual

theorem Edge.pred {a b : Nat} (h : Edge rx evs ic a b) :
    (b = 0 → a = 0) ∧ (b = 2 → a = 1 ∨ a = 2) ∧ (b = 4 → a = 3 ∨ a = 4) ∧
    (b = 5 → a = 2 ∨ a = 4 ∨ a = 5) := by
  cases h <;> simp +contextual

/-- what taking an edge takes (its hypothesis), by the tags at its ends -/
structure Edge.Took (rx : Option Packet) (evs : List Event) (ic : Bool) (a b : Nat) : Prop where
  e01 : a = 0 → b = 1 → ic = true
  e34 : a = 3 → b = 4 → ∃ q, rx = some q ∧ kind q = some 2
  e45 : a = 4 → b = 5 → ∃ q, rx = some q ∧ kind q = some 5
  e25 : a = 2 → b = 5 → (∃ q, rx = some q ∧ kind q = some 4) ∧ Event.ready ∈ evs
  e12 : a = 1 → b = 2 → rx ≠ none

theorem Edge.took {a b : Nat} (h : Edge rx evs ic a b) : Edge.Took rx evs ic a b := by
  cases h with
  | refl a =>
    exact ⟨fun h => h ▸ nofun, fun h => h ▸ nofun, fun h => h ▸ nofun, fun h => h ▸ nofun, fun h => h ▸ nofun⟩
  | disc a => exact ⟨fun _ => nofun, fun _ => nofun, fun _ => nofun, fun _ => nofun, fun _ => nofun⟩
  | e01 h => exact ⟨fun _ _ => h, nofun, nofun, nofun, nofun⟩
  | e03 => exact ⟨nofun, nofun, nofun, nofun, nofun⟩
  | e12 h => exact ⟨nofun, nofun, nofun, nofun, fun _ _ => h⟩
  | e25 h hr => exact ⟨nofun, nofun, nofun, fun _ _ => ⟨h, hr⟩, nofun⟩
  | e34 h => exact ⟨nofun, fun _ _ => h, nofun, nofun, nofun⟩
  | e45 h => exact ⟨nofun, nofun, fun _ _ => h, nofun, nofun⟩

theorem T7.r4 {st st' : State} (t : T7 st st' sent rx evs ic) (h : st = .disconnected) : st' = .disconnected := by
  have := t.g.up.s6 (by rw [h]; rfl)
  cases st' <;> simp [tag] at this ⊢

def Mute (p : Packet) : Prop := kind p = none ∧ rtok p = none

theorem T7.same (st : State) (hk : ∀ p ∈ sent, Mute p) (h0 : sent ≠ [] → tag st ≠ 0) : T7 st st sent rx evs ic :=
  ⟨.refl _, fun p hp k h => (by rw [(hk p hp).1] at h; cases h), h0,
    fun p hp rt h => (by rw [(hk p hp).2] at h; cases h), fun _ h => Or.inl h, fun _ h => Or.inl h, fun _ h => Or.inl h⟩

theorem T7.disc {st : State} (hk : ∀ p ∈ sent, Mute p) : T7 st .disconnected sent rx evs ic :=
  ⟨.disc _, fun p hp k h => (by rw [(hk p hp).1] at h; cases h), fun _ => (by simp [tag]),
    fun p hp rt h => (by rw [(hk p hp).2] at h; cases h), fun _ _ => Or.inr rfl, fun _ h => (by cases h),
    fun _ h => (by cases h)⟩

theorem T7.onl {own their : Nat} {o o' : Online}
    (hk : ∀ p ∈ sent, (∀ k, kind p = some k → k = 5) ∧ rtok p = none) :
    T7 (.online own their o) (.online own their o') sent rx evs ic :=
  ⟨.refl _, fun p hp k h => ((hk p hp).1 k h).symm, fun _ => (by simp [tag]),
    fun p hp rt h => (by rw [(hk p hp).2] at h; cases h), fun _ h => Or.inl h, fun _ h => Or.inl h, fun _ h => Or.inl h⟩

theorem kind_ofFlushed (their : Nat) (fl : List Flushed) :
    ∀ p ∈ fl.map (ofFlushed their), (∀ k, kind p = some k → k = 5) ∧ rtok p = none := by
  intro p hp
  obtain ⟨f, _, rfl⟩ := List.mem_map.mp hp
  exact ⟨fun k hk => (by injection hk with hk; exact hk.symm), rfl⟩

/-- the control message that `tick_action` sends from `st'`, a state just entered from `st` (or `st` itself) -/
theorem T7.ctl {st st' : State} {ctl : Control} (hc : st'.tickControl = some ctl)
    (g : Edge rx evs ic (tag st) (tag st')) (h2 : ∀ o, st.ownToken? = some o → st'.ownToken? = some o)
    (h3 : ∀ t, st'.theirToken? = some t → st.theirToken? = some t ∨ ∃ q, rx = some q ∧ rtok q = some t)
    (hok : ∀ o, st'.ownToken? = some o → st.ownToken? = some o ∨ o ≠ TOKEN_NONE) :
    T7 st st' [.control st'.ctlAck st'.ctlToken ctl] rx evs ic := by
  have hp : (∀ k, kind (.control st'.ctlAck st'.ctlToken ctl) = some k → tag st' = k) ∧
      (∀ rt, rtok (.control st'.ctlAck st'.ctlToken ctl) = some rt → st'.ownToken? = some rt) ∧ tag st' ≠ 0 := by
    cases st' <;> cases hc
    · exact ⟨fun _ hk => (by cases hk), fun _ h => h, by simp [tag]⟩
    · exact ⟨fun _ hk => (by cases hk; rfl), fun _ h => h, by simp [tag]⟩
    · exact ⟨fun _ hk => (by cases hk; rfl), fun _ h => (by cases h), by simp [tag]⟩
    · exact ⟨fun _ hk => (by cases hk), fun _ h => (by cases h), by simp [tag]⟩
  exact ⟨g, fun p hp' => List.mem_singleton.mp hp' ▸ hp.1, fun _ => hp.2.2,
    fun p hp' => List.mem_singleton.mp hp' ▸ hp.2.1, fun o ho => Or.inl (h2 o ho), h3, hok⟩

theorem T7.of_online {own their : Nat} {o o1 : Online} {st' : State}
    (t : T7 (.online own their o1) st' sent rx evs ic) : T7 (.online own their o) st' sent rx evs ic :=
  ⟨t.g, t.m, t.m0, t.r1, t.r2, t.r3, t.ok⟩

def rxOf : In → Option Packet
  | .fed p => some p
  | _ => none

def isConnIn : In → Bool
  | .connect => true
  | _ => false

theorem t7_stepped {env : Env} {i : In} {c c' : Conn} {out : Out} (h : Stepped env i c c' out) :
    T7 c.state c'.state out.sent (rxOf i) out.events (isConnIn i) := by
  induction h with
  | same hi hs he => rw [hs]; exact T7.same _ (by simp) (by simp)
  | cleared hi hc => exact T7.same _ (by simp) (by simp)
  | @ctl i c st' ctl hi hm hc =>
    obtain ⟨st, snd⟩ := c
    cases hm with
    | stay => exact T7.ctl hc (.refl _) (fun _ h => h) (fun _ h => .inl h) (fun _ h => .inl h)
    | connect hd =>
      exact T7.ctl hc (.e01 rfl) (fun o ho => by cases ho) (fun t ht => by cases ht)
        (fun o ho => by cases ho; exact .inr (tokenRandom_ne hd))
    | tokenAnswer =>
      exact T7.ctl hc (.e12 nofun) (fun o ho => ho)
        (fun t ht => .inr ⟨_, rfl, by simpa [rtok, State.theirToken?] using ht⟩) (fun o ho => .inl ho)
    | fedConnect =>
      exact T7.ctl hc (.e34 ⟨_, rfl, rfl⟩) (fun o ho => ho)
        (fun t ht => .inr ⟨_, rfl, by simpa [rtok, State.theirToken?] using ht⟩) (fun o ho => .inl ho)
  | @core i c own their o o' s' fl evs hst hd =>
    have hq := kind_ofFlushed their fl
    rcases hst with hst | ⟨hst, _, a, tk, rr, n, cs, rfl⟩
    · rw [hst]; exact T7.onl hq
    · -- a pending acceptor goes online with the first chunk packet
      rw [hst]
      exact ⟨.e45 ⟨_, rfl, rfl⟩, fun p hp k hk => ((hq p hp).1 k hk).symm, by simp [tag],
        fun p hp rt h => (by rw [(hq p hp).2] at h; cases h), fun _ h => Or.inl h, fun _ h => Or.inl h,
        fun _ h => Or.inl h⟩
  | acked hp hst hfa _ ih => rw [hst]; exact ih.of_online
  | connless hst hps =>
    rcases hps with rfl | ⟨_, rfl⟩
    · exact T7.same _ (by simp) (by simp)
    · exact T7.same _ (List.forall_mem_singleton.2 ⟨rfl, rfl⟩) (fun _ => by rw [hst]; simp [tag])
  | @tokenRequest c a tk their own hst =>
    -- an acceptor answers every token request with its own token, drawn at the first one
    rcases hst with ⟨hst, htk⟩ | hst
    · rw [hst]
      exact ⟨.e03, (by intro p hp k hk; cases List.mem_singleton.mp hp; cases hk), by simp [tag],
        by simp [rtok, State.ownToken?], fun o ho => (by cases ho), fun t ht => (by cases ht),
        fun o ho => by cases ho; exact Or.inr (tokenRandom_ne htk)⟩
    · rw [hst]
      exact ⟨.refl _, (by intro p hp k hk; cases List.mem_singleton.mp hp; cases hk), by simp [tag],
        by simp [rtok, State.ownToken?], fun o ho => Or.inl ho, fun t ht => Or.inl ht, fun o ho => Or.inl ho⟩
  | accept hst =>
    rw [hst]
    exact ⟨.e25 ⟨_, rfl, rfl⟩ (List.mem_singleton_self _), by simp, by simp,
      by simp, fun _ h => Or.inl h, fun _ h => Or.inl h, fun _ h => Or.inl h⟩
  | closed => exact T7.disc (by simp)
  | disconnect hst => exact T7.disc (List.forall_mem_singleton.2 ⟨rfl, rfl⟩)

def isConn : Call → Bool
  | .connect => true
  | _ => false

theorem t7_call (now : Nat) (draws : List Nat) (c : Conn) (cl : Call) (r : Ret Conn Packet)
    (hr : P7.call now draws c cl = .ok r) :
    T7 c.state r.conn.state r.sent none r.events (isConn cl) := by
  obtain ⟨out, hs, h1, h2⟩ := call_stepped hr
  have := t7_stepped hs
  rw [← h1, ← h2] at this
  cases cl <;> exact this

theorem t7_recv (now : Nat) (draws : List Nat) (c : Conn) (p : Packet) (alt : Unit) (r : Ret Conn Packet)
    (hr : P7.recv now draws c p alt = .ok r) : T7 c.state r.conn.state r.sent (some p) r.events false := by
  obtain ⟨out, hs, h1, h2⟩ := recv_stepped hr
  rw [h1, h2]
  exact t7_stepped hs

def sentK (e : End proto7) (k : Nat) : Prop := ∃ dg ∈ e.out, kind dg.pkt = some k

structure G (e peer : End proto7) : Prop where
  own : ∀ dg ∈ e.out, ∀ rt, rtok dg.pkt = some rt →
    e.conn.state.ownToken? = some rt ∨ e.conn.state = .disconnected
  their : ∀ t, e.conn.state.theirToken? = some t → ∃ dg ∈ peer.out, rtok dg.pkt = some t
  ok : ∀ o, e.conn.state.ownToken? = some o → o ≠ TOKEN_NONE
  h0 : tag e.conn.state = 0 → e.out = []
  h2 : sentK e 2 → tag e.conn.state = 2 ∨ tag e.conn.state = 5 ∨ tag e.conn.state = 6
  h4 : sentK e 4 → tag e.conn.state = 4 ∨ tag e.conn.state = 5 ∨ tag e.conn.state = 6
  h5 : sentK e 5 → tag e.conn.state = 5 ∨ tag e.conn.state = 6

theorem G.peer_mono {e peer peer' : End proto7} (h : G e peer) (hout : ∀ dg ∈ peer.out, dg ∈ peer'.out) :
    G e peer' :=
  ⟨h.own, fun t ht => by obtain ⟨dg, hdg, hr⟩ := h.their t ht; exact ⟨dg, hout dg hdg, hr⟩, h.ok, h.h0, h.h2, h.h4, h.h5⟩

theorem G.act {e peer : End proto7} (h : G e peer) {r : Ret Conn Packet} {rx : Option Packet} {ic : Bool}
    (t : T7 e.conn.state r.conn.state r.sent rx r.events ic)
    (hrx : ∀ q, rx = some q → ∃ dg ∈ peer.out, dg.pkt = q) (sub : List (Bytes × Bool)) :
    G (e.book r sub) peer := by
  have old : ∀ k, sentK (e.book r sub) k → sentK e k ∨ tag r.conn.state = k := fun k hs =>
    ((out_book (P := proto7) (fun p => kind p = some k) e r sub).1 hs).imp_right fun ⟨p, hp, hk⟩ => t.m p hp k hk
  refine ⟨?_, ?_, ?_, fun hb => ?_, fun hs => ?_, fun hs => ?_, fun hs => ?_⟩
  · intro dg hdg rt hr
    simp only [End.book, List.mem_append, List.mem_map] at hdg
    show r.conn.state.ownToken? = some rt ∨ r.conn.state = .disconnected
    rcases hdg with hdg | ⟨p, hp, rfl⟩
    · rcases h.own dg hdg rt hr with ho | hd
      · exact t.r2 rt ho
      · exact Or.inr (t.r4 hd)
    · exact Or.inl (t.r1 p hp rt hr)
  · intro t' ht
    rcases t.r3 t' ht with h3 | ⟨q, hq, hqr⟩
    · exact h.their t' h3
    · obtain ⟨dg, hdg, hpk⟩ := hrx q hq
      exact ⟨dg, hdg, by rw [hpk]; exact hqr⟩
  · intro o ho
    exact (t.ok o ho).elim (h.ok o) id
  · have hs : r.sent = [] := Classical.byContradiction fun hne => t.m0 hne hb
    simp [End.book, h.h0 (t.g.pred.1 hb), hs]; rfl
  · exact (old 2 hs).elim (fun h1 => t.g.up.s256 (h.h2 h1)) .inl
  · exact (old 4 hs).elim (fun h1 => t.g.up.s456 (h.h4 h1)) .inl
  · exact (old 5 hs).elim (fun h1 => t.g.up.s56 (h.h5 h1)) .inl

def Agree7 (w : World proto7) : Prop := G w.a w.b ∧ G w.b w.a

theorem agree7_init : Agree7 (World.init proto7) := by
  have : G ({ conn := Conn.new } : End proto7) { conn := Conn.new } :=
    ⟨fun dg hdg => by simp at hdg, fun t ht => by simp [Conn.new, State.theirToken?] at ht,
      fun o ho => by simp [Conn.new, State.ownToken?] at ho, fun _ => rfl,
      (by rintro ⟨dg, hdg, _⟩; simp at hdg), (by rintro ⟨dg, hdg, _⟩; simp at hdg), (by rintro ⟨dg, hdg, _⟩; simp at hdg)⟩
  exact ⟨this, this⟩

theorem g7_rel : Rel proto7 (fun _ => G) where
  adv _ h := h
  call sub hr h := h.act (t7_call _ _ _ _ _ hr) (by intro q hq; cases hq) sub
  recv hdg hr h _ := h.act (t7_recv _ _ _ _ () _ hr) (fun q hq => ⟨_, hdg, by injection hq⟩) []
  mono r sub h := h.peer_mono (book_out_mono _ _ _)

theorem agree7_run (ms : List (Move proto7)) (w w' : World proto7) : Agree7 w → run w ms = some w' → Agree7 w' :=
  g7_rel.run ms w w'

/-- **token agreement**: the peer token an endpoint attaches to its datagrams is the own token of a
peer that is still in the game (has an own token, i.e. is neither unconnected nor disconnected) -/
theorem G.agree {e peer : End proto7} (h1 : G e peer) (h2 : G peer e) {t o : Nat}
    (ht : e.conn.state.theirToken? = some t) (ho : peer.conn.state.ownToken? = some o) : t = o := by
  obtain ⟨dg, hdg, hr⟩ := h1.their t ht
  rcases h2.own dg hdg t hr with h | h
  · rw [ho] at h; injection h with h; exact h.symm
  · rw [h] at ho; cases ho

end Tw.NetSim.P7
