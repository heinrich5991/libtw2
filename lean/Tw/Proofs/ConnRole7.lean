import Tw.Proofs.ConnTokens7

/-! 0.7 handshake shapes (C02): on top of `Agree7`, which tags a connector and an acceptor can have and how they constrain
the peer's tag (`Jx`; the world invariant `J` is `Jx` both ways, its flags say who has called `connect`).  Why steps keep
it is said above `Jx.peer`. -/
namespace Tw.NetSim.P7
open Tw.Conn Tw.Conn7 Tw.Time Tw.NetSim

/-- what the handshake state of `e` says about itself and about its peer; `f`: `e` has called `connect` -/
structure Jx (f : Bool) (e peer : End proto7) : Prop where
  con : f = true → (tag e.conn.state = 1 ∨ tag e.conn.state = 2 ∨ tag e.conn.state = 5 ∨ tag e.conn.state = 6) ∧
    (tag e.conn.state = 5 → Event.ready ∈ e.events) ∧
    (tag e.conn.state = 5 → tag peer.conn.state = 4 ∨ tag peer.conn.state = 5 ∨ tag peer.conn.state = 6)
  acc : f = false → (tag e.conn.state = 0 ∨ tag e.conn.state = 3 ∨ tag e.conn.state = 4 ∨
      tag e.conn.state = 5 ∨ tag e.conn.state = 6) ∧
    (tag e.conn.state = 5 → tag peer.conn.state = 5 ∨ tag peer.conn.state = 6)
  x1 : tag e.conn.state = 4 → tag peer.conn.state = 2 ∨ tag peer.conn.state = 5 ∨ tag peer.conn.state = 6
  x3 : tag e.conn.state = 2 → tag peer.conn.state ≠ 0

/-- `fa`: `a` has called `connect`; `fb`: `b` has -/
structure J (fa fb : Bool) (w : World proto7) : Prop where
  g : Agree7 w
  a : Jx fa w.a w.b
  b : Jx fb w.b w.a

theorem sentK_of_rx {e : End proto7} {rx : Option Packet} (hrx : ∀ q, rx = some q → ∃ dg ∈ e.out, dg.pkt = q)
    {k : Nat} : (∃ q, rx = some q ∧ kind q = some k) → sentK e k := by
  rintro ⟨q, hq, hk⟩
  obtain ⟨dg, hdg, hp⟩ := hrx q hq
  exact ⟨dg, hdg, by rw [hp]; exact hk⟩

/- Every clause of `Jx` has the form "own tag in P → peer tag in Q" with `Q` closed under steps, so a step
of the peer keeps it (`Jx.peer`: `Edge.up`); a step of the owner into `P` comes from one of few tags
(`Edge.pred`), and for each of them `Edge.took` names a datagram of the peer, whose tag `G.h0`–`G.h5` then bound. -/
theorem Jx.peer {f : Bool} {e peer : End proto7} (h : Jx f e peer) {r : Ret Conn Packet} {rx : Option Packet}
    {evs : List Event} {ic : Bool} (g : Edge rx evs ic (tag peer.conn.state) (tag r.conn.state))
    (sub : List (Bytes × Bool)) : Jx f e (peer.book r sub) :=
  ⟨fun hf => ⟨(h.con hf).1, (h.con hf).2.1, fun h5 => g.up.s456 ((h.con hf).2.2 h5)⟩,
    fun hf => ⟨(h.acc hf).1, fun h5 => g.up.s56 ((h.acc hf).2 h5)⟩,
    fun h4 => g.up.s256 (h.x1 h4), fun h2 => g.up.ne0 (h.x3 h2)⟩

theorem Jx.own {f : Bool} {e peer : End proto7} (h : Jx f e peer) (gp : G peer e) {r : Ret Conn Packet}
    {rx : Option Packet} {ic : Bool} (t : T7 e.conn.state r.conn.state r.sent rx r.events ic)
    (hrx : ∀ q, rx = some q → ∃ dg ∈ peer.out, dg.pkt = q)
    (hic : ic = true → tag e.conn.state = 0 ∧ tag r.conn.state = 1) (sub : List (Bytes × Bool)) :
    Jx (f || ic) (e.book r sub) peer := by
  have e1 : (e.book r sub).conn.state = r.conn.state := rfl
  have e2 : (e.book r sub).events = e.events ++ r.events := rfl
  refine ⟨fun hf => ?_, fun hf => ?_, fun h4 => ?_, fun h2 h0 => ?_⟩
  · rw [e1, e2]
    cases ic with
    | true =>
      obtain ⟨_, h1⟩ := hic rfl
      exact ⟨.inl h1, fun h5 => by omega, fun h5 => by omega⟩
    | false =>
      obtain ⟨r1, r2, r3⟩ := h.con (by simpa using hf)
      -- a connector becomes online from `connecting` only
      have h25 : tag r.conn.state = 5 → tag e.conn.state = 5 ∨ tag e.conn.state = 2 := by
        intro h5; have := t.g.pred.2.2.2 h5; omega
      refine ⟨t.g.up.s1256 r1, fun h5 => ?_, fun h5 => ?_⟩
      · rcases h25 h5 with ha | ha
        · exact List.mem_append_left _ (r2 ha)
        · exact List.mem_append_right _ (t.g.took.e25 ha h5).2
      · rcases h25 h5 with ha | ha
        · exact r3 ha
        · exact gp.h4 (sentK_of_rx hrx (t.g.took.e25 ha h5).1)
  · obtain ⟨hfb, hicf⟩ : f = false ∧ ic = false := by simpa using hf
    obtain ⟨s1, s2⟩ := h.acc hfb
    -- an acceptor becomes online from `pending` only
    have h45 : tag r.conn.state = 5 → tag e.conn.state = 5 ∨ tag e.conn.state = 4 := by
      intro h5; have := t.g.pred.2.2.2 h5; omega
    refine ⟨(t.g.up.s03456 s1).resolve_left fun ⟨h0, h1⟩ => ?_, fun h5 => ?_⟩
    · have := t.g.took.e01 h0 h1
      rw [hicf] at this; cases this
    · rcases h45 h5 with hb | hb
      · exact s2 hb
      · exact gp.h5 (sentK_of_rx hrx (t.g.took.e45 hb h5))
  · rcases t.g.pred.2.2.1 h4 with h3 | h4'
    · exact gp.h2 (sentK_of_rx hrx (t.g.took.e34 h3 h4))
    · exact h.x1 h4'
  · rcases t.g.pred.2.1 h2 with h1 | h2'
    · cases hrxv : rx with
      | none => exact t.g.took.e12 h1 h2 hrxv
      | some q =>
        obtain ⟨dg, hdg, _⟩ := hrx q hrxv
        rw [gp.h0 h0] at hdg
        cases hdg
    · exact h.x3 h2' h0

def isConnectBy (x : Side) : Move proto7 → Bool
  | .call s _ c => decide (s = x) && isConn c
  | _ => false

def connects (x : Side) (ms : List (Move proto7)) : Bool := ms.any (isConnectBy x)

theorem call_connect_tags {now : Nat} {draws : List Nat} {c : Conn} {r : Ret Conn Packet}
    (hr : P7.call now draws c .connect = .ok r) : tag c.state = 0 ∧ tag r.conn.state = 1 := by
  simp only [P7.call] at hr
  split at hr
  · cases hr
  · cases hr
    obtain ⟨r, hr, hg⟩ := step_runs_ok (op := .connect) ‹_›
    cases hr with
    | misuse => cases hg
    | same hop => rcases hop with h | ⟨_, h⟩ <;> cases h
    | connect hst =>
      obtain ⟨rfl, _⟩ := ctl_eq hg
      exact ⟨by rw [hst]; rfl, rfl⟩
    | core _ _ hx => exact hx.elim

theorem j_init : J false false (World.init proto7) := by
  have : Jx false ({ conn := Conn.new } : End proto7) { conn := Conn.new } :=
    ⟨nofun, fun _ => ⟨.inl rfl, nofun⟩, nofun, nofun⟩
  exact ⟨agree7_init, this, this⟩

theorem j_step {fa fb : Bool} {w w' : World proto7} (h : J fa fb w) (m : Move proto7) (he : step w m = some w') :
    J (fa || isConnectBy .a m) (fb || isConnectBy .b m) w' := by
  have hg' := g7_rel.step h.g he
  cases step_cases he with
  | advance dt =>
    simp only [isConnectBy, Bool.or_false]
    exact ⟨h.g, h.a, h.b⟩
  | call s draws c r hr =>
    have t := t7_call _ _ _ _ _ hr
    have hic : isConn c = true → tag (w.get s).conn.state = 0 ∧ tag r.conn.state = 1 := by
      intro hc
      cases c <;> simp [isConn] at hc
      exact call_connect_tags hr
    cases s with
    | a =>
      have e1 : isConnectBy .a (.call .a draws c) = isConn c := by simp [isConnectBy]
      have e2 : isConnectBy .b (.call .a draws c) = false := by simp [isConnectBy]
      rw [e1, e2, Bool.or_false]
      exact ⟨hg', h.a.own h.g.2 t nofun hic _, h.b.peer t.g _⟩
    | b =>
      have e1 : isConnectBy .b (.call .b draws c) = isConn c := by simp [isConnectBy]
      have e2 : isConnectBy .a (.call .b draws c) = false := by simp [isConnectBy]
      rw [e1, e2, Bool.or_false]
      exact ⟨hg', h.a.peer t.g _, h.b.own h.g.1 t nofun hic _⟩
  | deliver to i draws alt dg r hm hr =>
    have t := t7_recv _ _ _ _ alt _ hr
    have hrx : ∀ q, some dg.pkt = some q → ∃ dg' ∈ (w.get to.other).out, dg'.pkt = q := by
      intro q hq; injection hq with hq; exact ⟨dg, hm, hq⟩
    simp only [isConnectBy, Bool.or_false]
    cases to with
    | a => exact ⟨hg', Bool.or_false fa ▸ h.a.own h.g.2 t hrx nofun [], h.b.peer t.g _⟩
    | b => exact ⟨hg', h.a.peer t.g _, Bool.or_false fb ▸ h.b.own h.g.1 t hrx nofun []⟩

theorem j_run : ∀ (ms : List (Move proto7)) (fa fb : Bool) (w w' : World proto7), J fa fb w →
    NetSim.run w ms = some w' → J (fa || connects .a ms) (fb || connects .b ms) w' := by
  intro ms
  induction ms with
  | nil => intro fa fb w w' h he; simp [NetSim.run] at he; subst he; simpa [connects] using h
  | cons m ms ih =>
    intro fa fb w w' h he
    simp only [NetSim.run] at he
    cases hst : step w m with
    | none => rw [hst] at he; cases he
    | some w1 =>
      rw [hst] at he
      have := ih _ _ w1 w' (j_step h m hst) he
      simpa [connects, Bool.or_assoc] using this

end Tw.NetSim.P7
