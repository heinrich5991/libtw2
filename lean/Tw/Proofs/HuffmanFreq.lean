import Tw.Model.HuffmanFreq

/-! The merge loop of `from_frequencies` (`buildTree`) step by step, and its run on frequency
vectors that are zero except for EOF (defect D16): every merge has frequency 0, the stable sort keeps
the freshly created parent last, so the tree degenerates into a chain as deep as the vector is long
and the 25th push onto the 24-entry stack fails. -/
namespace Tw.Huffman

theorem node_push (nodes : Table) (x : Nat × Nat) (i : Nat) :
    node (nodes.push x) i = if i = nodes.size then x else node nodes i := by
  simp only [node, Array.getD_eq_getD_getElem?, Array.getElem?_push]
  by_cases h : i = nodes.size
  · simp [h]
  · simp [h]

theorem buildTree_step (f : Nat) (fs : List Freq) (nodes : Table) (f1 f2 : Freq)
    (restRev : List Freq) (hlen : ¬ fs.length ≤ 1)
    (hrev : (sortDesc fs).reverse = f1 :: f2 :: restRev) :
    buildTree (f + 1) fs nodes =
      buildTree f (restRev.reverse ++
        [⟨if f1.frequency + f2.frequency > U32_MAX then U32_MAX else f1.frequency + f2.frequency,
          nodes.size⟩]) (nodes.push (f1.nodeIdx, f2.nodeIdx)) := by
  rw [buildTree]
  simp only [hlen, if_false, hrev]

theorem buildTree_single (f : Nat) (x : Freq) (nodes : Table) : buildTree f [x] nodes = nodes := by
  cases f with
  | zero => rfl
  | succ f' => rw [buildTree]; simp

theorem buildTree_preserve (fuel : Nat) : ∀ (fs : List Freq) (nodes : Table) (i : Nat),
    i < nodes.size → node (buildTree fuel fs nodes) i = node nodes i := by
  induction fuel with
  | zero => intro fs nodes i _; rfl
  | succ f ih =>
    intro fs nodes i hi
    rw [buildTree]
    split
    · rfl
    · split
      · rw [ih _ _ i (by simp only [Array.size_push]; omega), node_push, if_neg (by omega)]
      · rfl

theorem buildTree_congr (fuel : Nat) (fs fs' : List Freq) (nodes : Table)
    (hl : fs.length = fs'.length) (hs : sortDesc fs = sortDesc fs') :
    buildTree fuel fs nodes = buildTree fuel fs' nodes := by
  cases fuel with
  | zero => rfl
  | succ f => simp only [buildTree, hl, hs]

theorem insertDesc_perm (x : Freq) (l : List Freq) : (insertDesc x l).Perm (x :: l) := by
  induction l with
  | nil => exact List.Perm.refl _
  | cons y ys ih =>
    simp only [insertDesc]
    split
    · exact (List.Perm.cons y ih).trans (List.Perm.swap x y ys)
    · exact List.Perm.refl _

theorem foldl_insert_perm (l : List Freq) :
    ∀ acc, (l.foldl (fun acc x => insertDesc x acc) acc).Perm (acc ++ l) := by
  induction l with
  | nil => intro acc; simp
  | cons x l ih =>
    intro acc
    simp only [List.foldl_cons]
    refine (ih _).trans ?_
    refine (List.Perm.append_right l (insertDesc_perm x acc)).trans ?_
    exact (List.perm_middle (a := x) (l₁ := acc) (l₂ := l)).symm

theorem sortDesc_perm (l : List Freq) : (sortDesc l).Perm l := by
  simpa [sortDesc] using foldl_insert_perm l []

theorem insertDesc_ge (x : Freq) (acc : List Freq) (h : ∀ y ∈ acc, y.frequency ≥ x.frequency) :
    insertDesc x acc = acc ++ [x] := by
  induction acc with
  | nil => rfl
  | cons y ys ih =>
    have hy := h y (by simp)
    simp only [insertDesc, hy, if_true, List.cons_append]
    rw [ih (fun z hz => h z (by simp [hz]))]

theorem foldl_insert_const (c : Nat) (l : List Freq) (hl : ∀ x ∈ l, x.frequency = c) :
    ∀ acc : List Freq, (∀ y ∈ acc, y.frequency ≥ c) →
      l.foldl (fun acc x => insertDesc x acc) acc = acc ++ l := by
  induction l with
  | nil => intro acc _; simp
  | cons x l ih =>
    intro acc hacc
    have hx := hl x (by simp)
    simp only [List.foldl_cons]
    rw [insertDesc_ge x acc (fun y hy => by rw [hx]; exact hacc y hy),
      ih (fun z hz => hl z (by simp [hz])) _ (by
        intro y hy
        simp only [List.mem_append, List.mem_singleton] at hy
        rcases hy with hy | rfl
        · exact hacc y hy
        · omega)]
    simp

theorem sortDesc_zeros (zs₁ zs₂ : List Freq) (e : Freq) (he : 0 < e.frequency)
    (hz₁ : ∀ z ∈ zs₁, z.frequency = 0) (hz₂ : ∀ z ∈ zs₂, z.frequency = 0) :
    sortDesc (zs₁ ++ e :: zs₂) = e :: (zs₁ ++ zs₂) := by
  have hins : insertDesc e zs₁ = e :: zs₁ := by
    cases zs₁ with
    | nil => rfl
    | cons z _ => simp [insertDesc, hz₁ z (by simp), Nat.ne_of_gt he]
  simp only [sortDesc, List.foldl_append, List.foldl_cons]
  rw [foldl_insert_const 0 zs₁ hz₁ [] (fun _ h => nomatch h), List.nil_append, hins,
    foldl_insert_const 0 zs₂ hz₂ _ (fun _ _ => Nat.zero_le _)]
  rfl

/-- With the positive element `e` in front and zeros behind it, every round merges the last two
elements and puts the parent last again: the node created first has `l` as first child, every later
one its predecessor. -/
theorem buildTree_zeros (fuel : Nat) :
    ∀ (zs : List Freq) (e l : Freq) (nodes : Table), 0 < e.frequency →
      (∀ z ∈ zs, z.frequency = 0) → l.frequency = 0 → zs.length + 2 ≤ fuel →
      (buildTree fuel (e :: (zs ++ [l])) nodes).size = nodes.size + zs.length + 1
        ∧ (node (buildTree fuel (e :: (zs ++ [l])) nodes) nodes.size).1 = l.nodeIdx
        ∧ ∀ i, nodes.size < i → i < (buildTree fuel (e :: (zs ++ [l])) nodes).size →
            (node (buildTree fuel (e :: (zs ++ [l])) nodes) i).1 = i - 1 := by
  induction fuel with
  | zero => intro zs e l nodes _ _ _ hf; omega
  | succ f ih =>
    intro zs e l nodes he hz hl hf
    have hsort : sortDesc (e :: (zs ++ [l])) = e :: (zs ++ [l]) :=
      sortDesc_zeros [] (zs ++ [l]) e he (by simp) (by
        intro z hm
        simp only [List.mem_append, List.mem_singleton] at hm
        rcases hm with hm | rfl
        · exact hz z hm
        · exact hl)
    have hlen : ¬ (e :: (zs ++ [l])).length ≤ 1 := by simp
    rcases List.eq_nil_or_concat zs with rfl | ⟨zs', z, rfl⟩
    · -- the last merge: parent and `e`
      have hrev : (sortDesc (e :: ([] ++ [l]))).reverse = [l, e] := by rw [hsort]; rfl
      rw [buildTree_step f _ nodes _ _ _ hlen hrev]
      simp only [List.reverse_nil, List.nil_append]
      rw [buildTree_single]
      refine ⟨by simp, by rw [node_push]; simp, fun i h1 h2 => ?_⟩
      simp only [Array.size_push] at h2
      omega
    · have hzz : z.frequency = 0 := hz z (by simp)
      have hrev : (sortDesc (e :: (zs'.concat z ++ [l]))).reverse = l :: z :: (zs'.reverse ++ [e]) := by
        rw [hsort]; simp
      rw [buildTree_step f _ nodes _ _ _ hlen hrev]
      have hu : ¬ (0 > U32_MAX) := by decide
      simp only [hl, hzz, Nat.add_zero, hu, if_false, List.reverse_append, List.reverse_cons,
        List.reverse_nil, List.nil_append, List.reverse_reverse, List.cons_append]
      obtain ⟨h1, h2, h3⟩ := ih zs' e ⟨0, nodes.size⟩ (nodes.push (l.nodeIdx, z.nodeIdx)) he
        (fun z' hz' => hz z' (by simp [hz'])) rfl (by simp at hf ⊢; omega)
      simp only [Array.size_push] at h1 h2 h3
      refine ⟨by rw [h1]; simp; omega, ?_, fun i hi1 hi2 => ?_⟩
      · rw [buildTree_preserve _ _ _ nodes.size (by simp), node_push]; simp
      · by_cases hi : i = nodes.size + 1
        · rw [hi, h2]; rfl
        · exact h3 i (by omega) hi2

theorem descend_ok_lt (nodes : Table) (fuel : Nat) :
    ∀ (stack : List Nat) (top : Nat) (st : List Nat) (tp : Nat),
      descend nodes fuel stack top = .ok st tp → tp < NUM_SYMBOLS := by
  induction fuel with
  | zero => intro stack top st tp h; simp [descend] at h
  | succ f ih =>
    intro stack top st tp h
    simp only [descend] at h
    split at h
    · split at h
      · cases h
      · split at h
        · cases h
        · exact ih _ _ _ _ h
    · cases h; omega

/-- the stack overflow: 24 pushes along a chain, the 25th panics -/
theorem descend_chain (nodes : Table) (b : Nat) (hb : NUM_SYMBOLS ≤ b)
    (hc : ∀ i, b < i → i < nodes.size → (node nodes i).1 = i - 1) (n : Nat) :
    ∀ (fuel : Nat) (stack : List Nat) (top : Nat), stack.length + n = 24 → b + n < top →
      top < nodes.size → n < fuel →
      descend nodes fuel stack top
        = .panic "stack.push: ArrayVec capacity (code longer than 24 bits)" := by
  induction n with
  | zero =>
    intro fuel stack top hst h1 h2 hf
    cases fuel with
    | zero => omega
    | succ f =>
      have e1 : top ≥ NUM_SYMBOLS := by omega
      have e2 : stack.length ≥ 24 := by omega
      simp only [descend, e1, e2, if_true]
  | succ n ih =>
    intro fuel stack top hst h1 h2 hf
    cases fuel with
    | zero => omega
    | succ f =>
      have e1 : top ≥ NUM_SYMBOLS := by omega
      have e2 : ¬ stack.length ≥ 24 := by omega
      have e3 : ¬ top ≥ nodes.size := by omega
      simp only [descend, e1, e2, e3, if_true, if_false]
      rw [hc top (by omega) h2]
      exact ih f (top :: stack) (top - 1) (by simp only [List.length_cons]; omega) (by omega)
        (by omega) (by omega)

theorem fromFrequencies_zero_panics :
    fromFrequencies (List.replicate 256 0)
      = .panic "stack.push: ArrayVec capacity (code longer than 24 bits)" := by
  have hlen : ¬ (List.replicate 256 0).length ≠ 256 := by
    rw [List.length_replicate]; exact fun h => h rfl
  rw [fromFrequencies, if_neg hlen]
  -- The 256 leaves: all that matters is that their frequencies are zero.  (They are made a variable
  -- before anything else is simplified: a definitional step on the closed term would have the kernel
  -- run the whole merge loop.)
  generalize hzs : (List.replicate 256 0).zipIdx.map _ = zs
  dsimp only
  have hz : ∀ z ∈ zs, z.frequency = 0 := by
    subst hzs
    intro z hm
    simp only [List.mem_map] at hm
    obtain ⟨p, hp, rfl⟩ := hm
    exact List.eq_of_mem_replicate (List.fst_mem_of_mem_zipIdx hp)
  have hl : zs.length = 256 := by
    rw [← hzs, List.length_map, List.length_zipIdx, List.length_replicate]
  obtain ⟨zs', l, rfl⟩ : ∃ zs' l, zs = zs' ++ [l] := by
    rcases List.eq_nil_or_concat zs with rfl | ⟨zs', l, rfl⟩
    · cases hl
    · exact ⟨zs', l, List.concat_eq_append⟩
  have hz' : ∀ z ∈ zs', z.frequency = 0 := fun z hm => hz z (by simp [hm])
  have hl' : zs'.length = 255 := by simpa using hl
  -- EOF sorts to the front at once; from there on the loop builds a chain
  have hs : sortDesc (zs' ++ [l] ++ [(⟨1, EOF⟩ : Freq)]) = sortDesc (⟨1, EOF⟩ :: (zs' ++ [l])) := by
    rw [sortDesc_zeros (zs' ++ [l]) [] ⟨1, EOF⟩ (by decide) hz (by simp), List.append_nil]
    exact (sortDesc_zeros [] _ ⟨1, EOF⟩ (by decide) (by simp) hz).symm
  rw [buildTree_congr _ _ ((⟨1, EOF⟩ : Freq) :: (zs' ++ [l])) _ (by simp) hs]
  obtain ⟨h1, _, h3⟩ := buildTree_zeros (zs' ++ [l] ++ [(⟨1, EOF⟩ : Freq)]).length zs' ⟨1, EOF⟩ l
    (Array.replicate NUM_SYMBOLS (65535, 65535)) (by decide) hz' (hz l (by simp)) (by simp)
  generalize buildTree _ _ (Array.replicate NUM_SYMBOLS (65535, 65535)) = T at h1 h3
  simp only [Array.size_replicate, hl'] at h1 h3
  rw [dfs]
  simp only [if_true]
  rw [descend_chain T NUM_SYMBOLS (Nat.le_refl _) h3 24 32 [] ROOT_IDX rfl (by decide)
    (by rw [h1]; decide) (by decide)]

end Tw.Huffman
