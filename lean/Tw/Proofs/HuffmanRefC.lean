import Tw.Proofs.Huffman
import Tw.Model.HuffmanRef

/-! `CHuffman::Compress` (model `refCompress`) is byte-identical to `compress_bug` (model
`compress t true`) for well-formed tables: the flush loop leaves the bits `written` as they are,
a symbol appends its code to them. -/
namespace Tw.Huffman

theorem refWrite_written (fuel : Nat) : ∀ (V n : Nat) (out : List UInt8), n / 8 ≤ fuel →
    ∃ V' out', refWrite fuel V n out = (V', n % 8, out') ∧ written out' (n % 8) V' = written out n V
      ∧ (V < 2 ^ n → V' < 2 ^ (n % 8)) := by
  have stop : ∀ f V n out, n < 8 → refWrite f V n out = (V, n, out) := by
    intro f V n out hn
    cases f with
    | zero => rfl
    | succ f => rw [refWrite, if_neg (by omega)]
  induction fuel with
  | zero =>
    intro V n out hf
    have hn : n < 8 := by omega
    rw [stop _ _ _ _ hn, Nat.mod_eq_of_lt hn]
    exact ⟨V, out, rfl, rfl, id⟩
  | succ f ih =>
    intro V n out hf
    by_cases hn : n ≥ 8
    · rw [refWrite, if_pos hn, Nat.mod_eq_sub_mod hn]
      obtain ⟨V', out', e, w, b⟩ := ih (V / 256) (n - 8) (UInt8.ofNat (V % 256) :: out) (by omega)
      exact ⟨V', out', e, by rw [w, written_byte, Nat.add_sub_cancel' hn],
        fun hV => b (div_two_pow_lt (b := 8) (by rwa [Nat.sub_add_cancel hn]))⟩
    · have hn : n < 8 := by omega
      rw [stop _ _ _ _ hn, Nat.mod_eq_of_lt hn]
      exact ⟨V, out, rfl, rfl, id⟩

theorem refCompressGo_written (t : Table) (ss : List Nat) :
    ∀ (V n : Nat) (out : List UInt8), n < 8 → V < 2 ^ n →
      (∀ s ∈ ss, symLen t s ≤ 24 ∧ symBits t s < 2 ^ symLen t s) →
      ∃ V' n' out', refCompressGo t ss V n out = (V', out') ∧ n' < 8 ∧ V' < 2 ^ n' ∧
        written out' n' V' = written out n V ++ ss.flatMap (codeBits t) := by
  induction ss with
  | nil => intro V n out hn hV _; exact ⟨V, n, out, rfl, hn, hV, by simp⟩
  | cons s ss ih =>
    intro V n out hn hV hs
    obtain ⟨hl, hb⟩ := hs s (by simp)
    -- the loaded word holds the old bits and the code: at most 7 + 24 bits
    obtain ⟨hWlt, hin⟩ := written_or_shift out n V (symLen t s) (symBits t s) hV hb
    have hW := Nat.mod_eq_of_lt (lt_two_pow_of_le (b := 32) hWlt (by omega))
    obtain ⟨V1, out1, e1, w1, b1⟩ := refWrite_written 8 (V ||| (symBits t s <<< n))
      (n + symLen t s) out (by omega)
    obtain ⟨V', n', out', e2, h1, h2, h3⟩ := ih V1 _ out1 (Nat.mod_lt _ (by decide)) (b1 hWlt)
      (fun s' hs' => hs s' (by simp [hs']))
    refine ⟨V', n', out', by simp only [refCompressGo, TWO32, hW, e1, e2], h1, h2, ?_⟩
    rw [h3, w1, hin, List.flatMap_cons, List.append_assoc]
    rfl

theorem refCompress_eq_compress_bug (t : Table) (h : WellFormed t) (xs : List UInt8) :
    refCompress t xs = compress t true xs := by
  obtain ⟨V', n', out', e, hn', hlt, hw⟩ := refCompressGo_written t (xs.map (·.toNat) ++ [EOF]) 0 0 []
    (by decide) (by decide) (h.stream_codes xs)
  have h256 := lt_two_pow_of_le (b := 8) hlt (Nat.le_of_lt hn')
  rw [compress_of_written t true xs out' n' V' (hw.trans (List.nil_append _)).symm hn' hlt,
    refCompress, e]
  simp [Nat.mod_eq_of_lt h256]

end Tw.Huffman
