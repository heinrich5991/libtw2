import Tw.Proofs.ConnStep7
import Tw.Proofs.ConnWire7

/-!
# 0.7: the response tokens a connection puts into `Connect` / `Token` packets are 32-bit values

`Token::random` returns one of the `secure_random` draws (4 bytes each: values below `2^32`); the own
token of a connection is always such a draw, and `Connect` / `Token` packets carry the own token as
response token.  Hence `Wire7.tokRange` holds for everything a connection sends, for every schedule
whose random draws are 32-bit values (`Env.drawsOk`) — with arbitrary fed packets.
-/
namespace Tw.Conn7
open Tw.Conn Tw.Time Tw.Wire7

def Env.drawsOk (env : Env) : Prop := ∀ d ∈ env.draws, d < 2 ^ 32

def Conn.TokInv (c : Conn) : Prop := ∀ o, c.state.ownToken? = some o → o < 2 ^ 32

theorem ctl_tok {st : State} {snd : Timeout} (hi : Conn.TokInv ⟨st, snd⟩) (ack tok : Nat) {ctl : Control}
    (hc : ∀ rt, ctl = .connect rt ∨ ctl = .token rt → st.ownToken? = some rt) :
    ∀ p ∈ [Packet.control ack tok ctl], tokRange p := by
  refine List.forall_mem_singleton.mpr ?_
  cases ctl with
  | connect rt => exact hi rt (hc rt (.inl rfl))
  | token rt => exact hi rt (hc rt (.inr rfl))
  | _ => trivial

theorem tickControl_own {st : State} {ctl : Control} (h : st.tickControl = some ctl) (rt : Nat)
    (hrt : ctl = .connect rt ∨ ctl = .token rt) : st.ownToken? = some rt := by
  cases st <;> cases h <;> rcases hrt with hrt | hrt <;> cases hrt <;> rfl

theorem tokInv_none {st : State} {snd : Timeout} (h : st.ownToken? = none) : Conn.TokInv ⟨st, snd⟩ := by
  intro o ho; rw [h] at ho; cases ho

theorem Conn.new_tokInv : Conn.new.TokInv := tokInv_none rfl

theorem tokInv_own {c : Conn} (hi : c.TokInv) {own : Nat} (ho : c.state.ownToken? = some own) {st : State}
    {snd : Timeout} (hst : st.ownToken? = some own) : Conn.TokInv ⟨st, snd⟩ := by
  intro o h
  rw [hst] at h
  cases h
  exact hi own ho

theorem Move.tokInv {env : Env} (hd : env.drawsOk) {i : In} {st st' : State} (hm : Move env i st st') {s s' : Timeout}
    (hi : Conn.TokInv ⟨st, s⟩) : Conn.TokInv ⟨st', s'⟩ := by
  cases hm with
  | stay => exact hi
  | connect hr => exact fun o ho => by cases ho; exact hd _ (tokenRandom_mem _ _ hr)
  | tokenAnswer => exact fun o ho => by cases ho; exact hi _ rfl
  | fedConnect => exact fun o ho => by cases ho; exact hi _ rfl

theorem Stepped.tok {env : Env} (hd : env.drawsOk) {i : In} {c c' : Conn} {out : Out} (h : Stepped env i c c' out)
    (hi : c.TokInv) : c'.TokInv ∧ ∀ p ∈ out.sent, tokRange p := by
  induction h with
  | same _ hs _ => exact ⟨hi, by rw [hs]; exact fun _ h => nomatch h⟩
  | cleared => exact ⟨hi, fun _ h => nomatch h⟩
  | ctl _ hm hc =>
    have hi' := hm.tokInv hd (s' := Timeout.after env.now sendUs) hi
    exact ⟨hi', ctl_tok hi' _ _ (tickControl_own hc)⟩
  | @core _ _ own _ _ _ _ _ _ hst _ =>
    have hown : own < 2 ^ 32 := hi own (by rcases hst with hst | ⟨hst, _⟩ <;> rw [hst] <;> rfl)
    refine ⟨fun o' ho' => by cases ho'; exact hown, fun p hp => ?_⟩
    obtain ⟨f, _, rfl⟩ := List.mem_map.mp hp
    trivial
  | acked _ hst _ _ ih => exact ih (tokInv_own hi (by rw [hst]; rfl) rfl)
  | connless hst hps =>
    refine ⟨tokInv_own hi (by rw [hst]; rfl) (by rw [hst]; rfl), ?_⟩
    rcases hps with rfl | ⟨_, rfl⟩
    · exact fun _ h => nomatch h
    · exact List.forall_mem_singleton.mpr trivial
  | @tokenRequest c _ _ _ own hst =>
    have hi' : Conn.TokInv ⟨.pendingConnect own, c.send⟩ := by
      rcases hst with ⟨_, hr⟩ | hst
      · exact fun o ho => by cases ho; exact hd _ (tokenRandom_mem _ _ hr)
      · exact tokInv_own hi (by rw [hst]; rfl) rfl
    exact ⟨hi', ctl_tok hi' _ _ (ctl := .token own) (fun rt hrt => by rcases hrt with hrt | hrt <;> cases hrt; rfl)⟩
  | accept hst => exact ⟨tokInv_own hi (by rw [hst]; rfl) rfl, fun _ h => nomatch h⟩
  | closed => exact ⟨tokInv_none rfl, fun _ h => nomatch h⟩
  | @disconnect c r _ =>
    exact ⟨tokInv_none rfl,
      ctl_tok (snd := c.send) hi _ _ (ctl := .close r) (fun rt hrt => by rcases hrt with hrt | hrt <;> cases hrt)⟩

theorem step_tok (env : Env) (c : Conn) (op : Op) (c' : Conn) (out : Out) (hd : env.drawsOk)
    (h : step env c op = .ok (c', out)) (hi : c.TokInv) : c'.TokInv ∧ ∀ p ∈ out.sent, tokRange p :=
  (step_stepped h).tok hd hi

theorem run_tok (sched : List (Env × Op)) (c c' : Conn) (outs : List Out) (hi : c.TokInv)
    (hd : ∀ eo ∈ sched, eo.1.drawsOk) (h : run c sched = .ok (c', outs)) :
    c'.TokInv ∧ ∀ out ∈ outs, ∀ p ∈ out.sent, tokRange p :=
  run_invariant step_tok sched c c' outs hd hi h

theorem conn7_all_sent_tokRange (sched : List (Env × Op)) (c : Conn) (outs : List Out)
    (hd : ∀ eo ∈ sched, eo.1.drawsOk) (h : run .new sched = .ok (c, outs)) :
    ∀ out ∈ outs, ∀ p ∈ out.sent, tokRange p :=
  (run_tok sched .new c outs Conn.new_tokInv hd h).2

end Tw.Conn7
