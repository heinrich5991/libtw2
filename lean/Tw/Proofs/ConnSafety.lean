import Tw.Model.NetSim
import Tw.Proofs.Conn

/-! C01 lemmas about the shared online core: sequence arithmetic, lazy = eager, what a receiver accepts, the sender-side
bookkeeping under `flush` / `resend` / `ack_chunks`, and acceptance inside the tight delay window (`receive_tight`).
`SendOk` bundles all of it per endpoint, with one preservation lemma per operation.

The namespace is `Tw.NetSim` although the subject is the core: the statements use `unwrap`, `vitalPayloads`,
`nonvitalPayloads` of `Model/NetSim.lean`.  Trap: there is also a `Tw.Conn.vitalPayloads` (`Model/Conn.lean`, the same
function, used by the progress half); inside this namespace the bare name is the `NetSim` one. -/
namespace Tw.NetSim
open Tw.Conn Tw.Time

/-- the eager scan, instrumented to emit the chunk whenever it accepts one (and every non-vital one): erasing the
instrumentation gives the eager scan of the code, and what it emits is what the lazy iterator yields -/
def eagerTrace : Nat → Bool → List Chunk → (Nat × Bool) × List Event
  | ack, rr, [] => ((ack, rr), [])
  | ack, rr, c :: cs =>
    match c.vital with
    | none =>
      let r := eagerTrace ack rr cs
      (r.1, .chunk c.data false :: r.2)
    | some (s, _) =>
      let (a, ord) := seqUpdate ack s
      let r := eagerTrace a (rr || ord != .current) cs
      (r.1, if ord = .current then .chunk c.data true :: r.2 else r.2)

theorem eagerTrace_fst (ack : Nat) (rr : Bool) (cs : List Chunk) : (eagerTrace ack rr cs).1 = receiveEager ack rr cs := by
  induction cs generalizing ack rr with
  | nil => rfl
  | cons c cs ih =>
    unfold eagerTrace receiveEager
    cases hv : c.vital with
    | none => simp only; exact ih ack rr
    | some v => obtain ⟨s, r⟩ := v; simp only; exact ih _ _

theorem eagerTrace_snd (ack : Nat) (rr : Bool) (cs : List Chunk) : (eagerTrace ack rr cs).2 = receiveLazy ack cs := by
  induction cs generalizing ack rr with
  | nil => rfl
  | cons c cs ih =>
    unfold eagerTrace receiveLazy
    cases hv : c.vital with
    | none => simp only; rw [ih ack rr]
    | some v =>
      obtain ⟨s, r⟩ := v
      simp only
      by_cases h : (seqUpdate ack s).2 = .current
      · simp only [h, if_true]
        rw [ih]
      · simp only [h, if_false]
        rw [ih, seqUpdate_reject_fst h]

/-- chunk `(seq, data)` is the `k`-th vital chunk the sender submitted -/
def IsChunk (sub : List Bytes) (k : Nat) (seq : Nat) (data : Bytes) : Prop :=
  sub[k]? = some data ∧ seq = (k + 1) % 1024

theorem IsChunk.append {sub : List Bytes} {k seq : Nat} {data : Bytes} (h : IsChunk sub k seq data) (ext : List Bytes) :
    IsChunk (sub ++ ext) k seq data := by
  refine ⟨?_, h.2⟩
  have hk : k < sub.length := by
    have := h.1
    exact (List.getElem?_eq_some_iff.mp this).1
  rw [List.getElem?_append_left hk]; exact h.1

theorem nonvital_mem (ack : Nat) (cs : List Chunk) :
    ∀ d ∈ nonvitalPayloads (receiveLazy ack cs), ∃ c ∈ cs, c.vital = none ∧ c.data = d := by
  induction cs generalizing ack with
  | nil => intro d hd; simp [receiveLazy, nonvitalPayloads] at hd
  | cons c cs ih =>
    intro d hd
    unfold receiveLazy at hd
    cases hv : c.vital with
    | none =>
      simp only [hv, nonvitalPayloads] at hd
      rcases List.mem_cons.mp hd with rfl | hd
      · exact ⟨c, by simp, hv, rfl⟩
      · obtain ⟨c', hc', h1, h2⟩ := ih ack d hd
        exact ⟨c', List.mem_cons_of_mem _ hc', h1, h2⟩
    | some v =>
      obtain ⟨s, r⟩ := v
      simp only [hv] at hd
      split at hd
      · simp only [nonvitalPayloads] at hd
        obtain ⟨c', hc', h1, h2⟩ := ih _ d hd
        exact ⟨c', List.mem_cons_of_mem _ hc', h1, h2⟩
      · obtain ⟨c', hc', h1, h2⟩ := ih _ d hd
        exact ⟨c', List.mem_cons_of_mem _ hc', h1, h2⟩

/-- every vital chunk queued in the packet is a known chunk; the later it sits in the packet, the
more submissions may have happened since it was placed -/
def PacketOk (sub : List Bytes) (n : Nat) (cs : List Chunk) : Prop :=
  ∀ j c seq r, cs[j]? = some c → c.vital = some (seq, r) →
    ∃ k, k < n ∧ n + j + 1 ≤ k + 512 + cs.length ∧ IsChunk sub k seq c.data

/-- a datagram on the wire: every vital chunk is a known chunk, at most 767 behind the stamp.  767 = 512 + 255: a chunk is
placed at most 512 behind (H1, the bound on the resend queue) and may wait in the packet while the at most 255 chunks of the
packet are submitted (`PacketOk.toFl`). -/
def FlOk (sub : List Bytes) (n : Nat) (f : Flushed) : Prop :=
  ∀ c ∈ f.chunks, ∀ seq r, c.vital = some (seq, r) → ∃ k, k < n ∧ n ≤ k + 767 ∧ IsChunk sub k seq c.data

def NvOk (nv : List Bytes) (cs : List Chunk) : Prop := ∀ c ∈ cs, c.vital = none → c.data ∈ nv

theorem PacketOk.nil (sub : List Bytes) (n : Nat) : PacketOk sub n [] := by
  intro j c seq r h; simp at h

theorem PacketOk.toFl {sub : List Bytes} {n : Nat} {cs : List Chunk} (h : PacketOk sub n cs) (hl : cs.length ≤ 255)
    (ack : Nat) (rr : Bool) (num : Nat) : FlOk sub n ⟨ack, rr, num, cs⟩ := by
  intro c hc seq r hv
  obtain ⟨j, hj⟩ := List.getElem?_of_mem hc
  obtain ⟨k, h1, h2, h3⟩ := h j c seq r hj hv
  exact ⟨k, h1, by omega, h3⟩

theorem PacketOk.mono {sub : List Bytes} {n : Nat} {cs : List Chunk} (h : PacketOk sub n cs) (ext : List Bytes) :
    PacketOk (sub ++ ext) n cs := by
  intro j c seq r hj hv
  obtain ⟨k, h1, h2, h3⟩ := h j c seq r hj hv
  exact ⟨k, h1, h2, h3.append _⟩

/-- one more chunk at the end of the packet, after at most one more submission (`n' = n + 1`): the
bound of every position already there shifts by at most one, which the longer list pays for; a vital
chunk placed now is at most 512 behind -/
theorem PacketOk.snoc {sub : List Bytes} {n n' : Nat} {cs : List Chunk} (h : PacketOk sub n cs) (hn : n' ≤ n + 1)
    {c0 : Chunk}
    (h0 : ∀ seq r, c0.vital = some (seq, r) → ∃ k, k < n' ∧ n' ≤ k + 512 ∧ IsChunk sub k seq c0.data) (hn' : n ≤ n') :
    PacketOk sub n' (cs ++ [c0]) := by
  intro j c seq r hj hv
  rw [List.length_append, List.length_singleton]
  by_cases hlt : j < cs.length
  · rw [List.getElem?_append_left hlt] at hj
    obtain ⟨k, h1, h2, h3⟩ := h j c seq r hj hv
    exact ⟨k, Nat.lt_of_lt_of_le h1 hn', by omega, h3⟩
  · rw [List.getElem?_append_right (by omega)] at hj
    have hj0 : j - cs.length < 1 := (List.getElem?_eq_some_iff.mp hj).1
    cases List.mem_singleton.mp (List.mem_of_getElem? hj)
    obtain ⟨k, h1, h2, h3⟩ := h0 seq r hv
    exact ⟨k, h1, by omega, h3⟩

theorem PacketOk.of_all {sub : List Bytes} {n : Nat} {cs : List Chunk}
    (h : ∀ c ∈ cs, ∀ seq r, c.vital = some (seq, r) → ∃ k, k < n ∧ n ≤ k + 512 ∧ IsChunk sub k seq c.data) :
    PacketOk sub n cs := by
  intro j c seq r hj hv
  obtain ⟨k, h1, h2, h3⟩ := h c (List.mem_of_getElem? hj) seq r hv
  have := (List.getElem?_eq_some_iff.mp hj).1
  exact ⟨k, h1, by omega, h3⟩

theorem PacketOk.appendNonvital {sub : List Bytes} {n : Nat} {cs : List Chunk} (h : PacketOk sub n cs) (data : Bytes) :
    PacketOk sub n (cs ++ [⟨none, data⟩]) :=
  h.snoc (Nat.le_succ n) (fun _ _ hv => nomatch hv) (Nat.le_refl n)

theorem PacketOk.submit {sub : List Bytes} {cs : List Chunk} (h : PacketOk sub sub.length cs) (data : Bytes) (r : Bool) :
    PacketOk (sub ++ [data]) (sub.length + 1) (cs ++ [⟨some ((sub.length + 1) % 1024, r), data⟩]) :=
  (h.mono [data]).snoc (Nat.le_refl _)
    (fun _ _ hv => by cases hv; exact ⟨sub.length, Nat.lt_succ_self _, by omega, by simp, rfl⟩) (Nat.le_succ _)

theorem FlOk.mono {sub : List Bytes} {n : Nat} {f : Flushed} (h : FlOk sub n f) (ext : List Bytes) :
    FlOk (sub ++ ext) n f := by
  intro c hc seq r hv
  obtain ⟨k, h1, h2, h3⟩ := h c hc seq r hv
  exact ⟨k, h1, h2, h3.append _⟩

theorem NvOk.mono {nv : List Bytes} {cs : List Chunk} (h : NvOk nv cs) (ext : List Bytes) : NvOk (nv ++ ext) cs := by
  intro c hc hv; exact List.mem_append_left _ (h c hc hv)

/-- the queue (newest first) holds the last `q.length` submitted chunks -/
def QueueOk (sub : List Bytes) (q : List ResendChunk) : Prop :=
  ∀ i c, q[i]? = some c → i < sub.length ∧ IsChunk sub (sub.length - 1 - i) c.seq c.data

theorem QueueOk.take {sub : List Bytes} {q : List ResendChunk} (h : QueueOk sub q) (i : Nat) : QueueOk sub (q.take i) := by
  intro j c hj
  rw [List.getElem?_take] at hj
  split at hj
  · exact h j c hj
  · cases hj

theorem QueueOk.restart {sub : List Bytes} {q : List ResendChunk} (h : QueueOk sub q) (now : Nat) :
    QueueOk sub (q.map (ResendChunk.restart now)) := by
  intro j c hj
  rw [List.getElem?_map] at hj
  cases hq : q[j]? with
  | none => rw [hq] at hj; cases hj
  | some c0 =>
    rw [hq] at hj
    simp at hj
    subst hj
    exact h j c0 hq

theorem QueueOk.push {sub : List Bytes} {q : List ResendChunk} (h : QueueOk sub q) (t : Timeout) (data : Bytes) :
    QueueOk (sub ++ [data]) (⟨t, (sub.length + 1) % 1024, data⟩ :: q) := by
  intro j c hj
  cases j with
  | zero =>
    simp at hj
    subst hj
    refine ⟨by simp, ?_, ?_⟩
    · simp
    · simp
  | succ j =>
    simp at hj
    obtain ⟨h1, h2⟩ := h j c hj
    refine ⟨by simp; omega, ?_⟩
    have : (sub ++ [data]).length - 1 - (j + 1) = sub.length - 1 - j := by simp; omega
    rw [this]
    exact h2.append _

theorem QueueOk.length_le {sub : List Bytes} {q : List ResendChunk} (hq : QueueOk sub q) : q.length ≤ sub.length := by
  by_cases h : q.length = 0
  · omega
  · have := (hq (q.length - 1) _ (List.getElem?_eq_getElem (by omega))).1
    omega

theorem QueueOk.newest {sub : List Bytes} {c : ResendChunk} {rest : List ResendChunk}
    (hq : QueueOk sub (c :: rest)) : c.seq = sub.length % 1024 := by
  obtain ⟨h1, _, h3⟩ := hq 0 c rfl
  rw [h3]; congr 1; omega

theorem QueueOk.todo {sub : List Bytes} {q : List ResendChunk} (h : QueueOk sub q) (hl : q.length ≤ 512) :
    ∀ c ∈ q, ∃ k, k < sub.length ∧ sub.length ≤ k + 512 ∧ IsChunk sub k c.seq c.data := by
  intro c hc
  obtain ⟨i, hi⟩ := List.getElem?_of_mem hc
  obtain ⟨h1, h2⟩ := h i c hi
  have hil : i < q.length := (List.getElem?_eq_some_iff.mp hi).1
  exact ⟨sub.length - 1 - i, by omega, by omega, h2⟩

/-- processing an ack that says "I have been handed `dS` chunks" (`dS` at most 1023 behind the
sender's counter) never drops a chunk the receiver has not been handed -/
theorem ackChunks_window {sub : List Bytes} {o : Online} (hq : QueueOk sub o.resendQueue)
    (hl : o.resendQueue.length ≤ 512) (dS d : Nat) (hd1 : dS ≤ d) (hd2 : d ≤ sub.length)
    (hwin : sub.length < dS + 1024) (hqw : sub.length ≤ d + o.resendQueue.length) :
    sub.length ≤ d + (o.ackChunks (dS % 1024)).resendQueue.length := by
  unfold Online.ackChunks
  cases hf : o.resendQueue.findIdx? (fun c => c.seq == dS % 1024) with
  | none => exact hqw
  | some i =>
    simp only
    obtain ⟨hil, hc, _⟩ := List.findIdx?_eq_some_iff_getElem.mp hf
    obtain ⟨h1, h2⟩ := hq i _ (List.getElem?_eq_getElem hil)
    have hseq : o.resendQueue[i].seq = dS % 1024 := by simpa using hc
    have := h2.2
    rw [List.length_take]
    have : sub.length - i = dS := by omega
    omega

theorem flush_fl {cfg : Cfg} {o : Online} (hinv : o.Inv cfg) {sub nv : List Bytes} {n : Nat}
    (hpk : PacketOk sub n o.packet.chunks) (hnv : NvOk nv o.packet.chunks) :
    ∀ f ∈ o.flush.2, FlOk sub n f ∧ NvOk nv f.chunks ∧ f.ack = o.ack := by
  intro f hf
  cases Online.flush_mem hf
  exact ⟨hpk.toFl (by have := hinv.cnt; rw [maxNumChunks_eq] at this; exact this) _ _ _, hnv, rfl⟩

/-! ## the tight delay window

`unwrap c s` decodes a 10-bit counter value against the sender's absolute counter at send time; on a
value at most 1023 behind it is exact. -/

theorem unwrap_eq {c q s : Nat} (h1 : q ≤ c) (h2 : c < q + 1024) (hs : s = q % 1024) : unwrap c s = q := by
  unfold unwrap
  rw [seqMod_eq]
  subst hs
  omega

/-- **the acceptance lemma, tight form**: the packet was stamped `N` (every vital chunk is one of the
sender's chunks `k` with `k < N ≤ k + 767`), the sender is at most 512 ahead of the receiver
(`N ≤ D + 512`), and no chunk is 1024 or more behind the sequence number `D + 1` the receiver
waited for when the packet arrived.  Scanning from any `d` reached inside this packet hands over
exactly the next `m` chunks. -/
theorem receive_tight (sub : List Bytes) (N D : Nat) (hN : N ≤ D + 512) :
    ∀ (cs : List Chunk) (d : Nat) (rr : Bool), D ≤ d → (d = D ∨ d ≤ N) → d ≤ sub.length →
      (∀ c ∈ cs, ∀ seq r, c.vital = some (seq, r) →
        ∃ k, k < N ∧ N ≤ k + 767 ∧ D < k + 1024 ∧ IsChunk sub k seq c.data) →
      ∃ m, d + m ≤ sub.length ∧ vitalPayloads (receiveLazy (d % 1024) cs) = (sub.drop d).take m ∧
        (receiveEager (d % 1024) rr cs).1 = (d + m) % 1024 := by
  intro cs
  induction cs with
  | nil => intro d rr _ _ hd _; exact ⟨0, by omega, by simp [receiveLazy, vitalPayloads], by simp [receiveEager]⟩
  | cons c cs ih =>
    intro d rr hDd hdN hd hk
    have hk' : ∀ c' ∈ cs, ∀ seq r, c'.vital = some (seq, r) →
        ∃ k, k < N ∧ N ≤ k + 767 ∧ D < k + 1024 ∧ IsChunk sub k seq c'.data :=
      fun c' hc' => hk c' (List.mem_cons_of_mem _ hc')
    unfold receiveLazy receiveEager
    cases hv : c.vital with
    | none =>
      obtain ⟨m, h1, h2, h3⟩ := ih d rr hDd hdN hd hk'
      exact ⟨m, h1, by simpa [vitalPayloads] using h2, by simpa using h3⟩
    | some v =>
      obtain ⟨seq, r⟩ := v
      obtain ⟨k, hkn, hkw, hkD, hch⟩ := hk c (by simp) seq r hv
      simp only
      by_cases hacc : seqNext (d % 1024) = seq
      -- if accepted, `k ≡ d` modulo 1024; and `k < N ≤ d + 512`, `d < k + 1024` (as `d = D`, or `d ≤ N ≤ k + 767`)
      · have hkd : k = d := by
          have := hch.2
          rw [seqNext_eq] at hacc
          omega
        subst hkd
        have hks : k < sub.length := (List.getElem?_eq_some_iff.mp hch.1).1
        have h1 : (seqUpdate (k % 1024) seq).2 = .current := (seqUpdate_accept_snd _ _).mpr hacc
        have h2 : (seqUpdate (k % 1024) seq).1 = (k + 1) % 1024 := by
          rw [seqUpdate_accept_fst, if_pos hacc, hch.2]
        obtain ⟨m, hm1, hm2, hm3⟩ := ih (k + 1) (rr || (seqUpdate (k % 1024) seq).2 != .current) (by omega)
          (Or.inr (by omega)) (by omega) hk'
        refine ⟨m + 1, by omega, ?_, ?_⟩
        · simp only [h1, if_true, vitalPayloads]
          rw [h2, hm2]
          rw [List.drop_eq_getElem_cons hks, List.take_succ_cons]
          have := hch.1
          rw [List.getElem?_eq_getElem hks] at this
          injection this with this
          rw [this]
        · rw [h2, hm3]; congr 1; omega
      · have h1 : (seqUpdate (d % 1024) seq).2 ≠ .current := fun h => hacc ((seqUpdate_accept_snd _ _).mp h)
        have h2 : (seqUpdate (d % 1024) seq).1 = d % 1024 := by rw [seqUpdate_accept_fst, if_neg hacc]
        obtain ⟨m, hm1, hm2, hm3⟩ := ih d (rr || (seqUpdate (d % 1024) seq).2 != .current) hDd hdN hd hk'
        refine ⟨m, hm1, ?_, ?_⟩
        · simp only [h1, if_false]; exact hm2
        · rw [h2]; exact hm3

/-! ## the sender side of one core -/

/-- what the invariant says about an online state as the *sender* of the vital chunks `sub` (and
non-vital chunks `nv`), of which the peer has been handed the first `d` -/
structure SendOk (cfg : Cfg) (o : Online) (sub nv : List Bytes) (d : Nat) : Prop where
  inv : o.Inv cfg
  seq : o.sequence = sub.length % 1024
  qlen : o.resendQueue.length ≤ 512
  qwin : sub.length ≤ d + o.resendQueue.length
  q : QueueOk sub o.resendQueue
  pk : PacketOk sub sub.length o.packet.chunks
  pknv : NvOk nv o.packet.chunks

def FlsOk (sub nv : List Bytes) (ack : Nat) (fl : List Flushed) : Prop :=
  ∀ f ∈ fl, FlOk sub sub.length f ∧ NvOk nv f.chunks ∧ f.ack = ack

theorem flsOk_nil (sub nv : List Bytes) (a : Nat) : FlsOk sub nv a [] := fun _ h => nomatch h

theorem SendOk.new (cfg : Cfg) : SendOk cfg .new [] [] 0 := by
  refine ⟨Online.new_inv cfg, rfl, by simp [Online.new], by simp [Online.new], ?_, PacketOk.nil _ _, ?_⟩
  · intro i c h; simp [Online.new] at h
  · intro c hc; simp [Online.new, PacketContents.empty] at hc

theorem SendOk.mono {cfg : Cfg} {o : Online} {sub nv : List Bytes} {d d' : Nat} (h : SendOk cfg o sub nv d)
    (hd : d ≤ d') : SendOk cfg o sub nv d' :=
  ⟨h.inv, h.seq, h.qlen, by have := h.qwin; omega, h.q, h.pk, h.pknv⟩

/-- the receive-side fields are not looked at -/
theorem SendOk.setAck {cfg : Cfg} {o : Online} {sub nv : List Bytes} {d : Nat} (h : SendOk cfg o sub nv d)
    (a : Nat) (rr : Bool) : SendOk cfg { o with ack := a, requestResend := rr } sub nv d :=
  ⟨⟨h.inv.pn, h.inv.pnv, h.inv.nv, h.inv.cnt, h.inv.size, h.inv.data, h.inv.rq⟩, h.seq, h.qlen, h.qwin, h.q, h.pk, h.pknv⟩

theorem SendOk.flush {cfg : Cfg} {o : Online} {sub nv : List Bytes} {d : Nat} (h : SendOk cfg o sub nv d) :
    SendOk cfg o.flush.1 sub nv d ∧ FlsOk sub nv o.ack o.flush.2 ∧ o.flush.1.ack = o.ack := by
  refine ⟨⟨Online.flush_inv h.inv, by rw [Online.flush_sequence]; exact h.seq,
    by rw [Online.flush_resendQueue]; exact h.qlen, by rw [Online.flush_resendQueue]; exact h.qwin,
    by rw [Online.flush_resendQueue]; exact h.q, ?_, ?_⟩, flush_fl h.inv h.pk h.pknv, Online.flush_ack o⟩
  · rw [Online.flush_packet_nil h.inv]; exact PacketOk.nil _ _
  · rw [Online.flush_packet_nil h.inv]; intro c hc; simp at hc

theorem SendOk.resend {cfg : Cfg} (hc : cfg.Ok) {o : Online} {sub nv : List Bytes} {d : Nat}
    (h : SendOk cfg o sub nv d) {now : Nat} {send : Timeout} {o' : Online} {send' : Timeout} {fl : List Flushed}
    (he : o.resend cfg now send = .ok (o', send', fl)) :
    SendOk cfg o' sub nv d ∧ FlsOk sub nv o.ack fl ∧ o'.ack = o.ack := by
  -- `Inv` of `o'`: there is no backward lemma for it, so run the call forwards (this is what `cfg.Ok` is for) and compare
  obtain ⟨o2, s2, fl2, he2, hinv2, _⟩ := Online.resend_spec hc h.inv now send
  cases he.symm.trans he2
  have hr := Online.resend_eq he
  by_cases hemp : o.resendQueue = []
  · obtain ⟨rfl, _, rfl⟩ := hr.idle hemp
    exact ⟨h, flsOk_nil _ _ _, rfl⟩
  -- every chunk that goes out or stays is a retained non-vital one or one of the queue, at most 512 behind
  obtain ⟨hp, hfl⟩ := hr.chunks hemp (fun ch => (ch.vital = none → ch.data ∈ nv) ∧ ∀ seq r, ch.vital = some (seq, r) →
      ∃ k, k < sub.length ∧ sub.length ≤ k + 512 ∧ IsChunk sub k seq ch.data)
    (fun ch hch => by
      rw [h.inv.nv] at hch
      obtain ⟨hm, hv⟩ := List.mem_filter.mp hch
      have hv : ch.vital = none := by simpa [nonvital] using hv
      exact ⟨h.pknv ch hm, fun _ _ h => by rw [hv] at h; cases h⟩)
    (fun c hc => ⟨fun h => (nomatch h), fun _ _ hv => by cases hv; exact h.q.todo h.qlen c hc⟩)
  refine ⟨⟨hinv2, hr.sequence ▸ h.seq, ?_, ?_, hr.queue ▸ h.q.restart now, .of_all fun c hc => (hp c hc).2,
      fun c hc => (hp c hc).1⟩,
    fun f hf => ⟨fun c hc seq r hv => ?_, fun c hc => ((hfl f hf).2 c hc).1, (hfl f hf).1⟩, hr.ack⟩
  · rw [hr.length]; exact h.qlen
  · rw [hr.length]; exact h.qwin
  · obtain ⟨k, h1, h2, h3⟩ := ((hfl f hf).2 c hc).2 seq r hv
    exact ⟨k, h1, by omega, h3⟩

/-- a vital chunk is also kept for resending: the bound on the queue is H1 of C01 -/
theorem SendOk.queued {cfg : Cfg} {o : Online} {sub nv : List Bytes} {d : Nat} (h : SendOk cfg o sub nv d)
    (now : Nat) {data : Bytes} (vital : Bool) (hacc : cfg.accepts data.length = true)
    (hfit : o.packet.canFit data.length vital = true ∨ o.packet.chunks = []) :
    (vital = false → SendOk cfg (o.queued now data vital) sub (nv ++ [data]) d) ∧
    (vital = true → o.resendQueue.length < 512 → SendOk cfg (o.queued now data vital) (sub ++ [data]) nv d) := by
  have qinv := Online.queued_inv h.inv now data vital hacc hfit
  have hseq' : seqNext o.sequence = (sub.length + 1) % 1024 := by rw [h.seq, seqNext_eq]; omega
  have hnv : ∀ (v : Option (Nat × Bool)) (ext : List Bytes), (v = none → data ∈ nv ++ ext) →
      NvOk (nv ++ ext) (o.packet.chunks ++ [⟨v, data⟩]) := by
    intro v ext hv c hcm hcv
    rcases List.mem_append.mp hcm with hcm | hcm
    · exact List.mem_append_left _ (h.pknv c hcm hcv)
    · cases List.mem_singleton.mp hcm; exact hv hcv
  constructor <;> intro hv <;> subst hv <;> simp only [Online.queued, if_true, Bool.false_eq_true, if_false] at qinv ⊢
  · exact ⟨qinv, h.seq, h.qlen, h.qwin, h.q, h.pk.appendNonvital data, hnv none [data] (fun _ => by simp)⟩
  · intro hq512
    rw [hseq'] at qinv ⊢
    refine ⟨qinv, by simp, by simp only [List.length_cons]; omega, ?_, h.q.push _ data, ?_, ?_⟩
    · have := h.qwin; simp; omega
    · simpa using h.pk.submit data false
    · simpa using hnv (some ((sub.length + 1) % 1024, false)) [] (fun hv => nomatch hv)

theorem SendOk.send {cfg : Cfg} {o : Online} {sub nv : List Bytes} {d : Nat}
    (h : SendOk cfg o sub nv d) {now : Nat} {data : Bytes} {vital : Bool}
    {o' : Online} {r : SendRes} {fl : List Flushed}
    (he : o.send cfg now data vital = .ok (o', r, fl)) :
    (r = .tooLongData ∧ o' = o ∧ fl = []) ∨
    (r = .ok ∧ FlsOk sub nv o.ack fl ∧ o'.ack = o.ack ∧
      (vital = false → SendOk cfg o' sub (nv ++ [data]) d) ∧
      (vital = true → o.resendQueue.length < 512 → SendOk cfg o' (sub ++ [data]) nv d)) := by
  have hack : ∀ o1 : Online, (o1.queued now data vital).ack = o1.ack := fun o1 => by cases vital <;> rfl
  rcases Online.send_cases he with ⟨e1, _, e2, e3⟩ | ⟨e1, hacc, ⟨hf, rfl, rfl⟩ | ⟨rfl, rfl⟩⟩
  · exact .inl ⟨e1, e2, e3⟩
  · exact .inr ⟨e1, flsOk_nil _ _ _, hack o, h.queued now vital hacc (.inl hf)⟩
  · obtain ⟨a, b, c⟩ := h.flush
    have hq := a.queued now vital hacc (.inr (Online.flush_packet_nil h.inv))
    rw [Online.flush_resendQueue] at hq
    exact .inr ⟨e1, b, (hack _).trans c, hq⟩

theorem SendOk.ack {cfg : Cfg} {o : Online} {sub nv : List Bytes} {d : Nat} (h : SendOk cfg o sub nv d)
    (hd : d ≤ sub.length) {dS : Nat} (h1 : dS ≤ d) (hwin : sub.length < dS + 1024) :
    SendOk cfg (o.ackChunks (dS % 1024)) sub nv d ∧ (o.ackChunks (dS % 1024)).ack = o.ack := by
  obtain ⟨i, kq⟩ := o.ackChunks_resendQueue (dS % 1024)
  refine ⟨⟨Online.ackChunks_inv h.inv _, by rw [Online.ackChunks_sequence]; exact h.seq,
    Nat.le_trans (o.ackChunks_length_le _) h.qlen,
    ackChunks_window h.q h.qlen dS d h1 hd hwin h.qwin, by rw [kq]; exact h.q.take i,
    by rw [Online.ackChunks_packet]; exact h.pk, by rw [Online.ackChunks_packet]; exact h.pknv⟩, o.ackChunks_ack _⟩

theorem SendOk.receive {cfg : Cfg} (hc : cfg.Ok) {o : Online} {sub nv : List Bytes} {d : Nat}
    (h : SendOk cfg o sub nv d) {now : Nat} {send : Timeout} {rr : Bool} {cs : List Chunk}
    {o2 : Online} {send2 : Timeout} {fl : List Flushed} {evs : List Event}
    (he : o.receive cfg now send rr cs = .ok (o2, send2, fl, evs)) :
    SendOk cfg o2 sub nv d ∧ FlsOk sub nv o.ack fl ∧
      ∃ rr0, o2.ack = (receiveEager o.ack rr0 cs).1 ∧ evs = receiveLazy o.ack cs := by
  obtain ⟨o1, hres, rfl, rfl⟩ := Online.receive_eq he
  rcases hres with ⟨_, rfl, _, rfl⟩ | ⟨_, hrs⟩
  · exact ⟨h.setAck _ _, flsOk_nil _ _ _, _, rfl, rfl⟩
  · obtain ⟨a, b, c⟩ := h.resend hc hrs
    exact ⟨a.setAck _ _, b, o1.requestResend, by simp only [c], by rw [c]⟩

end Tw.NetSim
