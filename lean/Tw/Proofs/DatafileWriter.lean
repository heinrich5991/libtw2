import Tw.Proofs.Datafile

/-! Writer side of the datafile model.  Each block of `check` succeeds on tables that have the
property its `_spec` yields (`check*_ok_of`).  The type table of a sorted item list is a relation
(`IsTypeTable`: one entry per run of equal type, runs ascending), which `groupTypes` satisfies and
from which the first and fourth block of `check` and `item_type_indices` are answered.  The written
file is the concatenation of its parts (`writeDf_layout`), so `new_of_tables` applies: `Reader.new`
parses it to `writtenReader`, whose items and data blocks are the ones written. -/
namespace Tw.Datafile

/-- what reading back a written word yields: the value modulo 2^32 as an `i32` -/
def wrapI32 (v : Int) : Int :=
  if v % 4294967296 < 2147483648 then v % 4294967296 else v % 4294967296 - 4294967296

theorem inI32_natCast {n : Nat} (h : n ≤ 2147483647) : InI32 (n : Int) := ⟨by omega, by omega⟩

theorem wrapI32_of_in {v : Int} (h : InI32 v) : wrapI32 v = v := by
  unfold InI32 at h; unfold wrapI32; split <;> omega

theorem map_wrapI32_of_in : ∀ (ws : List Int), (∀ w ∈ ws, InI32 w) → ws.map wrapI32 = ws
  | [], _ => rfl
  | w :: ws, h => by
    rw [List.map_cons, wrapI32_of_in (h w (List.mem_cons_self ..)),
      map_wrapI32_of_in ws (fun w' h' => h w' (List.mem_cons_of_mem _ h'))]

theorem u8_toNat_ofNat_mod (n : Nat) : (UInt8.ofNat (n % 256)).toNat = n % 256 := by
  rw [UInt8.toNat_ofNat']; omega

theorem i32OfBytes_bytesOfI32_wrap (v : Int) :
    ∃ a b c d, bytesOfI32 v = [a, b, c, d] ∧ i32OfBytes a b c d = wrapI32 v := by
  refine ⟨_, _, _, _, rfl, ?_⟩
  unfold i32OfBytes wrapI32
  simp only [u8_toNat_ofNat_mod]
  generalize hn : (v % 4294967296).toNat = n
  have hn' : (n : Int) = v % 4294967296 := by omega
  -- the four bytes are the base-256 digits of `n < 2^32`
  have key : n % 256 + 256 * (n / 256 % 256) + 65536 * (n / 65536 % 256) + 16777216 * (n / 16777216 % 256)
      = n := by omega
  rw [key, ← hn']
  split <;> split <;> omega

theorem bytesOfI32_length (v : Int) : (bytesOfI32 v).length = 4 := rfl

theorem bytesOfWords_length : ∀ ws : List Int, (bytesOfWords ws).length = 4 * ws.length
  | [] => rfl
  | w :: ws => by simp [bytesOfWords, bytesOfWords_length ws, bytesOfI32_length]; omega

theorem bytesOfWords_append : ∀ (a b : List Int), bytesOfWords (a ++ b) = bytesOfWords a ++ bytesOfWords b
  | [], b => rfl
  | x :: a, b => by simp [bytesOfWords, bytesOfWords_append a b]

theorem wordsOfBytes_bytesOfWords_wrap_append :
    ∀ (ws : List Int) (rest : List UInt8),
      wordsOfBytes (bytesOfWords ws ++ rest) = ws.map wrapI32 ++ wordsOfBytes rest
  | [], rest => by simp [bytesOfWords]
  | w :: ws, rest => by
    obtain ⟨a, b, c, d, hb, hv⟩ := i32OfBytes_bytesOfI32_wrap w
    simp only [bytesOfWords, hb, List.cons_append, List.nil_append, wordsOfBytes, hv, List.map_cons]
    rw [wordsOfBytes_bytesOfWords_wrap_append ws rest]

theorem wordsOfBytes_bytesOfWords_wrap (ws : List Int) :
    wordsOfBytes (bytesOfWords ws) = ws.map wrapI32 := by
  have := wordsOfBytes_bytesOfWords_wrap_append ws []
  simpa [wordsOfBytes] using this

theorem wordsOfBytes_bytesOfWords (ws : List Int) (h : ∀ w ∈ ws, InI32 w) :
    wordsOfBytes (bytesOfWords ws) = ws := by
  rw [wordsOfBytes_bytesOfWords_wrap, map_wrapI32_of_in ws h]

/-- the pieces `writeDf` lays out, as numbers -/
structure Sizes where
  nTypes : Nat
  nItems : Nat
  nData : Nat
  sizeItems : Nat
  sizeData : Nat

def Sizes.total (z : Sizes) (ver : Nat) : Nat :=
  36 + 12 * z.nTypes + 4 * z.nItems + 4 * z.nData + (if ver = 3 then 0 else 4 * z.nData)
    + z.sizeItems + z.sizeData

def Sizes.headerWords (z : Sizes) (ver : Nat) : List Int :=
  [(ver : Int), ((z.total ver - 16 : Nat) : Int), ((z.total ver - 16 - z.sizeData : Nat) : Int),
   (z.nTypes : Int), (z.nItems : Int), (z.nData : Int), (z.sizeItems : Int), (z.sizeData : Int)]

def sizesOf (ver : Nat) (deflate : List UInt8 → List UInt8) (items : List Item)
    (datas : List (List UInt8)) : Sizes :=
  { nTypes := (groupTypes items 0).length, nItems := items.length, nData := datas.length,
    sizeItems := sumNat (items.map (fun it => 8 + 4 * it.data.length)),
    sizeData := sumNat ((if ver = 3 then datas else datas.map deflate).map List.length) }

def storedOf (ver : Nat) (deflate : List UInt8 → List UInt8) (datas : List (List UInt8)) :
    List (List UInt8) := if ver = 3 then datas else datas.map deflate

theorem storedOf_length (ver : Nat) (deflate : List UInt8 → List UInt8) (datas : List (List UInt8)) :
    (storedOf ver deflate datas).length = datas.length := by
  unfold storedOf; split <;> simp

/-- an item in `items_raw`: two header words and the data, in bytes -/
def itemByteSize (it : Item) : Nat := 8 + 4 * it.data.length

theorem sizesOf_total (ver : Nat) (deflate : List UInt8 → List UInt8) (items : List Item)
    (datas : List (List UInt8)) :
    (sizesOf ver deflate items datas).total ver
      = 36 + 12 * (groupTypes items 0).length + 4 * items.length + 4 * datas.length
        + (if ver = 3 then 0 else 4 * datas.length) + sumNat (items.map itemByteSize)
        + sumNat ((storedOf ver deflate datas).map List.length) := rfl

theorem offsetsFrom_length : ∀ (ls : List Nat) (o : Nat), (offsetsFrom o ls).length = ls.length
  | [], _ => rfl
  | l :: ls, o => by simp [offsetsFrom, offsetsFrom_length ls]

theorem offsetsFrom_getElem? : ∀ (ls : List Nat) (o i : Nat), i < ls.length →
    (offsetsFrom o ls)[i]? = some (o + sumNat (ls.take i))
  | [], _, _, h => by simp at h
  | l :: ls, o, 0, _ => by simp [offsetsFrom, sumNat]
  | l :: ls, o, i + 1, h => by
    simp only [offsetsFrom, List.getElem?_cons_succ, List.take_succ_cons, sumNat]
    rw [offsetsFrom_getElem? ls (o + l) i (by simpa using h)]
    congr 1; omega

theorem offsetsFrom_cast_getElem? (ls : List Nat) {i : Nat} (h : i < ls.length) :
    ((offsetsFrom 0 ls).map (fun (n : Nat) => (n : Int)))[i]? = some ((sumNat (ls.take i) : Nat) : Int) := by
  rw [List.getElem?_map, offsetsFrom_getElem? _ _ _ h, Nat.zero_add]
  rfl

theorem sumNat_take_succ : ∀ (ls : List Nat) (i : Nat) (h : i < ls.length),
    sumNat (ls.take (i + 1)) = sumNat (ls.take i) + ls[i]
  | [], _, h => by simp at h
  | l :: ls, 0, _ => by simp [sumNat]
  | l :: ls, i + 1, h => by
    simp only [List.take_succ_cons, sumNat, List.getElem_cons_succ]
    rw [sumNat_take_succ ls i (by simpa using h)]; omega

theorem sumNat_take_le : ∀ (ls : List Nat) (i : Nat), sumNat (ls.take i) ≤ sumNat ls
  | [], _ => by simp [sumNat]
  | l :: ls, 0 => by simp [sumNat]
  | l :: ls, i + 1 => by
    simp only [List.take_succ_cons, sumNat]; have := sumNat_take_le ls i; omega

theorem sumNat_take_all (ls : List Nat) : sumNat (ls.take ls.length) = sumNat ls := by
  rw [List.take_length]

theorem sumNat_take_mono (ls : List Nat) {i j : Nat} (h : i ≤ j) :
    sumNat (ls.take i) ≤ sumNat (ls.take j) := by
  have : ls.take i = (ls.take j).take i := by rw [List.take_take]; congr 1; omega
  rw [this]; exact sumNat_take_le _ _

theorem concatBytes_eq_flatten : ∀ L : List (List UInt8), concatBytes L = L.flatten
  | [] => rfl
  | l :: L => by simp [concatBytes, concatBytes_eq_flatten L]

theorem flatten_drop_sum {α : Type} : ∀ (L : List (List α)) (k : Nat) (h : k < L.length),
    L.flatten.drop (sumNat ((L.take k).map List.length)) = L[k] ++ (L.drop (k + 1)).flatten
  | [], _, h => by simp at h
  | l :: L, 0, _ => by simp [sumNat]
  | l :: L, k + 1, h => by
    simp only [List.take_succ_cons, List.map_cons, sumNat, List.flatten_cons, List.getElem_cons_succ,
      List.drop_succ_cons]
    rw [← List.drop_drop, List.drop_left' rfl]
    exact flatten_drop_sum L k (by simpa using h)

theorem flatten_window {α : Type} (L : List (List α)) {k : Nat} (h : k < L.length) :
    (L.flatten.drop (sumNat ((L.map List.length).take k))).take L[k].length = L[k] := by
  rw [← List.map_take, flatten_drop_sum L k h]
  exact List.take_left' rfl

theorem sumNat_map_length_flatten {α : Type} : ∀ (L : List (List α)),
    L.flatten.length = sumNat (L.map List.length)
  | [] => rfl
  | l :: L => by simp [sumNat, sumNat_map_length_flatten L]

theorem checkItems_ok_of (r : Reader) (N : Nat) (off : Nat → Nat) (hsi : 0 ≤ r.sizeItems)
    (hitem : ∀ k, k < N → ∃ hdr data, ItemAt r k (off k) hdr data ∧ off (k + 1) = off k + 2 + data.length)
    (hend : 4 * off N = r.sizeItems.toNat) :
    ∀ n i, i + n = N → off i ≤ off N ∧ checkItems r n i (4 * off i) = .ok () := by
  intro n
  induction n with
  | zero =>
    intro i hi
    have : i = N := by omega
    subst this
    unfold checkItems
    rw [asUsize_nonneg hsi, if_neg (by omega)]
    exact ⟨Nat.le_refl _, rfl⟩
  | succ n ih =>
    intro i hi
    obtain ⟨hdr, data, hat, hn⟩ := hitem i (by omega)
    -- the offsets only grow, so the items after this one end inside `size_items` too
    obtain ⟨hl, hrest⟩ := ih (i + 1) (by omega)
    refine ⟨by omega, ?_⟩
    unfold checkItems
    rw [hat.1]
    simp only
    rw [if_neg (by omega), asUsize_natCast, asUsize_nonneg hsi]
    rw [if_neg (by omega), if_neg (by omega), hat.header]
    simp only
    rw [if_neg (by omega), asUsize_natCast, if_neg (by omega), if_neg (by omega),
      show 4 * off i + 8 + 4 * data.length = 4 * off (i + 1) by omega]
    exact hrest

theorem checkData_ok_of (r : Reader) :
    ∀ n i (prev : Int), (∀ k, i ≤ k → k < i + n → DataOk r k) →
      (∀ off len, BlockAt r i off len → prev ≤ off) → checkData r n i prev = .ok () := by
  intro n
  induction n with
  | zero => intro i prev _ _; unfold checkData; rfl
  | succ n ih =>
    intro i prev hall hp
    obtain ⟨⟨off, len, hb⟩, huds⟩ := hall i (Nat.le_refl i) (by omega)
    have := hp off len hb
    have := hb.nonneg
    have := hb.fits
    have hnext := hb.next
    unfold checkData
    rw [udsCheck_eq_none huds]
    simp only
    rw [hb.offset]
    simp only
    rw [if_neg (by omega), if_neg (by omega)]
    refine ih (i + 1) _ (fun k hk1 hk2 => hall k (by omega) (by omega)) fun off' _ hb' => ?_
    have := (List.getElem?_eq_some_iff.1 hb'.offset).1
    rw [if_pos (by omega), hb'.offset] at hnext
    cases hnext
    omega

theorem checkTypeItems_ok_of (r : Reader) (typeId : Int) :
    ∀ n a, (∀ k, a ≤ k → k < a + n → HasType r typeId k) → checkTypeItems r typeId n a = .ok () := by
  intro n
  induction n with
  | zero => intro a _; unfold checkTypeItems; rfl
  | succ n ih =>
    intro a h
    obtain ⟨w, s, h1, h2⟩ := h a (by omega) (by omega)
    unfold checkTypeItems
    rw [h1]
    simp only
    unfold headerTypeId at h2
    rw [if_neg (by omega)]
    exact ih (a + 1) (fun k hk1 hk2 => h k (by omega) (by omega))

theorem checkTypeIds_ok_of (r : Reader) :
    ∀ ts : List ItemType, (∀ t ∈ ts, 0 ≤ t.start ∧ 0 ≤ t.num ∧ t.start + t.num ≤ 2147483647
        ∧ ∀ k, t.start.toNat ≤ k → k < t.start.toNat + t.num.toNat → HasType r t.typeId k) →
      checkTypeIds r ts = .ok () := by
  intro ts
  induction ts with
  | nil => intro _; unfold checkTypeIds; rfl
  | cons t ts ih =>
    intro h
    obtain ⟨h1, h2, h3, h4⟩ := h t (List.mem_cons_self ..)
    unfold checkTypeIds
    rw [addI32_some (by omega) (by omega)]
    simp only
    rw [asUsize_nonneg (by omega : 0 ≤ t.start + t.num), asUsize_nonneg h1]
    have : (t.start + t.num).toNat - t.start.toNat = t.num.toNat := by omega
    rw [this, checkTypeItems_ok_of r t.typeId _ _ h4]
    exact ih (fun t' ht' => h t' (List.mem_cons_of_mem _ ht'))

/-- the proofs use the relation `IsTypeTable` (`groupTypes_isTypeTable`), not this and `groupTypes_cons` -/
theorem groupTypes_head (it : Item) (rest : List Item) (idx : Nat) :
    ∃ g gs, groupTypes (it :: rest) idx = g :: gs ∧ g.typeId = it.typeId ∧ g.start = idx := by
  simp only [groupTypes]
  split
  · split
    · rename_i h; exact ⟨_, _, rfl, h, rfl⟩
    · exact ⟨_, _, rfl, rfl, rfl⟩
  · exact ⟨_, _, rfl, rfl, rfl⟩

theorem groupTypes_cons (it : Item) (rest : List Item) (idx : Nat) :
    (rest = [] ∧ groupTypes (it :: rest) idx = [{ typeId := it.typeId, start := idx, num := 1 }])
      ∨ ∃ r0 rest' g gs, rest = r0 :: rest' ∧ groupTypes rest (idx + 1) = g :: gs
          ∧ g.typeId = (r0.typeId : Int) ∧ g.start = ((idx + 1 : Nat) : Int)
          ∧ groupTypes (it :: rest) idx =
              if g.typeId = (it.typeId : Int) then { g with start := idx, num := g.num + 1 } :: gs
              else { typeId := it.typeId, start := idx, num := 1 } :: g :: gs := by
  cases rest with
  | nil => exact Or.inl ⟨rfl, rfl⟩
  | cons r0 rest' =>
    obtain ⟨g, gs, hg, hgt, hgs⟩ := groupTypes_head r0 rest' (idx + 1)
    refine Or.inr ⟨r0, rest', g, gs, rfl, hg, hgt, hgs, ?_⟩
    rw [groupTypes, hg]

theorem contains_false_of_lt {seen : List Int} {v : Int} (h : ∀ s ∈ seen, s < v) :
    seen.contains v = false := by
  apply Bool.eq_false_iff.2
  intro hc
  have := List.contains_iff_mem.1 hc
  have := h v this
  omega

theorem notAbovePrev_false {prev : Option Int} {v : Int} (h : ∀ p, prev = some p → p < v) :
    notAbovePrev prev v = false := by
  unfold notAbovePrev
  split
  · rename_i p; have := h p rfl; simp; omega
  · rfl

/-- what the first block of `check` asks of one entry of the type table -/
theorem checkTypes_cons_ok (N : Int) (t : ItemType) (ts : List ItemType) (e : Int)
    (prev : Option Int) (seen : List Int) (he0 : 0 ≤ e) (heN : e ≤ N) (hN : N ≤ 2147483647)
    (h1 : 0 ≤ t.typeId ∧ t.typeId < 65536) (h2 : notAbovePrev prev t.typeId = false) (h3 : t.start = e)
    (h4 : 0 ≤ t.num) (h5 : t.num ≤ N - e) (h6 : seen.contains t.typeId = false)
    (h7 : checkTypes N ts (e + t.num) (some t.typeId) (seen ++ [t.typeId]) = .ok ()) :
    checkTypes N (t :: ts) e prev seen = .ok () := by
  unfold checkTypes
  rw [if_neg (by simp; omega), h2]
  simp only [Bool.false_eq_true, if_false]
  rw [if_neg (by simp [h3]), if_neg (by omega), h3, subI32_some (by omega) (by omega)]
  simp only
  rw [if_neg (by omega), addI32_some (by omega) (by omega)]
  simp only
  rw [h6]
  simpa using h7

/-- what the fourth block of `check` and `item_type_indices` use of the type table; indices count from `idx` -/
def Covers (items : List Item) (idx : Nat) (t : ItemType) : Prop :=
  ∃ a n : Nat, t.start = ((idx + a : Nat) : Int) ∧ t.num = (n : Int) ∧ a + n ≤ items.length
    ∧ ∀ j, j < n → ∃ it, items[a + j]? = some it ∧ (it.typeId : Int) = t.typeId

/-- the range `item_type_indices` returns: empty `(0, 0)` or `base .. base + n` -/
def rangeOf (base n : Nat) : Nat × Nat := if n = 0 then (0, 0) else (base, base + n)

theorem rangeOf_add_le {base n k : Nat} (h : k ≤ n) : (rangeOf base n).1 + k ≤ (rangeOf base n).2 := by
  unfold rangeOf
  split <;> simp only <;> omega

theorem countP_lt_const {S : List Item} {T : Nat} (h : ∀ it ∈ S, it.typeId = T) (t : Nat) :
    S.countP (·.typeId < t) = if T < t then S.length else 0 := by
  split
  · rename_i hlt
    exact List.countP_eq_length.2 fun it hit => by simpa [h it hit] using hlt
  · rename_i hlt
    exact List.countP_eq_zero.2 fun it hit => by simpa [h it hit] using hlt

theorem countP_eq_const {S : List Item} {T : Nat} (h : ∀ it ∈ S, it.typeId = T) (t : Nat) :
    S.countP (·.typeId = t) = if T = t then S.length else 0 := by
  split
  · rename_i heq
    exact List.countP_eq_length.2 fun it hit => by simpa [h it hit] using heq
  · rename_i heq
    exact List.countP_eq_zero.2 fun it hit => by simpa [h it hit] using heq

/-- `ts` is the type table of the item list `items`, whose first item has index `idx`: the list is
a sequence of runs of strictly ascending type, and each run has one entry. -/
inductive IsTypeTable : List Item → Nat → List ItemType → Prop
  | nil (idx : Nat) : IsTypeTable [] idx []
  | run {t : Nat} {run tail : List Item} {idx : Nat} {ts : List ItemType} (hne : run ≠ [])
      (hrun : ∀ x ∈ run, x.typeId = t) (htail : ∀ x ∈ tail, t < x.typeId)
      (h : IsTypeTable tail (idx + run.length) ts) :
      IsTypeTable (run ++ tail) idx ({ typeId := t, start := idx, num := run.length } :: ts)

theorem groupTypes_isTypeTable : ∀ (items : List Item) (idx : Nat),
    items.Pairwise (fun a b => a.typeId ≤ b.typeId) → IsTypeTable items idx (groupTypes items idx)
  | [], idx, _ => .nil idx
  | it :: rest, idx, hsort => by
    obtain ⟨hhead, hsort'⟩ := List.pairwise_cons.1 hsort
    have single : ∀ tail ts, (∀ x ∈ tail, it.typeId < x.typeId) → IsTypeTable tail (idx + 1) ts →
        IsTypeTable (it :: tail) idx ({ typeId := it.typeId, start := idx, num := 1 } :: ts) :=
      fun tail ts h1 h2 => .run (run := [it]) (List.cons_ne_nil _ _) (by simp) h1 h2
    have ih := groupTypes_isTypeTable rest (idx + 1) hsort'
    rw [groupTypes]
    generalize groupTypes rest (idx + 1) = G at ih ⊢
    cases ih with
    | nil => exact single [] [] nofun (.nil _)
    | @run t run tail _ ts hne hrun htail h =>
      dsimp only
      by_cases hsame : (t : Int) = (it.typeId : Int)
      · -- the item joins the first run
        have ht : t = it.typeId := by omega
        rw [if_pos hsame]
        have := IsTypeTable.run (run := it :: run) (tail := tail) (idx := idx) (ts := ts)
          (List.cons_ne_nil _ _) (by simpa [ht] using hrun) htail
          (by rw [List.length_cons, ← Nat.add_assoc, Nat.add_right_comm]; exact h)
        rw [List.length_cons, Int.natCast_succ] at this
        exact this
      · -- a run of its own: the first run of the rest has a larger type, and so has all after it
        rw [if_neg hsame]
        refine single (run ++ tail) _ (fun x hx => ?_) (.run hne hrun htail h)
        obtain ⟨y, hy⟩ := List.exists_mem_of_ne_nil run hne
        have := hhead y (List.mem_append_left _ hy)
        have := hrun y hy
        rcases List.mem_append.1 hx with hx | hx
        · have := hrun x hx; omega
        · have := htail x hx; omega

namespace IsTypeTable

theorem checkTypes_ok {N : Nat} (hN : N ≤ 2147483647) {items : List Item} {idx : Nat} {ts : List ItemType}
    (h : IsTypeTable items idx ts) :
    (∀ it ∈ items, it.typeId < 65536) → N = idx + items.length →
    ∀ (prev : Option Int) (seen : List Int), (∀ p, prev = some p → ∀ it ∈ items, p < (it.typeId : Int)) →
      (∀ s ∈ seen, ∀ it ∈ items, s < (it.typeId : Int)) →
      checkTypes (N : Int) ts (idx : Int) prev seen = .ok () := by
  induction h with
  | nil idx =>
    intro _ hlen prev seen _ _
    simp only [checkTypes]
    rw [if_neg (by simp at hlen; omega)]
  | @run t run tail idx ts hne hrun htail h ih =>
    intro h16 hlen prev seen hprev hseen
    obtain ⟨x, hx⟩ := List.exists_mem_of_ne_nil run hne
    have hxt := hrun x hx
    have hx' : x ∈ run ++ tail := List.mem_append_left _ hx
    have := h16 x hx'
    have := List.length_pos_of_mem hx
    rw [List.length_append] at hlen
    refine checkTypes_cons_ok _ _ _ _ _ _ (by omega) (by omega) (by omega) ⟨by simp, by dsimp only; omega⟩
      (notAbovePrev_false fun p hp => by have := hprev p hp x hx'; dsimp only; omega) rfl (by simp)
      (by dsimp only; omega) (contains_false_of_lt fun s hs => by have := hseen s hs x hx'; dsimp only; omega) ?_
    dsimp only
    rw [show (idx : Int) + (run.length : Int) = ((idx + run.length : Nat) : Int) by omega]
    refine ih (fun it h => h16 it (List.mem_append_right _ h)) (by omega) _ _
      (fun p hp it hit => by cases hp; have := htail it hit; omega) fun s hs it hit => ?_
    rcases List.mem_append.1 hs with h1 | h1
    · exact hseen s h1 it (List.mem_append_right _ hit)
    · cases List.mem_singleton.1 h1; have := htail it hit; omega

theorem covers {items : List Item} {idx : Nat} {ts : List ItemType} (h : IsTypeTable items idx ts) :
    ∀ t ∈ ts, Covers items idx t := by
  induction h with
  | nil idx => exact fun _ h => nomatch h
  | @run t run tail idx ts hne hrun htail h ih =>
    intro t' ht'
    cases ht' with
    | head =>
      refine ⟨0, run.length, rfl, rfl, by simp, fun j hj => ⟨run[j], ?_, by rw [hrun _ (List.getElem_mem hj)]⟩⟩
      rw [Nat.zero_add, List.getElem?_append_left hj, List.getElem?_eq_getElem hj]
    | tail _ hm =>
      obtain ⟨a, n, h1, h2, h3, h4⟩ := ih t' hm
      refine ⟨run.length + a, n, by rw [h1]; omega, h2, by rw [List.length_append]; omega, fun j hj => ?_⟩
      rw [Nat.add_assoc, List.getElem?_append_right (by omega), Nat.add_sub_cancel_left]
      exact h4 j hj

theorem indices {items : List Item} {idx : Nat} {ts : List ItemType}
    (h : IsTypeTable items idx ts) (t : Nat) : (∀ it ∈ items, it.typeId < 65536) →
    itemTypeIndicesIn ts t
      = .ok (rangeOf (idx + items.countP (·.typeId < t)) (items.countP (·.typeId = t))) := by
  induction h with
  | nil idx => intro _; rfl
  | @run T run tail idx ts hne hrun htail h ih =>
    intro h16
    obtain ⟨x, hx⟩ := List.exists_mem_of_ne_nil run hne
    have := h16 x (List.mem_append_left _ hx)
    have := hrun x hx
    have := List.length_pos_of_mem hx
    have hgt : ∀ {t'}, t' ≤ T → tail.countP (·.typeId < t') = 0 ∧ tail.countP (·.typeId = t') = 0 := fun hle =>
      ⟨List.countP_eq_zero.2 fun a ha => by have := htail a ha; rw [decide_eq_true_eq]; omega,
        List.countP_eq_zero.2 fun a ha => by have := htail a ha; rw [decide_eq_true_eq]; omega⟩
    rw [List.countP_append, List.countP_append, countP_lt_const hrun, countP_eq_const hrun]
    by_cases hty : T = t
    · subst hty
      rw [itemTypeIndicesIn_hit ts (by dsimp only; omega) (by dsimp only; omega) (by dsimp only; omega),
        (hgt (Nat.le_refl _)).1, (hgt (Nat.le_refl _)).2, if_neg (Nat.lt_irrefl _), if_pos rfl]
      unfold rangeOf
      rw [if_neg (by omega)]
      simp
    · rw [itemTypeIndicesIn_miss ts (by dsimp only; omega), ih fun it h => h16 it (List.mem_append_right _ h),
        if_neg hty, Nat.zero_add]
      by_cases hlt : T < t
      · rw [if_pos hlt, Nat.add_assoc]
      · rw [if_neg hlt, (hgt (by omega : t ≤ T)).1, (hgt (by omega : t ≤ T)).2]
        rfl

end IsTypeTable

theorem checkTypes_written {items : List Item} (hsort : items.Pairwise (fun a b => a.typeId ≤ b.typeId))
    (h16 : ∀ it ∈ items, it.typeId < 65536) (hN : items.length ≤ 2147483647) :
    checkTypes (items.length : Int) (groupTypes items 0) 0 none [] = .ok () :=
  (groupTypes_isTypeTable items 0 hsort).checkTypes_ok hN h16 (Nat.zero_add _).symm none [] nofun nofun

theorem itemTypeIndicesIn_groupTypes (t : Nat) (items : List Item) (idx : Nat)
    (hsort : items.Pairwise (fun a b => a.typeId ≤ b.typeId)) (h16 : ∀ it ∈ items, it.typeId < 65536) :
    itemTypeIndicesIn (groupTypes items idx) t
      = .ok (rangeOf (idx + items.countP (·.typeId < t)) (items.countP (·.typeId = t))) :=
  (groupTypes_isTypeTable items idx hsort).indices t h16

def itemWords (it : Item) : List Int :=
  ((it.typeId * 65536 + it.id : Nat) : Int) :: ((4 * it.data.length : Nat) : Int) :: it.data

theorem itemBytes_eq (it : Item) : itemBytes it = bytesOfWords (itemWords it) := by
  simp [itemBytes, itemWords, bytesOfWords, List.append_assoc]

theorem concatBytes_items (items : List Item) :
    concatBytes (items.map itemBytes) = bytesOfWords (items.flatMap itemWords) := by
  induction items with
  | nil => rfl
  | cons it items ih =>
    simp only [List.map_cons, concatBytes, List.flatMap_cons, bytesOfWords_append, ih, itemBytes_eq]

/-- the header word of an item as read back: it wraps for `typeId ≥ 0x8000` -/
def itemHdrR (it : Item) : Int := wrapI32 ((it.typeId * 65536 + it.id : Nat) : Int)

/-- the words of one item as read back -/
def itemWordsR (it : Item) : List Int := itemHdrR it :: ((4 * it.data.length : Nat) : Int) :: it.data

theorem itemWords_wrap {it : Item} (hd : ∀ w ∈ it.data, InI32 w) (hl : 4 * it.data.length ≤ 2147483647) :
    (itemWords it).map wrapI32 = itemWordsR it := by
  simp only [itemWords, itemWordsR, itemHdrR, List.map_cons]
  rw [wrapI32_of_in (v := ((4 * it.data.length : Nat) : Int)) (by unfold InI32; omega),
    map_wrapI32_of_in _ hd]

theorem blockAt_of_layout {r : Reader} (ls : List Nat)
    (hoffs : r.dataOffsets = (offsetsFrom 0 ls).map (fun (n : Nat) => (n : Int)))
    (hsd : r.sizeData = ((sumNat ls : Nat) : Int)) {i : Nat} (hi : i < ls.length) :
    BlockAt r i ((sumNat (ls.take i) : Nat) : Int) ls[i] := by
  have hlen : r.dataOffsets.length = ls.length := by
    rw [hoffs, List.length_map, offsetsFrom_length]
  have hsucc := sumNat_take_succ ls i hi
  have hle := sumNat_take_le ls (i + 1)
  refine ⟨by rw [hoffs, offsetsFrom_cast_getElem? _ hi], Int.natCast_nonneg _, ?_, by omega⟩
  rw [← Int.natCast_add, ← hsucc]
  by_cases hlast : i < r.dataOffsets.length - 1
  · rw [if_pos hlast, hoffs, offsetsFrom_cast_getElem? _ (by omega)]
  · rw [if_neg hlast, hsd, show i + 1 = ls.length by omega, List.take_length]

def writtenReader (ver : Nat) (deflate : List UInt8 → List UInt8) (items : List Item)
    (datas : List (List UInt8)) : Reader :=
  { version := if ver = 3 then .v3 else .v4
    numItemTypes := ((groupTypes items 0).length : Nat)
    numItems := (items.length : Nat)
    numData := (datas.length : Nat)
    sizeItems := (sumNat (items.map itemByteSize) : Nat)
    sizeData := (sumNat ((storedOf ver deflate datas).map List.length) : Nat)
    itemTypes := groupTypes items 0
    itemOffsets := (offsetsFrom 0 (items.map itemByteSize)).map (fun (n : Nat) => (n : Int))
    dataOffsets := (offsetsFrom 0 ((storedOf ver deflate datas).map List.length)).map (fun (n : Nat) => (n : Int))
    uncompSizes := if ver = 3 then none else some (datas.map (fun d => ((d.length : Nat) : Int)))
    itemsRaw := (items.map itemWordsR).flatten
    dataRegion := (storedOf ver deflate datas).flatten }

theorem sumNat_take_map_mul4 {α : Type} (f g : α → Nat) (h : ∀ x, f x = 4 * g x) :
    ∀ (l : List α) (k : Nat), sumNat ((l.map f).take k) = 4 * sumNat ((l.map g).take k)
  | [], k => by simp [sumNat]
  | x :: l, 0 => by simp [sumNat]
  | x :: l, k + 1 => by
    simp only [List.map_cons, List.take_succ_cons, sumNat, h x, sumNat_take_map_mul4 f g h l k]; omega

theorem itemHdrR_toNat {it : Item} (h1 : it.typeId < 65536) (h2 : it.id < 65536) :
    (itemHdrR it % 4294967296).toNat = it.typeId * 65536 + it.id := by
  unfold itemHdrR wrapI32
  split <;> omega

/-- word offset of item `k` in the written `items_raw` -/
def wordOff (items : List Item) (k : Nat) : Nat := sumNat (((items.map itemWordsR).take k).map List.length)

theorem wordOff_eq (items : List Item) (k : Nat) :
    wordOff items k = sumNat ((items.map (List.length ∘ itemWordsR)).take k) := by
  rw [wordOff, ← List.map_take, List.map_map, List.map_take]

theorem wordOff_bytes (items : List Item) (k : Nat) :
    sumNat ((items.map itemByteSize).take k) = 4 * wordOff items k := by
  rw [wordOff_eq]
  exact sumNat_take_map_mul4 itemByteSize (List.length ∘ itemWordsR)
    (fun it => by simp [itemByteSize, itemWordsR]; omega) items k

theorem wordOff_succ (items : List Item) {k : Nat} (hk : k < items.length) :
    wordOff items (k + 1) = wordOff items k + 2 + items[k].data.length := by
  rw [wordOff_eq, wordOff_eq, sumNat_take_succ _ k (by simpa using hk)]
  simp [itemWordsR]
  omega

theorem writtenReader_item (ver : Nat) (deflate : List UInt8 → List UInt8) (items : List Item)
    (datas : List (List UInt8)) {k : Nat} (hk : k < items.length) :
    ItemAt (writtenReader ver deflate items datas) k (wordOff items k) (itemHdrR items[k]) items[k].data := by
  refine ⟨?_, ((items.map itemWordsR).drop (k + 1)).flatten, ?_⟩
  · rw [← wordOff_bytes]
    exact offsetsFrom_cast_getElem? _ (by simpa using hk)
  · show ((items.map itemWordsR).flatten).drop _ = _
    rw [wordOff, flatten_drop_sum _ k (by simpa using hk)]
    simp [itemWordsR]

theorem headerTypeId_itemHdrR {it : Item} (h1 : it.typeId < 65536) (h2 : it.id < 65536) :
    headerTypeId (itemHdrR it) = (it.typeId : Int) := by
  have := itemHdrR_toNat h1 h2
  unfold headerTypeId
  have h0 : 0 ≤ itemHdrR it % 4294967296 := by omega
  omega

theorem writtenReader_check (ver : Nat) (deflate : List UInt8 → List UInt8) (items : List Item)
    (datas : List (List UInt8))
    (h16 : ∀ it ∈ items, it.typeId < 65536 ∧ it.id < 65536)
    (hsort : items.Pairwise (fun a b => a.typeId ≤ b.typeId))
    (hN : items.length ≤ 2147483647) :
    (writtenReader ver deflate items datas).check = .ok () := by
  unfold Reader.check
  have b1 : checkTypes (writtenReader ver deflate items datas).numItems
      (writtenReader ver deflate items datas).itemTypes 0 none [] = .ok () :=
    checkTypes_written hsort (fun it h => (h16 it h).1) hN
  rw [b1]
  simp only
  have b2 : checkItems (writtenReader ver deflate items datas)
      (asUsize (writtenReader ver deflate items datas).numItems) 0 0 = .ok () := by
    rw [show (writtenReader ver deflate items datas).numItems = (items.length : Nat) from rfl, asUsize_natCast]
    exact (checkItems_ok_of (writtenReader ver deflate items datas) items.length (wordOff items)
      (by simp [writtenReader])
      (fun k hk => ⟨_, _, writtenReader_item ver deflate items datas hk, wordOff_succ items hk⟩)
      (by rw [← wordOff_bytes, ← List.length_map (f := itemByteSize), List.take_length]; simp [writtenReader])
      items.length 0 (by omega)).2
  rw [b2]
  simp only
  have hslen := storedOf_length ver deflate datas
  have b3 : checkData (writtenReader ver deflate items datas)
      (asUsize (writtenReader ver deflate items datas).numData) 0 0 = .ok () := by
    rw [show (writtenReader ver deflate items datas).numData = (datas.length : Nat) from rfl, asUsize_natCast]
    refine checkData_ok_of (writtenReader ver deflate items datas) datas.length 0 0 (fun k _ hk => ?_)
      (fun _ _ hb => hb.nonneg)
    have hk : k < datas.length := by omega
    refine ⟨⟨_, _, blockAt_of_layout ((storedOf ver deflate datas).map List.length) rfl rfl (i := k)
      (by rw [List.length_map]; omega)⟩, fun uds hu => ?_⟩
    change (if ver = 3 then none else some _) = some uds at hu
    split at hu
    · cases hu
    · cases hu
      exact ⟨_, by rw [List.getElem?_map, List.getElem?_eq_getElem hk]; rfl, Int.natCast_nonneg _⟩
  rw [b3]
  simp only
  refine checkTypeIds_ok_of (writtenReader ver deflate items datas) _ ?_
  intro t ht
  obtain ⟨a, n, h1, h2, h3, h4⟩ := (groupTypes_isTypeTable items 0 hsort).covers t ht
  refine ⟨by omega, by omega, by omega, ?_⟩
  intro k hk1 hk2
  have hkN : k < items.length := by omega
  obtain ⟨it, hit, hty⟩ := h4 (k - a) (by omega)
  have hka : a + (k - a) = k := by omega
  rw [hka, List.getElem?_eq_getElem hkN] at hit
  cases hit
  have hb := h16 items[k] (List.getElem_mem hkN)
  refine ⟨_, _, (writtenReader_item ver deflate items datas hkN).header, ?_⟩
  rw [headerTypeId_itemHdrR hb.1 hb.2, ← hty]
  omega

def typeWords (types : List ItemType) : List Int := types.flatMap (fun t => [t.typeId, t.start, t.num])

theorem writeDf_layout (ver : Nat) (deflate : List UInt8 → List UInt8) (items : List Item)
    (datas : List (List UInt8)) :
    writeDf ver deflate items datas =
      (magicData ++ bytesOfWords ((sizesOf ver deflate items datas).headerWords ver)) ++
      (bytesOfWords (typeWords (groupTypes items 0)) ++
      (bytesOfWords ((offsetsFrom 0 (items.map itemByteSize)).map (fun (n : Nat) => (n : Int))) ++
      (bytesOfWords ((offsetsFrom 0 ((storedOf ver deflate datas).map List.length)).map
          (fun (n : Nat) => (n : Int))) ++
      ((if ver = 3 then [] else bytesOfWords (datas.map (fun d => ((d.length : Nat) : Int)))) ++
      (bytesOfWords (items.flatMap itemWords) ++ (storedOf ver deflate datas).flatten))))) := by
  unfold writeDf
  simp only [List.append_assoc]
  rw [concatBytes_items, concatBytes_eq_flatten]
  rfl

theorem typesOfWords_typeWords : ∀ (ts : List ItemType), typesOfWords (typeWords ts) = ts
  | [] => rfl
  | t :: ts => by
    simp only [typeWords, List.flatMap_cons, List.cons_append, List.nil_append, typesOfWords]
    congr 1
    exact typesOfWords_typeWords ts

theorem typeWords_length (ts : List ItemType) : (typeWords ts).length = 3 * ts.length := by
  induction ts with
  | nil => rfl
  | cons t ts ih => simp only [typeWords, List.flatMap_cons, List.length_append, List.length_cons,
      List.length_nil] at ih ⊢; omega

theorem offsetsFrom_le : ∀ (ls : List Nat) (o x : Nat), x ∈ offsetsFrom o ls → x ≤ o + sumNat ls
  | [], _, _, h => by simp [offsetsFrom] at h
  | l :: ls, o, x, h => by
    simp only [offsetsFrom, List.mem_cons] at h
    simp only [sumNat]
    rcases h with rfl | h
    · omega
    · have := offsetsFrom_le ls (o + l) x h; omega

theorem flatMap_itemWords_length (items : List Item) :
    4 * (items.flatMap itemWords).length = sumNat (items.map itemByteSize) := by
  induction items with
  | nil => rfl
  | cons it items ih =>
    simp only [List.flatMap_cons, List.length_append, List.map_cons, sumNat, itemByteSize, itemWords,
      List.length_cons] at ih ⊢
    omega

theorem flatMap_itemWords_wrap (items : List Item)
    (hw : ∀ it ∈ items, ∀ w ∈ it.data, InI32 w)
    (hs : sumNat (items.map itemByteSize) ≤ 2147483647) :
    (items.flatMap itemWords).map wrapI32 = (items.map itemWordsR).flatten := by
  induction items with
  | nil => rfl
  | cons it items ih =>
    simp only [List.map_cons, sumNat, itemByteSize] at hs
    simp only [List.flatMap_cons, List.map_append, List.map_cons, List.flatten_cons]
    rw [itemWords_wrap (hw it (List.mem_cons_self ..)) (by omega),
      ih (fun it' h' => hw it' (List.mem_cons_of_mem _ h')) (by omega)]

theorem sumNat_items_mod4 (items : List Item) : sumNat (items.map itemByteSize) % 4 = 0 := by
  induction items with
  | nil => rfl
  | cons it items ih => simp only [List.map_cons, sumNat, itemByteSize]; omega

def writtenHeader (z : Sizes) (ver : Nat) : Header :=
  { magic := magicData, version := (ver : Int), size := ((z.total ver - 16 : Nat) : Int),
    swaplen := ((z.total ver - 16 - z.sizeData : Nat) : Int), numItemTypes := z.nTypes,
    numItems := z.nItems, numData := z.nData, sizeItems := z.sizeItems, sizeData := z.sizeData }

theorem Header.ofBuf_words {m : List UInt8} (hm : m.length = 4) (ws : List Int) (hin : ∀ w ∈ ws, InI32 w) :
    Header.ofBuf (m ++ bytesOfWords ws)
      = { magic := m, version := ws.getD 0 0, size := ws.getD 1 0, swaplen := ws.getD 2 0,
          numItemTypes := ws.getD 3 0, numItems := ws.getD 4 0, numData := ws.getD 5 0,
          sizeItems := ws.getD 6 0, sizeData := ws.getD 7 0 } := by
  unfold Header.ofBuf
  rw [List.drop_left' hm, List.take_left' hm, wordsOfBytes_bytesOfWords ws hin]

theorem header_writeDf (ver : Nat) (hv : ver = 3 ∨ ver = 4)
    (deflate : List UInt8 → List UInt8) (items : List Item) (datas : List (List UInt8))
    (hmax : (sizesOf ver deflate items datas).total ver ≤ 2147483647) :
    Header.read (writeDf ver deflate items datas)
        = .ok (writtenHeader (sizesOf ver deflate items datas) ver)
      ∧ (writtenHeader (sizesOf ver deflate items datas) ver).checkSizeAndSwaplen
          = .ok { expectedSize := ((sizesOf ver deflate items datas).total ver : Nat), crude := false } := by
  have hfile := writeDf_layout ver deflate items datas
  have hsi4 : (sizesOf ver deflate items datas).sizeItems % 4 = 0 := sumNat_items_mod4 items
  generalize sizesOf ver deflate items datas = z at *
  -- every header word is a count or a size, so it lies between 0 and the total
  have htot : z.total ver = 36 + 12 * z.nTypes + 4 * z.nItems + 4 * z.nData
      + (if ver = 3 then 0 else 4 * z.nData) + z.sizeItems + z.sizeData := rfl
  generalize (if ver = 3 then 0 else 4 * z.nData) = x at htot
  have hin : ∀ w ∈ z.headerWords ver, InI32 w := by
    -- `omega` would split on `hv` in each of the eight cases
    have hver : ver ≤ 4 := by omega
    clear hv hsi4 hfile
    intro w hw
    simp only [Sizes.headerWords, List.mem_cons, List.mem_nil_iff, or_false] at hw
    rcases hw with rfl | rfl | rfl | rfl | rfl | rfl | rfl | rfl <;> exact inI32_natCast (by omega)
  have hlen : (magicData ++ bytesOfWords (z.headerWords ver)).length = headerSize := by
    rw [List.length_append, bytesOfWords_length]; rfl
  have hbuf : Header.ofBuf (magicData ++ bytesOfWords (z.headerWords ver)) = writtenHeader z ver :=
    Header.ofBuf_words rfl _ hin
  have hrest : (writtenHeader z ver).checkRest = true := by
    rw [Header.checkRest_iff]
    unfold writtenHeader
    dsimp only
    omega
  constructor
  · rw [← hbuf]
    refine Header.read_of_buf (by rw [hfile]; exact List.take_left' hlen) hlen ?_ (by rw [hbuf]; exact hrest)
    rw [hbuf]
    unfold Header.checkVersion writtenHeader
    dsimp only
    rw [if_neg (by simp), if_neg (by omega)]
  · have htotal : (writtenHeader z ver).total = (z.total ver : Nat) := by
      unfold Header.total writtenHeader Sizes.total
      rcases hv with rfl | rfl <;> simp <;> omega
    rw [Header.checkSizeAndSwaplen_exact _ hrest (by rw [htotal]; omega)
      (by rw [htotal]; show ((z.total ver - 16 : Nat) : Int) = _; omega)
      (by rw [htotal]; show ((z.total ver - 16 - z.sizeData : Nat) : Int) = _ - (z.sizeData : Int); omega),
      htotal]

/-- well-formed item list for the writer: 16-bit type ids and ids, 32-bit data words, equal type
ids adjacent and ascending (the order `Reader::check` demands of the type table) -/
def ItemsWellFormed (items : List Item) : Prop :=
  (∀ it ∈ items, it.typeId < 65536 ∧ it.id < 65536 ∧ ∀ w ∈ it.data, InI32 w)
    ∧ items.Pairwise (fun a b => a.typeId ≤ b.typeId)

/-- what `writeDf` needs for `Reader::new` to accept its output: every word written fits an `i32` -/
structure Writable (ver : Nat) (deflate : List UInt8 → List UInt8) (items : List Item)
    (datas : List (List UInt8)) : Prop where
  version : ver = 3 ∨ ver = 4
  ids : ∀ it ∈ items, it.typeId < 65536 ∧ it.id < 65536
  words : ∀ it ∈ items, ∀ w ∈ it.data, InI32 w
  sorted : items.Pairwise (fun a b => a.typeId ≤ b.typeId)
  total : (sizesOf ver deflate items datas).total ver ≤ 2147483647
  dataLen : ∀ d ∈ datas, d.length ≤ 2147483647

theorem Writable.of_wellFormed {ver : Nat} {deflate : List UInt8 → List UInt8} {items : List Item}
    {datas : List (List UInt8)} (hv : ver = 3 ∨ ver = 4) (hwf : ItemsWellFormed items)
    (htotal : (sizesOf ver deflate items datas).total ver ≤ 2147483647)
    (hlen : ∀ d ∈ datas, d.length ≤ 2147483647) : Writable ver deflate items datas :=
  { version := hv
    ids := fun it h => ⟨(hwf.1 it h).1, (hwf.1 it h).2.1⟩
    words := fun it h => (hwf.1 it h).2.2
    sorted := hwf.2
    total := htotal
    dataLen := hlen }

theorem new_writeDf {ver : Nat} {deflate : List UInt8 → List UInt8} {items : List Item}
    {datas : List (List UInt8)} (wr : Writable ver deflate items datas) :
    Reader.new (writeDf ver deflate items datas) = .ok (writtenReader ver deflate items datas) := by
  obtain ⟨hread, hcheck⟩ := header_writeDf ver wr.version deflate items datas wr.total
  have hz := sizesOf_total ver deflate items datas
  have htot := wr.total
  rw [hz] at htot
  have hN : items.length ≤ 2147483647 := by omega
  have hsi : sumNat (items.map itemByteSize) ≤ 2147483647 := by omega
  have hsd : sumNat ((storedOf ver deflate datas).map List.length) ≤ 2147483647 := by omega
  have hslen := storedOf_length ver deflate datas
  -- every table word fits an `i32`, so it is read back as written
  have htok := (checkTypes_spec (items.length : Int) (by omega) _ _ _ _ (by simp) (by simp)).of_ok
    (checkTypes_written wr.sorted (fun it h => (wr.ids it h).1) hN)
  have hTin : ∀ w ∈ typeWords (groupTypes items 0), InI32 w := by
    intro w hw
    simp only [typeWords, List.mem_flatMap] at hw
    obtain ⟨t, ht, hw⟩ := hw
    obtain ⟨_, _, _, _, _⟩ := htok t ht
    simp only [List.mem_cons, List.mem_nil_iff, or_false] at hw
    unfold InI32
    rcases hw with rfl | rfl | rfl <;> omega
  have hOin : ∀ (ls : List Nat), sumNat ls ≤ 2147483647 →
      ∀ w ∈ (offsetsFrom 0 ls).map (fun (n : Nat) => (n : Int)), InI32 w := by
    intro ls hls w hw
    simp only [List.mem_map] at hw
    obtain ⟨x, hx, rfl⟩ := hw
    have := offsetsFrom_le _ _ _ hx
    exact inI32_natCast (by omega)
  have hSZin : ∀ w ∈ datas.map (fun d => ((d.length : Nat) : Int)), InI32 w := by
    intro w hw
    simp only [List.mem_map] at hw
    obtain ⟨d, hd, rfl⟩ := hw
    exact inI32_natCast (wr.dataLen d hd)
  -- the parts of the file have the lengths the header announces
  have lH : (magicData ++ bytesOfWords ((sizesOf ver deflate items datas).headerWords ver)).length
      = headerSize := by rw [List.length_append, bytesOfWords_length]; rfl
  have lT : (bytesOfWords (typeWords (groupTypes items 0))).length = 12 * (groupTypes items 0).length := by
    rw [bytesOfWords_length, typeWords_length]; omega
  have lIO : (bytesOfWords ((offsetsFrom 0 (items.map itemByteSize)).map (fun (n : Nat) => (n : Int)))).length
      = 4 * items.length := by
    rw [bytesOfWords_length, List.length_map, offsetsFrom_length, List.length_map]
  have lDO : (bytesOfWords ((offsetsFrom 0 ((storedOf ver deflate datas).map List.length)).map
      (fun (n : Nat) => (n : Int)))).length = 4 * datas.length := by
    rw [bytesOfWords_length, List.length_map, offsetsFrom_length, List.length_map, hslen]
  have lSZ : (if ver = 3 then [] else bytesOfWords (datas.map (fun d => ((d.length : Nat) : Int)))).length
      = if ver = 3 then 0 else 4 * datas.length := by
    split
    · rfl
    · rw [bytesOfWords_length, List.length_map]
  have lIT : (bytesOfWords (items.flatMap itemWords)).length = sumNat (items.map itemByteSize) := by
    rw [bytesOfWords_length]; exact flatMap_itemWords_length items
  have lST := sumNat_map_length_flatten (storedOf ver deflate datas)
  rw [writeDf_layout] at hread ⊢
  refine new_of_tables hread hcheck lH lT lIO lDO ?_ lIT ?_ ?_
    (writtenReader_check ver deflate items datas wr.ids wr.sorted hN)
  · rw [lSZ]; rcases wr.version with rfl | rfl <;> rfl
  · -- the file is exactly `total` long
    simp only [List.length_append, lH, lT, lIO, lDO, lSZ, lIT, lST, headerSize]
    show (sizesOf ver deflate items datas).total ver ≤ _
    omega
  · unfold writtenReader Reader.ofTables
    simp only [Reader.mk.injEq]
    refine ⟨?_, rfl, rfl, rfl, rfl, rfl, ?_, ?_, ?_, ?_, ?_, trivial⟩
    · rcases wr.version with rfl | rfl <;> rfl
    · rw [wordsOfBytes_bytesOfWords _ hTin, typesOfWords_typeWords]
    · rw [wordsOfBytes_bytesOfWords _ (hOin _ hsi)]
    · rw [wordsOfBytes_bytesOfWords _ (hOin _ hsd)]
    · rcases wr.version with rfl | rfl
      · rfl
      · show some _ = Option.map wordsOfBytes (some _)
        rw [Option.map_some, if_neg (by decide), wordsOfBytes_bytesOfWords _ hSZin]
    · rw [wordsOfBytes_bytesOfWords_wrap, flatMap_itemWords_wrap items wr.words hsi]

theorem writtenReader_item_view (ver : Nat) (deflate : List UInt8 → List UInt8) (items : List Item)
    (datas : List (List UInt8)) (h16 : ∀ it ∈ items, it.typeId < 65536 ∧ it.id < 65536)
    {k : Nat} (hk : k < items.length) :
    ∃ v, (writtenReader ver deflate items datas).item k = .ok v ∧ v.typeId = items[k].typeId
      ∧ v.id = items[k].id ∧ v.data = items[k].data := by
  have hitem := (writtenReader_item ver deflate items datas hk).item
  have hb := h16 items[k] (List.getElem_mem hk)
  have ht := itemHdrR_toNat hb.1 hb.2
  refine ⟨_, hitem, ?_, ?_, rfl⟩
  · simp only [ht]; omega
  · simp only [ht]; omega

theorem writtenReader_readData {ver : Nat} {deflate : List UInt8 → List UInt8}
    {inflate : Nat → List UInt8 → Option (List UInt8)} {items : List Item} {datas : List (List UInt8)}
    (wr : Writable ver deflate items datas)
    (hzl : ∀ x ∈ datas, inflate x.length (deflate x) = some x) {i : Nat} (hi : i < datas.length) :
    (writtenReader ver deflate items datas).readData inflate i = .ok datas[i] := by
  have hslen := storedOf_length ver deflate datas
  have htot := wr.total
  rw [sizesOf_total] at htot
  have hs : i < (storedOf ver deflate datas).length := by omega
  have hb := blockAt_of_layout (r := writtenReader ver deflate items datas)
    ((storedOf ver deflate datas).map List.length) rfl rfl (i := i) (by rw [List.length_map]; exact hs)
  rw [hb.readData (by show ((sumNat ((storedOf ver deflate datas).map List.length) : Nat) : Int) ≤ 2147483647; omega),
    show (writtenReader ver deflate items datas).dataRegion = (storedOf ver deflate datas).flatten from rfl,
    Int.toNat_natCast, List.getElem_map, flatten_window _ hs, if_neg (by simp)]
  rcases wr.version with h | h
  · subst h
    rw [Reader.decode_none rfl]
    simp [storedOf]
  · subst h
    have hst : (storedOf 4 deflate datas)[i]'(by omega) = deflate datas[i] := by
      simp [storedOf]
    rw [Reader.decode_some (uds := datas.map (fun d => ((d.length : Nat) : Int))) rfl
      (by rw [List.getElem?_map, List.getElem?_eq_getElem hi]; rfl) (Int.natCast_nonneg _), hst,
      Int.toNat_natCast, hzl datas[i] (List.getElem_mem hi)]
    simp

end Tw.Datafile
