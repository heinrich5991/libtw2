import Tw.Proofs.Packet6Read
import Tw.Proofs.Packet6Spec

/-! The two-step path `decompress_if_needed` → `read_panic_on_decompression` returns what `Packet::read` returns (0.6). -/
namespace Tw.Packet6
open Tw.Packet Tw.PacketBits

def bodyValue : Except (ReadError × List Warning) ReadOk → Except ReadError Packet
  | .ok r => .ok r.pkt
  | .error (e, _) => .error e

theorem lift_value (x : Except (ReadError × List Warning) ReadOk) :
    (ReadResult.lift x).value = some (bodyValue x) := by
  cases x with
  | ok r => rfl
  | error e => cases e; rfl

theorem readBodyWith_value_congr (h h' : PacketHeader) (wh wh' : List Warning) (p : List UInt8) (src src' : Src)
    (sc sc' : List UInt8) (b : Bool)
    (hc : (h.flags &&& Tw.Gen.Packet6.PACKETFLAG_CONTROL ≠ 0) ↔ (h'.flags &&& Tw.Gen.Packet6.PACKETFLAG_CONTROL ≠ 0))
    (hr : (h.flags &&& Tw.Gen.Packet6.PACKETFLAG_REQUEST_RESEND ≠ 0) ↔
      (h'.flags &&& Tw.Gen.Packet6.PACKETFLAG_REQUEST_RESEND ≠ 0))
    (ha : h.ack = h'.ack) (hn : h.numChunks = h'.numChunks) :
    bodyValue (readBodyWith h wh p src sc b) = bodyValue (readBodyWith h' wh' p src' sc' b) := by
  by_cases ht : b = true ∧ p.length < Tw.Gen.Packet6.TOKEN_SIZE
  · unfold readBodyWith
    rw [if_pos ht, if_pos ht]
    rfl
  · obtain ⟨x, tok, rfl, rfl⟩ := exists_strip ht
    rw [readBodyWith_strip, readBodyWith_strip]
    by_cases hcc : h.flags &&& Tw.Gen.Packet6.PACKETFLAG_CONTROL ≠ 0
    · rw [if_pos hcc, if_pos (hc.mp hcc)]
      have hs := controlValue_congr x src src' Tw.Gen.Packet6.HEADER_SIZE
      revert hs
      generalize controlValue _ src _ = x
      generalize controlValue _ src' _ = y
      intro hs
      rcases x with e | ⟨c, l⟩ <;> rcases y with e' | ⟨c', l'⟩ <;> cases hs
      · rfl
      · simp only [bodyValue, ha]
    · rw [if_neg hcc, if_neg (fun x => hcc (hc.mpr x))]
      simp only [bodyValue, rrOf, ha, hn, hr]

/-- The value `readBody` returns does not depend on the compression flag, which is all the two headers of
`two_step_value` differ in. -/
theorem readBody_value_congr (h h' : PacketHeader) (wh wh' : List Warning) (p : List UInt8) (src src' : Src)
    (sc sc' : List UInt8) (hint : Option Bool)
    (hc : (h.flags &&& Tw.Gen.Packet6.PACKETFLAG_CONTROL ≠ 0) ↔ (h'.flags &&& Tw.Gen.Packet6.PACKETFLAG_CONTROL ≠ 0))
    (hr : (h.flags &&& Tw.Gen.Packet6.PACKETFLAG_REQUEST_RESEND ≠ 0) ↔
      (h'.flags &&& Tw.Gen.Packet6.PACKETFLAG_REQUEST_RESEND ≠ 0))
    (ha : h.ack = h'.ack) (hn : h.numChunks = h'.numChunks) :
    bodyValue (readBody h wh p src sc hint) = bodyValue (readBody h' wh' p src' sc' hint) := by
  have hcd : decide (h.flags &&& Tw.Gen.Packet6.PACKETFLAG_CONTROL ≠ 0) =
      decide (h'.flags &&& Tw.Gen.Packet6.PACKETFLAG_CONTROL ≠ 0) := by simp only [hc]
  unfold readBody
  by_cases hl : p.length > Tw.Gen.Packet6.READ_PAYLOAD_LIMIT
  · rw [if_pos hl, if_pos hl]; rfl
  · rw [if_neg hl, if_neg hl, hcd, hn]
    exact readBodyWith_value_congr h h' wh wh' p src src' sc sc' _ hc hr ha hn

/-- C06, two-step path (0.6): first half of `Props/C06.v6_two_step_equals_read`, which says what it claims of libtw2.
`hs` always holds with the documented `MAX_PACKETSIZE` buffer; `two_step_too_long` is the other case. -/
theorem two_step_value (t : Huffman.Table) (bytes : List UInt8) (cap : Nat) (s : List UInt8)
    (h : decompressIfNeeded t bytes cap = .ok true s) (hs : s.length ≤ Tw.Gen.Packet6.MAX_PACKETSIZE)
    (hint : Option Bool) :
    (read t s hint none).value = (read t bytes hint (some cap)).value := by
  have hH : Tw.Gen.Packet6.HEADER_SIZE = 3 := rfl
  obtain ⟨hcap, hn, out, hout, rfl⟩ := decompressIfNeeded_ok h
  obtain ⟨hlen, h3, hconn, hcomp⟩ := (needsDecompression_iff bytes).mp hn
  have hsl : (fakeHeader bytes ++ out).length = out.length + 3 := by
    rw [List.length_append, fakeHeader_length, Nat.add_comm]
  -- the direct read
  rw [read_eq t bytes hint _ (cap_of_some hcap) hlen h3, if_neg (by simp [hconn]), if_pos hcomp]
  dsimp only
  rw [hout]
  dsimp only
  rw [lift_value]
  -- the two-step read
  have c2 : (255 - Tw.Gen.Packet6.PACKETFLAG_COMPRESSION) &&& Tw.Gen.Packet6.PACKETFLAG_CONNLESS =
      Tw.Gen.Packet6.PACKETFLAG_CONNLESS := by decide
  have c1 : (255 - Tw.Gen.Packet6.PACKETFLAG_COMPRESSION) &&& Tw.Gen.Packet6.PACKETFLAG_CONTROL =
      Tw.Gen.Packet6.PACKETFLAG_CONTROL := by decide
  have c4 : (255 - Tw.Gen.Packet6.PACKETFLAG_COMPRESSION) &&& Tw.Gen.Packet6.PACKETFLAG_REQUEST_RESEND =
      Tw.Gen.Packet6.PACKETFLAG_REQUEST_RESEND := by decide
  have c8 : (255 - Tw.Gen.Packet6.PACKETFLAG_COMPRESSION) &&& Tw.Gen.Packet6.PACKETFLAG_COMPRESSION = 0 := by decide
  rw [read_eq t _ hint none nofun hs (by rw [hsl, hH]; exact Nat.le_add_left 3 _), headerOf_decompressed bytes out]
  dsimp only
  rw [if_neg (by rw [and_clear_other _ _ _ c2]; simp [hconn]),
    if_neg (by rw [Nat.and_assoc, c8, Nat.and_zero]; simp), hH, List.drop_left' (fakeHeader_length bytes),
    lift_value]
  congr 1
  apply readBody_value_congr
  · simp only; rw [and_clear_other _ _ _ c1]
  · simp only; rw [and_clear_other _ _ _ c4]
  · rfl
  · rfl

theorem read_none_eq_of_not_compressed (t : Huffman.Table) (bytes : List UInt8) (hint : Option Bool) (cap : Nat)
    (hcap : Tw.Gen.Packet6.MAX_PACKETSIZE ≤ cap) (hn : needsDecompression bytes = false) :
    read t bytes hint none = read t bytes hint (some cap) := by
  have hb : ∀ c, some cap = some c → Tw.Gen.Packet6.MAX_PACKETSIZE ≤ c := cap_of_some hcap
  by_cases hl : bytes.length > Tw.Gen.Packet6.MAX_PACKETSIZE
  · rw [read_tooLong t bytes hint none nofun hl, read_tooLong t bytes hint _ hb hl]
  by_cases h3 : bytes.length < Tw.Gen.Packet6.HEADER_SIZE
  · rw [read_tooShort t bytes hint none nofun h3, read_tooShort t bytes hint _ hb h3]
  rw [read_eq t bytes hint none nofun (Nat.not_lt.mp hl) (Nat.not_lt.mp h3),
    read_eq t bytes hint _ hb (Nat.not_lt.mp hl) (Nat.not_lt.mp h3)]
  by_cases hc : (headerOf bytes).1.flags &&& Tw.Gen.Packet6.PACKETFLAG_CONNLESS ≠ 0
  · rw [if_pos hc, if_pos hc]
  · rw [if_neg hc, if_neg hc]
    have hz : ¬ ((headerOf bytes).1.flags &&& Tw.Gen.Packet6.PACKETFLAG_COMPRESSION ≠ 0) := fun hz =>
      Bool.false_ne_true (hn.symm.trans
        ((needsDecompression_iff bytes).mpr ⟨Nat.not_lt.mp hl, Nat.not_lt.mp h3, Decidable.not_not.mp hc, hz⟩))
    rw [if_neg hz, if_neg hz]

/-- `s` longer than a packet is possible only with a buffer larger than `MAX_PACKETSIZE`. -/
theorem two_step_too_long (t : Huffman.Table) (bytes : List UInt8) (cap : Nat) (s : List UInt8)
    (h : decompressIfNeeded t bytes cap = .ok true s) (hs : s.length > Tw.Gen.Packet6.MAX_PACKETSIZE)
    (hint : Option Bool) :
    (read t s hint none).value = some (.error .tooLong) ∧
    (read t bytes hint (some cap)).value = some (.error .compression) := by
  have hM : Tw.Gen.Packet6.MAX_PACKETSIZE = 1400 := rfl
  have hL : Tw.Gen.Packet6.READ_PAYLOAD_LIMIT = 1397 := rfl
  refine ⟨by rw [read_tooLong t s hint none nofun hs]; rfl, ?_⟩
  obtain ⟨hcap, hn, out, hout, rfl⟩ := decompressIfNeeded_ok h
  obtain ⟨hlen, h3, hconn, hcomp⟩ := (needsDecompression_iff bytes).mp hn
  rw [read_eq t bytes hint _ (cap_of_some hcap) hlen h3,
    if_neg (by simp [hconn]), if_pos hcomp]
  dsimp only
  rw [hout]
  dsimp only
  rw [lift_value]
  unfold readBody
  rw [List.length_append, fakeHeader_length] at hs
  rw [if_pos (by omega)]
  rfl

end Tw.Packet6
