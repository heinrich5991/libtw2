import Tw.Model.NetRef
import Tw.Proofs.ListBasics

/-! The peer table as a vector, and the id allocator.  `lookup` and `slot` are `List.find?` on the key
and on the address; under `PInv` an entry is determined by its key and by its address, so what
`update` (in place) and `remove` (= swap-remove, which reorders) do to `lookup` and `slot` is read off
from which entries are present.  `Upd` is the form in which the simulation (`NetPeers`) takes a change
of the table.  `Peers::new_peer` hands out an id that is not live, and returns as long as fewer than
2^32 peers are live.

Names, here and in the modules above this one: `x_ok` reads a call backwards — from `x … = .ok r`, what `r`
is (`newPeer_ok`, `slotModify_ok`, `Sim.ok`); `x_error` the same for a failure. -/
namespace Tw.Net
open Tw.Conn

theorem slot_eq_find (ps : Peers) (a : Nat) : slot ps a = ps.find? (·.2.addr = a) := by
  induction ps with
  | nil => rfl
  | cons e es ih =>
    rw [slot, List.find?_cons, ih]
    by_cases h : e.2.addr = a <;> simp [h]

theorem lookup_eq_find (ps : Peers) (pid : Nat) : lookup ps pid = (ps.find? (·.1 = pid)).map (·.2) := by
  induction ps with
  | nil => rfl
  | cons e es ih =>
    rw [lookup, List.find?_cons, ih]
    by_cases h : e.1 = pid <;> simp [h]

theorem pidFromAddr_eq (ps : Peers) (a : Nat) : pidFromAddr ps a = (slot ps a).map (·.1) := by
  induction ps with
  | nil => rfl
  | cons e es ih => rw [pidFromAddr, slot, ih]; split <;> rfl

theorem slot_none_iff {ps : Peers} {a : Nat} : slot ps a = none ↔ ∀ e ∈ ps, e.2.addr ≠ a := by
  simp only [slot_eq_find, List.find?_eq_none, decide_eq_true_eq, ne_eq]

theorem lookup_none_iff {ps : Peers} {pid : Nat} : lookup ps pid = none ↔ ∀ e ∈ ps, e.1 ≠ pid := by
  simp only [lookup_eq_find, Option.map_eq_none_iff, List.find?_eq_none, decide_eq_true_eq, ne_eq]

theorem slot_mem {ps : Peers} {a : Nat} {e : Nat × Peer} (h : slot ps a = some e) : e ∈ ps ∧ e.2.addr = a := by
  rw [slot_eq_find] at h
  exact ⟨List.mem_of_find?_eq_some h, by simpa using List.find?_some h⟩

theorem lookup_mem {ps : Peers} {pid : Nat} {p : Peer} (h : lookup ps pid = some p) : (pid, p) ∈ ps := by
  rw [lookup_eq_find, Option.map_eq_some_iff] at h
  obtain ⟨e, he, rfl⟩ := h
  have := List.find?_some he
  simp only [decide_eq_true_eq] at this
  exact this ▸ List.mem_of_find?_eq_some he

theorem lookup_append (ps qs : Peers) (pid : Nat) :
    lookup (ps ++ qs) pid = (lookup ps pid).or (lookup qs pid) := by
  simp only [lookup_eq_find, List.find?_append]
  cases List.find? (fun x => decide (x.1 = pid)) ps <;> rfl

theorem slot_append (ps qs : Peers) (a : Nat) : slot (ps ++ qs) a = (slot ps a).or (slot qs a) := by
  simp only [slot_eq_find, List.find?_append]

theorem pid_inj {ps : Peers} (hn : (pids ps).Nodup) {x y : Nat × Peer} (hx : x ∈ ps) (hy : y ∈ ps)
    (h : x.1 = y.1) : x = y := inj_of_nodup_map hn hx hy h

theorem addr_inj {ps : Peers} (hn : (addrs ps).Nodup) {x y : Nat × Peer} (hx : x ∈ ps) (hy : y ∈ ps)
    (h : x.2.addr = y.2.addr) : x = y := inj_of_nodup_map hn hx hy h

theorem mem_lookup {ps : Peers} {pid : Nat} {p : Peer} (hn : (pids ps).Nodup) (h : (pid, p) ∈ ps) :
    lookup ps pid = some p := by
  cases hl : lookup ps pid with
  | none => exact absurd rfl (lookup_none_iff.1 hl _ h)
  | some q => rw [(Prod.mk.inj (pid_inj hn (lookup_mem hl) h rfl)).2]

theorem mem_slot {ps : Peers} {a : Nat} {e : Nat × Peer} (hn : (addrs ps).Nodup) (h : e ∈ ps)
    (ha : e.2.addr = a) : slot ps a = some e := by
  cases hs : slot ps a with
  | none => exact absurd ha (slot_none_iff.1 hs e h)
  | some e' => rw [addr_inj hn (slot_mem hs).1 h ((slot_mem hs).2.trans ha.symm)]

theorem slot_lookup {ps : Peers} (hi : PInv ps) {a pid : Nat} {p : Peer} (h : slot ps a = some (pid, p)) :
    lookup ps pid = some p := mem_lookup hi.pid (slot_mem h).1

theorem lookup_slot {ps : Peers} (hi : PInv ps) {pid : Nat} {p : Peer} (h : lookup ps pid = some p) :
    slot ps p.addr = some (pid, p) := mem_slot hi.addr (lookup_mem h) rfl

theorem pid_of_addrOf {net : Net} {a pid pid' : Nat} {p : Peer} (hi : PInv net.peers)
    (hs : slot net.peers a = some (pid, p)) (h : addrOf net pid' = some a) : pid' = pid := by
  unfold addrOf at h
  cases hl : lookup net.peers pid' with
  | none => simp [hl] at h
  | some q =>
    simp [hl] at h
    have := lookup_slot hi hl
    rw [h, hs] at this
    simp at this
    exact this.1.symm

theorem lookup_none_of_slot_emptied {ps ps' : Peers} {a pid : Nat} {p : Peer} (hi : PInv ps) (hi' : PInv ps')
    (hs : slot ps a = some (pid, p)) (hs' : slot ps' a = none)
    (hoth : ∀ b, b ≠ a → slot ps' b = slot ps b) : lookup ps' pid = none := by
  rw [lookup_none_iff]
  intro e he hep
  by_cases hb : e.2.addr = a
  · exact (slot_none_iff.1 hs') e he hb
  · have h1 : slot ps' e.2.addr = some e := mem_slot hi'.addr he rfl
    rw [hoth _ hb] at h1
    have := pid_inj hi.pid (slot_mem h1).1 (slot_mem hs).1 (by simpa using hep)
    exact hb (by rw [this]; exact (slot_mem hs).2)

theorem slot_congr {ps ps' : Peers} {a : Nat} (hn' : (addrs ps').Nodup)
    (h : ∀ e : Nat × Peer, e.2.addr = a → (e ∈ ps' ↔ e ∈ ps)) : slot ps' a = slot ps a := by
  cases hs : slot ps a with
  | none =>
    rw [slot_none_iff] at hs ⊢
    exact fun e he hea => hs e ((h e hea).1 he) hea
  | some e => exact mem_slot hn' ((h e (slot_mem hs).2).2 (slot_mem hs).1) (slot_mem hs).2

theorem lookup_congr {ps ps' : Peers} {pid : Nat} (hn' : (pids ps').Nodup)
    (h : ∀ e : Nat × Peer, e.1 = pid → (e ∈ ps' ↔ e ∈ ps)) : lookup ps' pid = lookup ps pid := by
  cases hs : lookup ps pid with
  | none =>
    rw [lookup_none_iff] at hs ⊢
    exact fun e he hea => hs e ((h e hea).1 he) hea
  | some p => exact mem_lookup hn' ((h (pid, p) rfl).2 (lookup_mem hs))

theorem lookup_split {ps : Peers} {pid : Nat} {p : Peer} (h : lookup ps pid = some p) (p' : Peer) :
    ∃ l₁ l₂, ps = l₁ ++ (pid, p) :: l₂ ∧ (∀ x ∈ l₁, x.1 ≠ pid) ∧
      update ps pid p' = l₁ ++ (pid, p') :: l₂ ∧ indexOf ps pid = some l₁.length := by
  induction ps with
  | nil => cases h
  | cons e es ih =>
    by_cases he : e.1 = pid
    · simp only [lookup, he, if_true, Option.some.injEq] at h
      refine ⟨[], es, ?_, by simp, by simp [update, he], by simp [indexOf, he]⟩
      rw [← he, ← h]; rfl
    · simp only [lookup, he, if_false] at h
      obtain ⟨l₁, l₂, h1, h2, h3, h4⟩ := ih h
      refine ⟨e :: l₁, l₂, by rw [h1]; rfl, ?_, by simp [update, he, h3], by simp [indexOf, he, h4]⟩
      intro x hx
      rcases List.mem_cons.1 hx with rfl | hx
      · exact he
      · exact h2 x hx

/-- `ps'` is `ps` with the slot of address `c` replaced by `s`: what `update`, `remove` and a `push` of a new peer do to
the table, as far as `slot` and the invariant see it -/
structure Upd (ps ps' : Peers) (c : Nat) (s : Slot) : Prop where
  inv : PInv ps'
  slot : ∀ a, slot ps' a = if c = a then s else slot ps a

theorem upd_refl {ps : Peers} (hi : PInv ps) (c : Nat) : Upd ps ps c (slot ps c) :=
  ⟨hi, fun a => by by_cases h : c = a <;> simp [h]⟩

theorem Upd.trans {ps ps' ps'' : Peers} {c : Nat} {s s' : Slot} (u : Upd ps ps' c s) (v : Upd ps' ps'' c s') :
    Upd ps ps'' c s' :=
  ⟨v.inv, fun a => by rw [v.slot, u.slot]; split <;> rfl⟩

theorem upd_update {ps : Peers} {pid : Nat} {p p' : Peer} (hi : PInv ps) (h : lookup ps pid = some p)
    (ha : p'.addr = p.addr) : Upd ps (update ps pid p') p.addr (some (pid, p')) := by
  obtain ⟨l₁, l₂, rfl, _, h3, _⟩ := lookup_split h p'
  rw [h3]
  refine ⟨⟨by simpa [pids] using hi.pid, by simpa [addrs, ha] using hi.addr⟩, fun a => ?_⟩
  rw [slot_append, slot_append]
  by_cases hpa : p.addr = a
  · -- nobody in front of the entry has its address
    have hn := hi.addr
    simp only [addrs, List.map_append, List.map_cons, List.nodup_append] at hn
    have h1 : slot l₁ a = none :=
      slot_none_iff.2 fun x hx hxa => hn.2.2 _ (List.mem_map.2 ⟨x, hx, rfl⟩) _ (List.mem_cons_self ..)
        (hxa.trans hpa.symm)
    simp [h1, slot, ha, hpa]
  · simp [slot, ha, hpa]

theorem lookup_update_self {ps : Peers} {pid : Nat} {p p' : Peer} (h : lookup ps pid = some p) :
    lookup (update ps pid p') pid = some p' := by
  obtain ⟨l₁, l₂, _, h2, h3, _⟩ := lookup_split h p'
  rw [h3, lookup_append, lookup_none_iff.2 h2]
  simp [lookup]

theorem swapRemove_concat {α : Type} (l₁ : List α) (x : α) (m : List α) (y : α) :
    swapRemove (l₁ ++ x :: (m ++ [y])) l₁.length = l₁ ++ y :: m := by
  have h1 : (l₁ ++ x :: (m ++ [y])).getLast? = some y := by
    have : l₁ ++ x :: (m ++ [y]) = (l₁ ++ x :: m) ++ [y] := by simp
    rw [this, List.getLast?_append]; simp
  simp only [swapRemove, h1]
  have h2 : (l₁ ++ x :: (m ++ [y])).set l₁.length y = (l₁ ++ y :: m) ++ [y] := by
    simp
  rw [h2, List.dropLast_concat]

theorem swapRemove_last {α : Type} (l₁ : List α) (x : α) :
    swapRemove (l₁ ++ [x]) l₁.length = l₁ := by
  have h1 : (l₁ ++ [x]).getLast? = some x := by simp
  simp only [swapRemove, h1]
  have h2 : (l₁ ++ [x]).set l₁.length x = l₁ ++ [x] := by simp
  rw [h2, List.dropLast_concat]

theorem swapRemove_perm {α : Type} (l₁ : List α) (x : α) (l₂ : List α) :
    (swapRemove (l₁ ++ x :: l₂) l₁.length).Perm (l₁ ++ l₂) := by
  rcases List.eq_nil_or_concat l₂ with rfl | ⟨m, y, rfl⟩
  · simp [swapRemove_last]
  · rw [List.concat_eq_append, swapRemove_concat]
    exact List.Perm.append_left _ (List.perm_append_singleton y m).symm

theorem remove_none {ps : Peers} {pid : Nat} (h : lookup ps pid = none) :
    remove ps pid = .error (.panic "invalid pid") := by
  have : indexOf ps pid = none := by
    induction ps with
    | nil => rfl
    | cons e es ih =>
      by_cases he : e.1 = pid
      · simp [lookup, he] at h
      · simp only [lookup, he, if_false] at h
        simp [indexOf, he, ih h]
  simp [remove, this]

theorem remove_some {ps : Peers} {pid : Nat} {p : Peer} (hi : PInv ps) (h : lookup ps pid = some p) :
    ∃ ps', remove ps pid = .ok ps' ∧ PInv ps' ∧ ∀ x, x ∈ ps' ↔ (x ∈ ps ∧ x.1 ≠ pid) := by
  obtain ⟨l₁, l₂, rfl, h4, _, hidx⟩ := lookup_split h p
  have hperm := swapRemove_perm l₁ (pid, p) l₂
  have hsub : (l₁ ++ l₂).Sublist (l₁ ++ (pid, p) :: l₂) :=
    List.Sublist.append_left (List.sublist_cons_self _ _) _
  refine ⟨swapRemove (l₁ ++ (pid, p) :: l₂) l₁.length, by simp [remove, hidx], ⟨?_, ?_⟩, ?_⟩
  · exact ((hperm.map _).nodup_iff).2 (hi.pid.sublist (hsub.map _))
  · exact ((hperm.map _).nodup_iff).2 (hi.addr.sublist (hsub.map _))
  · intro x
    rw [hperm.mem_iff]
    have hn := hi.pid
    simp only [pids, List.map_append, List.map_cons, List.nodup_append, List.nodup_cons] at hn
    have hl₂ : ∀ y ∈ l₂, y.1 ≠ pid := fun y hy hyp => hn.2.1.1 (List.mem_map.2 ⟨y, hy, hyp⟩)
    simp only [List.mem_append, List.mem_cons]
    constructor
    · rintro (hx | hx)
      · exact ⟨Or.inl hx, h4 x hx⟩
      · exact ⟨Or.inr (Or.inr hx), hl₂ x hx⟩
    · rintro ⟨hx | hx | hx, hne⟩
      · exact Or.inl hx
      · exact absurd (by rw [hx]) hne
      · exact Or.inr hx

theorem lookup_remove_other {ps ps' : Peers} {pid q : Nat} (hi : PInv ps) (hi' : PInv ps')
    (hm : ∀ x, x ∈ ps' ↔ (x ∈ ps ∧ x.1 ≠ pid)) (hq : q ≠ pid) : lookup ps' q = lookup ps q := by
  apply lookup_congr hi'.pid
  intro e he
  rw [hm]
  exact ⟨fun h => h.1, fun h => ⟨h, by simpa [he] using hq⟩⟩

theorem upd_remove {ps : Peers} {pid : Nat} {p : Peer} (hi : PInv ps) (h : lookup ps pid = some p) :
    ∃ ps', remove ps pid = .ok ps' ∧ Upd ps ps' p.addr none ∧ lookup ps' pid = none := by
  obtain ⟨ps', hrm, hi', hm⟩ := remove_some hi h
  refine ⟨ps', hrm, ⟨hi', fun a => ?_⟩, lookup_none_iff.2 fun e he => ((hm e).1 he).2⟩
  split
  · rename_i hpa
    rw [slot_none_iff]
    intro e he hea
    have := (hm e).1 he
    exact this.2 (by rw [addr_inj hi.addr this.1 (lookup_mem h) (hea.trans hpa.symm)])
  · rename_i hpa
    apply slot_congr hi'.addr
    intro e hea
    rw [hm]
    refine ⟨fun h => h.1, fun he => ⟨he, fun hep => hpa ?_⟩⟩
    rw [← hea, pid_inj hi.pid he (lookup_mem h) hep]

theorem upd_push {ps : Peers} {pid : Nat} {p : Peer} (hi : PInv ps) (hp : lookup ps pid = none)
    (ha : slot ps p.addr = none) : Upd ps (ps ++ [(pid, p)]) p.addr (some (pid, p)) := by
  refine ⟨⟨?_, ?_⟩, fun a => ?_⟩
  · simp only [pids, List.map_append, List.map_cons, List.map_nil]
    refine List.nodup_append.2 ⟨hi.pid, by simp, ?_⟩
    intro x hx y hy
    rcases List.mem_map.1 hx with ⟨e, he, rfl⟩
    rw [List.mem_singleton.1 hy]
    exact lookup_none_iff.1 hp e he
  · simp only [addrs, List.map_append, List.map_cons, List.map_nil]
    refine List.nodup_append.2 ⟨hi.addr, by simp, ?_⟩
    intro x hx y hy
    rcases List.mem_map.1 hx with ⟨e, he, rfl⟩
    rw [List.mem_singleton.1 hy]
    exact slot_none_iff.1 ha e he
  · rw [slot_append]
    by_cases hpa : p.addr = a
    · rw [if_pos hpa, ← hpa, ha]; simp [slot]
    · rw [if_neg hpa]; simp [slot, hpa]

theorem update_append_fresh {ps : Peers} {pid : Nat} {p p' : Peer} (hp : lookup ps pid = none) :
    update (ps ++ [(pid, p)]) pid p' = ps ++ [(pid, p')] := by
  induction ps with
  | nil => simp [update]
  | cons e es ih =>
    simp only [lookup] at hp
    split at hp
    · simp at hp
    · rename_i he
      simp only [List.cons_append, update, he, if_false, ih hp]

theorem newPeerLoop_fresh {fuel : Nat} {ps : Peers} {n pid nx : Nat}
    (h : newPeerLoop fuel ps n = some (pid, nx)) : lookup ps pid = none := by
  induction fuel generalizing n with
  | zero => simp [newPeerLoop] at h
  | succ f ih =>
    simp only [newPeerLoop] at h
    split at h
    · exact ih h
    · rename_i hl; simp at h; rw [← h.1]; exact hl

structure NewPeerOk (net : Net) (addr : Nat) (tok : Bool) (net1 : Net) (pid : Nat) : Prop where
  fresh : freshPid net = some pid
  vacant : lookup net.peers pid = none
  peers : net1.peers = net.peers ++ [(pid, Peer.new addr tok)]
  acc : net1.acceptConnections = net.acceptConnections

theorem newPeer_ok {net net1 : Net} {addr pid : Nat} {tok : Bool} (h : newPeer net addr tok = .ok (net1, pid)) :
    NewPeerOk net addr tok net1 pid := by
  unfold newPeer at h
  split at h
  · simp at h
  · rename_i pid' nx hl
    simp only [Except.ok.injEq, Prod.mk.injEq] at h
    obtain ⟨h1, h2⟩ := h
    subst h2 h1
    exact ⟨by simp [freshPid, hl], newPeerLoop_fresh hl, rfl, rfl⟩

theorem newPeer_error {net : Net} {addr : Nat} {tok : Bool} {f : Fail} (h : newPeer net addr tok = .error f) :
    freshPid net = none ∧ f = .hang := by
  unfold newPeer at h
  split at h
  · rename_i hl; simp at h; exact ⟨by simp [freshPid, hl], h.symm⟩
  · simp at h

theorem idNext_lt (n : Nat) : idNext n < idMod := Nat.mod_lt _ (by decide)

theorem newPeerLoop_none {fuel : Nat} {ps : Peers} {n : Nat} (hn : n < idMod)
    (h : newPeerLoop fuel ps n = none) : ∀ k, k < fuel → lookup ps ((n + k) % idMod) ≠ none := by
  induction fuel generalizing n with
  | zero => intro k hk; omega
  | succ f ih =>
    simp only [newPeerLoop] at h
    split at h
    · rename_i p hl
      intro k hk
      cases k with
      | zero => rw [Nat.add_zero, Nat.mod_eq_of_lt hn, hl]; simp
      | succ k =>
        have := ih (idNext_lt n) h k (by omega)
        rwa [idNext, Nat.mod_add_mod, show Tw.Gen.Net.peerIdStep = 1 from rfl, Nat.add_assoc,
          Nat.add_comm 1 k] at this
    · simp at h

theorem mod_add_ne {n x y : Nat} (hxy : x < y) (hy : y - x < idMod) : (n + x) % idMod ≠ (n + y) % idMod := by
  intro h
  have h0 := Nat.sub_mod_eq_zero_of_mod_eq h.symm
  rw [Nat.add_sub_add_left, Nat.mod_eq_of_lt hy] at h0
  omega

/-- the loop of `Peers::new_peer` finds a free id as long as fewer than 2^32 peers are live, wherever
the counter stands: otherwise the `len + 1` ids it tried — the counter and the `len` residues after
it, pairwise different — would all be among the `len` live ones -/
theorem newPeerLoop_some (ps : Peers) (n : Nat) (hlen : ps.length < idMod) :
    newPeerLoop (ps.length + 1) ps n ≠ none := by
  intro h
  simp only [newPeerLoop] at h
  cases hl : lookup ps n with
  | none => simp [hl] at h
  | some p =>
    simp only [hl] at h
    have hall := newPeerLoop_none (idNext_lt n) h
    let cands := n :: (List.range ps.length).map (fun k => (idNext n + k) % idMod)
    have hnd : cands.Nodup := by
      refine List.nodup_cons.2 ⟨fun hm => ?_, List.pairwise_map.2
        (List.pairwise_lt_range.imp_of_mem fun {x y} _ hy hlt => mod_add_ne hlt ?_)⟩
      · -- a counter among the residues is itself below `idMod`, so it is the residue of `n + 0`
        obtain ⟨k, hk, hnk⟩ := List.mem_map.1 hm
        have hk' := List.mem_range.1 hk
        have hn : n < idMod := hnk ▸ Nat.mod_lt _ (by decide)
        rw [idNext, Nat.mod_add_mod, show Tw.Gen.Net.peerIdStep = 1 from rfl, Nat.add_assoc] at hnk
        exact mod_add_ne (n := n) (x := 0) (y := 1 + k) (by omega) (by omega)
          (by rw [Nat.add_zero, Nat.mod_eq_of_lt hn]; exact hnk.symm)
      · have := List.mem_range.1 hy
        omega
    have hsub : cands ⊆ pids ps := by
      intro c hc
      rcases List.mem_cons.1 hc with rfl | hc
      · exact List.mem_map.2 ⟨_, lookup_mem hl, rfl⟩
      · obtain ⟨k, hk, rfl⟩ := List.mem_map.1 hc
        cases hl' : lookup ps ((idNext n + k) % idMod) with
        | none => exact absurd hl' (hall k (List.mem_range.1 hk))
        | some q => exact List.mem_map.2 ⟨_, lookup_mem hl', rfl⟩
    have := hnd.length_le_of_subset hsub
    simp only [cands, pids, List.length_cons, List.length_map, List.length_range] at this
    omega

theorem newPeer_returns (net : Net) (addr : Nat) (tok : Bool) (hlen : net.peers.length < idMod) :
    ∃ net1 pid, newPeer net addr tok = .ok (net1, pid) := by
  unfold newPeer
  cases h : newPeerLoop (net.peers.length + 1) net.peers net.nextPeerId with
  | none => exact absurd h (newPeerLoop_some _ _ hlen)
  | some v => obtain ⟨pid, nx⟩ := v; exact ⟨_, _, rfl⟩

end Tw.Net
