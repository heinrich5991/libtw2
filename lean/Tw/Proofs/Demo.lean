import Tw.Model.Demo
import Tw.Proofs.Packer

/-! The low-level demo model (`Tw.Model.Demo`): fixed-width integers, the chunk header codec, the message
pipeline, the counting decompressor, what the writer accepts and refuses, and what it wrote read back —
one chunk, a chunk sequence, the file header.

Suffixes in `Demo*`: `f_cases` — every outcome of `f` as a disjunction, without hypotheses; `f_accepted` — from
`f … = (w', .ok)` to what `w'` is and what was appended; `f_accepts`, `f_refuses` — from hypotheses on the arguments to
the outcome; `f_no_panic` — no outcome of `f` is a panic (and the invariant, where one is carried, is kept); `f_spec` —
from `f … = some l` to what `l` is; `f_g` (`readChunkHeader_write`) — the reader's `f` on what the writer's `g` produced. -/
namespace Tw.Demo
open Tw.Packer (toI32 inI32 readInt writeInt)
open Tw.Gen.Demo

/-- Horner: with `m = n / 256`, `m / 256 * 256 + m % 256 = m`, three times. -/
theorem beVal_be32 (n : Nat) (h : n < 4294967296) : beVal (be32 n) = n := by
  have e2 : n / 65536 = n / 256 / 256 := by rw [Nat.div_div_eq_div_mul]
  have e3 : n / 16777216 = n / 256 / 256 / 256 := by rw [Nat.div_div_eq_div_mul, Nat.div_div_eq_div_mul]
  have h3 : n / 256 / 256 / 256 < 256 :=
    Nat.div_lt_of_lt_mul (Nat.div_lt_of_lt_mul (Nat.div_lt_of_lt_mul h))
  simp only [beVal, be32, List.foldl, UInt8.toNat_ofNat', e2, e3, Nat.mod_eq_of_lt h3, Nat.zero_mul, Nat.zero_add,
    Nat.div_add_mod']

theorem toI32_toU32 (v : Int) (h : inI32 v) : toI32 (toU32 v) = v := by
  unfold toI32 toU32 inI32 at *
  omega

theorem toU32_toI32 (x : Nat) (h : x < 4294967296) : toU32 (toI32 x) = x := by
  unfold toI32 toU32
  omega

theorem toI32_small (n : Nat) (h : n < 2147483648) : toI32 n = n := by
  have : n % 2 ^ 32 = n := Nat.mod_eq_of_lt (by omega)
  simp only [toI32, this, h, if_true]

theorem toU32_lt (v : Int) : toU32 v < 4294967296 := by
  unfold toU32; omega

theorem takeN_append (a rest : Bytes) (n : Nat) (h : a.length = n) :
    takeN n (a ++ rest) = some (a, rest) := by
  subst h
  simp [takeN]

theorem takeN_length {n : Nat} {bs a b : Bytes} (h : takeN n bs = some (a, b)) : b.length + n = bs.length := by
  unfold takeN at h
  split at h
  · cases h
  · obtain ⟨_, rfl⟩ := Prod.mk.inj (Option.some.inj h)
    rw [List.length_drop]; omega

theorem be32_length (n : Nat) : (be32 n).length = 4 := rfl

theorem tickDelta_bits : ∀ dt < 32,
    (UInt8.ofNat (CHUNKTYPEFLAG_TICKMARKER ||| CHUNKTICKFLAG_INLINETICK ||| dt)).toNat &&& CHUNKTYPEFLAG_TICKMARKER ≠ 0
    ∧ (UInt8.ofNat (CHUNKTYPEFLAG_TICKMARKER ||| CHUNKTICKFLAG_INLINETICK ||| dt)).toNat &&& CHUNKTICKFLAG_KEYFRAME = 0
    ∧ (UInt8.ofNat (CHUNKTYPEFLAG_TICKMARKER ||| CHUNKTICKFLAG_INLINETICK ||| dt)).toNat &&& CHUNKTICKFLAG_INLINETICK ≠ 0
    ∧ (UInt8.ofNat (CHUNKTYPEFLAG_TICKMARKER ||| CHUNKTICKFLAG_INLINETICK ||| dt)).toNat &&& CHUNKTICKMASK_TICK_V5 = dt := by
  decide

theorem tickAbs_bits : ∀ kf : Bool,
    (UInt8.ofNat (CHUNKTYPEFLAG_TICKMARKER ||| (if kf then CHUNKTICKFLAG_KEYFRAME else 0))).toNat &&& CHUNKTYPEFLAG_TICKMARKER ≠ 0
    ∧ (decide ((UInt8.ofNat (CHUNKTYPEFLAG_TICKMARKER ||| (if kf then CHUNKTICKFLAG_KEYFRAME else 0))).toNat &&& CHUNKTICKFLAG_KEYFRAME ≠ 0) = kf)
    ∧ (UInt8.ofNat (CHUNKTYPEFLAG_TICKMARKER ||| (if kf then CHUNKTICKFLAG_KEYFRAME else 0))).toNat &&& CHUNKTICKFLAG_INLINETICK = 0
    ∧ (UInt8.ofNat (CHUNKTYPEFLAG_TICKMARKER ||| (if kf then CHUNKTICKFLAG_KEYFRAME else 0))).toNat &&& CHUNKTICKMASK_TICK_V5 = 0 := by
  decide

theorem data_bits (k : DataKind) : ∀ s < 32,
    (UInt8.ofNat (k.flag ||| s)).toNat &&& CHUNKTYPEFLAG_TICKMARKER = 0
    ∧ (UInt8.ofNat (k.flag ||| s)).toNat &&& CHUNKMASK_TYPE = k.flag
    ∧ (UInt8.ofNat (k.flag ||| s)).toNat &&& CHUNKMASK_SIZE = s := by
  cases k <;> decide

theorem kindOfBits_flag (k : DataKind) : kindOfBits k.flag = k := by
  cases k <;> decide

/-- the values the writer's header encoder is defined for -/
def ChunkHeader.inRange : ChunkHeader → Prop
  | .tick (.delta d) kf => d ≤ 31 ∧ kf = false
  | .tick (.absolute t) _ => inI32 t
  | .data _ size => size < 65536

/-- `UnknownChunkType`: the fourth value of the two type bits, which `Writer` never produces -/
def ChunkHeader.readWarnings : ChunkHeader → List Warning
  | .data .unknown _ => [Warning.unknownChunkType]
  | _ => []

theorem readChunkHeader_write (v : Version) (hv : v.num ≥ 5) (h : ChunkHeader) (bs rest : Bytes)
    (hr : h.inRange) (hw : h.write = some bs) :
    readChunkHeader v (bs ++ rest) = .ok h rest h.readWarnings := by
  match h, hr, hw with
  | .tick (.delta d) kf, ⟨hd, hkf⟩, hw =>
    subst hkf
    cases Option.some.inj ((if_pos (show d ≤ writerVersion.maxTickDelta ∧ false = false from ⟨hd, rfl⟩)).symm.trans hw)
    obtain ⟨h1, h2, h3, h4⟩ := tickDelta_bits d (Nat.lt_succ_of_le hd)
    generalize UInt8.ofNat (CHUNKTYPEFLAG_TICKMARKER ||| CHUNKTICKFLAG_INLINETICK ||| d) = f at *
    -- each test of `readChunkHeader` is decided by its bit fact, so the other branch is never visited
    -- (`simp [readChunkHeader, …]` would normalise every branch first)
    exact (if_pos h1).trans ((if_pos hv).trans ((if_pos h3).trans (by rw [h4, h2]; rfl)))
  | .tick (.absolute t) kf, hr, hw =>
    cases Option.some.inj (show some _ = some bs from hw)
    obtain ⟨h1, h2, h3, h4⟩ := tickAbs_bits kf
    generalize UInt8.ofNat (CHUNKTYPEFLAG_TICKMARKER ||| (if kf then CHUNKTICKFLAG_KEYFRAME else 0)) = f at *
    have ht : toI32 (beVal (be32 (toU32 t))) = t := by
      rw [beVal_be32 _ (toU32_lt t), toI32_toU32 t hr]
    show readChunkHeader v (f :: (be32 (toU32 t) ++ rest)) = _
    refine (if_pos h1).trans ((if_pos hv).trans ((if_neg (fun h => h h3)).trans ?_))
    rw [h2, if_neg (fun h => h h4), readAbsolute, takeN_append _ _ 4 (be32_length _)]
    simp only [tickResult, ht, ChunkHeader.readWarnings]
  | .data k size, hr, hw =>
    have hws : (if k = DataKind.unknown then [Warning.unknownChunkType] else []) = (ChunkHeader.data k size).readWarnings := by
      cases k <;> rfl
    by_cases h30 : size < CHUNKSIZE_ONEBYTEFOLLOWS
    · cases Option.some.inj ((if_pos h30).symm.trans hw)
      obtain ⟨h1, h2, h3⟩ := data_bits k size (Nat.lt_trans h30 (by decide))
      generalize UInt8.ofNat (k.flag ||| size) = f at *
      refine (if_neg (fun h => h h1)).trans ?_
      simp only [h2, h3, kindOfBits_flag, hws]
      exact (if_neg (Nat.ne_of_lt h30)).trans (if_neg (Nat.ne_of_lt (Nat.lt_succ_of_lt h30)))
    · have hr' : size < 65536 := hr
      have h30' : 30 ≤ size := Nat.le_of_not_lt h30
      by_cases h255 : size ≤ 255
      · cases Option.some.inj (((if_neg h30).trans (if_pos h255)).symm.trans hw)
        obtain ⟨h1, h2, h3⟩ := data_bits k CHUNKSIZE_ONEBYTEFOLLOWS (by decide)
        generalize UInt8.ofNat (k.flag ||| CHUNKSIZE_ONEBYTEFOLLOWS) = f at *
        have hsz : (UInt8.ofNat size).toNat = size := by
          rw [UInt8.toNat_ofNat', Nat.mod_eq_of_lt (Nat.lt_succ_of_le h255)]
        show readChunkHeader v (f :: UInt8.ofNat size :: rest) = _
        refine (if_neg (fun h => h h1)).trans ?_
        simp only [h2, h3, kindOfBits_flag, hws, if_true, hsz, if_neg (Nat.not_lt.mpr h30')]
      · cases Option.some.inj (((if_neg h30).trans (if_neg h255)).symm.trans hw)
        obtain ⟨h1, h2, h3⟩ := data_bits k CHUNKSIZE_TWOBYTESFOLLOW (by decide)
        generalize UInt8.ofNat (k.flag ||| CHUNKSIZE_TWOBYTESFOLLOW) = f at *
        have hsz : (UInt8.ofNat size).toNat + 256 * (UInt8.ofNat (size / 256)).toNat = size := by
          rw [UInt8.toNat_ofNat', UInt8.toNat_ofNat', Nat.mod_eq_of_lt (Nat.div_lt_of_lt_mul hr'), Nat.mod_add_div]
        show readChunkHeader v (f :: UInt8.ofNat size :: UInt8.ofNat (size / 256) :: rest) = _
        refine (if_neg (fun h => h h1)).trans ?_
        simp only [h2, h3, kindOfBits_flag, hws, if_true, hsz, if_neg (show ¬ size < 255 by omega),
          if_neg (show ¬ CHUNKSIZE_TWOBYTESFOLLOW = CHUNKSIZE_ONEBYTEFOLLOWS by decide)]

theorem ofNat_add_mul (a : UInt8) (x : Nat) : UInt8.ofNat (a.toNat + 256 * x) = a :=
  UInt8.toNat_inj.mp (by rw [UInt8.toNat_ofNat', Nat.add_mul_mod_self_left, Nat.mod_eq_of_lt a.toNat_lt])

theorem add_mul_div (a : UInt8) (x : Nat) : (a.toNat + 256 * x) / 256 = x := by
  rw [Nat.add_mul_div_left _ _ (by decide), Nat.div_eq_of_lt a.toNat_lt, Nat.zero_add]

/-- the bytes are the base-256 digits: peel one digit per step -/
theorem le32_leVal4 (a b c d : UInt8) : le32 (leVal4 a b c d) = [a, b, c, d] := by
  have e : leVal4 a b c d = a.toNat + 256 * (b.toNat + 256 * (c.toNat + 256 * (d.toNat + 256 * 0))) := by
    unfold leVal4; omega
  rw [le32, e, show 65536 = 256 * 256 from rfl, show 16777216 = 256 * 256 * 256 from rfl,
    ← Nat.div_div_eq_div_mul, ← Nat.div_div_eq_div_mul, ← Nat.div_div_eq_div_mul,
    ofNat_add_mul, add_mul_div, ofNat_add_mul, add_mul_div, ofNat_add_mul, add_mul_div, ofNat_add_mul]

theorem le32_leWord (a b c d : UInt8) : le32 (toU32 (leWord a b c d)) = [a, b, c, d] := by
  have ha := a.toNat_lt; have hb := b.toNat_lt; have hc := c.toNat_lt; have hd := d.toNat_lt
  rw [leWord, toU32_toI32 _ (by unfold leVal4; omega), le32_leVal4]

theorem le32_msgInts (msg : Bytes) : (msgInts msg).flatMap (fun n => le32 (toU32 n)) = pad4 msg := by
  fun_induction msgInts msg <;> simp_all [pad4, le32_leWord]

theorem msgInts_inI32 (msg : Bytes) : ∀ v ∈ msgInts msg, inI32 v := by
  fun_induction msgInts msg <;> simp_all [leWord, Tw.Packer.toI32_range]

theorem msgInts_length (msg : Bytes) : (msgInts msg).length = (msg.length + 3) / 4 := by
  fun_induction msgInts msg
  case case5 a b c d rest ih =>
    simp only [List.length_cons, ih]
    omega
  all_goals simp

theorem msgInts_replicate (c : UInt8) (k : Nat) :
    msgInts (List.replicate (4 * k) c) = List.replicate k (leWord c c c c) := by
  induction k with
  | zero => rfl
  | succ k ih =>
    have : 4 * (k + 1) = 4 * k + 1 + 1 + 1 + 1 := by omega
    rw [this]
    simp only [List.replicate_succ, msgInts, ih]

theorem packInts_cons (v : Int) (vs : List Int) : packInts (v :: vs) = writeInt v ++ packInts vs :=
  List.flatMap_cons

theorem packInts_replicate_length (v : Int) (k : Nat) :
    (packInts (List.replicate k v)).length = k * (writeInt v).length := by
  induction k with
  | zero => exact (Nat.zero_mul _).symm
  | succ k ih => rw [List.replicate_succ, packInts_cons, List.length_append, ih, Nat.succ_mul, Nat.add_comm]

theorem unpackMsg_pack (vs : List Int) (hvs : ∀ v ∈ vs, inI32 v) :
    ∀ fuel slots, (packInts vs).length ≤ fuel → vs.length ≤ slots →
      unpackMsg fuel slots (packInts vs) = (.ok (vs.flatMap fun n => le32 (toU32 n)), []) := by
  induction vs with
  | nil => intro fuel slots _ _; simp [packInts, unpackMsg]
  | cons v vs ih =>
    intro fuel slots hf hs
    have hv : inI32 v := hvs v (by simp)
    have hlen := (Tw.Packer.writeInt_length v).1
    rw [packInts_cons] at hf ⊢
    match hw : writeInt v with
    | [] => simp [hw] at hlen
    | b :: t =>
      have hrd := Tw.Packer.readInt_writeInt v hv (packInts vs)
      rw [hw] at hrd hf
      simp only [List.cons_append] at hrd hf ⊢
      match fuel, slots, hf, hs with
      | fuel + 1, slots + 1, hf, hs =>
        simp only [unpackMsg, hrd, List.map_nil, List.nil_append]
        rw [ih (fun v hv => hvs v (by simp [hv])) fuel slots (by simp at hf; omega) (by simp at hs; omega)]
        simp

/-- the message pipeline of an accepted message, read back: the reader's `MAX_SNAPSHOT_SIZE / 4` slots suffice for
every message of at most `MAX_SNAPSHOT_SIZE` bytes -/
theorem unpackMsg_msgInts (msg : Bytes) (h : msg.length ≤ MAX_SNAPSHOT_SIZE) :
    unpackMsg (packInts (msgInts msg)).length (MAX_SNAPSHOT_SIZE / 4) (packInts (msgInts msg)) = (.ok (pad4 msg), []) := by
  rw [← le32_msgInts]
  refine unpackMsg_pack _ (msgInts_inI32 msg) _ _ (Nat.le_refl _) ?_
  rw [msgInts_length]
  exact Nat.le_trans (Nat.div_le_div_right (Nat.add_le_add_right h 3)) (by decide)

section
open Tw.Huffman (decStep decBits decZeros DecResult StepResult BitsResult)

theorem decStepC_eq (t : Tw.Huffman.Table) (cap nd : Nat) (out : Bytes) (bit : Bool) :
    decStepC t cap nd out.length out bit =
      (decStep t cap nd out bit,
        match decStep t cap nd out bit with
        | .cont _ out' => out'.length
        | _ => out.length) := by
  unfold decStepC decStep Tw.Huffman.child Tw.Huffman.childF
  simp only []
  generalize (if bit = true then (Tw.Huffman.node t nd).2 else (Tw.Huffman.node t nd).1) = idx
  by_cases h1 : idx ≥ Tw.Huffman.NUM_SYMBOLS
  · simp only [if_pos h1]
  · by_cases h2 : idx = Tw.Huffman.EOF
    · simp only [if_neg h1, if_pos h2]
    · by_cases h3 : out.length ≥ cap
      · simp only [if_neg h1, if_neg h2, if_pos h3]
      · simp only [if_neg h1, if_neg h2, if_neg h3, List.length_cons]

theorem decBitsC_eq (t : Tw.Huffman.Table) (cap : Nat) (bits : List Bool) : ∀ nd (out : Bytes),
    decBitsC t cap nd out.length out bits =
      match decBits t cap nd out bits with
      | .more nd' out' => .more nd' out'.length out'
      | .fin r => .fin r := by
  induction bits with
  | nil => exact fun _ _ => rfl
  | cons b bs ih =>
    intro nd out
    unfold decBitsC decBits
    rw [decStepC_eq]
    cases decStep t cap nd out b with
    | cont nd' out' => exact ih nd' out'
    | done out' => rfl
    | capacity => rfl

theorem decZerosC_eq (t : Tw.Huffman.Table) (cap : Nat) : ∀ (fuel nd : Nat) (out : Bytes),
    decZerosC t cap fuel nd out.length out = decZeros t cap fuel nd out
  | 0, nd, out => rfl
  | fuel + 1, nd, out => by
    unfold decZerosC decZeros
    rw [decStepC_eq]
    cases decStep t cap nd out false with
    | cont nd' out' => exact decZerosC_eq t cap fuel nd' out'
    | done out' => rfl
    | capacity => rfl

theorem decompressC_eq (t : Tw.Huffman.Table) (input : Bytes) (cap : Nat) :
    decompressC t input cap = Tw.Huffman.decompress t input cap := by
  unfold decompressC Tw.Huffman.decompress
  rw [show (0 : Nat) = ([] : Bytes).length from rfl, decBitsC_eq]
  cases decBits t cap Tw.Huffman.ROOT_IDX [] (input.flatMap Tw.Huffman.byteBits) with
  | more nd out => exact decZerosC_eq t cap _ nd out
  | fin r => rfl
end

theorem data_header_writes (k : DataKind) (n : Nat) : ∃ hdr, (ChunkHeader.data k n).write = some hdr := by
  simp only [ChunkHeader.write]
  repeat' split
  all_goals exact ⟨_, rfl⟩

/-- `write_chunk_impl`: `MAX_SNAPSHOT_SIZE` is the reader's buffer, 65535 the 16-bit size field of the chunk header. -/
theorem writeData_cases (w : Writer) (k : DataKind) (d : Bytes) :
    (d.length ≤ MAX_SNAPSHOT_SIZE ∧ (Tw.Huffman.compress table false d).length ≤ 65535 ∧
      ∃ hdr, (ChunkHeader.data k (Tw.Huffman.compress table false d).length).write = some hdr ∧
        w.writeData k d = ({ w with file := w.file ++ hdr ++ Tw.Huffman.compress table false d }, .ok)) ∨
    (¬ (d.length ≤ MAX_SNAPSHOT_SIZE ∧ (Tw.Huffman.compress table false d).length ≤ 65535) ∧
      ∃ s, w.writeData k d = (w, .panic s)) := by
  obtain ⟨hdr, hh⟩ := data_header_writes k (Tw.Huffman.compress table false d).length
  unfold Writer.writeData Tw.Huffman.compressInto
  by_cases h1 : d.length > MAX_SNAPSHOT_SIZE
  · exact .inr ⟨by omega, _, if_pos h1⟩
  · rw [if_neg h1]
    by_cases h2 : (Tw.Huffman.compress table false d).length ≤ MAX_SNAPSHOT_SIZE
    · by_cases h3 : (Tw.Huffman.compress table false d).length > 65535
      · exact .inr ⟨by omega, _, by rw [if_pos h2]; exact if_pos h3⟩
      · exact .inl ⟨by omega, by omega, hdr, hh, by rw [if_pos h2]; exact (if_neg h3).trans (by rw [hh])⟩
    · exact .inr ⟨fun h => h2 (by simp only [MAX_SNAPSHOT_SIZE]; omega), _, by rw [if_neg h2]⟩

theorem writeMessage_eq (w : Writer) (msg : Bytes) :
    w.writeMessage msg =
      if msg.length ≤ MAX_SNAPSHOT_SIZE ∧ (packInts (msgInts msg)).length ≤ MAX_SNAPSHOT_SIZE
      then w.writeData .message (packInts (msgInts msg)) else (w, .panic "overlong message") := by
  unfold Writer.writeMessage
  by_cases h1 : msg.length > MAX_SNAPSHOT_SIZE
  · rw [if_pos h1]; exact (if_neg (fun h => absurd h.1 (by omega))).symm
  · rw [if_neg h1]
    by_cases h2 : (packInts (msgInts msg)).length > MAX_SNAPSHOT_SIZE
    · exact (if_pos h2).trans (if_neg (fun h => absurd h.2 (by omega))).symm
    · exact (if_neg h2).trans (if_pos ⟨by omega, by omega⟩).symm

theorem writeTick_refuses (w : Writer) (kf : Bool) (t p : Int) (hp : w.prevTick = some p) (h : t ≤ p) :
    w.writeTick kf t = (w, .panic "TickMarker::new: tick > p") := by
  have : ¬ t > p := by omega
  simp [Writer.writeTick, TickMarker.new, hp, this]

/-- the marker `write_tick` chooses for an increasing tick: absolute, or an inline delta `≤ 31`
without key-frame flag -/
def TickMarker.Marks (prev : Option Int) (kf : Bool) (t : Int) : TickMarker → Prop
  | .absolute t' => t' = t
  | .delta d => d ≤ 31 ∧ kf = false ∧ ∃ p, prev = some p ∧ p + (d : Int) = t

theorem TickMarker.new_of_lt {t : Int} {prev : Option Int} (kf : Bool) (h : ∀ p, prev = some p → p < t) :
    ∃ tm, TickMarker.new t prev kf writerVersion = some tm ∧ tm.Marks prev kf t := by
  fun_cases TickMarker.new t prev kf writerVersion
  case case1 => exact ⟨_, rfl, rfl⟩
  case case2 p hn => exact absurd (h p rfl) hn
  case case3 p _ d hd =>
    have : t - p ≤ 31 := hd.2.2
    exact ⟨_, rfl, by omega, hd.2.1, p, rfl, by omega⟩
  case case4 => exact ⟨_, rfl, rfl⟩

theorem TickMarker.Marks.write {prev : Option Int} {kf : Bool} {t : Int} {tm : TickMarker} (h : tm.Marks prev kf t) :
    ∃ hdr, (ChunkHeader.tick tm kf).write = some hdr := by
  cases tm with
  | absolute t' => exact ⟨_, rfl⟩
  | delta d =>
    have : d ≤ writerVersion.maxTickDelta ∧ kf = false := ⟨h.1, h.2.1⟩
    exact ⟨_, if_pos this⟩

theorem writeTick_cases (w : Writer) (kf : Bool) (t : Int) :
    ((∀ p, w.prevTick = some p → p < t) ∧ ∃ tm hdr, tm.Marks w.prevTick kf t ∧ (ChunkHeader.tick tm kf).write = some hdr ∧
      w.writeTick kf t = ({ file := w.file ++ hdr, prevTick := some t }, .ok)) ∨
    (∃ p, w.prevTick = some p ∧ t ≤ p ∧ w.writeTick kf t = (w, .panic "TickMarker::new: tick > p")) := by
  by_cases h : ∀ p, w.prevTick = some p → p < t
  · obtain ⟨tm, e, hm⟩ := TickMarker.new_of_lt kf h
    obtain ⟨hdr, hw⟩ := hm.write
    exact .inl ⟨h, tm, hdr, hm, hw, by rw [Writer.writeTick, e]; simp only [hw]⟩
  · obtain ⟨p, hn⟩ := Classical.not_forall.mp h
    obtain ⟨hp, hlt⟩ := Classical.not_imp.mp hn
    exact .inr ⟨p, hp, Int.not_lt.mp hlt, writeTick_refuses w kf t p hp (Int.not_lt.mp hlt)⟩

theorem writeTick_accepts (w : Writer) (kf : Bool) (t : Int) (h : ∀ p, w.prevTick = some p → p < t) :
    ∃ hdr, w.writeTick kf t = ({ file := w.file ++ hdr, prevTick := some t }, .ok) :=
  (writeTick_cases w kf t).elim (fun ⟨_, _, hdr, _, _, e⟩ => ⟨hdr, e⟩)
    fun ⟨p, hp, hle, _⟩ => absurd (h p hp) (Int.not_lt.mpr hle)

/-- The Huffman round trip for the built-in table: a hypothesis in this file and in `DemoHl`, which do not import
the Huffman proofs and so do not wait for the kernel's check of the table (`Proofs/HuffmanTable.lean`); C07 proves it
(`huffmanRoundTrip` in `Proofs/DemoHistory.lean`). -/
def HuffmanRoundTrip : Prop :=
  ∀ (xs : List UInt8) (cap : Nat), xs.length ≤ cap →
    Tw.Huffman.decompress table (Tw.Huffman.compress table false xs) cap = .ok xs

/-- Read back (`readChunkHeader_write`) an empty encoding would make `readChunkHeader v []` succeed, but that is `.eof`. -/
theorem ChunkHeader.write_length_pos (h : ChunkHeader) (bs : Bytes) (hr : h.inRange) (hw : h.write = some bs) :
    1 ≤ bs.length := by
  cases bs with
  | nil => exact nomatch readChunkHeader_write .v5 (by decide) h [] [] hr hw
  | cons _ _ => exact Nat.succ_le_succ (Nat.zero_le _)

theorem TickMarker.Marks.inRange {prev : Option Int} {kf : Bool} {t : Int} {tm : TickMarker} (h : tm.Marks prev kf t)
    (ht : inI32 t) : (ChunkHeader.tick tm kf).inRange := by
  cases tm with
  | absolute t' => exact h ▸ ht
  | delta d => exact ⟨h.1, h.2.1⟩

theorem TickMarker.Marks.readChunk {prev : Option Int} {kf : Bool} {t : Int} {tm : TickMarker} (hm : tm.Marks prev kf t)
    (ht : inI32 t) (hlt : ∀ p, prev = some p → p < t) {hdr : Bytes} (hw : (ChunkHeader.tick tm kf).write = some hdr)
    (v : Version) (rest : Bytes) (hv : v.num ≥ 5) :
    Reader.readChunk { data := hdr ++ rest, version := v, currentTick := prev } =
      ({ data := rest, version := v, currentTick := some t }, .chunk (.tick t kf), []) := by
  have hh := readChunkHeader_write v hv _ hdr rest (hm.inRange ht) hw
  cases tm with
  | absolute t' =>
    cases hm
    cases prev with
    | none => simp only [Reader.readChunk, hh, ChunkHeader.readWarnings]
    | some p =>
      have hge : ¬ p ≥ t := Int.not_le.mpr (hlt p rfl)
      simp only [Reader.readChunk, hh, ChunkHeader.readWarnings, hge, if_false]
  | delta d =>
    obtain ⟨_, _, p, rfl, hs⟩ := hm
    simp only [Reader.readChunk, hh, ChunkHeader.readWarnings, hs, ht, not_true_eq_false, if_false]

/-- `writeData_cases` with what the accepted case appended read back. -/
theorem writeData_read (w : Writer) (k : DataKind) (d : Bytes) :
    (∃ enc, w.writeData k d = ({ w with file := w.file ++ enc }, .ok) ∧
      (HuffmanRoundTrip → k ≠ .unknown →
        let z := Tw.Huffman.compress table false d
        1 ≤ enc.length ∧ decompressC table z MAX_SNAPSHOT_SIZE = .ok d ∧
        ∀ (v : Version) (rest : Bytes), v.num ≥ 5 →
          readChunkHeader v (enc ++ rest) = .ok (.data k z.length) (z ++ rest) [])) ∨
    ∃ s, w.writeData k d = (w, .panic s) := by
  rcases writeData_cases w k d with ⟨h1, h2, hdr, hwr, e⟩ | ⟨_, s, e⟩
  · have hr : (ChunkHeader.data k (Tw.Huffman.compress table false d).length).inRange :=
      show _ < 65536 from Nat.lt_succ_of_le h2
    refine .inl ⟨hdr ++ Tw.Huffman.compress table false d, e.trans (by rw [List.append_assoc]), fun hH hk =>
      ⟨?_, (decompressC_eq ..).trans (hH d MAX_SNAPSHOT_SIZE h1), fun v rest hv => ?_⟩⟩
    · rw [List.length_append]
      exact Nat.le_add_right_of_le (ChunkHeader.write_length_pos _ _ hr hwr)
    · have hws : (ChunkHeader.data k (Tw.Huffman.compress table false d).length).readWarnings = [] := by
        cases k <;> first | rfl | exact absurd rfl hk
      rw [List.append_assoc, ← hws]
      exact readChunkHeader_write v hv _ hdr _ hr hwr
  · exact .inr ⟨s, e⟩

/-- chunks of the writer's domain: tick numbers are `i32`s -/
def Chunk.inRange : Chunk → Prop
  | .tick t _ => inI32 t
  | _ => True

/-- `HuffmanRoundTrip` and `c.inRange` are asked only for the read-back: `Props/C15.refusal_leaves_writer_unchanged`
uses the case split without either. -/
theorem writeChunk_cases (w : Writer) (c : Chunk) :
    (∃ enc t', w.writeChunk c = ({ file := w.file ++ enc, prevTick := t' }, .ok) ∧
      (HuffmanRoundTrip → c.inRange → 1 ≤ enc.length ∧ ∀ (v : Version) (rest : Bytes), v.num ≥ 5 →
        Reader.readChunk { data := enc ++ rest, version := v, currentTick := w.prevTick } =
          ({ data := rest, version := v, currentTick := t' }, .chunk c.padded, []))) ∨
    ∃ s, w.writeChunk c = (w, .panic s) := by
  cases c with
  | tick t kf =>
    rcases writeTick_cases w kf t with ⟨hlt, tm, hdr, hm, hw, e⟩ | ⟨_, _, _, e⟩
    · exact .inl ⟨hdr, some t, e, fun _ ht =>
        ⟨ChunkHeader.write_length_pos _ _ (hm.inRange ht) hw, hm.readChunk ht hlt hw⟩⟩
    · exact .inr ⟨_, e⟩
  | snapshot d | delta d =>
    rw [Writer.writeChunk]
    rcases writeData_read w _ d with ⟨enc, e, h⟩ | h
    · refine .inl ⟨enc, w.prevTick, e, fun hH _ => ?_⟩
      obtain ⟨hl, hd, hr⟩ := h hH (by decide)
      exact ⟨hl, fun v rest hv => by
        simp only [Reader.readChunk, hr v rest hv, takeN_append _ rest _ rfl, hd, Chunk.padded]⟩
    · exact .inr h
  | message d =>
    rw [Writer.writeChunk, writeMessage_eq]
    by_cases hfit : d.length ≤ MAX_SNAPSHOT_SIZE ∧ (packInts (msgInts d)).length ≤ MAX_SNAPSHOT_SIZE
    · rw [if_pos hfit]
      rcases writeData_read w .message (packInts (msgInts d)) with ⟨enc, e, h⟩ | h
      · refine .inl ⟨enc, w.prevTick, e, fun hH _ => ?_⟩
        obtain ⟨hl, hd, hr⟩ := h hH (by decide)
        exact ⟨hl, fun v rest hv => by
          simp only [Reader.readChunk, hr v rest hv, takeN_append _ rest _ rfl, hd, unpackMsg_msgInts d hfit.1,
            Chunk.padded, List.append_nil]⟩
      · exact .inr h
    · exact .inr ⟨_, if_neg hfit⟩
  | unknown => exact .inr ⟨_, rfl⟩

theorem writeChunk_accepted (hH : HuffmanRoundTrip) (w w' : Writer) (c : Chunk) (hc : c.inRange)
    (h : w.writeChunk c = (w', .ok)) :
    ∃ enc, w'.file = w.file ++ enc ∧ 1 ≤ enc.length ∧
      ∀ (v : Version) (rest : Bytes), v.num ≥ 5 →
        Reader.readChunk { data := enc ++ rest, version := v, currentTick := w.prevTick } =
          ({ data := rest, version := v, currentTick := w'.prevTick }, .chunk c.padded, []) := by
  rcases writeChunk_cases w c with ⟨enc, t', e, hr⟩ | ⟨s, e⟩
  · cases e.symm.trans h
    exact ⟨enc, rfl, hr hH hc⟩
  · exact nomatch (Prod.mk.inj (e.symm.trans h)).2

/-- fuel for a reading loop over `n + m` bytes whose first `k` steps consume the first `n ≥ k` of them: `k` units go, and
what is left suffices for the remaining `m` bytes -/
theorem fuel_split {k n m fuel : Nat} (hk : k ≤ n) (h : n + m + 1 ≤ fuel) : ∃ f, fuel = f + k ∧ m + 1 ≤ f := by
  obtain ⟨f, rfl⟩ := Nat.exists_eq_add_of_le' (Nat.le_trans hk (Nat.le_trans (Nat.le_add_right n (m + 1)) h))
  exact ⟨f, rfl, by omega⟩

theorem writeAll_readAll (hH : HuffmanRoundTrip) (cs : List Chunk) (w w' : Writer)
    (hr : ∀ c ∈ cs, c.inRange) (h : w.writeAll cs = (w', .ok)) :
    ∃ body, w'.file = w.file ++ body ∧
      ∀ (v : Version) (fuel : Nat), v.num ≥ 5 → body.length + 1 ≤ fuel →
        Reader.readAllGo fuel { data := body, version := v, currentTick := w.prevTick } =
          (cs.map Chunk.padded, [], none) := by
  fun_induction Writer.writeAll w cs
  case case1 w =>
    cases (Prod.mk.inj h).1
    refine ⟨[], (List.append_nil _).symm, fun v fuel _ hf => ?_⟩
    obtain ⟨fuel, rfl⟩ := Nat.exists_eq_add_of_le' hf
    rfl
  case case2 w c cs w1 hw1 ih =>
    obtain ⟨enc, hf1, hl1, hrd⟩ := writeChunk_accepted hH w w1 c (hr c List.mem_cons_self) hw1
    obtain ⟨body, hf2, hrest⟩ := ih (fun c hc => hr c (List.mem_cons_of_mem _ hc)) h
    refine ⟨enc ++ body, by rw [hf2, hf1, List.append_assoc], fun v fuel hv hfuel => ?_⟩
    rw [List.length_append] at hfuel
    obtain ⟨fuel, rfl, hrem⟩ := fuel_split hl1 hfuel
    simp only [Reader.readAllGo, hrd v body hv, hrest v fuel hv hrem, List.map_cons, List.nil_append]
  case case3 hn => exact absurd h (hn w')

theorem magic_length : magic.length = 7 := by decide
theorem shaExtension_length : shaExtension.length = 16 := by decide
theorem kind_magic_length (k : Kind) : k.magic.length = 8 := by cases k <;> decide
theorem capped_length (n : Nat) (s : Bytes) (h : s.length < n) : (capped n s).length = n := by
  simp [capped]; omega

theorem cstr_capped (n : Nat) (s : Bytes) (h : s.length < n) (hz : ∀ b ∈ s, b ≠ 0) : cstr (capped n s) = s := by
  obtain ⟨k, hk⟩ := Nat.exists_eq_add_of_lt h
  unfold cstr capped
  rw [show n - s.length = k + 1 by omega, List.replicate_succ,
    List.takeWhile_append_of_pos (by simpa using hz)]
  simp

theorem weirdPadding_capped (n : Nat) (s : Bytes) (hz : ∀ b ∈ s, b ≠ 0) : weirdPadding (capped n s) = false := by
  unfold weirdPadding capped
  rw [List.dropWhile_append_of_pos (by simpa using hz)]
  induction (n - s.length) with
  | zero => simp
  | succ k ih => simp [List.replicate_succ]

/-- header arguments inside the documented format: NUL-free strings (they are NUL-terminated in
the file), a 32-byte digest, `u32` checksum, `i32` length -/
def HeaderArgs.wf (a : HeaderArgs) : Prop :=
  (∀ b ∈ a.netVersion, b ≠ 0) ∧ (∀ b ∈ a.mapName, b ≠ 0) ∧ (∀ b ∈ a.timestamp, b ≠ 0) ∧
  (∀ s, a.sha = some s → s.length = 32) ∧ a.crc < 4294967296 ∧ inI32 a.length

/-- what the reader's header accessors are expected to return for a file written with `a` -/
def HeaderArgs.info (a : HeaderArgs) : HeaderInfo :=
  { version := if a.sha.isSome then writerVersionDdnet else writerVersion
    netVersion := a.netVersion, mapName := a.mapName, mapSize := a.map.length, crc := a.crc,
    kind := a.kind, length := a.length, timestamp := a.timestamp, markers := [], sha := a.sha,
    map := a.map }

/-- the header theorems are not vacuous: `Writer::new` accepts these (an `example` in `Props/C15`) -/
def exampleArgs : HeaderArgs :=
  { netVersion := [48, 46, 54], mapName := [100, 109, 49], sha := none, crc := 7, kind := .client,
    length := 0, timestamp := [50], map := [1, 2, 3] }

theorem readI32s_replicate_zero : ∀ n, readI32s n (List.replicate (4 * n) 0) = List.replicate n 0
  | 0 => rfl
  | n + 1 => by
    have e : toI32 (beVal [0, 0, 0, 0]) = 0 := by decide
    rw [Nat.mul_succ]
    simp only [readI32s, List.replicate_succ, List.take_succ_cons, List.take_zero, List.drop_succ_cons,
      List.drop_zero, e, readI32s_replicate_zero n]

theorem readI32s_zeroMarkerBytes : readI32s 64 zeroMarkerBytes = noMarkers := readI32s_replicate_zero 64

theorem readMarkers_zero (v : Version) (hv : v.num ≥ 5) (rest : Bytes) :
    readMarkers v (be32 0 ++ (zeroMarkerBytes ++ rest)) = some (0, noMarkers, rest) := by
  have hv4 : v.num ≥ 4 := by omega
  have e4 : toI32 (beVal (be32 0)) = 0 := by decide
  simp [readMarkers, hv4, takeN_append _ _ 4 (be32_length 0), e4,
    takeN_append zeroMarkerBytes _ 256 (List.length_replicate ..), readI32s_zeroMarkerBytes]

theorem markerWarnings_zero : markerWarnings 0 noMarkers = [] := by decide
theorem noMarkers_take : noMarkers.take 0 = [] := rfl

/-- The written layout is parsed back, for any version byte `v ≥ 5` and any digest block `sb` that
`readSha v` accepts: `encodeHeader` produces two instances of it. -/
theorem readHeader_layout (a : HeaderArgs) (hwf : a.wf) (rest : Bytes)
    (hl1 : a.netVersion.length < 64) (hl2 : a.mapName.length < 64) (hl3 : a.timestamp.length < 20)
    (hl4 : a.map.length < 2147483648) (hl5 : a.length ≥ 0) (v : Version) (hv : v.num ≥ 5) (sb : Bytes)
    (hsb : ∀ r, readSha v (sb ++ r) = some (a.sha, r)) :
    readHeader (magic ++ [UInt8.ofNat v.num] ++ capped 64 a.netVersion ++ capped 64 a.mapName
      ++ be32 a.map.length ++ be32 a.crc ++ a.kind.magic ++ be32 (toU32 a.length) ++ capped 20 a.timestamp
      ++ be32 0 ++ zeroMarkerBytes ++ sb ++ a.map ++ rest) =
    some ({ a.info with version := v }, rest, []) := by
  obtain ⟨hz1, hz2, hz3, _, hcrc, hlen⟩ := hwf
  have e1 : toI32 (beVal (be32 a.map.length)) = (a.map.length : Int) := by
    rw [beVal_be32 _ (by omega), toI32_small _ hl4]
  have e3 : toI32 (beVal (be32 (toU32 a.length))) = a.length := by
    rw [beVal_be32 _ (toU32_lt _), toI32_toU32 _ hlen]
  have hk : readKind a.kind.magic = some a.kind := by cases a.kind <;> decide
  have hvb : Version.ofByte (beVal [UInt8.ofNat v.num]) = some v := by cases v <;> decide
  simp only [List.append_assoc, readHeader, readFixed, takeN_append _ _ 7 magic_length,
    takeN_append [UInt8.ofNat v.num] _ 1 rfl, hvb, takeN_append _ _ 64 (capped_length _ _ hl1),
    takeN_append _ _ 64 (capped_length _ _ hl2), takeN_append _ _ 4 (be32_length _),
    takeN_append _ _ 8 (kind_magic_length _), takeN_append _ _ 20 (capped_length _ _ hl3), e1, e3, hk,
    beVal_be32 _ hcrc, Int.toNat_natCast, Int.not_lt.mpr (Int.natCast_nonneg _), Int.not_lt.mpr hl5, ne_eq,
    not_true_eq_false, if_false, readMarkers_zero _ hv, hsb, takeN_append a.map _ _ rfl]
  simp only [HeaderArgs.info, headerWarnings, weirdPadding_capped _ _ hz1, weirdPadding_capped _ _ hz2,
    weirdPadding_capped _ _ hz3, markerWarnings_zero, noMarkers_take, cstr_capped _ _ hl1 hz1,
    cstr_capped _ _ hl2 hz2, cstr_capped _ _ hl3 hz3, Bool.false_eq_true, if_false, List.append_nil]

theorem readHeader_encode (a : HeaderArgs) (hwf : a.wf) (hdr rest : Bytes)
    (henc : encodeHeader a = some hdr) :
    readHeader (hdr ++ rest) = some (a.info, rest, []) := by
  unfold encodeHeader at henc
  by_cases hc : a.netVersion.length < 64 ∧ a.mapName.length < 64 ∧ a.timestamp.length < 20
      ∧ a.map.length < 2147483648 ∧ a.length ≥ 0
  · rw [if_neg (not_not_intro hc)] at henc
    -- not `cases henc`: unifying the two sides evaluates the header bytes
    rw [← Option.some.inj henc]
    obtain ⟨hl1, hl2, hl3, hl4, hl5⟩ := hc
    cases hs : a.sha with
    | none =>
      exact (readHeader_layout a hwf rest hl1 hl2 hl3 hl4 hl5 writerVersion (by decide) []
        (fun r => by simp [readSha, writerVersion, hs])).trans (by simp [HeaderArgs.info, hs])
    | some s =>
      exact (readHeader_layout a hwf rest hl1 hl2 hl3 hl4 hl5 writerVersionDdnet (by decide) (shaExtension ++ s)
        (fun r => by simp [readSha, writerVersionDdnet, hs, takeN_append _ _ 16 shaExtension_length,
          takeN_append _ _ 32 (hwf.2.2.2.1 s hs)])).trans (by simp [HeaderArgs.info, hs])
  · rw [if_pos hc] at henc
    cases henc

theorem info_version_ge5 (a : HeaderArgs) : a.info.version.num ≥ 5 := by
  unfold HeaderArgs.info
  cases a.sha <;> simp [writerVersion, writerVersionDdnet, Version.num]

theorem Writer.new_eq {a : HeaderArgs} {w : Writer} (h : Writer.new a = some w) :
    ∃ hdr, encodeHeader a = some hdr ∧ w = { file := hdr, prevTick := none } := by
  unfold Writer.new at h
  split at h
  · cases h
  · exact ⟨_, ‹_›, (Option.some.inj h).symm⟩

theorem Reader.new_written (a : HeaderArgs) (ha : a.wf) {w : Writer} (h : Writer.new a = some w) (body : Bytes) :
    Reader.new (w.file ++ body) =
      some ({ data := body, version := a.info.version, currentTick := w.prevTick }, a.info, []) := by
  obtain ⟨hdr, henc, rfl⟩ := Writer.new_eq h
  rw [Reader.new, readHeader_encode a ha hdr body henc]

end Tw.Demo
