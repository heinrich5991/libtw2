import Tw.Model.Datafile

/-! Lemmas about the datafile reader model (`Tw.Model.Datafile`).  An outcome that is an error or
a value with a property is `Outcome.Yields`; the header arithmetic, every block of `check`, `check`
(which establishes the bounds invariant `Inv`) and `Reader.new` (`new_spec`, converse
`new_of_tables`) are characterised in that form, and the accessors consume `Inv`.  Where an item
lies in `items_raw` (`ItemAt`) and a data block in the data section (`BlockAt`) is each said in one
form, which `check` yields, the accessors are computed from and the writer side produces.  `newCb`
and `readDataCb` are walked in step with `new` and `readData` (`OrCallback`).

Names, here and in the three files on top of this one.  `X_spec` states `(X …).Yields P`.  `X_ok`,
and `X_some` for an `Option`, go forwards, from hypotheses to `X … = .ok v`; `X_ok_of` is the
converse of `X_spec`.  Backwards, from `X … = .ok r` to what `r` is, is `of_X` and, for an `Option`,
`X_eq_some`.  (`Tw.Proofs.Packer` and the codec files above it read `X_some` and `X_ok` backwards.) -/
namespace Tw.Datafile

def InI32 (v : Int) : Prop := -2147483648 ≤ v ∧ v ≤ 2147483647

instance (v : Int) : Decidable (InI32 v) := inferInstanceAs (Decidable (_ ∧ _))

theorem inI32_iff (v : Int) : inI32 v = true ↔ InI32 v := by
  simp [inI32, InI32]

theorem subI32_some {a b : Int} (h1 : -2147483648 ≤ a - b) (h2 : a - b ≤ 2147483647) :
    subI32 a b = some (a - b) := by
  have : inI32 (a - b) = true := (inI32_iff _).2 ⟨h1, h2⟩
  simp [subI32, this]

theorem addI32_some {a b : Int} (h1 : -2147483648 ≤ a + b) (h2 : a + b ≤ 2147483647) :
    addI32 a b = some (a + b) := by
  have : inI32 (a + b) = true := (inI32_iff _).2 ⟨h1, h2⟩
  simp [addI32, this]

theorem mulI32_some {a b : Int} (h1 : -2147483648 ≤ a * b) (h2 : a * b ≤ 2147483647) :
    mulI32 a b = some (a * b) := by
  have : inI32 (a * b) = true := (inI32_iff _).2 ⟨h1, h2⟩
  simp [mulI32, this]

theorem subI32_eq_some {a b d : Int} (h : subI32 a b = some d) : d = a - b := by
  unfold subI32 at h; split at h <;> simp_all

theorem addI32_eq_some {a b d : Int} (h : addI32 a b = some d) :
    d = a + b ∧ -2147483648 ≤ a + b ∧ a + b ≤ 2147483647 := by
  unfold addI32 at h
  split at h
  · rename_i hh
    obtain ⟨_, _⟩ := (inI32_iff _).1 hh
    simp at h; omega
  · simp at h

theorem asUsize_nonneg {v : Int} (h : 0 ≤ v) : asUsize v = v.toNat := by
  unfold asUsize; split <;> first | omega | rfl

theorem asUsize_natCast (n : Nat) : asUsize (n : Int) = n :=
  asUsize_nonneg (Int.natCast_nonneg n)

def Outcome.Yields {α : Type} (o : Outcome α) (P : α → Prop) : Prop :=
  (∃ e, o = .err e) ∨ ∃ a, o = .ok a ∧ P a

namespace Outcome.Yields
variable {α : Type} {P Q : α → Prop} {o x y : Outcome α}

theorem err {e : DfError} : (Outcome.err e : Outcome α).Yields P := Or.inl ⟨e, rfl⟩

theorem ok {a : α} (h : P a) : (Outcome.ok a).Yields P := Or.inr ⟨a, rfl, h⟩

theorem ite {c : Prop} [Decidable c] (hx : c → x.Yields P) (hy : ¬ c → y.Yields P) :
    (if c then x else y).Yields P := by
  by_cases hc : c
  · rw [if_pos hc]; exact hx hc
  · rw [if_neg hc]; exact hy hc

/-- Case analysis on a characterised intermediate result inside a larger expression: the way the
`match … with | .ok a => … | .err e => .err e | .panic s => .panic s` chains are walked. -/
@[elab_as_elim]
theorem elim (h : o.Yields P) {C : Outcome α → Prop} (herr : ∀ e, C (.err e))
    (hok : ∀ a, P a → C (.ok a)) : C o := by
  rcases h with ⟨e, rfl⟩ | ⟨a, rfl, hp⟩
  · exact herr e
  · exact hok a hp

theorem mono (h : o.Yields P) (hpq : ∀ a, P a → Q a) : o.Yields Q :=
  h.elim (fun _ => err) fun a hp => ok (hpq a hp)

theorem not_panic (h : o.Yields P) (s : String) : o ≠ .panic s := by
  rcases h with ⟨e, rfl⟩ | ⟨a, rfl, _⟩
  · nofun
  · nofun

theorem of_ok (h : o.Yields P) {a : α} (ha : o = .ok a) : P a := by
  rcases h with ⟨e, rfl⟩ | ⟨a', rfl, hp⟩
  · cases ha
  · cases ha; exact hp

end Outcome.Yields

theorem wordsOfBytes_length : ∀ (bs : List UInt8), (wordsOfBytes bs).length = bs.length / 4
  | [] => by simp [wordsOfBytes]
  | [_] => by simp [wordsOfBytes]
  | [_, _] => by simp [wordsOfBytes]
  | [_, _, _] => by simp [wordsOfBytes]
  | _ :: _ :: _ :: _ :: rest => by
    simp only [wordsOfBytes, List.length_cons, wordsOfBytes_length rest]; omega

theorem typesOfWords_length : ∀ (ws : List Int), (typesOfWords ws).length = ws.length / 3
  | [] => by simp [typesOfWords]
  | [_] => by simp [typesOfWords]
  | [_, _] => by simp [typesOfWords]
  | _ :: _ :: _ :: rest => by
    simp only [typesOfWords, List.length_cons, typesOfWords_length rest]; omega

theorem wordsOfBytes_length_of {bs : List UInt8} {n : Nat} (h : bs.length = 4 * n) :
    (wordsOfBytes bs).length = n := by
  rw [wordsOfBytes_length, h, Nat.mul_div_cancel_left n (by decide)]

theorem typesOfWords_length_of {bs : List UInt8} {n : Nat} (h : bs.length = 12 * n) :
    (typesOfWords (wordsOfBytes bs)).length = n := by
  rw [typesOfWords_length, wordsOfBytes_length_of (n := 3 * n) (by omega), Nat.mul_div_cancel_left n (by decide)]

theorem readExact_eq_some {n : Nat} {rest a b : List UInt8} (h : readExact n rest = some (a, b)) :
    a.length = n ∧ rest = a ++ b := by
  unfold readExact at h
  split at h
  · simp at h
  · simp at h
    obtain ⟨rfl, rfl⟩ := h
    constructor
    · simp; omega
    · simp

theorem readExact_append {n : Nat} {a : List UInt8} (rest : List UInt8) (h : a.length = n) :
    readExact n (a ++ rest) = some (a, rest) := by
  unfold readExact
  rw [if_neg (by simp; omega), List.take_left' h, List.drop_left' h]

theorem Header.checkVersion_none {h : Header} (hv : h.checkVersion = none) : h.version = 3 ∨ h.version = 4 := by
  unfold Header.checkVersion at hv
  split at hv
  · cases hv
  · split at hv
    · cases hv
    · omega

theorem Header.read_spec (bytes : List UInt8) :
    (Header.read bytes).Yields fun h =>
      h.checkRest = true ∧ (h.version = 3 ∨ h.version = 4) ∧ headerSize ≤ bytes.length := by
  unfold Header.read
  dsimp only
  refine .ite (fun _ => .err) fun _ => ?_
  split
  · exact .err
  · rename_i hv
    refine .ite (fun _ => .err) fun hn => .ite (fun hr => .ok ⟨hr, Header.checkVersion_none hv, ?_⟩) fun _ => .err
    simp only [List.length_take, headerSize] at hn ⊢
    omega

theorem Header.read_of_buf {bytes buf : List UInt8} (hb : bytes.take headerSize = buf)
    (hl : buf.length = headerSize) (hv : (Header.ofBuf buf).checkVersion = none)
    (hr : (Header.ofBuf buf).checkRest = true) : Header.read bytes = .ok (Header.ofBuf buf) := by
  unfold Header.read
  rw [hb, hl]
  dsimp only
  rw [Nat.sub_self, List.replicate_zero, List.append_nil, if_neg (by decide), hv]
  dsimp only
  rw [if_neg (by decide), hr]
  rfl

/-- the sum `calculate_total_size` forms -/
def Header.total (h : Header) : Int :=
  36 + 12 * h.numItemTypes + 4 * h.numItems + 4 * h.numData
    + (if h.version ≥ 4 then 4 * h.numData else 0) + h.sizeItems + h.sizeData

theorem Header.checkRest_iff (h : Header) : h.checkRest = true ↔
    (0 ≤ h.size ∧ 0 ≤ h.swaplen ∧ 0 ≤ h.numItemTypes ∧ 0 ≤ h.numItems ∧ 0 ≤ h.numData
      ∧ 0 ≤ h.sizeItems ∧ 0 ≤ h.sizeData ∧ h.sizeItems % 4 = 0) := by
  simp [Header.checkRest, and_assoc]

/-- what the reader uses of `HeaderRest::check`: the counts and sizes it computes with -/
structure Header.RestOk (h : Header) : Prop where
  nit : 0 ≤ h.numItemTypes
  ni : 0 ≤ h.numItems
  nd : 0 ≤ h.numData
  si : 0 ≤ h.sizeItems
  sd : 0 ≤ h.sizeData
  si4 : h.sizeItems % 4 = 0

theorem Header.RestOk.of_checkRest {h : Header} (hr : h.checkRest = true) : h.RestOk :=
  have ⟨_, _, nit, ni, nd, si, sd, si4⟩ := (Header.checkRest_iff h).1 hr
  ⟨nit, ni, nd, si, sd, si4⟩

theorem Header.sizeField_ok (h : Header) (total : Int) (crude : Bool) (hnd : 0 ≤ h.numData)
    (h36 : 36 + 4 * h.numData ≤ total) (hmax : total ≤ 2147483647) :
    h.sizeField total crude = .ok (if crude then total - 16 - 4 * h.numData else total - 16) := by
  unfold Header.sizeField
  rw [subI32_some (by omega) (by omega)]
  cases crude
  · simp
  · simp only [if_true]
    rw [mulI32_some (by omega) (by omega)]
    simp only
    rw [subI32_some (by omega) (by omega)]

theorem Header.swaplenField_ok (h : Header) (total : Int) (crude : Bool) (hnd : 0 ≤ h.numData)
    (hsd : 0 ≤ h.sizeData)
    (h36 : 36 + 4 * h.numData + h.sizeData ≤ total) (hmax : total ≤ 2147483647) :
    h.swaplenField total crude
      = .ok ((if crude then total - 16 - 4 * h.numData else total - 16) - h.sizeData) := by
  unfold Header.swaplenField
  rw [Header.sizeField_ok h total crude hnd (by omega) hmax]
  simp only
  cases crude
  · simp only [Bool.false_eq_true, if_false]; rw [subI32_some (by omega) (by omega)]
  · simp only [if_true]; rw [subI32_some (by omega) (by omega)]

/-- After `HeaderRest::check` no checked step of `check_size_and_swaplen` can fail, and it is these
comparisons; `4 * numData` is the size table the crude variant leaves out. -/
theorem Header.checkSizeAndSwaplen_eq (h : Header) (hr : h.checkRest = true) :
    h.checkSizeAndSwaplen =
      if h.total ≤ 2147483647 then
        if h.size ≠ h.total - 16 ∧ h.size ≠ h.total - 16 - 4 * h.numData then .err .malformedHeader
        else if h.swaplen ≠ h.total - 16 - h.sizeData ∧ h.swaplen ≠ h.total - 16 - 4 * h.numData - h.sizeData
          then .err .malformedHeader
        else .ok { expectedSize := h.total, crude := decide (h.size ≠ h.total - 16) }
      else .err .malformedHeader := by
  obtain ⟨hnit, hni, hnd, hsi, hsd, _⟩ := Header.RestOk.of_checkRest hr
  have htot : h.totalSize = (if h.total ≤ 2147483647 then .ok h.total else .err .malformedHeader) := by
    unfold Header.totalSize Header.total
    rw [if_neg (by omega)]
  unfold Header.checkSizeAndSwaplen
  rw [htot]
  by_cases hmax : h.total ≤ 2147483647
  · rw [if_pos hmax, if_pos hmax]
    have h36 : 36 + 4 * h.numData + h.sizeData ≤ h.total := by
      unfold Header.total; split <;> omega
    dsimp only
    rw [Header.sizeField_ok h h.total false hnd (by omega) hmax,
      Header.sizeField_ok h h.total true hnd (by omega) hmax,
      Header.swaplenField_ok h h.total false hnd hsd h36 hmax,
      Header.swaplenField_ok h h.total true hnd hsd h36 hmax]
    rfl
  · rw [if_neg hmax, if_neg hmax]

theorem Header.checkSizeAndSwaplen_exact (h : Header) (hr : h.checkRest = true)
    (hmax : h.total ≤ 2147483647) (hs : h.size = h.total - 16)
    (hw : h.swaplen = h.total - 16 - h.sizeData) :
    h.checkSizeAndSwaplen = .ok { expectedSize := h.total, crude := false } := by
  rw [Header.checkSizeAndSwaplen_eq h hr, if_pos hmax, if_neg (fun c => c.1 hs), if_neg (fun c => c.1 hw),
    decide_eq_false (not_not_intro hs)]

theorem Header.checkSizeAndSwaplen_spec (h : Header) (hr : h.checkRest = true) :
    h.checkSizeAndSwaplen.Yields fun hc => hc.expectedSize = h.total ∧ h.total ≤ 2147483647 := by
  rw [Header.checkSizeAndSwaplen_eq h hr]
  exact .ite (fun hmax => .ite (fun _ => .err) fun _ => .ite (fun _ => .err) fun _ => .ok ⟨rfl, hmax⟩)
    fun _ => .err

/-- Item `k` is laid out at word `o` of `items_raw`: the header word `hdr`, the size of `data` in
bytes, `data`.  This is what the second block of `check` establishes of every item, what `item`
and `item_header` need, and what the writer produces. -/
def ItemAt (r : Reader) (k o : Nat) (hdr : Int) (data : List Int) : Prop :=
  r.itemOffsets[k]? = some ((4 * o : Nat) : Int)
    ∧ ∃ rest, r.itemsRaw.drop o = hdr :: ((4 * data.length : Nat) : Int) :: (data ++ rest)

/-- `item_header` needs only the two header words at an aligned offset; the second block of `check`
reads the header in this form, before it knows that the size word is a multiple of four. -/
theorem itemHeader_of_drop {r : Reader} {k o : Nat} {a b : Int} {rest : List Int}
    (ho : r.itemOffsets[k]? = some ((4 * o : Nat) : Int)) (hd : r.itemsRaw.drop o = a :: b :: rest) :
    r.itemHeader k = .ok (a, b) := by
  have hlen : o + 2 ≤ r.itemsRaw.length := by
    have := congrArg List.length hd
    simp only [List.length_drop, List.length_cons] at this
    omega
  unfold Reader.itemHeader
  rw [ho]
  simp only [Int.toNat_natCast, Nat.mul_mod_right, Nat.mul_div_cancel_left o (by decide : 0 < 4)]
  rw [if_neg (by omega), if_neg (by omega), if_neg (by omega), hd]

namespace ItemAt
variable {r : Reader} {k o : Nat} {hdr : Int} {data : List Int}

theorem header (h : ItemAt r k o hdr data) :
    r.itemHeader k = .ok (hdr, ((4 * data.length : Nat) : Int)) :=
  h.2.elim fun _ hd => itemHeader_of_drop h.1 hd

theorem bound (h : ItemAt r k o hdr data) :
    o + 2 + data.length ≤ r.itemsRaw.length ∧ (r.itemsRaw.drop (o + 2)).take data.length = data := by
  obtain ⟨_, rest, hd⟩ := h
  have hl := congrArg List.length hd
  have hdd := congrArg (List.drop 2) hd
  simp only [List.length_drop, List.length_cons, List.length_append] at hl
  rw [List.drop_drop] at hdd
  exact ⟨by omega, by rw [hdd]; exact List.take_left' rfl⟩

theorem item (h : ItemAt r k o hdr data) :
    r.item k = .ok { typeId := (hdr % 4294967296).toNat / 65536, id := (hdr % 4294967296).toNat % 65536,
                     off := o + 2, len := data.length, data := data } := by
  have hb := h.bound
  unfold Reader.item
  rw [h.header]
  simp only
  rw [h.1]
  simp only [Int.toNat_natCast, Nat.mul_mod_right, Nat.mul_div_cancel_left _ (by decide : 0 < 4)]
  rw [if_neg (by omega), if_neg (by omega), if_neg (by omega), if_neg (by omega), if_neg (by omega),
    if_neg (by omega), if_neg (by omega), hb.2]

end ItemAt

def ItemOk (r : Reader) (k : Nat) : Prop := ∃ o hdr data, ItemAt r k o hdr data

structure TypeOk (numItems : Int) (t : ItemType) : Prop where
  idLo : 0 ≤ t.typeId
  idHi : t.typeId < 65536
  start : 0 ≤ t.start
  num : 0 ≤ t.num
  fits : t.start + t.num ≤ numItems

theorem checkTypes_spec (numItems : Int) (hn : numItems ≤ 2147483647) :
    ∀ (ts : List ItemType) (expected : Int) (prev : Option Int) (seen : List Int),
      0 ≤ expected → expected ≤ numItems →
      (checkTypes numItems ts expected prev seen).Yields fun _ => ∀ t ∈ ts, TypeOk numItems t := by
  intro ts
  induction ts with
  | nil =>
    intro expected prev seen _ _
    unfold checkTypes
    exact .ite (fun _ => .err) fun _ => .ok fun t ht => nomatch ht
  | cons t ts ih =>
    intro expected prev seen h0 h1
    unfold checkTypes
    refine .ite (fun _ => .err) fun hid => .ite (fun _ => .err) fun _ => .ite (fun _ => .err) fun hstart =>
      .ite (fun _ => .err) fun hnum => ?_
    -- `start = expected ≤ num_items`, so neither the subtraction nor the addition overflows
    rw [subI32_some (by omega) (by omega)]
    dsimp only
    refine .ite (fun _ => .err) fun hle => ?_
    rw [addI32_some (by omega) (by omega)]
    dsimp only
    refine .ite (fun _ => .err) fun _ => (ih _ _ _ (by omega) (by omega)).mono fun _ hall t' ht' => ?_
    cases ht' with
    | head => exact ⟨by omega, by omega, by omega, by omega, by omega⟩
    | tail _ hmem => exact hall t' hmem

theorem checkItems_spec (r : Reader) (hsi : 0 ≤ r.sizeItems)
    (hraw : 4 * r.itemsRaw.length = r.sizeItems.toNat) :
    ∀ (n i o : Nat), i + n ≤ r.itemOffsets.length →
      (checkItems r n i (4 * o)).Yields fun _ => ∀ k, i ≤ k → k < i + n → ItemOk r k := by
  intro n
  induction n with
  | zero =>
    intro i o _
    unfold checkItems
    exact .ite (fun _ => .err) fun _ => .ok fun k h1 h2 => by omega
  | succ n ih =>
    intro i o hlen
    have hi : i < r.itemOffsets.length := by omega
    unfold checkItems
    rw [List.getElem?_eq_getElem hi, asUsize_nonneg hsi]
    dsimp only
    refine .ite (fun _ => .err) fun hneg => ?_
    rw [asUsize_nonneg (by omega)]
    refine .ite (fun _ => .err) fun hoff => .ite (fun _ => .err) fun hend => ?_
    have ho : r.itemOffsets[i]? = some ((4 * o : Nat) : Int) := by
      rw [List.getElem?_eq_getElem hi]; congr 1; omega
    -- the offset leaves room for the two header words, so `item_header` cannot panic
    have h1 : o < r.itemsRaw.length := by omega
    have h2 : o + 1 < r.itemsRaw.length := by omega
    have hd : r.itemsRaw.drop o = r.itemsRaw[o] :: r.itemsRaw[o + 1] :: r.itemsRaw.drop (o + 2) := by
      rw [List.drop_eq_getElem_cons h1, List.drop_eq_getElem_cons h2]
    rw [itemHeader_of_drop ho hd]
    dsimp only
    generalize r.itemsRaw[o + 1] = size at hd ⊢
    refine .ite (fun _ => .err) fun hsz => ?_
    rw [asUsize_nonneg (by omega)]
    refine .ite (fun _ => .err) fun hsz4 => .ite (fun _ => .err) fun hend2 => ?_
    -- the size is a multiple of four that fits, so the words after the header split into data and rest
    have hs : size = ((4 * (size.toNat / 4) : Nat) : Int) := by omega
    rw [show 4 * o + 8 + size.toNat = 4 * (o + 2 + size.toNat / 4) by omega]
    refine (ih _ _ (by omega)).mono fun _ hall k hk1 hk2 => ?_
    by_cases hki : k = i
    · subst hki
      refine ⟨o, r.itemsRaw[o], (r.itemsRaw.drop (o + 2)).take (size.toNat / 4), ho,
        (r.itemsRaw.drop (o + 2)).drop (size.toNat / 4), ?_⟩
      rw [List.take_append_drop, List.length_take, List.length_drop,
        Nat.min_eq_left (by omega), ← hs]
      exact hd
    · exact hall k (by omega) (by omega)

/-- Data block `k` is the `n` bytes at `off` of the data section: `off` is its offset and `off + n`
the next offset (`size_data` after the last block).  The third block of `check` establishes this of
every block; `data_size_file` and `read_data` need it; the writer produces it. -/
structure BlockAt (r : Reader) (k : Nat) (off : Int) (n : Nat) : Prop where
  offset : r.dataOffsets[k]? = some off
  nonneg : 0 ≤ off
  next : (if k < r.dataOffsets.length - 1 then r.dataOffsets[k + 1]? else some r.sizeData) = some (off + n)
  fits : off + n ≤ r.sizeData

/-- the second half of `read_data`: what is done with the fetched bytes -/
def Reader.decode (r : Reader) (inflate : Nat → List UInt8 → Option (List UInt8)) (k : Nat)
    (raw : List UInt8) : Outcome (List UInt8) :=
  match r.uncompSizes with
  | some uds =>
    match uds[k]? with
    | none => .panic "read_data: uncomp_data_sizes[index]"
    | some u =>
      match inflate (asUsize u) raw with
      | none => .err .compressionError
      | some out =>
        if out.length > asUsize u then .panic "zlib wrote past the destination buffer"
        else if out.length = asUsize u then .ok out
        else .err .compressionWrongSize
  | none => .ok raw

theorem Reader.decode_none {r : Reader} (h : r.uncompSizes = none)
    (inflate : Nat → List UInt8 → Option (List UInt8)) (k : Nat) (raw : List UInt8) :
    r.decode inflate k raw = .ok raw := by
  unfold Reader.decode
  rw [h]

theorem Reader.decode_some {r : Reader} {uds : List Int} {k : Nat} {u : Int} (h : r.uncompSizes = some uds)
    (hu : uds[k]? = some u) (h0 : 0 ≤ u) (inflate : Nat → List UInt8 → Option (List UInt8))
    (raw : List UInt8) :
    r.decode inflate k raw =
      match inflate u.toNat raw with
      | none => .err .compressionError
      | some out =>
        if out.length > u.toNat then .panic "zlib wrote past the destination buffer"
        else if out.length = u.toNat then .ok out
        else .err .compressionWrongSize := by
  unfold Reader.decode
  rw [h]
  dsimp only
  rw [hu]
  dsimp only
  rw [asUsize_nonneg h0]

namespace BlockAt
variable {r : Reader} {k n : Nat} {off : Int}

/-- how the third block of `check` meets a block: between two offsets of the table it compared -/
theorem of_next {e : Int} (hoff : r.dataOffsets[k]? = some off) (h0 : 0 ≤ off) (hle : off ≤ e)
    (hsd : e ≤ r.sizeData)
    (he : (if k < r.dataOffsets.length - 1 then r.dataOffsets[k + 1]? else some r.sizeData) = some e) :
    BlockAt r k off (e - off).toNat := by
  have hn : off + ((e - off).toNat : Int) = e := by omega
  exact ⟨hoff, h0, by rw [hn]; exact he, by rw [hn]; exact hsd⟩

theorem bound (h : BlockAt r k off n) : off.toNat + n ≤ r.sizeData.toNat := by
  have := h.nonneg
  have := h.fits
  omega

theorem size (h : BlockAt r k off n) : r.dataSizeFile k = .ok n := by
  have h0 := h.nonneg
  have := (List.getElem?_eq_some_iff.1 h.offset).1
  unfold Reader.dataSizeFile
  rw [h.offset]
  dsimp only
  rw [if_neg (by omega), h.next]
  dsimp only
  rw [asUsize_nonneg h0, asUsize_nonneg (by omega), Int.toNat_add_nat h0, if_pos (Nat.le_add_right _ _),
    Nat.add_sub_cancel_left]

theorem readData (h : BlockAt r k off n) (hmax : r.sizeData ≤ 2147483647)
    (inflate : Nat → List UInt8 → Option (List UInt8)) :
    r.readData inflate k =
      if ((r.dataRegion.drop off.toNat).take n).length ≠ n then .err .tooShort
      else r.decode inflate k ((r.dataRegion.drop off.toNat).take n) := by
  have := h.fits
  unfold Reader.readData
  rw [h.size]
  dsimp only
  rw [h.offset]
  dsimp only
  rw [Int.emod_eq_of_lt h.nonneg (by omega)]
  rfl

end BlockAt

def DataOk (r : Reader) (k : Nat) : Prop :=
  (∃ off n, BlockAt r k off n) ∧ ∀ uds, r.uncompSizes = some uds → ∃ u, uds[k]? = some u ∧ 0 ≤ u

theorem udsCheck_cases (r : Reader) (i : Nat) (h : ∀ uds, r.uncompSizes = some uds → i < uds.length) :
    udsCheck r i = some (.err .malformed)
      ∨ udsCheck r i = none ∧ ∀ uds, r.uncompSizes = some uds → ∃ u, uds[i]? = some u ∧ 0 ≤ u := by
  unfold udsCheck
  cases hu : r.uncompSizes with
  | none => exact Or.inr ⟨rfl, fun _ h => nomatch h⟩
  | some uds =>
    have hi := h uds hu
    dsimp only
    rw [List.getElem?_eq_getElem hi]
    dsimp only
    by_cases hneg : uds[i] < 0
    · rw [if_pos hneg]; exact Or.inl rfl
    · rw [if_neg hneg]
      refine Or.inr ⟨rfl, fun uds' h' => ?_⟩
      cases h'
      exact ⟨_, List.getElem?_eq_getElem hi, by omega⟩

theorem udsCheck_eq_none {r : Reader} {i : Nat}
    (h : ∀ uds, r.uncompSizes = some uds → ∃ u, uds[i]? = some u ∧ 0 ≤ u) : udsCheck r i = none := by
  unfold udsCheck
  cases hu : r.uncompSizes with
  | none => rfl
  | some uds =>
    obtain ⟨u, hui, h0⟩ := h uds hu
    dsimp only
    rw [hui]
    dsimp only
    rw [if_neg (by omega)]

/-- The first conjunct is carried backwards through the loop: iteration `i + 1` compares its offset
with offset `i`, which is what bounds block `i` from above. -/
theorem checkData_spec (r : Reader) :
    ∀ (n i : Nat) (prev : Int), i + n = r.dataOffsets.length →
      (∀ uds, r.uncompSizes = some uds → i + n ≤ uds.length) →
      (checkData r n i prev).Yields fun _ =>
        (∀ off, r.dataOffsets[i]? = some off → prev ≤ off ∧ off ≤ r.sizeData)
          ∧ ∀ k, i ≤ k → k < i + n → DataOk r k := by
  intro n
  induction n with
  | zero =>
    intro i prev hlen _
    refine .ok ⟨fun off hoff => ?_, fun k h1 h2 => by omega⟩
    have := (List.getElem?_eq_some_iff.1 hoff).1
    omega
  | succ n ih =>
    intro i prev hlen hu
    have hi : i < r.dataOffsets.length := by omega
    unfold checkData
    rcases udsCheck_cases r i (fun uds h => by have := hu uds h; omega) with hc | ⟨hc, huds⟩
    · rw [hc]; exact .err
    rw [hc, List.getElem?_eq_getElem hi]
    dsimp only
    refine .ite (fun _ => .err) fun hrange => .ite (fun _ => .err) fun hprev =>
      (ih (i + 1) _ (by omega) (fun uds h => by have := hu uds h; omega)).mono fun _ ⟨ih1, ih2⟩ => ⟨?_, ?_⟩
    · intro off' hoff'
      cases hoff'
      omega
    · intro k hk1 hk2
      by_cases hki : k = i
      · subst hki
        have hget := List.getElem?_eq_getElem hi
        -- the block ends at the next offset, which the next iteration compared with this one
        by_cases hlast : k < r.dataOffsets.length - 1
        · have hnext := List.getElem?_eq_getElem (by omega : k + 1 < r.dataOffsets.length)
          obtain ⟨hle, hle'⟩ := ih1 _ hnext
          exact ⟨⟨_, _, .of_next hget (by omega) hle hle' (by rw [if_pos hlast, hnext])⟩, huds⟩
        · exact ⟨⟨_, _, .of_next hget (by omega) (by omega) (Int.le_refl _) (if_neg hlast)⟩, huds⟩
      · exact ih2 k (by omega) (by omega)

/-- the type id stored in an item header word, `ItemHeader::type_id()` -/
def headerTypeId (w : Int) : Int := (w % 4294967296) / 65536

/-- the fourth block of `check` compares this `Int` quotient; `ItemView.typeId` is the `Nat` quotient
of the same word -/
theorem typeId_of_header {w t : Int} (h : headerTypeId w = t % 65536) :
    (w % 4294967296).toNat / 65536 = (t % 65536).toNat := by
  unfold headerTypeId at h
  omega

def HasType (r : Reader) (typeId : Int) (j : Nat) : Prop :=
  ∃ w size, r.itemHeader j = .ok (w, size) ∧ headerTypeId w = typeId % 65536

theorem checkTypeItems_spec (r : Reader) (typeId : Int) :
    ∀ (n k : Nat), (∀ j, k ≤ j → j < k + n → ItemOk r j) →
      (checkTypeItems r typeId n k).Yields fun _ => ∀ j, k ≤ j → j < k + n → HasType r typeId j := by
  intro n
  induction n with
  | zero => intro k _; exact .ok fun j h1 h2 => by omega
  | succ n ih =>
    intro k hall
    obtain ⟨_, w, data, hat⟩ := hall k (by omega) (by omega)
    have hh := hat.header
    unfold checkTypeItems
    rw [hh]
    dsimp only
    refine .ite (fun _ => .err) fun hty =>
      (ih _ fun j h1 h2 => hall j (by omega) (by omega)).mono fun _ hrest j h1 h2 => ?_
    by_cases hjk : j = k
    · subst hjk
      exact ⟨w, _, hh, Decidable.not_not.1 hty⟩
    · exact hrest j (by omega) (by omega)

theorem checkTypeIds_spec (r : Reader) (numItems : Int) (hn : numItems ≤ 2147483647)
    (hitems : ∀ j, j < numItems.toNat → ItemOk r j) :
    ∀ (ts : List ItemType), (∀ t ∈ ts, TypeOk numItems t) →
      (checkTypeIds r ts).Yields fun _ => ∀ t ∈ ts, ∀ j, t.start.toNat ≤ j →
        j < t.start.toNat + t.num.toNat → HasType r t.typeId j := by
  intro ts
  induction ts with
  | nil => intro _; exact .ok fun t ht => nomatch ht
  | cons t ts ih =>
    intro hall
    have ht := hall t (List.mem_cons_self ..)
    have h3 := ht.start
    have := ht.num
    have := ht.fits
    unfold checkTypeIds
    rw [addI32_some (by omega) (by omega)]
    dsimp only
    rw [asUsize_nonneg (by omega : 0 ≤ t.start + t.num), asUsize_nonneg h3]
    refine (checkTypeItems_spec r t.typeId ((t.start + t.num).toNat - t.start.toNat) t.start.toNat
      (fun j h1 h2 => hitems j (by omega))).elim (fun _ => .err) fun ⟨⟩ hhead => ?_
    refine (ih fun t' ht' => hall t' (List.mem_cons_of_mem _ ht')).mono fun _ htail t' ht' j h1 h2 => ?_
    cases ht' with
    | head => exact hhead j h1 (by omega)
    | tail _ hmem => exact htail t' hmem j h1 h2

/-- what `Reader::new` guarantees about the tables before it calls `check` -/
structure Shape (r : Reader) : Prop where
  nit : 0 ≤ r.numItemTypes
  ni : 0 ≤ r.numItems
  niMax : r.numItems ≤ 2147483647
  nd : 0 ≤ r.numData
  si : 0 ≤ r.sizeItems
  sd : 0 ≤ r.sizeData
  sdMax : r.sizeData ≤ 2147483647
  typesLen : r.itemTypes.length = r.numItemTypes.toNat
  offsLen : r.itemOffsets.length = r.numItems.toNat
  doffsLen : r.dataOffsets.length = r.numData.toNat
  udsLen : ∀ uds, r.uncompSizes = some uds → uds.length = r.numData.toNat
  rawLen : 4 * r.itemsRaw.length = r.sizeItems.toNat
  udsVersion : r.uncompSizes.isSome = r.version.hasCompressedData

structure Inv (r : Reader) : Prop extends Shape r where
  types : ∀ t ∈ r.itemTypes, TypeOk r.numItems t
  items : ∀ k, k < r.numItems.toNat → ItemOk r k
  datas : ∀ k, k < r.numData.toNat → DataOk r k
  typeIds : ∀ t ∈ r.itemTypes, ∀ j, t.start.toNat ≤ j → j < t.start.toNat + t.num.toNat →
    HasType r t.typeId j

theorem Inv.itemAt {r : Reader} (inv : Inv r) {k : Nat} (hk : k < r.numItems.toNat) :
    ∃ o hdr data, ItemAt r k o hdr data :=
  inv.items k hk

theorem Inv.blockAt {r : Reader} (inv : Inv r) {k : Nat} (hk : k < r.numData.toNat) :
    ∃ off n, BlockAt r k off n :=
  (inv.datas k hk).1

/-- Each block of `check` relies on what the blocks before it established. -/
theorem check_spec {r : Reader} (sh : Shape r) : r.check.Yields fun _ => Inv r := by
  unfold Reader.check
  refine (checkTypes_spec r.numItems sh.niMax r.itemTypes 0 none [] (by omega) sh.ni).elim
    (fun _ => .err) fun ⟨⟩ types => ?_
  refine (checkItems_spec r sh.si sh.rawLen (asUsize r.numItems) 0 0
    (by rw [asUsize_nonneg sh.ni, sh.offsLen]; omega)).elim (fun _ => .err) fun ⟨⟩ items => ?_
  refine (checkData_spec r (asUsize r.numData) 0 0 (by rw [asUsize_nonneg sh.nd, sh.doffsLen]; omega)
    (fun uds hu => by rw [asUsize_nonneg sh.nd, sh.udsLen uds hu]; omega)).elim (fun _ => .err)
    fun ⟨⟩ ⟨_, datas⟩ => ?_
  rw [asUsize_nonneg sh.ni] at items
  rw [asUsize_nonneg sh.nd] at datas
  exact (checkTypeIds_spec r r.numItems sh.niMax (fun j hj => items j (by omega) (by omega)) _ types).mono
    fun _ typeIds =>
      { toShape := sh, types := types, items := fun k hk => items k (by omega) (by omega),
        datas := fun k hk => datas k (by omega) (by omega), typeIds := typeIds }

theorem readUds_eq_some {c : Bool} {n : Nat} {rest : List UInt8} {u : Option (List UInt8)}
    {rest' : List UInt8} (h : readUds c n rest = some (u, rest')) :
    ∃ pre, rest = pre ++ rest' ∧ pre.length = (if c then n else 0) ∧ u.isSome = c
      ∧ ∀ b, u = some b → b.length = n := by
  unfold readUds at h
  cases c
  · cases h; exact ⟨[], rfl, rfl, rfl, nofun⟩
  · rw [if_pos rfl] at h
    cases hb : readExact n rest with
    | none => rw [hb] at h; cases h
    | some p =>
      rw [hb] at h
      cases h
      exact ⟨p.1, (readExact_eq_some hb).2, (readExact_eq_some hb).1, rfl, fun b hb' => by
        cases hb'; exact (readExact_eq_some hb).1⟩

/-- the reader `Reader::new` hands to `check`, from the byte ranges it cut out of the file -/
def Reader.ofTables (h : Header) (v : Version) (tb iob dob : List UInt8) (udb : Option (List UInt8))
    (ib rest : List UInt8) : Reader :=
  { version := v, numItemTypes := h.numItemTypes, numItems := h.numItems, numData := h.numData,
    sizeItems := h.sizeItems, sizeData := h.sizeData, itemTypes := typesOfWords (wordsOfBytes tb),
    itemOffsets := wordsOfBytes iob, dataOffsets := wordsOfBytes dob,
    uncompSizes := udb.map wordsOfBytes, itemsRaw := wordsOfBytes ib, dataRegion := rest }

theorem shape_of_tables {h : Header} (hr : h.checkRest = true) (hmax : h.total ≤ 2147483647)
    {v : Version} {tb iob dob ib rest : List UInt8} {udb : Option (List UInt8)} {n1 n2 n3 n4 : Nat}
    (e1 : h.numItemTypes = n1) (e2 : h.numItems = n2) (e3 : h.numData = n3) (e4 : h.sizeItems = n4)
    (l1 : tb.length = 12 * n1) (l2 : iob.length = 4 * n2) (l3 : dob.length = 4 * n3)
    (l5 : ib.length = 4 * (n4 / 4)) (u1 : udb.isSome = v.hasCompressedData)
    (u2 : ∀ b, udb = some b → b.length = 4 * n3) :
    Shape (Reader.ofTables h v tb iob dob udb ib rest) := by
  obtain ⟨hnit, hni, hnd, hsi, hsd, hsi4⟩ := Header.RestOk.of_checkRest hr
  have htot : h.total = 36 + 12 * h.numItemTypes + 4 * h.numItems + 4 * h.numData
      + (if h.version ≥ 4 then 4 * h.numData else 0) + h.sizeItems + h.sizeData := rfl
  have : 0 ≤ (if h.version ≥ 4 then 4 * h.numData else 0) := by split <;> omega
  unfold Reader.ofTables
  refine
    { nit := hnit, ni := hni, niMax := by dsimp only; omega, nd := hnd, si := hsi, sd := hsd
      sdMax := by dsimp only; omega, typesLen := ?_, offsLen := ?_, doffsLen := ?_, udsLen := ?_
      rawLen := ?_, udsVersion := by rw [Option.isSome_map]; exact u1 }
  all_goals dsimp only
  · rw [e1, Int.toNat_natCast]; exact typesOfWords_length_of l1
  · rw [e2, Int.toNat_natCast]; exact wordsOfBytes_length_of l2
  · rw [e3, Int.toNat_natCast]; exact wordsOfBytes_length_of l3
  · intro uds hu
    cases udb with
    | none => cases hu
    | some b =>
      cases hu
      rw [e3, Int.toNat_natCast]; exact wordsOfBytes_length_of (u2 b rfl)
  · rw [e4, Int.toNat_natCast, wordsOfBytes_length_of l5]; omega

/-- what `Reader::new` accepted: the bounds invariant holds, the file has a complete header, and it
ends with the reader's data region, which holds the whole data section -/
structure Accepted (bytes : List UInt8) (r : Reader) : Prop where
  inv : Inv r
  data : r.sizeData.toNat ≤ r.dataRegion.length
  header : headerSize ≤ bytes.length
  suffix : ∃ pre, bytes = pre ++ r.dataRegion

theorem new_spec (bytes : List UInt8) : (Reader.new bytes).Yields (Accepted bytes) := by
  unfold Reader.new
  refine (Header.read_spec bytes).elim (fun _ => .err) fun h ⟨hr, hv, hlen⟩ => ?_
  obtain ⟨hnit, hni, hnd, hsi, hsd, hsi4⟩ := Header.RestOk.of_checkRest hr
  dsimp only
  refine (Header.checkSizeAndSwaplen_spec h hr).elim (fun _ => .err) fun hc ⟨hexp, hmax⟩ => ?_
  dsimp only
  rw [if_neg (by omega), asUsize_nonneg hnit, asUsize_nonneg hni, asUsize_nonneg hnd, asUsize_nonneg hsi]
  rcases h1 : readExact (12 * h.numItemTypes.toNat) (bytes.drop headerSize) with _ | ⟨tb, rest1⟩
  · exact .err
  dsimp only
  rcases h2 : readExact (4 * h.numItems.toNat) rest1 with _ | ⟨iob, rest2⟩
  · exact .err
  dsimp only
  rcases h3 : readExact (4 * h.numData.toNat) rest2 with _ | ⟨dob, rest3⟩
  · exact .err
  dsimp only
  rcases h4 : readUds (if h.version = 3 then Version.v3 else if hc.crude = true then Version.v4crude
      else Version.v4).hasCompressedData (4 * h.numData.toNat) rest3 with _ | ⟨udb, rest4⟩
  · exact .err
  dsimp only
  rw [if_neg (by omega)]
  rcases h5 : readExact (4 * (h.sizeItems.toNat / 4)) rest4 with _ | ⟨ib, rest5⟩
  · exact .err
  dsimp only
  refine .ite (fun _ => .err) fun hfs => ?_
  obtain ⟨l1, e1⟩ := readExact_eq_some h1
  obtain ⟨l2, e2⟩ := readExact_eq_some h2
  obtain ⟨l3, e3⟩ := readExact_eq_some h3
  obtain ⟨ud, e4, l4, u1, u2⟩ := readUds_eq_some h4
  obtain ⟨l5, e5⟩ := readExact_eq_some h5
  -- version 3 has no size table; `has_compressed_data` is `version >= 4`
  have hvc : (if h.version = 3 then Version.v3 else if hc.crude = true then Version.v4crude
      else Version.v4).hasCompressedData = decide (h.version ≥ 4) := by
    rcases hv with hv | hv
    · rw [hv]; rfl
    · rw [hv]; cases hc.crude <;> rfl
  have sh := shape_of_tables hr hmax (Int.toNat_of_nonneg hnit).symm (Int.toNat_of_nonneg hni).symm
    (Int.toNat_of_nonneg hnd).symm (Int.toNat_of_nonneg hsi).symm l1 l2 l3 l5 (rest := rest5) u1 u2
  unfold Reader.ofTables at sh
  refine (check_spec sh).elim (fun _ => .err) fun ⟨⟩ inv => ?_
  have e0 : bytes = bytes.take headerSize ++ bytes.drop headerSize := (List.take_append_drop ..).symm
  rw [e1, e2, e3, e4, e5] at e0
  refine .ok ⟨inv, ?_, hlen, bytes.take headerSize ++ (tb ++ (iob ++ (dob ++ (ud ++ ib)))), by
    simpa only [List.append_assoc] using e0⟩
  -- the file is at least `expected_size = total` long, and all but `size_data` of that was read
  have hl := congrArg List.length e0
  simp only [List.length_append, List.length_take, headerSize] at hl hlen
  have htot : h.total = 36 + 12 * h.numItemTypes + 4 * h.numItems + 4 * h.numData
      + (if h.version ≥ 4 then 4 * h.numData else 0) + h.sizeItems + h.sizeData := rfl
  rw [hvc] at l4
  rw [hexp] at hfs
  dsimp only
  clear hr hv h1 h2 h3 h4 h5 e1 e2 e3 e4 e5 e0 sh inv u1 u2 hvc hmax
  -- `omega` splits on every `toNat` and `if`; name them first
  have n1 := Int.toNat_of_nonneg hnit
  have n2 := Int.toNat_of_nonneg hni
  have n3 := Int.toNat_of_nonneg hnd
  have n4 := Int.toNat_of_nonneg hsi
  have n5 := Int.toNat_of_nonneg hsd
  have l4 : (ud.length : Int) = if h.version ≥ 4 then 4 * h.numData else 0 := by
    rw [l4]
    by_cases hge : h.version ≥ 4 <;>
      simp only [hge, decide_true, decide_false, Bool.false_eq_true, ↓reduceIte] <;> omega
  generalize h.numItemTypes.toNat = a1 at *
  generalize h.numItems.toNat = a2 at *
  generalize h.numData.toNat = a3 at *
  generalize h.sizeItems.toNat = a4 at *
  generalize h.sizeData.toNat = a5 at *
  generalize (if h.version ≥ 4 then 4 * h.numData else 0) = x at *
  omega

theorem Accepted.of_new {bytes : List UInt8} {r : Reader} (h : Reader.new bytes = .ok r) : Accepted bytes r :=
  (new_spec bytes).of_ok h

/-- Converse of `new_spec`, instantiated by the writer side (`new_writeDf`). -/
theorem new_of_tables {hdr tb iob dob ud ib rest : List UInt8} {h : Header} {hc : HeaderCheck}
    (hread : Header.read (hdr ++ (tb ++ (iob ++ (dob ++ (ud ++ (ib ++ rest)))))) = .ok h)
    (hcheck : h.checkSizeAndSwaplen = .ok hc) (lh : hdr.length = headerSize)
    (l1 : tb.length = 12 * h.numItemTypes.toNat) (l2 : iob.length = 4 * h.numItems.toNat)
    (l3 : dob.length = 4 * h.numData.toNat)
    (l4 : ud.length = if h.version = 3 then 0 else 4 * h.numData.toNat)
    (l5 : ib.length = h.sizeItems.toNat)
    (hlen : hc.expectedSize.toNat ≤ (hdr ++ (tb ++ (iob ++ (dob ++ (ud ++ (ib ++ rest)))))).length)
    {r : Reader}
    (hr : r = Reader.ofTables h (if h.version = 3 then .v3 else if hc.crude = true then .v4crude else .v4)
      tb iob dob (if h.version = 3 then none else some ud) ib rest)
    (hck : r.check = .ok ()) :
    Reader.new (hdr ++ (tb ++ (iob ++ (dob ++ (ud ++ (ib ++ rest)))))) = .ok r := by
  obtain ⟨hrest, hv, _⟩ := (Header.read_spec _).of_ok hread
  obtain ⟨hnit, hni, hnd, hsi, hsd, hsi4⟩ := Header.RestOk.of_checkRest hrest
  subst hr
  unfold Reader.ofTables at hck
  unfold Reader.new
  rw [hread]
  dsimp only
  rw [hcheck]
  dsimp only
  rw [if_neg (by omega), asUsize_nonneg hnit, asUsize_nonneg hni, asUsize_nonneg hnd, asUsize_nonneg hsi,
    List.drop_left' lh, readExact_append _ l1]
  dsimp only
  rw [readExact_append _ l2]
  dsimp only
  rw [readExact_append _ l3]
  dsimp only
  have hu : readUds (if h.version = 3 then Version.v3 else if hc.crude = true then Version.v4crude
      else Version.v4).hasCompressedData (4 * h.numData.toNat) (ud ++ (ib ++ rest))
      = some (if h.version = 3 then none else some ud, ib ++ rest) := by
    rcases hv with hv | hv
    · rw [if_pos hv] at l4
      rw [if_pos hv, if_pos hv, List.eq_nil_of_length_eq_zero l4]
      rfl
    · have h3 : ¬ h.version = 3 := by omega
      rw [if_neg h3] at l4
      rw [if_neg h3, if_neg h3]
      unfold readUds
      rw [if_pos (by cases hc.crude <;> rfl), readExact_append _ l4]
  rw [hu]
  dsimp only
  rw [if_neg (by omega), readExact_append _ (by omega)]
  dsimp only
  rw [if_neg (by omega), hck]
  rfl

theorem counts_ok {r : Reader} (inv : Inv r) :
    r.numItemsU = .ok r.numItems.toNat ∧ r.numDataU = .ok r.numData.toNat
      ∧ r.numItemTypesU = .ok r.numItemTypes.toNat := by
  have := inv.ni; have := inv.nd; have := inv.nit
  refine ⟨?_, ?_, ?_⟩
  · unfold Reader.numItemsU; rw [if_neg (by omega)]
  · unfold Reader.numDataU; rw [if_neg (by omega)]
  · unfold Reader.numItemTypesU; rw [if_neg (by omega)]

/-- the accessor theorems of C16 state this conjunction literally -/
def ViewOk (r : Reader) (v : ItemView) : Prop :=
  v.off + v.len ≤ r.itemsRaw.length ∧ v.data = (r.itemsRaw.drop v.off).take v.len
    ∧ v.data.length = v.len ∧ v.typeId < 65536 ∧ v.id < 65536

theorem ItemAt.view {r : Reader} {k o : Nat} {hdr : Int} {data : List Int} (h : ItemAt r k o hdr data) :
    ∃ v, r.item k = .ok v ∧ ViewOk r v ∧ v.typeId = (hdr % 4294967296).toNat / 65536 := by
  have hb := h.bound
  refine ⟨_, h.item, ⟨?_, hb.2.symm, rfl, ?_, ?_⟩, rfl⟩
  · simp only; omega
  · simp only; omega
  · simp only; omega

theorem item_ok {r : Reader} (inv : Inv r) {k : Nat} (hk : k < r.numItems.toNat) :
    ∃ v, r.item k = .ok v ∧ ViewOk r v := by
  obtain ⟨_, _, _, hat⟩ := inv.itemAt hk
  obtain ⟨v, hv, hvok, _⟩ := hat.view
  exact ⟨v, hv, hvok⟩

theorem itemTypeIndicesIn_hit {g : ItemType} (gs : List ItemType) {typeId : Nat}
    (ht : (g.typeId % 65536).toNat = typeId) (hs : 0 ≤ g.start) (hn : 0 ≤ g.num) :
    itemTypeIndicesIn (g :: gs) typeId = .ok (g.start.toNat, g.start.toNat + g.num.toNat) := by
  rw [itemTypeIndicesIn, if_pos ht, if_neg (by omega), if_neg (by omega)]

theorem itemTypeIndicesIn_miss {g : ItemType} (gs : List ItemType) {typeId : Nat}
    (ht : (g.typeId % 65536).toNat ≠ typeId) :
    itemTypeIndicesIn (g :: gs) typeId = itemTypeIndicesIn gs typeId := by
  rw [itemTypeIndicesIn, if_neg ht]

theorem itemTypeIndicesIn_ok (numItems : Int) :
    ∀ (ts : List ItemType) (typeId : Nat), (∀ t ∈ ts, TypeOk numItems t) →
      ∃ a b, itemTypeIndicesIn ts typeId = .ok (a, b) ∧ a ≤ b ∧ b ≤ numItems.toNat
        ∧ ((a, b) = (0, 0) ∨ ∃ t ∈ ts, (t.typeId % 65536).toNat = typeId ∧ a = t.start.toNat
              ∧ b = t.start.toNat + t.num.toNat) := by
  intro ts
  induction ts with
  | nil => intro typeId _; exact ⟨0, 0, rfl, by omega, by omega, Or.inl rfl⟩
  | cons t ts ih =>
    intro typeId hall
    have ht := hall t (List.mem_cons_self ..)
    have := ht.start
    have := ht.num
    have := ht.fits
    by_cases heq : (t.typeId % 65536).toNat = typeId
    · rw [itemTypeIndicesIn_hit ts heq ht.start ht.num]
      exact ⟨_, _, rfl, by omega, by omega, Or.inr ⟨t, List.mem_cons_self .., heq, rfl, rfl⟩⟩
    · rw [itemTypeIndicesIn_miss ts heq]
      obtain ⟨a, b, e, h1, h2, h3'⟩ := ih typeId (fun t' ht' => hall t' (List.mem_cons_of_mem _ ht'))
      refine ⟨a, b, e, h1, h2, ?_⟩
      rcases h3' with h | ⟨t', ht', hh⟩
      · exact Or.inl h
      · exact Or.inr ⟨t', List.mem_cons_of_mem _ ht', hh⟩

theorem itemTypeIndices_ok {r : Reader} (inv : Inv r) (typeId : Nat) :
    ∃ a b, r.itemTypeIndices typeId = .ok (a, b) ∧ a ≤ b ∧ b ≤ r.numItems.toNat := by
  obtain ⟨a, b, e, h1, h2, _⟩ := itemTypeIndicesIn_ok r.numItems r.itemTypes typeId inv.types
  exact ⟨a, b, e, h1, h2⟩

theorem item_of_type_range {r : Reader} (inv : Inv r) {typeId a b k : Nat}
    (hr : r.itemTypeIndices typeId = .ok (a, b)) (hk1 : a ≤ k) (hk2 : k < b) :
    ∃ v, r.item k = .ok v ∧ ViewOk r v ∧ v.typeId = typeId := by
  obtain ⟨a', b', e, h1, h2, h3⟩ := itemTypeIndicesIn_ok r.numItems r.itemTypes typeId inv.types
  unfold Reader.itemTypeIndices at hr
  rw [e] at hr
  cases hr
  rcases h3 with h0 | ⟨t, ht, hty, ha, hb⟩
  · cases h0; omega
  · obtain ⟨w, size, hh, hw⟩ := inv.typeIds t ht k (by omega) (by omega)
    obtain ⟨_, w', _, hat⟩ := inv.itemAt (k := k) (by omega)
    obtain ⟨v, hv, hvok, hvt⟩ := hat.view
    have hh' := hat.header
    rw [hh] at hh'
    cases hh'
    exact ⟨v, hv, hvok, by rw [hvt, typeId_of_header hw, hty]⟩

theorem itemType_ok {r : Reader} (inv : Inv r) {k : Nat} (hk : k < r.numItemTypes.toNat) :
    ∃ t, r.itemType k = .ok t ∧ t < 65536 := by
  have hk' : k < r.itemTypes.length := by rw [inv.typesLen]; exact hk
  have ht := inv.types _ (List.getElem_mem hk')
  have := ht.idLo
  have := ht.idHi
  unfold Reader.itemType
  rw [List.getElem?_eq_getElem hk']
  simp only
  rw [if_neg (by omega)]
  exact ⟨_, rfl, by omega⟩

theorem findItemFrom_ok {r : Reader} (inv : Inv r) (itemId : Nat) :
    ∀ (n k : Nat), k + n ≤ r.numItems.toNat →
      ∃ res, findItemFrom r itemId n k = .ok res
        ∧ ∀ v, res = some v → v.id = itemId ∧ ∃ j, k ≤ j ∧ j < k + n ∧ r.item j = .ok v := by
  intro n
  induction n with
  | zero => intro k _; exact ⟨none, rfl, nofun⟩
  | succ n ih =>
    intro k hk
    obtain ⟨v, hv, _⟩ := item_ok inv (k := k) (by omega)
    unfold findItemFrom
    rw [hv]
    simp only
    split
    · rename_i hid
      exact ⟨some v, rfl, fun v' h => by cases h; exact ⟨hid, k, Nat.le_refl k, by omega, hv⟩⟩
    · obtain ⟨res, hres, hfound⟩ := ih (k + 1) (by omega)
      refine ⟨res, hres, fun v' h' => ?_⟩
      obtain ⟨hid, j, h1, h2, hj⟩ := hfound v' h'
      exact ⟨hid, j, by omega, by omega, hj⟩

/-- what `find_item` finds is an item out of the type's range, so it has the requested type too -/
theorem findItem_ok {r : Reader} (inv : Inv r) (typeId itemId : Nat) :
    ∃ res, r.findItem typeId itemId = .ok res
      ∧ ∀ v, res = some v → ViewOk r v ∧ v.id = itemId ∧ v.typeId = typeId := by
  obtain ⟨a, b, e, h1, h2⟩ := itemTypeIndices_ok inv typeId
  obtain ⟨res, hres, hfound⟩ := findItemFrom_ok inv itemId (b - a) a (by omega)
  refine ⟨res, by unfold Reader.findItem; rw [e]; exact hres, fun v hv => ?_⟩
  obtain ⟨hid, j, hj1, hj2, hj⟩ := hfound v hv
  obtain ⟨v', hv', hvok, hty⟩ := item_of_type_range inv e hj1 (by omega)
  rw [hj] at hv'
  cases hv'
  exact ⟨hvok, hid, hty⟩

theorem findItem_first {r : Reader} {typeId itemId a b : Nat} {v : ItemView}
    (hr : r.itemTypeIndices typeId = .ok (a, b)) (hab : a < b) (hv : r.item a = .ok v)
    (hid : v.id = itemId) : r.findItem typeId itemId = .ok (some v) := by
  obtain ⟨n, hn⟩ : ∃ n, b - a = n + 1 := ⟨b - a - 1, by omega⟩
  unfold Reader.findItem
  rw [hr]
  dsimp only
  rw [hn, findItemFrom, hv]
  dsimp only
  rw [if_pos hid]

theorem dataSizeFile_ok {r : Reader} (inv : Inv r) {k : Nat} (hk : k < r.numData.toNat) :
    ∃ off n, r.dataOffsets[k]? = some off ∧ 0 ≤ off ∧ r.dataSizeFile k = .ok n
      ∧ off.toNat + n ≤ r.sizeData.toNat := by
  obtain ⟨off, n, hb⟩ := inv.blockAt hk
  exact ⟨off, n, hb.offset, hb.nonneg, hb.size, hb.bound⟩

/-- `hz` is zlib's contract (`uncompress` writes at most `dest.len()` bytes); `uncompSizes = none` is
version 3, which returns the stored bytes. -/
theorem readData_spec {r : Reader} (inv : Inv r) (inflate : Nat → List UInt8 → Option (List UInt8))
    (hz : ∀ n src out, inflate n src = some out → out.length ≤ n)
    {k : Nat} (hk : k < r.numData.toNat) :
    (r.readData inflate k).Yields fun out =>
      (r.uncompSizes = none → ∃ off n, r.dataOffsets[k]? = some off ∧ 0 ≤ off
          ∧ off.toNat + n ≤ r.sizeData.toNat ∧ out = (r.dataRegion.drop off.toNat).take n
          ∧ out.length = n)
        ∧ (∀ uds, r.uncompSizes = some uds → ∃ u, uds[k]? = some u ∧ 0 ≤ u ∧ out.length = u.toNat) := by
  obtain ⟨off, n, hb⟩ := inv.blockAt hk
  rw [hb.readData inv.sdMax]
  refine .ite (fun _ => .err) fun hraw => ?_
  cases huc : r.uncompSizes with
  | none =>
    rw [Reader.decode_none huc]
    exact .ok ⟨fun _ => ⟨off, n, hb.offset, hb.nonneg, hb.bound, rfl, Decidable.not_not.1 hraw⟩, nofun⟩
  | some uds =>
    obtain ⟨u, hu, hu0⟩ := (inv.datas k hk).2 uds huc
    rw [Reader.decode_some huc hu hu0]
    cases hinf : inflate u.toNat ((r.dataRegion.drop off.toNat).take n) with
    | none => exact .err
    | some out =>
      have := hz _ _ _ hinf
      simp only
      rw [if_neg (by omega)]
      exact .ite (fun hlen => .ok ⟨nofun, fun _ h' => by cases h'; exact ⟨u, hu, hu0, hlen⟩⟩) fun _ => .err

/-- `x` is `y` run with callbacks (`read`, `seek_read`, `ensure_filesize`, `alloc_data_buffer`) that may fail -/
def OrCallback {α : Type} (x y : Outcome α) : Prop := x = y ∨ x = .err .callback

namespace OrCallback
variable {α : Type} {x y z : Outcome α}

theorem rfl : OrCallback x x := Or.inl (Eq.refl x)

theorem fail {c : Bool} (h : OrCallback x y) : OrCallback (if c then .err .callback else x) y := by
  cases c
  · exact h
  · exact Or.inr (Eq.refl _)

theorem ite {c : Prop} [Decidable c] (h : OrCallback x y) :
    OrCallback (if c then z else x) (if c then z else y) := by
  by_cases hc : c
  · rw [if_pos hc, if_pos hc]; exact rfl
  · rw [if_neg hc, if_neg hc]; exact h

end OrCallback

theorem newCb_no_failure (bytes : List UInt8) : Reader.newCb bytes (fun _ => false) = Reader.new bytes := by
  unfold Reader.newCb Reader.new
  simp

/-- A failing callback can only turn the result into the callback's error.  The two definitions are
walked in step: a callback test is `OrCallback.fail`, a test both share is `OrCallback.ite`, a read
both share is a case split. -/
theorem newCb_cases (bytes : List UInt8) (fails : Nat → Bool) :
    Reader.newCb bytes fails = Reader.new bytes ∨ Reader.newCb bytes fails = .err .callback := by
  show OrCallback (Reader.newCb bytes fails) (Reader.new bytes)
  unfold Reader.newCb Reader.new
  refine .fail ?_
  cases Header.read bytes with
  | panic s => exact .rfl
  | err e => exact .rfl
  | ok h =>
    dsimp only
    cases h.checkSizeAndSwaplen with
    | panic s => exact .rfl
    | err e => exact .rfl
    | ok hc =>
      dsimp only
      refine .ite (.fail ?_)
      rcases readExact (12 * asUsize h.numItemTypes) (bytes.drop headerSize) with _ | p
      · exact .rfl
      dsimp only
      refine .fail ?_
      rcases readExact (4 * asUsize h.numItems) p.2 with _ | p
      · exact .rfl
      dsimp only
      refine .fail ?_
      rcases readExact (4 * asUsize h.numData) p.2 with _ | p
      · exact .rfl
      dsimp only
      refine .fail ?_
      rcases readUds (if h.version = 3 then Version.v3 else if hc.crude = true then Version.v4crude
          else Version.v4).hasCompressedData (4 * asUsize h.numData) p.2 with _ | p
      · exact .rfl
      dsimp only
      refine .ite (.fail ?_)
      rcases readExact (4 * (asUsize h.sizeItems / 4)) p.2 with _ | p
      · exact .rfl
      exact .fail (.fail .rfl)

theorem newCb_no_panic (bytes : List UInt8) (fails : Nat → Bool) (s : String) :
    Reader.newCb bytes fails ≠ .panic s := by
  rcases newCb_cases bytes fails with h | h
  · rw [h]; exact (new_spec bytes).not_panic s
  · rw [h]; nofun

theorem readDataCb_cases (r : Reader) (inflate : Nat → List UInt8 → Option (List UInt8)) (index : Nat)
    (failSeek failAlloc : Bool) :
    r.readDataCb inflate index failSeek failAlloc = r.readData inflate index
      ∨ r.readDataCb inflate index failSeek failAlloc = .err .callback := by
  show OrCallback (r.readDataCb inflate index failSeek failAlloc) (r.readData inflate index)
  unfold Reader.readDataCb Reader.readData
  cases r.dataSizeFile index with
  | panic s => exact .rfl
  | err e => exact .rfl
  | ok rawLen =>
    dsimp only
    rcases r.dataOffsets[index]? with _ | off
    · exact .rfl
    dsimp only
    refine .fail (.ite ?_)
    rcases r.uncompSizes with _ | uds
    · exact .fail .rfl
    dsimp only
    rcases uds[index]? with _ | u
    · exact .rfl
    exact .fail .rfl

theorem readDataCb_no_failure (r : Reader) (inflate : Nat → List UInt8 → Option (List UInt8)) (index : Nat) :
    r.readDataCb inflate index false false = r.readData inflate index := by
  unfold Reader.readDataCb Reader.readData
  simp

theorem firstFailure_no_panic : ∀ (l : List (Outcome Unit)), (∀ o ∈ l, ∀ s, o ≠ .panic s) →
    ∀ s, firstFailure l ≠ .panic s
  | [], _, s => by simp [firstFailure]
  | .ok () :: rest, h, s => by
    simp only [firstFailure]
    exact firstFailure_no_panic rest (fun o ho => h o (List.mem_cons_of_mem _ ho)) s
  | .err e :: _, _, s => by simp [firstFailure]
  | .panic s' :: _, h, s => absurd rfl (h _ (List.mem_cons_self ..) s')

theorem debugDump_no_panic {r : Reader} (inv : Inv r) (inflate : Nat → List UInt8 → Option (List UInt8))
    (hz : ∀ n src out, inflate n src = some out → out.length ≤ n) (s : String) :
    r.debugDump inflate ≠ .panic s := by
  unfold Reader.debugDump
  apply firstFailure_no_panic
  intro o ho s'
  rcases List.mem_append.1 ho with h | h
  · simp only [List.mem_flatMap, List.mem_range] at h
    obtain ⟨i, hi, ho⟩ := h
    obtain ⟨t, ht, _⟩ := itemType_ok inv hi
    rw [ht] at ho
    simp only at ho
    obtain ⟨a, b, hab, _, hb⟩ := itemTypeIndices_ok inv t
    rw [hab] at ho
    simp only [List.mem_map, List.mem_range] at ho
    obtain ⟨j, hj, rfl⟩ := ho
    obtain ⟨v, hv, _⟩ := item_ok inv (k := a + j) (by omega)
    rw [hv]; simp [Outcome.void]
  · simp only [List.mem_map, List.mem_range] at h
    obtain ⟨i, hi, rfl⟩ := h
    exact (readData_spec inv inflate hz hi).elim (fun _ => nofun) fun _ _ => nofun

end Tw.Datafile
