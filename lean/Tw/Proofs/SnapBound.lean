import Tw.Proofs.SnapMgrC
import Mathlib.Data.List.Perm.Subperm

/-!
C13: a bound on the size of the snapshots the application builds keeps the packed delta inside the
64 KiB buffer of the server glue.  The delta from `a` to `b` has at most `3 + |a| + 3·|b| + dataLen b`
integers (`delta_ints_le`) of at most 5 bytes each; what one `new_builder()` … `finish()` makes holds a
registry item of four integers for each UUID type in use, and the items handed in (`build_small`).
-/
namespace Tw.SnapMgr
open Tw.Snap Tw.SnapXfer

variable {objSize : Nat → Option Nat} {size : TypeId → Nat → Nat} {U : List Int}

theorem packInts_length_le (xs : List Int) : (packInts xs).length ≤ 5 * xs.length := by
  induction xs with
  | nil => simp [packInts]
  | cons x r ih =>
    rw [packInts_cons, List.length_append, List.length_cons]
    have := (Tw.Packer.writeInt_length x).2
    omega

theorem delta_ints_le {a b : RawSnap} {d : Tw.Snap.Delta} {xs : List Int}
    (ha : a.WF) (hb : b.WF) (hd : createDelta a b = some d) (hw : d.writeInts objSize = some xs) :
    xs.length ≤ 3 + a.items.length + 3 * b.items.length + dataLen b.items := by
  obtain ⟨_, hl⟩ := createDelta_WF ha hb hd
  obtain ⟨h2, h1, _⟩ := dataLen_eq_of_lens hl
  have hdel : d.deleted.length ≤ a.items.length := by
    unfold createDelta at hd
    split at hd
    · cases hd
    · cases hd
      simp only [List.length_map]
      exact List.length_filter_le _ _
  obtain ⟨_, rfl⟩ := Delta.writeInts_eq_some.mp hw
  have := updInts_length_le objSize d.updated
  simp only [List.length_cons, List.length_append]
  omega

def Small (k1 k2 : Nat) (s : Tw.Snap.Snap) : Prop :=
  s.raw.items.length ≤ k1 ∧ dataLen s.raw.items ≤ k2

theorem packed_fits {k1 k2 : Nat} (hk : 5 * (3 + 4 * k1 + k2) ≤ 65536)
    {a b : Tw.Snap.Snap} (ha : a.raw.WF) (hb : b.raw.WF) (hsa : Small k1 k2 a) (hsb : Small k1 k2 b)
    {d : Tw.Snap.Delta} {xs : List Int} (hd : createDelta a.raw b.raw = some d)
    (hw : d.writeInts objSize = some xs) : (packInts xs).length ≤ writeCapacity := by
  have h1 := delta_ints_le ha hb hd hw
  have h2 := packInts_length_le xs
  rw [writeCapacity_eq]
  have := hsa.1; have := hsb.1; have := hsb.2
  omega

def ExtIn (U : List Int) (s : Tw.Snap.Snap) : Prop := ∀ u t, mfind u s.ext = some t → u ∈ U

theorem ext_length_le {s : Tw.Snap.Snap} (hs : ExtOk s) (hin : ExtIn U s) :
    s.ext.length ≤ U.length := by
  have hsub : s.ext.map Prod.fst ⊆ U := by
    intro x hx
    obtain ⟨p, hp, rfl⟩ := List.mem_map.mp hx
    exact hin p.1 p.2 (mfind_of_mem hs.ext_sorted hp)
  have := (hs.ext_sorted.nodup.subperm hsub).length_le
  simpa using this

/-- `i` items with `d` data integers, `e` of the items (four integers each) being registry items:
at most `n` items and `m` data integers beyond the registry -/
def Within (n m i d e : Nat) : Prop := i ≤ e + n ∧ d ≤ 4 * e + m

theorem Within.weaken {n m i d e : Nat} (h : Within n m i d e) (l : Nat) : Within (n + 1) (m + l) i d e :=
  ⟨Nat.le_succ_of_le h.1, Nat.le_trans h.2 (Nat.add_le_add_left (Nat.le_add_right m l) _)⟩

theorem Within.item {n m i d e : Nat} (h : Within n m i d e) (l : Nat) :
    Within (n + 1) (m + l) (i + 1) (d + l) e :=
  ⟨Nat.succ_le_succ h.1, Nat.add_assoc (4 * e) m l ▸ Nat.add_le_add_right h.2 l⟩

theorem Within.registry {n m i d e : Nat} (h : Within n m i d e) : Within n m (i + 1) (d + 4) (e + 1) := by
  refine ⟨?_, ?_⟩
  · rw [Nat.add_right_comm]; exact Nat.succ_le_succ h.1
  · rw [Nat.mul_succ, Nat.add_right_comm]; exact Nat.add_le_add_right h.2 4

def Bounded (n m : Nat) (b : Builder) : Prop :=
  Within n m b.snap.raw.items.length (dataLen b.snap.raw.items) b.snap.ext.length

theorem addRaw_bounded {n m : Nat} {b : Builder} (h : Bounded n m b) (t id : Nat) (data : List Int) :
    Bounded (n + 1) (m + data.length) (b.addRaw t id data).1 := by
  unfold Builder.addRaw
  cases hok : b.snap.raw.addItem (keyOf t id) data with
  | error e => exact h.weaken _
  | ok raw =>
    obtain ⟨e1, e2⟩ := RawSnap.addItem_sizes hok
    unfold Bounded
    rw [e1, e2]
    exact h.item _

theorem registered_bounded {n m : Nat} {b : Builder} {u : Int} {raw1 : RawSnap} (h : Bounded n m b)
    (hin : ExtIn U b.snap) (hu : u ∈ U) (hf : mfind u b.snap.ext = none)
    (hok : b.snap.raw.addItem (keyOf typeIdEx b.nextTypeId) (uuidToData u) = .ok raw1) :
    Bounded n m (b.registered u raw1) ∧ ExtIn U (b.registered u raw1).snap := by
  obtain ⟨e1, e2⟩ := RawSnap.addItem_sizes hok
  refine ⟨?_, fun u' t' hu' => ?_⟩
  · unfold Bounded Builder.registered
    rw [e1, e2, length_minsert_of_none hf]
    exact h.registry
  · rw [Builder.registered, mfind_minsert] at hu'
    by_cases e : u' = u
    · exact e ▸ hu
    · rw [if_neg e] at hu'; exact hin u' t' hu'

theorem addItem_bounded {n m : Nat} {b b' : Builder} {tid : TypeId} {id : Nat}
    {data : List Int} {r : Option BuilderError} (h : Bounded n m b) (hin : ExtIn U b.snap)
    (hu : ∀ u, tid = .uuid u → u ∈ U) (hadd : b.addItem tid id data = some (b', r)) :
    Bounded (n + 1) (m + data.length) b' ∧ ExtIn U b'.snap := by
  revert hadd
  refine b.addItem_elim tid id data
    (motive := fun o => o = some (b', r) → Bounded (n + 1) (m + data.length) b' ∧ ExtIn U b'.snap)
    nofun (fun e he => ?_) (fun t _ he => ?_) (fun u raw1 hu' hf _ hok he => ?_)
  · cases he
    exact ⟨h.weaken _, hin⟩
  · obtain rfl := congrArg Prod.fst (Option.some.inj he)
    exact ⟨addRaw_bounded h t id data, fun u t' hu => hin u t' (Builder.addRaw_ext b t id data ▸ hu)⟩
  · obtain ⟨hb1, hin1⟩ := registered_bounded h hin (hu u hu') hf hok
    obtain rfl := congrArg Prod.fst (Option.some.inj he)
    exact ⟨addRaw_bounded hb1 b.nextTypeId id data, fun u t' hu => hin1 u t' (Builder.addRaw_ext _ _ id data ▸ hu)⟩

theorem recycle_bounded {b b' : Builder} (hin : ExtIn U b.snap)
    (h : b.snap.recycle = some b') : Bounded 0 0 b' ∧ ExtIn U b'.snap := by
  obtain ⟨_, raw, -, hr, rfl⟩ := Snap.recycle_eq_some.mp h
  -- the items are the registry items, four integers each
  have hp := (addAll_perm _ _ _ (recycleAdd_eq_some.mp hr)).1
  refine ⟨⟨Nat.le_of_eq ?_, Nat.le_of_eq ?_⟩, hin⟩
  · simpa [RawSnap.empty] using hp.length_eq
  · show dataLen raw.items = _
    rw [dataLen, (hp.map _).sum_nat]
    simp [RawSnap.empty, Function.comp_def, uuidToData_length, List.map_const', Nat.mul_comm]

def itemsData (items : List Item) : Nat := (items.map (fun it => it.2.2.length)).sum

theorem addItems_bounded : ∀ (items : List Item) (n m : Nat) (b : Builder) (s : Tw.Snap.Snap),
    Bounded n m b → ExtIn U b.snap → (∀ it, it ∈ items → ∀ u, it.1 = .uuid u → u ∈ U) →
    addItems b items = .ok (.ok s) →
    Within (n + items.length) (m + itemsData items) s.raw.items.length (dataLen s.raw.items) s.ext.length ∧
      ExtIn U s := by
  intro items
  induction items with
  | nil =>
    intro n m b s hb hin _ h
    cases h
    exact ⟨hb, hin⟩
  | cons it rest ih =>
    obtain ⟨tid, id, data⟩ := it
    intro n m b s hb hin hu h
    rw [addItems] at h
    split at h
    · cases h
    · next b' hadd =>
      obtain ⟨hb', hin'⟩ := addItem_bounded hb hin (hu (tid, id, data) List.mem_cons_self) hadd
      have := ih (n + 1) (m + data.length) b' s hb' hin'
        (fun it hit => hu it (List.mem_cons_of_mem _ hit)) h
      rwa [Nat.succ_add, Nat.add_assoc] at this
    · cases h

theorem build_small {N M : Nat} {seed T : Tw.Snap.Snap} {items : List Item}
    (hin : ExtIn U seed) (hu : ∀ it, it ∈ items → ∀ u, it.1 = .uuid u → u ∈ U)
    (hN : items.length ≤ N) (hM : itemsData items ≤ M) (hT : ExtOk T)
    (hb : execBuild.build seed items = .ok (.ok T)) :
    Small (U.length + N) (4 * U.length + M) T ∧ ExtIn U T := by
  simp only [execBuild] at hb
  split at hb
  · cases hb
  next b1 hr =>
  obtain ⟨hbd, hin1⟩ := recycle_bounded (U := U) (b := ⟨seed, 0⟩) hin hr
  obtain ⟨r, r3⟩ := addItems_bounded items 0 0 b1 T hbd hin1 hu hb
  rw [Nat.zero_add, Nat.zero_add] at r
  have hel := ext_length_le hT r3
  exact ⟨⟨Nat.le_trans r.1 (Nat.add_le_add hel hN),
    Nat.le_trans r.2 (Nat.add_le_add (Nat.mul_le_mul_left 4 hel) hM)⟩, r3⟩

/-- the application's budget for one snapshot: UUID types among `U`, at most `N` items with at most
`M` data integers in total -/
structure Budget (U : List Int) (N M : Nat) (items : List Item) : Prop where
  uuids : ∀ it, it ∈ items → ∀ u, it.1 = .uuid u → u ∈ U
  count : items.length ≤ N
  data : itemsData items ≤ M

def EvBudget (U : List Int) (N M : Nat) : EvB Tw.Snap.Snap (List Item) → Prop
  | .sendItems _ items => Budget U N M items
  | _ => True

/-- C13: under a size budget (`Budget`) with which every packed delta fits the 64 KiB buffer, no history
of the executable model panics. -/
theorem runB_never_panics
    (ht : TableOk objSize size) (ref : Bool) (U : List Int) (N M : Nat)
    (hk : 5 * (3 + 4 * (U.length + N) + (4 * U.length + M)) ≤ 65536)
    (evs : List (EvB Tw.Snap.Snap (List Item))) (hev : ∀ e, e ∈ evs → EvOk size e)
    (hbud : ∀ e, e ∈ evs → EvBudget U N M e) :
    ∃ r, SysB.run (execOps objSize ref) execBuild {} evs = .ok r := by
  let Q : Tw.Snap.Snap → Prop := fun s => Small (U.length + N) (4 * U.length + M) s ∧ ExtIn U s
  have hQ0 : Q Tw.Snap.Snap.empty := by
    refine ⟨⟨by simp [Tw.Snap.Snap.empty, RawSnap.empty], by simp [Tw.Snap.Snap.empty, RawSnap.empty, dataLen]⟩, ?_⟩
    intro u t h; simp [Tw.Snap.Snap.empty, mfind] at h
  have hq : ∀ e, e ∈ evs → EvQ size Q e := by
    intro e he
    cases e with
    | sendItems t items =>
      intro seed T _ hQs hT hb
      have hb' := hbud _ he
      exact build_small hQs.2 hb'.uuids hb'.count hb'.data hT.extOk hb
    | other e => trivial
  refine runB_total ht ?_ ref hQ0 evs {} (invB_init size Q) hev hq
  rintro ⟨a, b, d, xs, hqa, hqb, hwa, hwb, hd, hw, hbig⟩
  have := packed_fits (objSize := objSize) hk hwa hwb hqa.1 hqb.1 hd hw
  omega

end Tw.SnapMgr
