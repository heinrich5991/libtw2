import Tw.Model.Buffer

/-! Lemmas about the buffer model (`Tw.Model.Buffer`): what each operation does to the initialised
part, the counter and the capacity of a view, under the invariant `init ≤ mem.length`.  Every store
of the model is shown to be a `splice` at the counter (`extendLoop_eq`), so what the operations do to
the initialised part all comes from `splice_take_add`. -/
namespace Tw.Buffer

theorem splice_length (mem : List UInt8) (i : Nat) (bs : List UInt8) (h : i + bs.length ≤ mem.length) :
    (splice mem i bs).length = mem.length := by
  simp only [splice, List.length_append, List.length_take, List.length_drop]; omega

theorem splice_take_length (mem : List UInt8) (i : Nat) (bs : List UInt8) (h : i ≤ mem.length) :
    (splice mem i (bs.take (mem.length - i))).length = mem.length :=
  splice_length _ _ _ (by rw [List.length_take]; omega)

/-- after `bs` was stored at the counter `i`, counting `k` of it extends the initialised part by
exactly those `k` bytes -/
theorem splice_take_add (mem : List UInt8) (i k : Nat) (bs : List UInt8) (h : i ≤ mem.length)
    (hk : k ≤ bs.length) : (splice mem i bs).take (i + k) = mem.take i ++ bs.take k := by
  rw [splice, List.append_assoc, List.take_append, List.length_take_of_le h, Nat.add_sub_cancel_left,
    List.take_of_length_le (by rw [List.length_take_of_le h]; exact Nat.le_add_right i k),
    List.take_append_of_le_length hk]

theorem splice_take_le (mem : List UInt8) (i k : Nat) (bs : List UInt8) (h : i ≤ mem.length) (hk : k ≤ i) :
    (splice mem i bs).take k = mem.take k := by
  rw [splice, List.append_assoc,
    List.take_append_of_le_length (by rw [List.length_take_of_le h]; exact hk), List.take_take,
    Nat.min_eq_left hk]

theorem splice_nil (mem : List UInt8) (i : Nat) : splice mem i [] = mem := by
  simp [splice]

/-- one round of the `extend` loop: storing `b` in the next free slot and going on behind it -/
theorem splice_cons (mem : List UInt8) (i : Nat) (b : UInt8) (bs : List UInt8) (h : i < mem.length) :
    splice (mem.set i b) (i + 1) bs = splice mem i (b :: bs) := by
  rw [splice, splice, List.drop_set_of_lt (by omega), List.take_set, List.take_add_one,
    List.getElem?_eq_getElem h,
    List.set_append_right _ _ (by rw [List.length_take_of_le (Nat.le_of_lt h)]; exact Nat.le_refl _)]
  simp [Nat.add_assoc, Nat.add_comm 1, List.length_take_of_le (Nat.le_of_lt h)]

theorem extendLoop_eq (bs : List UInt8) : ∀ (mem : List UInt8) (init : Nat), init ≤ mem.length →
    View.extendLoop mem init bs =
      (splice mem init (bs.take (mem.length - init)), init + min bs.length (mem.length - init),
        decide (bs.length ≤ mem.length - init)) := by
  induction bs with
  | nil => intro mem init h; simp [View.extendLoop, splice]
  | cons b bs ih =>
    intro mem init h
    unfold View.extendLoop
    by_cases hlt : init < mem.length
    · have e : mem.length - init = mem.length - (init + 1) + 1 := by omega
      rw [if_pos hlt, ih (mem.set init b) (init + 1) (by rw [List.length_set]; exact hlt),
        List.length_set, splice_cons _ _ _ _ hlt]
      simp only [e, List.take_succ_cons, List.length_cons, Nat.add_min_add_right,
        Nat.add_le_add_iff_right, Nat.add_assoc, Nat.add_comm 1]
    · rw [if_neg hlt, show mem.length - init = 0 by omega]
      simp [splice]

theorem foldl_min_le (cs : List Nat) (a : Nat) : cs.foldl min a ≤ a := by
  induction cs generalizing a with
  | nil => exact Nat.le_refl _
  | cons x xs ih => exact Nat.le_trans (ih _) (Nat.min_le_left _ _)

namespace View

def Wf (v : View) : Prop := v.init ≤ v.mem.length

instance (v : View) : Decidable v.Wf := by unfold Wf; infer_instance

/-- free space (total version of `remaining`, equal to it under `Wf`) -/
def room (v : View) : Nat := v.mem.length - v.init

/-- the initialised bytes (total version of `initialized`) -/
def done (v : View) : List UInt8 := v.mem.take v.init

theorem remaining_eq {v : View} (h : v.Wf) : v.remaining = some v.room :=
  if_pos h

theorem initialized_eq {v : View} (h : v.Wf) : v.initialized = some v.done :=
  if_pos h

theorem done_length {v : View} (h : v.Wf) : v.done.length = v.init :=
  List.length_take_of_le h

theorem extend_eq {v : View} (h : v.Wf) (bs : List UInt8) :
    v.extend bs =
      ({ mem := splice v.mem v.init (bs.take v.room), init := v.init + min bs.length v.room },
        if bs.length ≤ v.room then .ok else .cap) := by
  unfold extend
  rw [if_pos (show v.init ≤ v.mem.length from h), extendLoop_eq bs v.mem v.init h]
  by_cases hb : bs.length ≤ v.mem.length - v.init <;> simp [hb, room]

theorem extend_cap {v : View} (h : v.Wf) (bs : List UInt8) :
    (v.extend bs).1.mem.length = v.mem.length := by
  rw [extend_eq h]
  exact splice_take_length _ _ _ h

theorem extend_init {v : View} (h : v.Wf) (bs : List UInt8) :
    (v.extend bs).1.init = v.init + min bs.length v.room := by
  rw [extend_eq h]

theorem extend_wf {v : View} (h : v.Wf) (bs : List UInt8) : (v.extend bs).1.Wf := by
  rw [Wf, extend_cap h, extend_init h, room]
  have : v.init ≤ v.mem.length := h
  omega

theorem extend_done {v : View} (h : v.Wf) (bs : List UInt8) :
    (v.extend bs).1.done = v.done ++ bs.take v.room := by
  rw [extend_eq h]
  show (splice v.mem v.init (bs.take v.room)).take (v.init + min bs.length v.room) = _
  rw [Nat.min_comm, ← List.length_take, splice_take_add _ _ _ _ h (Nat.le_refl _), List.take_length, done]

theorem extend_res {v : View} (h : v.Wf) (bs : List UInt8) :
    (v.extend bs).2 = if bs.length ≤ v.room then .ok else .cap := by
  rw [extend_eq h]

theorem extend_room {v : View} (h : v.Wf) (bs : List UInt8) :
    (v.extend bs).1.room = v.room - bs.length := by
  rw [room, extend_cap h, extend_init h, room, Nat.sub_add_eq]
  generalize v.mem.length - v.init = r
  omega

theorem advance_eq (v : View) (n : Nat) :
    v.advance n = if n ≤ v.room ∧ v.Wf then ({ v with init := v.init + n }, .ok) else (v, .panic) := by
  unfold advance room Wf
  by_cases h : v.init + n ≤ v.mem.length
  · rw [if_pos h, if_pos (by omega)]
  · rw [if_neg h, if_neg (by omega)]

theorem advance_wf {v : View} (h : v.Wf) (n : Nat) : (v.advance n).1.Wf := by
  unfold advance
  split
  · assumption
  · exact h

theorem advance_cap (v : View) (n : Nat) : (v.advance n).1.mem.length = v.mem.length := by
  unfold advance; split <;> rfl

theorem poke_cap {v : View} (h : v.Wf) (bs : List UInt8) : (v.poke bs).mem.length = v.mem.length :=
  splice_take_length _ _ _ h

theorem poke_init (v : View) (bs : List UInt8) : (v.poke bs).init = v.init := rfl

theorem poke_wf {v : View} (h : v.Wf) (bs : List UInt8) : (v.poke bs).Wf := by
  rw [Wf, poke_cap h]
  exact h

theorem poke_done {v : View} (h : v.Wf) (bs : List UInt8) : (v.poke bs).done = v.done :=
  splice_take_le _ _ _ _ h (Nat.le_refl _)

theorem poke_take_add {v : View} (h : v.Wf) (bs : List UInt8) (k : Nat) (hk : k ≤ bs.length)
    (hr : k ≤ v.room) : (v.poke bs).mem.take (v.init + k) = v.done ++ bs.take k := by
  rw [room] at hr
  rw [poke, splice_take_add _ _ _ _ h (by rw [List.length_take]; exact Nat.le_min.mpr ⟨hr, hk⟩),
    List.take_take, Nat.min_eq_left hr, done]

theorem poke_take {v : View} (h : v.Wf) (bs : List UInt8) (hb : bs.length ≤ v.room) :
    (v.poke bs).mem.take (v.init + bs.length) = v.done ++ bs := by
  rw [poke_take_add h bs _ (Nat.le_refl _) hb, List.take_length]

theorem capAt_eq (v : View) (n : Nat) (h0 : v.init = 0) :
    v.capAt n = some { mem := v.mem.take (min n v.mem.length), init := 0 } := by
  simp [capAt, h0]

theorem capAll_eq (caps : List Nat) : ∀ (v : View), v.init = 0 →
    v.capAll caps = some { mem := v.mem.take (caps.foldl min v.mem.length), init := 0 } := by
  induction caps with
  | nil => intro v h0; cases v; simp_all [capAll]
  | cons c cs ih =>
    intro v h0
    have hle := foldl_min_le cs (min v.mem.length c)
    simp only [capAll, capAt_eq v c h0, List.foldl_cons]
    rw [ih _ rfl]
    simp only [List.length_take, List.take_take]
    rw [show min (min c v.mem.length) v.mem.length = min v.mem.length c by omega,
      Nat.min_eq_left (by omega)]

theorem child_eq {p : View} (h : p.Wf) : p.child = some { mem := p.mem.drop p.init, init := 0 } :=
  if_pos h

def Fits (c p : View) : Prop := c.mem.length ≤ p.room

theorem writeBack_cap {p c : View} (hp : p.Wf) (hf : c.Fits p) :
    (p.writeBack c).mem.length = p.mem.length := by
  have : p.init ≤ p.mem.length := hp
  exact splice_length _ _ _ (by rw [Fits, room] at hf; omega)

theorem writeBack_wf {p c : View} (hp : p.Wf) (hc : c.Wf) (hf : c.Fits p) : (p.writeBack c).Wf := by
  rw [Wf, writeBack_cap hp hf]
  simp only [Wf, writeBack, Fits, room] at *
  omega

theorem writeBack_done {p c : View} (hp : p.Wf) (hc : c.Wf) :
    (p.writeBack c).done = p.done ++ c.done :=
  splice_take_add _ _ _ _ hp hc

theorem writeBack_room {p c : View} (hp : p.Wf) (hf : c.Fits p) :
    (p.writeBack c).room = p.room - c.init := by
  simp only [room, writeBack_cap hp hf]
  simp only [writeBack]; omega

end View

/-- `b.write(xs₁); b.write(xs₂); …` with the individual results -/
def View.writeAll (v : View) : List (List UInt8) → View × List Res
  | [] => (v, [])
  | xs :: rest =>
    let r := v.extend xs
    let r2 := writeAll r.1 rest
    (r2.1, r.2 :: r2.2)

theorem View.writeAll_spec (ws : List (List UInt8)) : ∀ {v : View}, v.Wf →
    (v.writeAll ws).1.Wf ∧ (v.writeAll ws).1.mem.length = v.mem.length ∧
    (v.writeAll ws).1.done = v.done ++ ws.flatten.take v.room ∧
    ((∀ r ∈ (v.writeAll ws).2, r = Res.ok) ↔ ws.flatten.length ≤ v.room) := by
  induction ws with
  | nil => intro v h; simp [View.writeAll, h]
  | cons xs rest ih =>
    intro v h
    have h1 := View.extend_wf h xs
    obtain ⟨i1, i2, i3, i4⟩ := ih h1
    simp only [View.writeAll, List.flatten_cons, List.mem_cons, forall_eq_or_imp]
    refine ⟨i1, i2.trans (View.extend_cap h xs), ?_, ?_⟩
    · rw [i3, View.extend_done h, View.extend_room h, List.take_append, List.append_assoc]
    · rw [i4, View.extend_room h, View.extend_res h, List.length_append]
      by_cases hx : xs.length ≤ v.room <;> simp [hx] <;> omega

namespace Store

def Wf (s : Store) : Prop :=
  s.len ≤ s.buf.length ∧ ((s.kind = .slice ∨ s.kind = .sref) → s.len = 0)

def room (s : Store) : Nat := s.buf.length - s.len

/-- a new outermost view can be made unless the caller's counter of a `raw` container is not 0 -/
def canOpen (s : Store) : Prop := ¬(s.kind = .raw ∧ s.len ≠ 0)

instance (s : Store) : Decidable s.canOpen := by unfold canOpen; infer_instance

theorem top_eq {s : Store} (h : s.Wf) (hc : s.canOpen) :
    s.top = some { mem := s.buf.drop s.len, init := 0 } := by
  unfold top
  rw [if_neg hc, if_pos h.1]

theorem top_none {s : Store} (hc : ¬s.canOpen) : s.top = none := by
  unfold top canOpen at *
  rw [if_pos (by simpa using hc)]

theorem top_some {s : Store} {b : View} (hb : s.top = some b) :
    b = { mem := s.buf.drop s.len, init := 0 } := by
  unfold top at hb
  split at hb
  · cases hb
  · split at hb
    · cases hb; rfl
    · cases hb

/-- the memory of a released view is written back over the spare capacity -/
theorem splice_spare_length {s : Store} {v : View} (hs : s.Wf) (hf : v.mem.length ≤ s.room) :
    (splice s.buf s.len v.mem).length = s.buf.length := by
  have := hs.1
  exact splice_length _ _ _ (by rw [room] at hf; omega)

theorem release_kind (s : Store) (v : View) : (s.release v).kind = s.kind := by
  cases hk : s.kind <;> simp only [release, hk]

section
variable {s : Store} {v : View}

theorem release_vec_contents (hs : s.Wf) (hv : v.Wf) (hk : s.kind = .vec ∨ s.kind = .arr ∨ s.kind = .raw) :
    (s.release v).contents = s.contents ++ v.done := by
  have ht := splice_take_add s.buf s.len v.init v.mem hs.1 hv
  rcases hk with hk | hk | hk <;> simp only [release, contents, hk, View.done, ht]

theorem release_vec_len (hk : s.kind = .vec ∨ s.kind = .arr ∨ s.kind = .raw) :
    (s.release v).len = s.len + v.init := by
  rcases hk with hk | hk | hk <;> simp only [release, hk]

theorem release_vec_cap (hs : s.Wf) (hf : v.mem.length ≤ s.room)
    (hk : s.kind = .vec ∨ s.kind = .arr ∨ s.kind = .raw) : (s.release v).buf.length = s.buf.length := by
  have hl := splice_spare_length hs hf
  rcases hk with hk | hk | hk <;> simp only [release, hk, hl]

theorem release_slice_take (hs : s.Wf) (hv : v.Wf) (hk : s.kind = .slice) :
    (s.release v).contents.take v.init = v.done := by
  have ht := splice_take_add s.buf s.len v.init v.mem hs.1 hv
  rw [hs.2 (Or.inl hk), Nat.zero_add, List.take_zero, List.nil_append] at ht
  simp only [release, contents, hk, View.done, hs.2 (Or.inl hk), ht]

theorem release_slice_length (hs : s.Wf) (hf : v.mem.length ≤ s.room) (hk : s.kind = .slice) :
    (s.release v).contents.length = s.contents.length := by
  have hl := splice_spare_length hs hf
  simp only [release, contents, hk, hl]

theorem release_sref_contents (hs : s.Wf) (hv : v.Wf) (hk : s.kind = .sref) :
    (s.release v).contents = v.done := by
  have ht := splice_take_add s.buf s.len v.init v.mem hs.1 hv
  rw [hs.2 (Or.inr hk), Nat.zero_add, List.take_zero, List.nil_append] at ht
  simp only [release, contents, hk, View.done, hs.2 (Or.inr hk), ht]

end

theorem release_wf {s : Store} {v : View} (hs : s.Wf) (hv : v.Wf) (hf : v.mem.length ≤ s.room) :
    (s.release v).Wf := by
  have hl := splice_spare_length hs hf
  have h0 := hs.2
  have h1 : s.len + v.init ≤ s.buf.length := by
    have : v.init ≤ v.mem.length := hv
    have := hs.1
    rw [room] at hf
    omega
  unfold release Wf
  cases hk : s.kind <;> simp only [hk, hl, reduceCtorEq, false_or, or_false, or_self, false_imp_iff,
    true_imp_iff, and_true] at h0 ⊢
  · exact h1
  · exact h1
  · exact ⟨hs.1, h0⟩
  · exact ⟨by rw [h0]; exact Nat.zero_le _, h0⟩
  · exact h1

end Store

/-- the free space a view on top of the stack `vs` may span: that of the innermost live view, or
the spare capacity `room` of the container -/
def roomBelow (room : Nat) : List View → Nat
  | [] => room
  | p :: _ => p.room

/-- every live view satisfies its invariant and lies inside the free space of its parent (the
outermost one inside the spare capacity `room` of the container) -/
def stackOk (room : Nat) : List View → Prop
  | [] => True
  | c :: rest => c.Wf ∧ c.mem.length ≤ roomBelow room rest ∧ stackOk room rest

namespace stackOk
variable {room : Nat} {c p : View} {rest : List View}

theorem head_wf (h : stackOk room (c :: rest)) : c.Wf := h.1

theorem head_le (h : stackOk room (c :: rest)) : c.mem.length ≤ roomBelow room rest := h.2.1

theorem head_fits (h : stackOk room (c :: p :: rest)) : c.Fits p := h.2.1

theorem tail (h : stackOk room (c :: rest)) : stackOk room rest := h.2.2

end stackOk

theorem stackOk_update {room : Nat} {v v' : View} {rest : List View} (h : stackOk room (v :: rest))
    (hw : v'.Wf) (hl : v'.mem.length ≤ v.mem.length) : stackOk room (v' :: rest) :=
  ⟨hw, Nat.le_trans hl h.head_le, h.tail⟩

theorem stackOk_pop {room : Nat} {c p : View} {rest : List View} (h : stackOk room (c :: p :: rest)) :
    stackOk room (p.writeBack c :: rest) :=
  stackOk_update h.tail (View.writeBack_wf h.tail.head_wf h.head_wf h.head_fits)
    (Nat.le_of_eq (View.writeBack_cap h.tail.head_wf h.head_fits))

theorem unwindFrom_wf (st : Store) (hs : st.Wf) : ∀ (rest : List View) (c : View),
    stackOk st.room (c :: rest) → (unwindFrom st c rest).Wf
  | [], _, hv => Store.release_wf hs hv.head_wf hv.head_le
  | _ :: rest, _, hv => unwindFrom_wf st hs rest _ (stackOk_pop hv)

theorem unwindStack_wf (st : Store) (vs : List View) (hs : st.Wf) (hv : stackOk st.room vs) :
    (unwindStack st vs).Wf := by
  cases vs with
  | nil => exact hs
  | cons c rest => exact unwindFrom_wf st hs rest c hv

theorem stackOk_mem {room : Nat} : ∀ {vs : List View}, stackOk room vs → ∀ v ∈ vs, v.Wf
  | [], _, v, hv => by cases hv
  | c :: rest, h, v, hv => by
    rcases List.mem_cons.mp hv with rfl | hm
    · exact h.head_wf
    · exact stackOk_mem h.tail v hm

namespace Sess

def Wf (s : Sess) : Prop := s.store.Wf ∧ stackOk s.store.room s.stack

theorem Wf.top_wf {st : Store} {v : View} {rest : List View} {r : Rdr} (h : Wf ⟨st, v :: rest, r⟩) : v.Wf :=
  h.2.head_wf

theorem unwind_wf {s : Sess} (h : s.Wf) : s.unwind.Wf :=
  ⟨unwindStack_wf _ _ h.1 h.2, trivial⟩

theorem unwind_stack (s : Sess) : s.unwind.stack = [] := rfl

theorem pop_wf {s : Sess} (h : s.Wf) : s.pop.Wf := by
  obtain ⟨st, stack, r⟩ := s
  obtain ⟨hs, hv⟩ := h
  match stack, hv with
  | [], hv => exact ⟨hs, hv⟩
  | [v], hv => exact ⟨Store.release_wf hs hv.head_wf hv.head_le, trivial⟩
  | c :: p :: rest, hv => exact ⟨hs, stackOk_pop hv⟩

theorem run_append (ops1 ops2 : List Op) (s : Sess) :
    (s.run (ops1 ++ ops2)).1 = ((s.run ops1).1.run ops2).1 := by
  induction ops1 generalizing s with
  | nil => rfl
  | cons op ops ih => simp only [List.cons_append, run]; exact ih _

theorem fresh_wf (st : Store) (h : st.Wf) : (Sess.fresh st).Wf := ⟨h, trivial⟩

end Sess

theorem Store.fresh_wf (k : Kind) (cap : Nat) (old : List UInt8) (junk : UInt8)
    (h : (k = .vec ∨ k = .arr) → old.length ≤ cap) : (Store.fresh k cap old junk).Wf := by
  cases k <;> simp_all [Store.fresh, Store.Wf] <;> omega

end Tw.Buffer
