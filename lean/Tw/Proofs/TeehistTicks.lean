import Tw.Proofs.TeehistSem

/-! Tick structure of the reference semantics: nesting, strictly increasing numbers, and agreement
with the tick numbers of `doc/teehistorian.md` (`Spec.docItemTicks`). -/
namespace Tw.Teehistorian
open Spec

/-- The reader's `(tick, in_tick)` against the state of the nesting check (`Spec.tickStep`): outside a
tick the reader's tick is the number the next `TickStart` will carry. -/
def InvT (rd : Reader) (st : TS) : Prop :=
  (rd.inTick = true → st.cur = some rd.tick ∧ st.last = rd.tick) ∧
  (rd.inTick = false → st.cur = none ∧ st.last < rd.tick)

/-- The `(tick, implicit_cid)` the documentation's loop will have *after* its implicit-tick step
for a message of kind `k`; invariant under the synthesised items of `Reader.pre`. -/
def docState (rd : Reader) (k : Kind) : Int × Option Int :=
  (rd.tick + (if kindPrevGe rd k then 1 else 0), if kindPrevGe rd k then none else rd.prevCid)

theorem invT_norm {rd : Reader} {st : TS} : InvT rd.norm st ↔ InvT rd st := Iff.rfl

theorem docState_norm (rd : Reader) (k : Kind) : docState rd.norm k = docState rd k := rfl

theorem pre_ticks {rd rd' : Reader} {k : Kind} {st : TS} {it : Item} (hI : InvT rd st)
    (h : rd.pre k = .emit it rd') :
    ∃ st', tickStep st it = some st' ∧ docState rd' k = docState rd k ∧
      (k ≠ .finish → InvT rd' st') ∧ (k = .finish → st'.cur = none ∧ rd'.inTick = false) := by
  cases pre_emit h with
  | start hi _ h2 =>
    obtain ⟨hc, hl⟩ := hI.2 hi
    refine ⟨⟨some rd.tick, rd.tick⟩, by simp [tickStep, hc, hl], rfl, fun _ => ?_, fun hk => absurd hk h2⟩
    simp [InvT]
  | implicit hi hg =>
    obtain ⟨hc, hl⟩ := hI.1 hi
    refine ⟨⟨none, st.last⟩, by simp [tickStep, hc], ?_, fun _ => ?_, fun hk => absurd hk (kindPrevGe_player hg).2⟩
    · simp [docState, kindPrevGe_of_prevCid_none, hg]
    · simp only [InvT]; simp; omega
  | finish hi hk =>
    obtain ⟨hc, _⟩ := hI.1 hi
    exact ⟨⟨none, st.last⟩, by simp [tickStep, hc], rfl, fun h => absurd hk h, fun _ => ⟨rfl, rfl⟩⟩

/-- The right disjunct is the state behind the `TickEnd` synthesised in front of `Finish`: there
`InvT` fails (the reader's tick is the one just closed, not above it), but `pre` proceeds at once
and nothing is claimed but that no tick is open. -/
theorem preAll_ticks : ∀ (n : Nat) (rd : Reader) (k : Kind) (st : TS),
    (InvT rd st ∨ (k = .finish ∧ rd.inTick = false ∧ st.cur = none)) →
    ∃ st', tickRun st (preAll n rd k).1 = some st' ∧
      ∀ rd', (preAll n rd k).2 = .ready rd' → docState rd' k = docState rd k ∧
          (k ≠ .finish → InvT rd' st') ∧ (k = .finish → st'.cur = none)
  | 0, _, _, st, _ => ⟨st, rfl, fun _ h => PreEnd.noConfusion h⟩
  | n + 1, rd, k, st, hI => by
    cases hpre : rd.pre k with
    | err e => rw [preAll_err n hpre]; exact ⟨st, rfl, fun _ h => PreEnd.noConfusion h⟩
    | proceed =>
      rw [preAll_proceed n hpre]
      refine ⟨st, rfl, fun rd' h => ?_⟩
      obtain rfl : rd = rd' := by simpa using h
      refine ⟨rfl, fun hk => hI.resolve_right fun h => hk h.1, fun hk => ?_⟩
      rcases hI with h | h
      · exact (h.2 ((pre_proceed hpre).2.2 hk)).1
      · exact h.2.2
    | emit it rd' =>
      rw [preAll_emit n hpre]
      rcases hI with hI | ⟨rfl, hin, _⟩
      · obtain ⟨st1, hstep, hdoc, hne, hfin⟩ := pre_ticks hI hpre
        obtain ⟨st', hrun, hrest⟩ := preAll_ticks n rd'.norm k st1 (by
          by_cases hk : k = .finish
          · exact .inr ⟨hk, (hfin hk).2, (hfin hk).1⟩
          · exact .inl (hne hk))
        refine ⟨st', by simp only [tickRun, hstep, hrun], fun rd2 h => ?_⟩
        obtain ⟨h1, h2⟩ := hrest rd2 h
        exact ⟨h1.trans hdoc, h2⟩
      · -- `Finish` outside a tick: `pre` proceeds
        cases pre_emit hpre with
        | start _ _ h => exact absurd rfl h
        | implicit _ hg => exact absurd rfl (kindPrevGe_player hg).2
        | finish hi => rw [hin] at hi; cases hi

theorem tickRun_append (st : TS) (a b : List Item) :
    tickRun st (a ++ b) = match tickRun st a with
      | none => none
      | some st' => tickRun st' b := by
  induction a generalizing st with
  | nil => rfl
  | cons x a ih =>
    simp only [List.cons_append, tickRun]
    cases tickStep st x with
    | none => rfl
    | some st1 => exact ih st1

theorem itemTicks_ticks : ∀ (a b : List Item) (st st' : TS), a.all isTick = true →
    tickRun st a = some st' → itemTicks st.cur (a ++ b) = itemTicks st'.cur b
  | [], b, st, st', _, h => by cases h; rfl
  | x :: a, b, st, st', hall, h => by
    simp only [List.all_cons, Bool.and_eq_true] at hall
    simp only [tickRun] at h
    cases hs : tickStep st x with
    | none => rw [hs] at h; cases h
    | some st1 =>
      rw [hs] at h
      have ih := itemTicks_ticks a b st1 st' hall.2 h
      cases x with
      | tickStart t =>
        simp only [tickStep] at hs
        split at hs
        · cases hs; exact ih
        · cases hs
      | tickEnd t =>
        simp only [tickStep] at hs
        split at hs
        · cases hs; exact ih
        · cases hs
      | _ => cases hall.1

/-- What is claimed of the tick marks in an output: they pass the nesting check from state `st`,
no tick is open after `Finish`, and the ticks of the reported items are those of `D` — a prefix
of them if reading stopped early. -/
structure TicksOk (st : TS) (o : Output) (D : List Int) : Prop where
  nested : ∃ st', tickRun st o.items = some st' ∧ (o.final = .finished → st'.cur = none)
  ticks_prefix : itemTicks st.cur o.items <+: D.map some
  ticks_eq : o.final = .finished → itemTicks st.cur o.items = D.map some

theorem ticksOk_ticks {st st' : TS} {its : List Item} {f : Final} {D : List Int}
    (hrun : tickRun st its = some st') (hall : its.all isTick = true)
    (hfin : f = .finished → st'.cur = none ∧ D = []) (a : Access) : TicksOk st ⟨its, f, a⟩ D := by
  have h0 : itemTicks st.cur its = [] := by
    simpa [itemTicks] using itemTicks_ticks its [] st st' hall hrun
  exact {
    nested := ⟨st', hrun, fun h => (hfin h).1⟩
    ticks_prefix := h0 ▸ List.nil_prefix
    ticks_eq := fun h => by rw [h0, (hfin h).2]; rfl }

theorem ticksOk_prepend {st st1 : TS} {its : List Item} {o : Output} {D : List Int}
    (hrun : tickRun st its = some st1) (hall : its.all isTick = true) (h : TicksOk st1 o D) :
    TicksOk st (o.prepend its) D := by
  obtain ⟨st', h1, h2⟩ := h.nested
  have hit := itemTicks_ticks its o.items st st1 hall hrun
  exact {
    nested := ⟨st', by simp only [Output.prepend, tickRun_append, hrun, h1], h2⟩
    ticks_prefix := hit ▸ h.ticks_prefix
    ticks_eq := fun hf => hit ▸ h.ticks_eq hf }

theorem ticksOk_cons {st : TS} {it : Item} {t : Int} {o : Output} {D : List Int}
    (hit : isTick it = false) (hc : st.cur = some t) (h : TicksOk st o D) :
    TicksOk st (o.cons it) (t :: D) := by
  obtain ⟨st', h1, h2⟩ := h.nested
  have hstep : tickStep st it = some st := by cases it <;> simp [isTick] at hit <;> simp [tickStep, hc]
  have hcons : itemTicks st.cur (it :: o.items) = some t :: itemTicks st.cur o.items := by
    cases it <;> simp [isTick] at hit <;> simp [itemTicks, hc]
  refine { nested := ⟨st', by simp only [Output.cons, tickRun, hstep, h1], h2⟩, ticks_prefix := ?_, ticks_eq := fun hf => ?_ }
  · rw [Output.cons_items, hcons]; exact (List.prefix_cons_inj _).mpr h.ticks_prefix
  · rw [Output.cons_items, hcons, h.ticks_eq hf]; rfl

theorem docItemTicks_msg {rd : Reader} {k : Kind} {it : FItem} (hnts : ∀ dt, it ≠ .tickSkip dt)
    (hnf : it ≠ .finish) (hkc : k.playerCid = match msgKind it with | .player c => some c | _ => none)
    (L : List MsgKind) :
    docItemTicks rd.tick rd.prevCid (msgKind it :: L) =
      (docState rd k).1 :: docItemTicks (docState rd k).1
        (match msgKind it with | .player c => some c | _ => (docState rd k).2) L := by
  cases hm : msgKind it with
  | tickSkip dt => cases it <;> simp [msgKind] at hm; exact absurd rfl (hnts _)
  | finish => cases it <;> simp [msgKind] at hm; exact absurd rfl hnf
  | other =>
    rw [hm] at hkc
    simp [docItemTicks, docState, kindPrevGe, hkc]
  | player c =>
    rw [hm] at hkc
    cases hp : rd.prevCid with
    | none => simp [docItemTicks, docState, kindPrevGe, hkc, hp, prevGe]
    | some ic => by_cases h : c ≤ ic <;> simp [docItemTicks, docState, kindPrevGe, hkc, hp, prevGe, h]

theorem post_item_facts {rd rd' : Reader} {it : FItem} {out : Item}
    (h : rd.post it = .item out rd') (hr : ∀ dt, it ≠ .tickSkip dt) :
    isTick out = false ∧ rd'.tick = rd.tick ∧ rd'.inTick = rd.inTick ∧
    rd'.prevCid = (match msgKind it with | .player c => some c | _ => rd.prevCid) := by
  cases post_reports h with
  | skipEnd => exact absurd rfl (hr _)
  | skipStart => exact absurd rfl (hr _)
  | @other o => obtain ⟨_, cid, _⟩ := o; cases cid <;> exact ⟨rfl, rfl, rfl, rfl⟩
  | _ => exact ⟨rfl, rfl, rfl, rfl⟩

theorem interp_ticks (cfg : Cfg) (t : Tail) (rd : Reader) (rs : List Rec) :
    ∀ st, (∀ r ∈ rs, RecWf r) → InvT rd st →
      TicksOk st (interp cfg rd rs t) (docItemTicks rd.tick rd.prevCid (rs.map fun r => msgKind r.item)) := by
  refine interp_induction (P := fun rd rs o => ∀ st, (∀ r ∈ rs, RecWf r) → InvT rd st →
    TicksOk st o (docItemTicks rd.tick rd.prevCid (rs.map fun r => msgKind r.item))) ?_ ?_ ?_ rd rs
  · intro rd rs n k its pe f a x hf st _ hI
    obtain ⟨st', hrun, _⟩ := preAll_ticks n rd k st (.inl hI)
    have hall := preAll_allTicks n rd k
    rw [x] at hrun hall
    exact ticksOk_ticks hrun hall (fun h => absurd h hf) a
  · intro rd r rs its rd' x hfin st hwf hI
    obtain ⟨st', hrun, hrd⟩ := preAll_ticks 4 rd r.kind st (.inl hI)
    have hall := preAll_allTicks 4 rd r.kind
    rw [x] at hrun hall hrd
    have hk : r.kind = .finish := by
      cases (hwf r (List.mem_cons_self ..)).1 with
      | finish _ hk => exact hk
      | skip dt hi => rw [hfin] at hi; cases hi
      | msg _ hnf => exact absurd hfin hnf
    refine ticksOk_ticks hrun hall (fun _ => ⟨(hrd rd' rfl).2.2 hk, ?_⟩) _
    simp only [List.map_cons, hfin, msgKind, docItemTicks]
  · intro rd r rs its rd' it rd'' o x hpost ih st hwf hI
    obtain ⟨st1, hrun, hrd⟩ := preAll_ticks 4 rd r.kind st (.inl hI)
    have hall := preAll_allTicks 4 rd r.kind
    have hspec := preAll_ready 4 rd r.kind
    rw [x] at hrun hall hrd hspec
    obtain ⟨hdoc, hne, _⟩ := hrd rd' rfl
    obtain ⟨hin, hg, _⟩ := pre_proceed (hspec rd' rfl).1
    -- the documentation's state is the reader's once `pre` proceeds
    have hd : docState rd r.kind = (rd'.tick, rd'.prevCid) := by
      rw [← hdoc]; simp [docState, hg]
    have hwf' := fun r' h => hwf r' (List.mem_cons_of_mem _ h)
    refine ticksOk_prepend hrun hall ?_
    cases (hwf r (List.mem_cons_self ..)).1 with
    | finish hi => rw [hi, post_finish] at hpost; cases hpost
    | skip dt hi hk hdt =>
      -- a tick skip is reported as the end of the open tick, or as the start of the next one
      have hI' := hne (by rw [hk]; nofun)
      have hg0 : kindPrevGe rd r.kind = false := by rw [hk]; rfl
      simp only [docState, hg0, Bool.false_eq_true, if_false, Int.add_zero, Prod.mk.injEq] at hd
      rw [hi] at hpost
      simp only [List.map_cons, hi, msgKind, docItemTicks, hd.1]
      rw [show rd'.tick + (dt + 1) = rd'.tick + 1 + dt by omega]
      cases post_reports hpost with
      | skipEnd hin' =>
        obtain ⟨hc, hl⟩ := hI'.1 hin'
        have := ih ⟨none, st1.last⟩ hwf' (by simp only [InvT]; simp; omega)
        exact ticksOk_prepend (its := [_]) (by simp [tickRun, tickStep, hc]) rfl this
      | skipStart hin' =>
        obtain ⟨hc, hl⟩ := hI'.2 hin'
        have := ih ⟨some (rd'.tick + 1 + dt), rd'.tick + 1 + dt⟩ hwf' (by simp [InvT])
        refine ticksOk_prepend (its := [_]) ?_ rfl this
        have : st1.last < rd'.tick + 1 + dt := by omega
        simp [tickRun, tickStep, hc, this]
    | msg hnts hnf hk1 hk2 hkc =>
      -- a reported record lies in the open tick, whose number is the documentation's
      obtain ⟨hnt, ht, hit, hp⟩ := post_item_facts hpost hnts
      obtain ⟨hc, _⟩ := (hne hk2).1 (hin hk1 hk2)
      have := ih st1 hwf' (by simp only [InvT, ht, hit]; exact hne hk2)
      rw [ht, hp] at this
      simp only [List.map_cons, docItemTicks_msg hnts hnf hkc, hd]
      exact ticksOk_cons hnt hc this

theorem runWhole_ticks (cfg : Cfg) (s : List UInt8) :
    TicksOk ⟨none, -1⟩ (runWhole cfg s) (docItemTicks 0 none ((messages cfg.hasEx s).map msgKind)) := by
  have := interp_ticks cfg (parseAll cfg.hasEx (s.length + 1) s).2 Reader.empty _ ⟨none, -1⟩
    (parseAll_wf cfg.hasEx (s.length + 1) s) (by simp [InvT, Reader.empty])
  simp only [messages, List.map_map]
  exact this

end Tw.Teehistorian
