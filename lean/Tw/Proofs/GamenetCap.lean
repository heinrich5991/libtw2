import Tw.Model.GamenetCap
import Tw.Proofs.Gamenet

/-! C14: what the unbounded view of `encode` (`encStruct`, `encodeMsg`) writes, its execution against a buffer of
limited capacity (`Tw/Model/GamenetCap.lean`) writes as well if it fits, and refuses with `CapacityError` if not
(`structSteps_ok`, `runSteps_of_writes`).  Nothing is said of a value on which `encode` panics: the execution runs a
struct's asserts before its first write, as the generated Rust does, so the two views can name different panic sites. -/
namespace Tw.Gamenet

/-- `none` if the list holds a failed assert (`panic`) or a `capacity` step -/
def writesOf : List Step → Option (List UInt8)
  | [] => some []
  | .write bs :: rest => (writesOf rest).map (bs ++ ·)
  | _ :: _ => none

theorem writesOf_append {a b : List Step} {x y : List UInt8} (ha : writesOf a = some x) (hb : writesOf b = some y) :
    writesOf (a ++ b) = some (x ++ y) := by
  induction a generalizing x with
  | nil => simp [writesOf] at ha; subst ha; simpa using hb
  | cons s rest ih =>
    cases s with
    | write bs =>
      simp only [writesOf, Option.map_eq_some_iff] at ha
      obtain ⟨z, hz, rfl⟩ := ha
      simp [writesOf, ih hz]
    | panic _ => simp [writesOf] at ha
    | capacity => simp [writesOf] at ha

theorem runSteps_writes_acc (cap : Nat) : ∀ (steps : List Step) (bs acc : List UInt8), acc.length ≤ cap →
    writesOf steps = some bs →
    runSteps cap steps acc = if acc.length + bs.length ≤ cap then .ok (acc ++ bs) else .capacity := by
  intro steps
  induction steps with
  | nil => intro bs acc ha h; simp [writesOf] at h; subst h; simp [runSteps, ha]
  | cons s rest ih =>
    intro bs acc ha h
    cases s with
    | write b =>
      simp only [writesOf, Option.map_eq_some_iff] at h
      obtain ⟨z, hz, rfl⟩ := h
      simp only [runSteps]
      split
      · rename_i hfit
        rw [ih z (acc ++ b) (by simpa using hfit) hz]
        simp only [List.length_append, List.append_assoc, Nat.add_assoc]
      · rename_i hn
        rw [if_neg]
        simp only [List.length_append]; omega
    | panic _ => simp [writesOf] at h
    | capacity => simp [writesOf] at h

theorem runSteps_of_writes (cap : Nat) {steps : List Step} {bs : List UInt8} (hs : writesOf steps = some bs) :
    runSteps cap steps [] = if bs.length ≤ cap then .ok bs else .capacity := by
  rw [runSteps_writes_acc cap _ bs [] (by simp) hs]
  simp

theorem stepsList_ok (f : Val → List Step) (g : Val → Enc) (p : Val → Bool)
    (h : ∀ v bs, g v = .ok bs → p v = true ∧ writesOf (f v) = some bs) :
    ∀ (vs : VL) (bs : List UInt8), encList g vs = .ok bs → VL.all p vs = true ∧ writesOf (stepsList f vs) = some bs
  | .nil, bs, he => by simp [encList] at he; subst he; simp [VL.all, stepsList, writesOf]
  | .cons v vs, bs, he => by
    simp only [encList] at he
    obtain ⟨x, y, hx, hy, rfl⟩ := Enc.seq_ok he
    obtain ⟨hp, hw⟩ := h v x hx
    obtain ⟨hps, hws⟩ := stepsList_ok f g p h vs y hy
    exact ⟨by simp [VL.all, hp, hps], by simp only [stepsList]; exact writesOf_append hw hws⟩

theorem stepsM_leaf {t : MT} (hl : leaf t = true) {v : Val} {bs : List UInt8} (h : encM t v = .ok bs) :
    assertM t v = true ∧ writesOf (stepsM t v) = some bs := by
  cases t with
  | int32 min max =>
    cases v <;> simp only [encM, reduceCtorEq] at h
    split at h
    · cases h
    · split at h
      · rename_i hc; cases h; simp [assertM, hc, stepsM, writesOf]
      · cases h
  | string strict =>
    cases v <;> simp only [encM, reduceCtorEq] at h
    split at h
    · cases h
    · rename_i hc
      split at h
      · cases h
      · rename_i hn
        cases h
        rw [Bool.not_eq_true] at hc hn
        simp [assertM, hc, stepsM, hn, writesOf]
  | boolean | rest | serverinfoClient =>
    cases v <;> simp only [encM, reduceCtorEq] at h
    cases h
    simp [assertM, stepsM, writesOf]
  | enum | flags | tick | tuneParam | int32String | beUint16 | uint8 | raw | packedAddresses | data =>
    cases v <;> simp only [encM, encInt, reduceCtorEq] at h
    split at h
    · cases h; simp [assertM, stepsM, writesOf, *]
    · cases h
  | optional | array | object | twString => simp [leaf] at hl

theorem stepsM_stepsMs_ok :
    (∀ (t : MT) (v : Val) (bs : List UInt8), encM t v = .ok bs →
      assertM t v = true ∧ writesOf (stepsM t v) = some bs) ∧
    ∀ (ms : ML) (vs : VL) (bs : List UInt8), encMs ms vs = .ok bs →
      assertMs ms vs = true ∧ writesOf (stepsMs ms vs) = some bs := by
  refine descr_induct ⟨fun t hl v bs h => stepsM_leaf hl h, ?_, ?_, ?_, ?_, ?_, ?_⟩
  · intro t ih v bs h
    cases v <;> simp only [encM, reduceCtorEq] at h
    · cases h; simp [assertM, stepsM, writesOf]
    · simpa [assertM, stepsM] using ih _ bs h
  · intro n t ih v bs h
    cases v <;> simp only [encM, reduceCtorEq] at h
    split at h
    · simpa [assertM, stepsM] using stepsList_ok (stepsM t) (encM t) (assertM t) ih _ bs h
    · cases h
  · intro n _ v bs h
    cases v <;> simp only [encM, reduceCtorEq] at h
    split at h
    · refine ⟨by simp [assertM], ?_⟩
      simp only [stepsM]
      refine (stepsList_ok _ _ (fun _ => true) ?_ _ bs h).2
      intro v bs hv
      cases v <;> simp only [encInt, reduceCtorEq] at hv
      split at hv
      · cases hv; simp [writesOf]
      · cases hv
    · cases h
  · intro ms ih v bs h
    cases v <;> simp only [encM, reduceCtorEq] at h
    obtain ⟨hg, he⟩ := guardWrap_ok h
    obtain ⟨ha, hw⟩ := ih _ bs he
    exact ⟨by simp [assertM], by simpa only [stepsM, ha, hg, Bool.and_self, if_true, List.nil_append] using hw⟩
  · intro vs bs h
    cases vs <;> simp only [encMs, reduceCtorEq] at h
    cases h
    simp [assertMs, stepsMs, writesOf]
  · intro t ms iht ihl vs bs h
    cases vs <;> simp only [encMs, reduceCtorEq] at h
    obtain ⟨x, y, hx, hy, rfl⟩ := Enc.seq_ok h
    obtain ⟨ha₁, hw₁⟩ := iht _ x hx
    obtain ⟨ha₂, hw₂⟩ := ihl _ y hy
    exact ⟨by simp [assertMs, ha₁, ha₂], by simp only [stepsMs]; exact writesOf_append hw₁ hw₂⟩

theorem stepsM_ok : ∀ (t : MT) (v : Val) (bs : List UInt8), encM t v = .ok bs →
    assertM t v = true ∧ writesOf (stepsM t v) = some bs :=
  stepsM_stepsMs_ok.1

theorem stepsMs_ok : ∀ (ms : ML) (vs : VL) (bs : List UInt8), encMs ms vs = .ok bs →
    assertMs ms vs = true ∧ writesOf (stepsMs ms vs) = some bs :=
  stepsM_stepsMs_ok.2

theorem structSteps_ok {ms : ML} {vs : VL} {bs : List UInt8} (h : encStruct ms vs = .ok bs) :
    writesOf (structSteps ms vs) = some bs := by
  obtain ⟨hg, he⟩ := guardWrap_ok h
  obtain ⟨ha, hw⟩ := stepsMs_ok ms vs bs he
  simpa only [structSteps, ha, hg, Bool.and_self, if_true, List.nil_append] using hw

end Tw.Gamenet
