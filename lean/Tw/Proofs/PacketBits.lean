/-! Generic bit-field lemmas for the header codecs: masks and shifts as division and remainder; the `join_*` lemmas
read a byte as two digits `a * n + b` with `b < n`. -/
namespace Tw.PacketBits

theorem and_mask_shr (x lo w : Nat) : (x &&& ((2 ^ w - 1) <<< lo)) >>> lo = x / 2 ^ lo % 2 ^ w := by
  apply Nat.eq_of_testBit_eq
  intro i
  simp only [Nat.testBit_shiftRight, Nat.testBit_and, Nat.testBit_shiftLeft, Nat.testBit_two_pow_sub_one,
    Nat.testBit_mod_two_pow, Nat.testBit_div_two_pow]
  by_cases h : i < w <;> simp [h, Nat.add_comm]

theorem and_mask (x lo w : Nat) : x &&& ((2 ^ w - 1) <<< lo) = (x / 2 ^ lo % 2 ^ w) * 2 ^ lo := by
  apply Nat.eq_of_testBit_eq
  intro i
  rw [← Nat.shiftLeft_eq]
  simp only [Nat.testBit_and, Nat.testBit_shiftLeft, Nat.testBit_two_pow_sub_one,
    Nat.testBit_mod_two_pow, Nat.testBit_div_two_pow]
  by_cases h : lo ≤ i
  · have : lo + (i - lo) = i := by omega
    by_cases h2 : i - lo < w <;> simp [h, h2]
  · simp [h]

theorem mul_pow_or (a i b : Nat) (h : b < 2 ^ i) : a * 2 ^ i ||| b = a * 2 ^ i + b := by
  rw [← Nat.shiftLeft_eq, Nat.shiftLeft_add_eq_or_of_lt h]

theorem or_mul_pow (a i b : Nat) (h : b < 2 ^ i) : b ||| a * 2 ^ i = a * 2 ^ i + b := by
  rw [Nat.or_comm, mul_pow_or a i b h]

theorem join_div (a b n : Nat) (h : b < n) : (a * n + b) / n = a := by
  rw [Nat.mul_comm, Nat.mul_add_div (Nat.zero_lt_of_lt h), Nat.div_eq_of_lt h, Nat.add_zero]

theorem join_mod (a b n : Nat) (h : b < n) : (a * n + b) % n = b := by
  rw [Nat.mul_comm, Nat.mul_add_mod, Nat.mod_eq_of_lt h]

theorem join_div_mod (x n m : Nat) : x / n % m * n + x % n = x % (n * m) := by
  rw [Nat.mod_mul, Nat.add_comm, Nat.mul_comm]

theorem split_digit (y k n : Nat) : y * n = y / k * (k * n) + y % k * n := by
  conv => lhs; rw [← Nat.div_add_mod' y k]
  rw [Nat.add_mul, Nat.mul_assoc]

theorem join_lt (a b n m : Nat) (ha : a < m) (hb : b < n) : a * n + b < m * n :=
  Nat.lt_of_lt_of_le (Nat.add_lt_add_left hb _) (by rw [← Nat.succ_mul]; exact Nat.mul_le_mul_right n ha)

/-- The two parts may overlap (`a < b`), as the sequence bits 6 and 7, stored twice in the 0.6 vital chunk header, do. -/
theorem div_mul_or_mod (x a b : Nat) (h : a ≤ b) : x / 2 ^ a * 2 ^ a ||| x % 2 ^ b = x := by
  apply Nat.eq_of_testBit_eq
  intro i
  rw [← Nat.shiftRight_eq_div_pow, ← Nat.shiftLeft_eq, Nat.testBit_or, Nat.testBit_shiftLeft,
    Nat.testBit_shiftRight, Nat.testBit_mod_two_pow]
  by_cases hi : a ≤ i
  · simp [hi, Nat.add_sub_cancel' hi]
  · have : i < b := by omega
    simp [hi, this]

theorem or_and_self (x m : Nat) : x ||| (x &&& m) = x := by
  apply Nat.eq_of_testBit_eq
  intro i
  cases h : x.testBit i <;> simp [h]

theorem mul_pow_or_div (a b k : Nat) : (a * 2 ^ k ||| b) / 2 ^ k = a ||| b / 2 ^ k := by
  rw [← Nat.shiftLeft_eq, ← Nat.shiftRight_eq_div_pow, ← Nat.shiftRight_eq_div_pow,
    Nat.shiftRight_or_distrib, Nat.shiftLeft_shiftRight]

theorem or_mul_pow_distrib (a b k : Nat) : a * 2 ^ k ||| b * 2 ^ k = (a ||| b) * 2 ^ k := by
  rw [← Nat.shiftLeft_eq, ← Nat.shiftLeft_eq, ← Nat.shiftLeft_eq, Nat.shiftLeft_or_distrib]

theorem or_high (x y d k : Nat) (hd : d < 2 ^ k) :
    (x * 2 ^ k + d) ||| (y * 2 ^ k) = (x ||| y) * 2 ^ k + d := by
  rw [← mul_pow_or x k d hd, Nat.or_comm (x * 2 ^ k) d, Nat.or_assoc, or_mul_pow_distrib, Nat.or_comm,
    mul_pow_or _ k d hd]

theorem and_clear_other (x m k : Nat) (hk : (255 - m) &&& k = k) : (x &&& (255 - m)) &&& k = x &&& k := by
  rw [Nat.and_assoc, hk]

theorem and_3 (x : Nat) : x &&& 3 = x % 4 := Nat.and_two_pow_sub_one_eq_mod x 2
theorem and_15 (x : Nat) : x &&& 15 = x % 16 := Nat.and_two_pow_sub_one_eq_mod x 4
theorem and_63 (x : Nat) : x &&& 63 = x % 64 := Nat.and_two_pow_sub_one_eq_mod x 6
theorem and_255 (x : Nat) : x &&& 255 = x % 256 := Nat.and_two_pow_sub_one_eq_mod x 8
theorem and_12 (x : Nat) : x &&& 12 = x / 4 % 4 * 4 := and_mask x 2 2
theorem and_32 (x : Nat) : x &&& 32 = x / 32 % 2 * 32 := and_mask x 5 1
theorem and_48 (x : Nat) : x &&& 48 = x / 16 % 4 * 16 := and_mask x 4 2
theorem and_60 (x : Nat) : x &&& 60 = x / 4 % 16 * 4 := and_mask x 2 4
theorem and_192 (x : Nat) : x &&& 192 = x / 64 % 4 * 64 := and_mask x 6 2
theorem and_240 (x : Nat) : x &&& 240 = x / 16 % 16 * 16 := and_mask x 4 4
theorem and_768 (x : Nat) : x &&& 768 = x / 256 % 4 * 256 := and_mask x 8 2
theorem and_960 (x : Nat) : x &&& 960 = x / 64 % 16 * 64 := and_mask x 6 4
theorem and_1008 (x : Nat) : x &&& 1008 = x / 16 % 64 * 16 := and_mask x 4 6
theorem and_4032 (x : Nat) : x &&& 4032 = x / 64 % 64 * 64 := and_mask x 6 6
theorem and_243 (x : Nat) : x &&& 243 = x / 16 % 16 * 16 + x % 4 := by
  have : (243 : Nat) = 240 ||| 3 := by decide
  rw [this, Nat.and_or_distrib_left, and_240, and_3, mul_pow_or _ 4 _ (by omega)]
end Tw.PacketBits
