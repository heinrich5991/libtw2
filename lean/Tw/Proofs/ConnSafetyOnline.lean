import Tw.Proofs.ConnSafetyAbs
import Tw.Proofs.Conn6
import Tw.Proofs.Conn7

/-! C01 for the online cores alone (`Tw.NetSim.Core.Sys`), as an instance of the protocol-independent layer: `absSys s x`
is the `AEnd` view of endpoint `x`; `CInv` is `AInv` of the two views together with the one fact the stamp guard of
`Core.step` is measured against (`Stamps`).  Every move is one of `AInv.act_send`, `act_ack`, `act_recv` (`step_cinv`). -/
namespace Tw.NetSim.Core
open Tw.Conn Tw.Time Tw.NetSim

def ent (p : Stamped) : AEnt := ⟨p.pkt.ack, p.pkt.chunks, p.nSelf, p.dSelf⟩

def absSys (s : Sys) (x : Bool) : AEnd := ⟨some (s.ep x), (s.net x).map ent, s.sub x, s.nvSub x, s.del x, s.nvDel x⟩

/-- what the stamp guard (`h2Limit`) is measured against -/
def Stamps (s : Sys) : Prop := ∀ x, ∀ p ∈ s.net x, p.nPeer ≤ (s.sub (!x)).length ∧ p.nPeer ≤ p.dSelf + 512

structure CInv (cfg : Cfg) (s : Sys) : Prop where
  ainv : AInv cfg (absSys s true) (absSys s false)
  stamps : Stamps s

theorem CInv.side {cfg : Cfg} {s : Sys} (h : CInv cfg s) (z : Bool) : AInv cfg (absSys s z) (absSys s (!z)) := by
  cases z
  · exact h.ainv.symm
  · exact h.ainv

theorem Sys.init_cinv (cfg : Cfg) : CInv cfg Sys.init := ⟨AInv.init cfg, fun _ _ hp => nomatch hp⟩

@[simp] theorem upd_same {α : Type} (f : Bool → α) (x : Bool) (v : α) : upd f x v x = v := by simp [upd]
@[simp] theorem upd_not {α : Type} (f : Bool → α) (x : Bool) (v : α) : upd f x v (!x) = f (!x) := by
  cases x <;> simp [upd]
@[simp] theorem upd_not' {α : Type} (f : Bool → α) (x : Bool) (v : α) : upd f (!x) v x = f x := by
  cases x <;> simp [upd]

theorem ent_stamp (s : Sys) (z : Bool) (fl : List Flushed) : (stamp s z fl).map ent = astamp (absSys s z) fl := by
  simp [stamp, astamp, ent, absSys, Function.comp_def]

/-- a move by `z` that leaves the peer as it is, and appends `stamp s z fl` to `z`'s history and `ext` to its
submissions: `CInv` again once `AInv` is shown for `z`'s new view -/
theorem CInv.moved {cfg : Cfg} {s s' : Sys} (h : CInv cfg s) (z : Bool) (fl : List Flushed) (ext : List Bytes)
    (hother : absSys s' (!z) = absSys s (!z)) (hnet : s'.net z = s.net z ++ stamp s z fl)
    (hsub : s'.sub z = s.sub z ++ ext) (hnp : s'.net (!z) = s.net (!z)) (hsp : s'.sub (!z) = s.sub (!z))
    (ha : AInv cfg (absSys s' z) (absSys s (!z))) : CInv cfg s' := by
  constructor
  · rw [← hother] at ha
    cases z
    · exact ha.symm
    · exact ha
  · have hw := (h.side z).2.win
    have key : ∀ x, x = z ∨ x = !z := fun x => by cases x <;> cases z <;> simp
    intro x p hp
    rcases key x with rfl | rfl
    · rw [hnet] at hp
      rw [hsp]
      rcases List.mem_append.mp hp with hp | hp
      · exact h.stamps _ p hp
      · simp only [stamp, List.mem_map] at hp
        obtain ⟨f, _, rfl⟩ := hp
        exact ⟨Nat.le_refl _, hw⟩
    · rw [hnp] at hp
      obtain ⟨a, b⟩ := h.stamps _ p hp
      simp only [Bool.not_not] at a ⊢
      rw [hsub, List.length_append]
      exact ⟨by omega, b⟩

theorem step_cinv {cfg : Cfg} (hc : cfg.Ok) {s s' : Sys} (h : CInv cfg s) (m : Move)
    (he : step cfg s m = some s') : CInv cfg s' := by
  cases m with
  | flush z =>
    simp only [step] at he
    cases he
    obtain ⟨a, b, c⟩ := ((h.side z).1.snd _ rfl).flush
    refine h.moved z (s.ep z).flush.2 [] (by simp [absSys]) (by simp) (by simp) (by simp) rfl ?_
    exact (h.side z).act_send rfl [] [] _ (by simp [absSys]) (by simp [absSys, ent_stamp]) (by simp [absSys])
      (by simp [absSys]) rfl rfl (by simpa using a) b c
  | resend z =>
    simp only [step] at he
    split at he
    · cases he
    · rename_i o snd fl hr
      cases he
      obtain ⟨a, b, c⟩ := ((h.side z).1.snd _ rfl).resend hc hr
      refine h.moved z fl [] (by simp [absSys]) (by simp) (by simp) (by simp) rfl ?_
      exact (h.side z).act_send rfl [] [] fl (by simp [absSys]) (by simp [absSys, ent_stamp]) (by simp [absSys])
        (by simp [absSys]) rfl rfl (by simpa using a) b c
  | send z data vital =>
    simp only [step] at he
    split at he
    · cases he
    · rename_i hguard
      split at he
      · cases he
      · cases he; exact h
      · rename_i o fl hs
        cases he
        rcases ((h.side z).1.snd _ rfl).send hs with ⟨hr, _, _⟩ | ⟨_, hfl, hack, hnv, hv⟩
        · cases hr
        · cases vital with
          | false =>
            refine h.moved z fl [] (by simp [absSys]) (by simp) (by simp) (by simp) rfl ?_
            exact (h.side z).act_send rfl [] [data] fl (by simp [absSys]) (by simp [absSys, ent_stamp])
              (by simp [absSys]) (by simp [absSys]) rfl rfl (by simpa using hnv rfl) hfl hack
          | true =>
            have hq : (s.ep z).resendQueue.length < 512 := by
              simp [h1Limit] at hguard
              omega
            refine h.moved z fl [data] (by simp [absSys]) (by simp) (by simp) (by simp) (by simp) ?_
            exact (h.side z).act_send rfl [data] [] fl (by simp [absSys]) (by simp [absSys, ent_stamp])
              (by simp [absSys]) (by simp [absSys]) rfl rfl (by simpa using hv rfl hq) hfl hack
  | deliver z i =>
    simp only [step] at he
    split at he
    · cases he
    · rename_i p hp
      split at he
      · cases he
      · rename_i hguard
        simp only [h2Limit, ge_iff_le, not_or, Nat.not_le] at hguard
        have hpm : p ∈ s.net (!z) := List.mem_of_getElem? hp
        have hem : ent p ∈ (absSys s (!z)).out := List.mem_map_of_mem hpm
        obtain ⟨sp1, sp2⟩ := h.stamps _ p hpm
        simp only [Bool.not_not] at sp1
        obtain ⟨pn1, pn2, _⟩ := (h.side z).2.net _ hem
        have hdle := (h.side z).2.dle
        split at he
        · cases he
        · rename_i o1 hfa
          split at he
          · cases he
          · rename_i o2 snd2 fl evs hrc
            cases he
            obtain ⟨ea, ed⟩ := (h.side z).1.acks _ hem
            have hwin : (s.sub z).length < p.dSelf + 1024 := by have := hguard.2; omega
            -- the ack, then the chunks, each under the H2 of the general layer (read off the stamp guard)
            have h1 := (h.side z).act_ack (x' := ⟨some o1, (s.net z).map ent, s.sub z, s.nvSub z, s.del z, s.nvDel z⟩)
              hem rfl hfa
              (by rw [unwrap_eq (Nat.le_refl _) (Nat.lt_add_of_pos_right (by decide)) ea]; exact hwin)
              rfl rfl rfl rfl rfl rfl
            refine h.moved z fl [] (by simp [absSys]) (by simp) (by simp) (by simp) rfl ?_
            refine h1.act_recv hc hem rfl hrc ?_ (by simp [absSys]) (by simp [absSys, ent_stamp]; rfl)
              (by simp [absSys]) (by simp [absSys]) (by simp [absSys]) (by simp [absSys])
            intro c hcm sq r hv
            obtain ⟨k, k1, k2, k3⟩ := pn2 c hcm sq r hv
            rw [unwrap_eq (q := k + 1) (by omega) (by omega) k3.2]
            show (s.del z).length + 1 < _
            have : (s.del z).length ≤ (s.sub (!z)).length := hdle
            have : p.nSelf ≤ k + 767 := k2
            omega

theorem run_cinv {cfg : Cfg} (hc : cfg.Ok) : ∀ (ms : List Move) (s s' : Sys), CInv cfg s →
    run cfg s ms = some s' → CInv cfg s' := by
  intro ms
  induction ms with
  | nil => intro s s' h he; cases he; exact h
  | cons m ms ih =>
    intro s s' h he
    simp only [run] at he
    split at he
    · cases he
    · rename_i s1 hs
      exact ih s1 s' (step_cinv hc h m hs) he

/-- **prefix theorem (online phase)**: for every admissible schedule from two fresh online endpoints,
in both directions, what was handed over is a prefix of what was submitted -/
theorem online_vital_prefix (cfg : Cfg) (hc : cfg.Ok) (ms : List Move) (s : Sys)
    (h : run cfg Sys.init ms = some s) (x : Bool) : s.del (!x) <+: s.sub x :=
  (AInv.safe ((run_cinv hc ms _ s (Sys.init_cinv cfg) h).side x)).1

theorem online_vital_prefix6 (ms : List Move) (s : Sys) (h : run Tw.Conn6.cfg Sys.init ms = some s)
    (x : Bool) : s.del (!x) <+: s.sub x := online_vital_prefix _ Tw.Conn6.cfg_ok ms s h x

theorem online_vital_prefix7 (ms : List Move) (s : Sys) (h : run Tw.Conn7.cfg Sys.init ms = some s)
    (x : Bool) : s.del (!x) <+: s.sub x := online_vital_prefix _ Tw.Conn7.cfg_ok ms s h x

theorem online_counters (cfg : Cfg) (hc : cfg.Ok) (ms : List Move) (s : Sys)
    (h : run cfg Sys.init ms = some s) (x : Bool) :
    (s.ep (!x)).ack = (s.del (!x)).length % 1024 ∧ (s.ep x).sequence = (s.sub x).length % 1024 := by
  have d := ((run_cinv hc ms _ s (Sys.init_cinv cfg) h).side x).1
  exact ⟨d.rcv _ rfl, (d.snd _ rfl).seq⟩

theorem online_nonvital_membership (cfg : Cfg) (hc : cfg.Ok) (ms : List Move) (s : Sys)
    (h : run cfg Sys.init ms = some s) (x : Bool) : ∀ d ∈ s.nvDel (!x), d ∈ s.nvSub x :=
  ((run_cinv hc ms _ s (Sys.init_cinv cfg) h).side x).1.nvd

/-! ## Non-vacuity: an admissible schedule with loss, duplication and reordering; the guards are
decidable and the statement computes -/

def demo : List Move :=
  [.send true [1] true, .send true [2] true, .flush true, .send true [3] true, .send true [9] false, .flush true,
   .deliver false 1,      -- second datagram first: chunk 3 is from the future, a resend is requested
   .deliver false 1,      -- duplicate
   .flush false,
   .deliver true 0,       -- the resend request reaches the sender: it resends everything
   .flush true,
   .deliver false 2,      -- the resent chunks arrive
   .deliver false 0]      -- the delayed first datagram: all in the past

example : (run Tw.Conn6.cfg Sys.init demo).map (fun s => (s.del false, s.sub true, s.nvDel false)) =
    some ([[1], [2], [3]], [[1], [2], [3]], [[9], [9]]) := by decide +kernel

example : Tw.Conn6.cfg.Ok ∧ Tw.Conn7.cfg.Ok := ⟨Tw.Conn6.cfg_ok, Tw.Conn7.cfg_ok⟩

end Tw.NetSim.Core
