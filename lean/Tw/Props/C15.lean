import Tw.Model.Demo
import Tw.Proofs.Demo
import Tw.Model.DemoHl
import Tw.Proofs.DemoHl
import Tw.Proofs.DemoHistory
import Tw.Proofs.DemoTotal
import Tw.Proofs.DemoNoPanic
import Tw.Gen.Demo

/-!
# C15 — a recorded demo plays back what was recorded

Property theorems only (helper lemmas and the specification vocabulary — `HuffmanRoundTrip`,
`HeaderArgs.wf`, `HeaderArgs.info`, `Chunk.inRange`, `ChunkHeader.inRange` — live in
`Tw/Proofs/Demo.lean`, those of the typed level in `DemoHl.lean`, `DemoItems.lean`, `DemoNoPanic.lean`).
The model is `Tw/Model/Demo.lean`; it is tied to `demo/src/format.rs`,
`writer.rs`, `reader.rs` by the `demo` correspondence domain (real `Writer` into memory, real `Reader`
back, plus a malformed stream) and by the ties below.

A file is a `List UInt8`; an `i32` is an `Int` satisfying `inI32`; `WResult.panic` is a Rust panic
(the writer's way of refusing), `readFile … = none` a header the reader refuses.

The Huffman round trip of the built-in table (`HuffmanRoundTrip` in the helper lemmas) is discharged
by C07 (`Tw.Huffman.decompress_compress` with the kernel-checked `wellFormed_table`):
`Tw.Demo.huffmanRoundTrip`.  No theorem below carries a Huffman hypothesis.
-/
namespace Tw.Props.C15
open Tw.Demo
open Tw.Packer (inI32)
open Tw.DemoHl Tw.Snap

/-! ## Ties to the source -/

/-- The flag and mask constants of `format.rs` are the ones in `doc/demo.md` (the bit-field lemmas of
`Proofs/Demo.lean` are re-checked against the regenerated values on every run; this theorem names
them). -/
theorem tie_consts :
    Tw.Gen.Demo.MAX_SNAPSHOT_SIZE = 65536
    ∧ Tw.Gen.Demo.CHUNKTYPEFLAG_TICKMARKER = 0x80 ∧ Tw.Gen.Demo.CHUNKTICKFLAG_KEYFRAME = 0x40
    ∧ Tw.Gen.Demo.CHUNKTICKFLAG_INLINETICK = 0x20 ∧ Tw.Gen.Demo.CHUNKTICKMASK_TICK_V3 = 0x3f
    ∧ Tw.Gen.Demo.CHUNKTICKMASK_TICK_V5 = 0x1f ∧ Tw.Gen.Demo.CHUNKMASK_TYPE = 0x60
    ∧ Tw.Gen.Demo.CHUNKMASK_SIZE = 0x1f ∧ Tw.Gen.Demo.CHUNKTYPE_UNKNOWN = 0
    ∧ Tw.Gen.Demo.CHUNKTYPE_SNAPSHOT = 0x20 ∧ Tw.Gen.Demo.CHUNKTYPE_MESSAGE = 0x40
    ∧ Tw.Gen.Demo.CHUNKTYPE_SNAPSHOTDELTA = 0x60 ∧ Tw.Gen.Demo.CHUNKSIZE_ONEBYTEFOLLOWS = 30
    ∧ Tw.Gen.Demo.CHUNKSIZE_TWOBYTESFOLLOW = 31 :=
  ⟨rfl, rfl, rfl, rfl, rfl, rfl, rfl, rfl, rfl, rfl, rfl, rfl, rfl, rfl⟩

/-- The comparisons of the chunk header codec that are not named constants, in a normal form that a
behaviour-preserving rewrite keeps (right-hand sides resolved to numbers, `x < n` as `x <= n-1`,
`size.try_u8()` as `size <= 255`): the reader's over-long tests (`size <= 29` in the one-byte form,
`size <= 254` in the two-byte form), the writer's branches (`size <= 29` inline, `size <= 255` one byte,
else two bytes; what is or-ed into the kind flag: the size, 30, 31), `TickMarker::new` (assertion
`tick > p`; inline iff `!keyframe` and `tick.checked_sub(p) <= max_tick_delta`), the versions and their
inline-delta limits, the writer's versions. -/
theorem tie_codec :
    Tw.Gen.Demo.read_overlong_le = [29, 254]
    ∧ Tw.Gen.Demo.write_size_le = [29, 255]
    ∧ Tw.Gen.Demo.write_size_marks = [-1, 30, 31]
    ∧ Tw.Gen.Demo.tick_marker_asserts = ["tick>p"]
    ∧ Tw.Gen.Demo.tick_inline_test = (true, true, 0)
    ∧ Tw.Gen.Demo.versions = [("V3", 3), ("V4", 4), ("V5", 5), ("V6Ddnet", 6)]
    ∧ Tw.Gen.Demo.max_tick_delta = [("V3", "CHUNKTICKMASK_TICK_V3"), ("V4", "CHUNKTICKMASK_TICK_V3"),
        ("V5", "CHUNKTICKMASK_TICK_V5"), ("V6Ddnet", "CHUNKTICKMASK_TICK_V5")]
    ∧ Tw.Gen.Demo.WRITER_VERSION = "V5" ∧ Tw.Gen.Demo.WRITER_VERSION_DDNET = "V6Ddnet" :=
  ⟨rfl, rfl, rfl, rfl, rfl, rfl, rfl, rfl, rfl⟩

/-- The file header layout declared through `binrw`: field order and types, big-endian, the
version conditions of the optional blocks, the assertions, the magic strings and the digest
extension UUID. -/
theorem tie_header :
    Tw.Gen.Demo.fields_HeaderStart = [("version", "Version"), ("header", "Header"),
        ("timeline_markers", "TimelineMarkers"), ("map_sha256", "Option<MapSha256>"), ("map", "Vec<u8>")]
    ∧ Tw.Gen.Demo.fields_Header = [("net_version", "CappedString<64>"), ("map_name", "CappedString<64>"),
        ("map_size", "i32"), ("map_crc", "u32"), ("kind", "DemoKind"), ("length", "i32"),
        ("timestamp", "CappedString<20>")]
    ∧ Tw.Gen.Demo.fields_TimelineMarkers = [("amount", "i32"), ("markers", "[i32; 64]")]
    ∧ Tw.Gen.Demo.fields_MapSha256 = [("_uuid", "[u8; 16]"), ("sha_256", "[u8; 32]")]
    ∧ Tw.Gen.Demo.header_conditions = [("timeline_markers", "version >= Version::V4"),
        ("map_sha256", "version == Version::V6Ddnet")]
    ∧ Tw.Gen.Demo.header_asserts = ["map_size >= 0", "length >= 0", "amount >= 0", "amount <= 64",
        "_uuid == SHA_256_EXTENSION"]
    ∧ Tw.Gen.Demo.header_big_endian = true
    ∧ Tw.Gen.Demo.from_raw_assert = "raw.len()<N"
    ∧ Tw.Gen.Demo.MAGIC = [84, 87, 68, 69, 77, 79, 0]
    ∧ Tw.Gen.Demo.KIND_CLIENT = [99, 108, 105, 101, 110, 116, 0, 0]
    ∧ Tw.Gen.Demo.KIND_SERVER = [115, 101, 114, 118, 101, 114, 0, 0]
    ∧ Tw.Gen.Demo.SHA_256_EXTENSION.length = 16 :=
  ⟨rfl, rfl, rfl, rfl, rfl, rfl, rfl, rfl, rfl, rfl, rfl, rfl⟩

/-- The payload pipeline and the limits of writer and reader: 4-byte little-endian groups, plain
`compress`, the writer's assertions/`expect`s, the reader's tick test `previous >= t`. -/
theorem tie_pipeline :
    Tw.Gen.Demo.lits_write_message = [4, 0, 0, 1, 2, 3] ∧ Tw.Gen.Demo.write_message_le = true
    ∧ Tw.Gen.Demo.writer_compress_plain = true
    ∧ Tw.Gen.Demo.lits_read_chunk = [4] ∧ Tw.Gen.Demo.read_chunk_le = true
    ∧ Tw.Gen.Demo.read_tick_test = ">="
    ∧ Tw.Gen.Demo.writer_asserts = ["new: length >= 0", "write_chunk_impl: data.len() <= MAX_SNAPSHOT_SIZE",
        "write_chunk_impl: expect too long compression", "write_message: msg.len() <= MAX_SNAPSHOT_SIZE",
        "write_message: expect overlong message"] :=
  ⟨rfl, rfl, rfl, rfl, rfl, rfl, rfl⟩

/-! ## (1) the chunk header codec -/

/-- Encoding and decoding of chunk headers are inverse for every in-range value — an inline tick
delta `≤ 31` without key-frame flag, an absolute `i32` tick with either flag, every data kind with
every size `< 65536` (all three size encodings) — in both file versions the writer produces and in
front of any continuation `rest`, which is returned untouched; the only warning is the one for the
`Unknown` kind. -/
theorem chunk_header_roundtrip (v : Version) (hv : v.num ≥ 5) (h : ChunkHeader) (bs rest : List UInt8)
    (hr : h.inRange) (hw : h.write = some bs) :
    readChunkHeader v (bs ++ rest) = .ok h rest h.readWarnings :=
  readChunkHeader_write v hv h bs rest hr hw

/-- The header encoder is defined (does not hit its assertions) on every data header, on every
absolute tick, and on the inline deltas `≤ 31` without the key-frame flag — exactly what
`TickMarker::new` produces. -/
theorem chunk_header_write_defined (k : DataKind) (n : Nat) (t : Int) (kf : Bool) (d : Nat) (hd : d ≤ 31) :
    (∃ bs, (ChunkHeader.data k n).write = some bs)
    ∧ (∃ bs, (ChunkHeader.tick (.absolute t) kf).write = some bs)
    ∧ (∃ bs, (ChunkHeader.tick (.delta d) false).write = some bs) :=
  have : d ≤ writerVersion.maxTickDelta ∧ false = false := ⟨hd, rfl⟩
  ⟨data_header_writes k n, ⟨_, rfl⟩, _, if_pos this⟩

/-! ## (2) the file header -/

/-- The header written by `Writer::new` is read back field by field — version 6 exactly when a
digest was given, the strings, map size and checksum, kind, length, no timeline markers, the digest,
the map bytes — without a warning, and the reader is positioned at the first chunk (`rest`). -/
theorem header_roundtrip (a : HeaderArgs) (hwf : a.wf) (hdr rest : List UInt8)
    (henc : encodeHeader a = some hdr) :
    readHeader (hdr ++ rest) = some (a.info, rest, []) :=
  readHeader_encode a hwf hdr rest henc

/-- `Writer::new` accepts exactly: strings shorter than their capacity (63/63/19 bytes), a map
shorter than 2 GiB and a non-negative length; otherwise it panics. -/
theorem new_accepts_iff (a : HeaderArgs) :
    (Writer.new a).isSome ↔ (a.netVersion.length < 64 ∧ a.mapName.length < 64 ∧ a.timestamp.length < 20
        ∧ a.map.length < 2147483648 ∧ a.length ≥ 0) := by
  unfold Writer.new encodeHeader
  by_cases hc : a.netVersion.length < 64 ∧ a.mapName.length < 64 ∧ a.timestamp.length < 20
      ∧ a.map.length < 2147483648 ∧ a.length ≥ 0
  · simp only [hc, and_self, not_true_eq_false, if_false, Option.isSome_some]
  · simp only [hc, not_false_eq_true, if_true, Option.isSome_none, Bool.false_eq_true]

/-! ## (3) what was recorded is what is played back -/

/-- One accepted chunk, written in any writer state, is read back (messages zero-padded to a
multiple of four bytes) by a reader whose current tick is the writer's previous tick, without a
warning, leaving the reader at the following bytes with the writer's new tick. -/
theorem chunk_roundtrip (w w' : Writer) (c : Chunk) (hc : c.inRange)
    (h : w.writeChunk c = (w', .ok)) :
    ∃ enc, w'.file = w.file ++ enc ∧ 1 ≤ enc.length ∧
      ∀ (v : Version) (rest : List UInt8), v.num ≥ 5 →
        Reader.readChunk { data := enc ++ rest, version := v, currentTick := w.prevTick } =
          ({ data := rest, version := v, currentTick := w'.prevTick }, .chunk c.padded, []) :=
  writeChunk_accepted huffmanRoundTrip w w' c hc h

/-- **Round trip.** For every header the writer accepts and every chunk sequence `cs` all of whose
`write_*` calls return `Ok` — whatever the tick gaps (inline or absolute markers), key-frame flags,
payload sizes (any of the three size encodings) and message lengths — reading the written file
returns the header fields, exactly `cs` with messages zero-padded to a multiple of four, reaches the
end of the file without an error and raises no warning. -/
theorem roundtrip (a : HeaderArgs) (ha : a.wf) (cs : List Chunk)
    (hcs : ∀ c ∈ cs, c.inRange) (w0 w : Writer) (hnew : Writer.new a = some w0)
    (hw : w0.writeAll cs = (w, .ok)) :
    readFile w.file = some (a.info, cs.map Chunk.padded, [], none) := by
  obtain ⟨body, hf, hrd⟩ := writeAll_readAll huffmanRoundTrip cs w0 w hcs hw
  rw [readFile, hf, Reader.new_written a ha hnew body]
  simp only [Reader.readAll, hrd a.info.version (body.length + 1) (info_version_ge5 a) (Nat.le_refl _),
    List.nil_append]

/-- The messages come back zero-padded to the next multiple of four: same bytes, then fewer than
four zeros. -/
theorem padded_message (d : List UInt8) :
    ∃ k, k < 4 ∧ pad4 d = d ++ List.replicate k 0 ∧ (pad4 d).length % 4 = 0 := by
  fun_induction pad4 d
  · exact ⟨0, by decide, rfl, rfl⟩
  · exact ⟨3, by decide, rfl, by simp⟩
  · exact ⟨2, by decide, rfl, by simp⟩
  · exact ⟨1, by decide, rfl, by simp⟩
  · rename_i a b c d rest ih
    obtain ⟨k, hk, he, hl⟩ := ih
    refine ⟨k, hk, ?_, ?_⟩
    · simp only [List.cons_append, he]
    · simp only [List.length_cons]; omega

/-! ## (4) what the writer refuses, and that it refuses cleanly -/

/-- `write_tick` with a tick that does not exceed the previous one is refused (assertion of
`TickMarker::new`), the writer is unchanged … -/
theorem writeTick_refuses (w : Writer) (kf : Bool) (t p : Int) (hp : w.prevTick = some p) (h : t ≤ p) :
    w.writeTick kf t = (w, .panic "TickMarker::new: tick > p") :=
  Tw.Demo.writeTick_refuses w kf t p hp h

/-- … and every strictly increasing tick is accepted, whatever the gap and the key-frame flag (no
other assertion of the tick path can fail): the file grows, the previous tick is updated. -/
theorem writeTick_accepts (w : Writer) (kf : Bool) (t : Int) (h : ∀ p, w.prevTick = some p → p < t) :
    ∃ hdr, w.writeTick kf t = ({ file := w.file ++ hdr, prevTick := some t }, .ok) :=
  Tw.Demo.writeTick_accepts w kf t h

/-- A snapshot / delta payload is accepted exactly when it fits the reader's buffer (`≤ 65536`
bytes) and its compressed form fits the 16-bit size field (`≤ 65535` bytes). -/
theorem writeData_accepts_iff (w : Writer) (k : DataKind) (d : List UInt8) :
    (w.writeData k d).2 = .ok ↔
      d.length ≤ Tw.Gen.Demo.MAX_SNAPSHOT_SIZE ∧ (Tw.Huffman.compress table false d).length ≤ 65535 := by
  rcases writeData_cases w k d with ⟨h1, h2, _, _, e⟩ | ⟨hn, s, e⟩
  · rw [e]; exact ⟨fun _ => ⟨h1, h2⟩, fun _ => rfl⟩
  · rw [e]; exact ⟨nofun, fun h => absurd h hn⟩

/-- A refused call leaves the writer — the file in particular — exactly as it was: the recording
stays usable. -/
theorem refusal_leaves_writer_unchanged (w w' : Writer) (c : Chunk) (s : String)
    (h : w.writeChunk c = (w', .panic s)) : w' = w := by
  rcases writeChunk_cases w c with ⟨_, _, e, _⟩ | ⟨_, e⟩
  · exact nomatch (Prod.mk.inj (e.symm.trans h)).2
  · exact (Prod.mk.inj (e.symm.trans h)).1.symm

/-! ## (5) the high-level writer and reader (typed level)

The model (`Tw/Model/DemoHl.lean`) is the writer **as repaired** (D12, D21, D28, see `notes/demo.md`);
objects are `(type id, id, fields)`, messages their encoded bytes (the typed codecs are C14's
subject).  `DemoWriter.Inv` is the invariant of the reachable writer states. -/

/-- Ties for the high-level writer: key frame iff none yet or `tick - last_keyframe > 250`, refusal
iff `tick <= last_tick`, initial `last_tick = -1`, `write_msg` clears its buffer on entry,
`write_snap` clears, packs, and only then writes the tick marker and the data chunk, every builder
comes from a clone of the last written snap, and the DDNet object sizes. -/
theorem tie_highlevel :
    Tw.Gen.Demo.keyframe_test = (">", 250) ∧ Tw.Gen.Demo.low_tick_test = "<="
    ∧ Tw.Gen.Demo.initial_last_tick = -1 ∧ Tw.Gen.Demo.write_msg_clears_on_entry = true
    ∧ Tw.Gen.Demo.write_snap_order = ["clear", "pack", "tick", "data"]
    ∧ Tw.Gen.Demo.write_snap_builder_sources = ["self.snap.clone().recycle()",
        "self.snap.clone().recycle()", "self.snap.clone().recycle()"]
    ∧ Tw.Gen.Demo.hl_prechecks = ["write_snap: !fits_chunk", "write_msg: !fits_message"]
    ∧ Tw.Gen.Demo.fits_chunk_cond = "data.len() <= MAX_SNAPSHOT_SIZE && HUFFMAN.compressed_len(data) <= u16::MAX.usize()"
    ∧ Tw.Gen.Demo.fits_message_cond = "msg.len() <= MAX_SNAPSHOT_SIZE && self.pack_message(msg).is_ok() && Self::fits_chunk(&self.buffer2)"
    ∧ Tw.Gen.Demo.ddnet_obj_sizes = [(1, 10), (2, 6), (3, 5), (4, 4), (5, 3), (6, 8), (7, 4), (8, 15),
        (9, 22), (10, 5), (11, 17), (12, 3), (13, 2), (14, 2), (15, 2), (16, 2), (17, 3), (18, 3), (19, 3),
        (20, 3)] :=
  ⟨rfl, rfl, rfl, rfl, rfl, rfl, rfl, rfl, rfl, rfl⟩

/-- A tick number that does not strictly increase is refused with `TooLowTickNumber` — no panic —
and the writer is unchanged … -/
theorem writeSnap_refuses_low_tick (objSize : Nat → Option Nat) (w : DemoWriter) (tick : Int)
    (items : List Item) (h : tick ≤ w.lastTick) :
    w.writeSnap objSize tick items = (w, .err .tooLowTickNumber) := by
  simp [DemoWriter.writeSnap, h]

/-- … and so is it after every other refusal (`SnapBuilder(..)`, `TooLargeSnap`, `TooLongNetMsg`):
a refused call leaves the writer — file, tick state, last snapshot, builder — exactly as it was, so
later calls behave as if it had not happened. -/
theorem refused_call_leaves_writer_unchanged (objSize : Nat → Option Nat) (w w' : DemoWriter) (hinv : w.Inv)
    (e : WriteError) :
    (∀ tick items, w.writeSnap objSize tick items = (w', .err e) → w' = w)
    ∧ (∀ msg, w.writeMsg msg = (w', .err e) → w' = w) :=
  ⟨fun tick items h => writeSnap_err_unchanged objSize w w' hinv tick items e h,
   fun msg h => writeMsg_err_unchanged w w' msg e h⟩

/-- The invariant holds initially and after every accepted call with valid objects. -/
theorem writer_invariant (objSize : Nat → Option Nat) :
    (∀ (a : HeaderArgs) (w : DemoWriter), DemoWriter.new a = some w → w.Inv)
    ∧ (∀ (w w' : DemoWriter) (tick : Int) (items : List Item), w.Inv → (∀ it ∈ items, it.valid) →
        w.writeSnap objSize tick items = (w', .ok) → w'.Inv)
    ∧ (∀ (w w' : DemoWriter) (msg : List UInt8), w.Inv → w.writeMsg msg = (w', .ok) → w'.Inv) :=
  ⟨new_inv, fun w w' tick items hi hv h => writeSnap_preserves_inv objSize w w' hi tick items hv h,
   fun w w' msg hi h => writeMsg_preserves_inv w w' msg hi h⟩

/-- An accepted `write_snap` advances the tick state: the tick is recorded, and it is recorded as
the last key frame exactly when none had been written or more than 250 ticks have passed. -/
theorem accepted_snap_ticks (objSize : Nat → Option Nat) (w w' : DemoWriter) (tick : Int) (items : List Item)
    (h : w.writeSnap objSize tick items = (w', .ok)) :
    w.lastTick < tick ∧ w'.lastTick = tick
    ∧ w'.lastKeyframe = (if w.isKeyframe tick then some tick else w.lastKeyframe)
    ∧ (w.isKeyframe tick = true ↔ (w.lastKeyframe = none ∨ ∃ k, w.lastKeyframe = some k ∧ tick - k > 250)) := by
  obtain ⟨b, b', bs, inner1, ha⟩ := writeSnap_accepted objSize w w' tick items h
  exact ⟨ha.tick_lt, by rw [ha.eq], by rw [ha.eq], w.isKeyframe_iff tick⟩

/-- **Key frame.** The bytes an accepted key-frame `write_snap` appends are read back by the
high-level reader (whatever snapshot it holds) as `Tick(tick)` followed by a snapshot chunk that
reports exactly the objects of the snapshot the writer built, which becomes the reader's snapshot;
no warning. -/
theorem keyframe_roundtrip (objSize : Nat → Option Nat) (w w' : DemoWriter)
    (hinv : w.Inv) (tick : Int) (ht : inI32 tick) (items : List Item) (hv : ∀ it ∈ items, it.valid)
    (hk : w.isKeyframe tick = true) (h : w.writeSnap objSize tick items = (w', .ok)) :
    ∃ enc, w'.inner.file = w.inner.file ++ enc ∧ 2 ≤ enc.length ∧
      ∀ (v : Version) (rest : List UInt8) (s0 : Snap), v.num ≥ 5 →
        ∃ r1, DemoReader.nextChunk objSize
            { raw := { data := enc ++ rest, version := v, currentTick := w.inner.prevTick }, snap := s0 } =
              (r1, .chunk (.tick tick), []) ∧
          DemoReader.nextChunk objSize r1 =
            match snapItems w'.snap with
            | some its => ({ raw := { data := rest, version := v, currentTick := w'.inner.prevTick },
                             snap := w'.snap }, .chunk (.snapshot its), [])
            | none => (r1, .error .panic, []) :=
  have ⟨enc, hf, hl, hs⟩ := snap_step huffmanRoundTrip objSize w w' hinv tick ht items hv h
  ⟨enc, hf, hl, fun v rest s0 hv5 => hs v rest s0 hv5 (fun hf => nomatch hk.symm.trans hf)⟩

/-- **Delta.** The bytes an accepted delta `write_snap` appends are read back by a reader that holds
the writer's previous snapshot as `Tick(tick)` followed by a snapshot chunk with exactly the objects
of the writer's new snapshot.  No hypothesis on item sizes: that the call was accepted (`Delta::create`
and `Delta::write` did not panic) already implies that they agree. -/
theorem delta_roundtrip (objSize : Nat → Option Nat) (w w' : DemoWriter)
    (hinv : w.Inv) (tick : Int) (ht : inI32 tick) (items : List Item) (hv : ∀ it ∈ items, it.valid)
    (hk : w.isKeyframe tick = false) (h : w.writeSnap objSize tick items = (w', .ok)) :
    ∃ enc, w'.inner.file = w.inner.file ++ enc ∧ 2 ≤ enc.length ∧
      ∀ (v : Version) (rest : List UInt8), v.num ≥ 5 →
        ∃ r1, DemoReader.nextChunk objSize
            { raw := { data := enc ++ rest, version := v, currentTick := w.inner.prevTick }, snap := w.snap } =
              (r1, .chunk (.tick tick), []) ∧
          DemoReader.nextChunk objSize r1 =
            match snapItems w'.snap with
            | some its => ({ raw := { data := rest, version := v, currentTick := w'.inner.prevTick },
                             snap := w'.snap }, .chunk (.snapshot its), [])
            | none => (r1, .error .panic, []) :=
  have ⟨enc, hf, hl, hs⟩ := snap_step huffmanRoundTrip objSize w w' hinv tick ht items hv h
  ⟨enc, hf, hl, fun v rest hv5 => hs v rest w.snap hv5 (fun _ => rfl)⟩

/-- The objects of the snapshot an accepted `write_snap` builds — the ones the reader reports by the
two theorems above — are exactly the objects handed in: same members, whatever the order of the
iterator, for ordinal and UUID types alike. -/
theorem accepted_snapshot_objects (objSize : Nat → Option Nat) (w w' : DemoWriter) (hinv : w.Inv2) (tick : Int)
    (items : List Item) (hv : ∀ it ∈ items, it.valid)
    (h : w.writeSnap objSize tick items = (w', .ok)) :
    ∃ its, snapItems w'.snap = some its ∧ ∀ it, it ∈ its ↔ it ∈ items :=
  accepted_snap_items objSize w w' hinv.inv tick items hv h

/-- **Message.** An accepted `write_msg` is read back as the same bytes zero-padded to a multiple of
four; snapshot and tick state of writer and reader are untouched. -/
theorem message_roundtrip (objSize : Nat → Option Nat) (w w' : DemoWriter)
    (msg : List UInt8) (h : w.writeMsg msg = (w', .ok)) :
    w'.snap = w.snap ∧ w'.builder = w.builder ∧ w'.lastTick = w.lastTick ∧ w'.lastKeyframe = w.lastKeyframe ∧
    ∃ enc, w'.inner.file = w.inner.file ++ enc ∧ 1 ≤ enc.length ∧
      ∀ (v : Version) (rest : List UInt8) (s0 : Snap), v.num ≥ 5 →
        DemoReader.nextChunk objSize
            { raw := { data := enc ++ rest, version := v, currentTick := w.inner.prevTick }, snap := s0 } =
          ({ raw := { data := rest, version := v, currentTick := w'.inner.prevTick }, snap := s0 },
            .chunk (.message (pad4 msg)), []) :=
  msg_step huffmanRoundTrip objSize w w' msg h

/-- The full typed-level statement of C15: for every header the writer accepts and every history of
valid calls none of which panics, the high-level reader reports the header fields and, in order, for
each accepted `write_snap` its tick and exactly the object set handed in, for each accepted
`write_msg` its bytes zero-padded; refused calls leave no trace; the end of the file is reached
without error or warning. -/
def C15_full : Prop :=
  ∀ (objSize : Nat → Option Nat) (a : HeaderArgs) (w0 w : DemoWriter) (ops : List Op)
    (rs : List HResult), a.wf → DemoWriter.new a = some w0 → (∀ op ∈ ops, op.valid) →
    w0.run objSize ops = (w, rs) → (∀ r ∈ rs, ∀ s, r ≠ .panic s) →
    ∃ cs, readFileHl objSize w.inner.file = some (a.info, cs, [], none) ∧ chunksAgree cs (expectedChunks ops rs)

/-- **The typed-level round trip over whole histories** (`run_read` in `Proofs/DemoHistory.lean`:
induction over the history with the invariant "the reader holds the writer's last snapshot and tick"). -/
theorem typed_roundtrip : C15_full := by
  intro objSize a w0 w ops rs ha hnew hval hrun hnp
  obtain ⟨body, hf, hrd⟩ := run_read objSize ops w0 w rs (new_inv a w0 hnew) hval hrun hnp
  obtain ⟨iw, hiw, rfl⟩ := DemoWriter.new_eq hnew
  obtain ⟨cs, hc1, hc2⟩ := hrd a.info.version (body.length + 1) (info_version_ge5 a) (Nat.le_refl _)
  refine ⟨cs, ?_, hc2⟩
  rw [readFileHl, hf, Reader.new_written a ha hiw body]
  simp only [hc1, List.map_nil, List.nil_append]

/-- **`write_snap` cannot panic on typed objects** — objects whose number of fields is fixed by their
`(type, id)` (`Typed size`), with an object-size table that agrees (`ObjSizeAgrees`, true for the
DDNet table: `ddnet_table_agrees`) — in any reachable writer state (`Inv3`: the builders of
consecutive snapshots form a recycle chain, so a UUID type keeps its number (repair of D28) and
`Delta::create` sees agreeing sizes; the low-level writer's last tick is at most `last_tick`; payload
limits are checked first).  An accepted call keeps the invariant. -/
theorem writeSnap_never_panics_typed (size : TypeId → Nat → Nat) (objSize : Nat → Option Nat)
    (ho : ObjSizeAgrees size objSize) (w : DemoWriter) (hinv : w.Inv3 size) (tick : Int) (items : List Item)
    (hv : ∀ it ∈ items, it.valid) (hty : Typed size items) :
    (∀ s, (w.writeSnap objSize tick items).2 ≠ .panic s) ∧
    ((w.writeSnap objSize tick items).2 = .ok → (w.writeSnap objSize tick items).1.Inv3 size) :=
  writeSnap_no_panic size objSize ho w hinv tick items hv hty

/-- **The typed-level round trip without a no-panic hypothesis**: for every header the writer accepts
and every history of valid calls on typed objects — any `i32` ticks in any order, any object sets,
any messages — no call panics, and the reader reports the header fields and, in order, exactly the
accepted calls (ticks, object sets, padded messages) without error or warning. -/
theorem typed_roundtrip_never_panics (size : TypeId → Nat → Nat) (objSize : Nat → Option Nat)
    (ho : ObjSizeAgrees size objSize) (a : HeaderArgs) (w0 w : DemoWriter) (ops : List Op)
    (rs : List HResult) (ha : a.wf) (hnew : DemoWriter.new a = some w0) (hval : ∀ op ∈ ops, op.valid)
    (hty : ∀ op ∈ ops, op.typed size) (hrun : w0.run objSize ops = (w, rs)) :
    (∀ r ∈ rs, ∀ s, r ≠ .panic s) ∧
    ∃ cs, readFileHl objSize w.inner.file = some (a.info, cs, [], none)
      ∧ chunksAgree cs (expectedChunks ops rs) :=
  have hnp := run_no_panic size objSize ho ops w0 w rs (new_inv3 size a w0 hnew) hval hty hrun
  ⟨hnp, typed_roundtrip objSize a w0 w ops rs ha hnew hval hrun hnp⟩

/-- The DDNet object-size table satisfies `ObjSizeAgrees` for every size function that follows it on
the ordinal types it lists (all of them in `1..0x3fff`). -/
theorem ddnet_table_agrees (size : TypeId → Nat → Nat)
    (h : ∀ t n, (t, n) ∈ Tw.Gen.Demo.ddnet_obj_sizes → ∀ id, size (.ordinal t) id = n) :
    ObjSizeAgrees size ddnetObjSize := by
  intro t n hl
  obtain ⟨l₁, l₂, e, _⟩ := List.lookup_eq_some_iff.mp hl
  have hmem : (t, n) ∈ Tw.Gen.Demo.ddnet_obj_sizes := e ▸ List.mem_append_right l₁ List.mem_cons_self
  have h0 : ∀ p ∈ Tw.Gen.Demo.ddnet_obj_sizes, 0 < p.1 ∧ p.1 < 16384 := by decide
  exact ⟨(h0 _ hmem).1, (h0 _ hmem).2, h t n hmem⟩

/-- `write_msg` never panics: a message that does not fit into a chunk (encoded, packed or compressed
size) is refused with `TooLongNetMsg` before anything is written (`Writer::fits_message`, D29). -/
theorem writeMsg_never_panics (w : DemoWriter) (msg : List UInt8) (s : String) :
    (w.writeMsg msg).2 ≠ .panic s :=
  writeMsg_no_panic w msg s

/-- … for instance the 60 000-byte message of `0x80` bytes, the witness of D29: 15 000 integers of
five bytes each, 75 000 packed bytes against `MAX_SNAPSHOT_SIZE` = 65 536. -/
theorem large_message_refused (w : DemoWriter) :
    w.writeMsg (List.replicate (4 * 15000) 128) = (w, .err .tooLongNetMsg) := by
  refine ((writeMsg_cases w _).resolve_right fun h => ?_).2
  have h2 := h.1.2.1
  rw [msgInts_replicate, packInts_replicate_length] at h2
  have : (Tw.Packer.writeInt (leWord 128 128 128 128)).length = 5 := by decide
  rw [this] at h2
  revert h2
  decide

/-! ## (6) the readers are total on arbitrary bytes -/

/-- The low-level reader on **arbitrary** file bytes: it refuses the header, or returns chunks,
warnings and at most one of its own errors; the fuel of the model's loops (`read_int` loop of the
message branch, Huffman decoder, `read_chunk` loop) always suffices (`diverge` is impossible), and a
returned chunk has used at least one byte of the file.  (The model of `Reader` has no panic outcome:
its only slice index, `self.raw[..size]`, is bounded by the 16-bit size field.) -/
theorem reader_total (file : List UInt8) (r : Reader) :
    (∀ h cs ws, readFile file ≠ some (h, cs, ws, some .diverge))
    ∧ (∀ r' ws, r.readChunk ≠ (r', .error .diverge, ws))
    ∧ (∀ r' c ws, r.readChunk = (r', .chunk c, ws) → r'.data.length < r.data.length) := by
  have hp := progress_readChunk r
  refine ⟨fun h cs ws he => ?_, fun r' ws e => ?_, fun r' c ws e => ?_⟩
  · unfold readFile at he
    cases hn : Reader.new file with
    | none =>
      rw [hn] at he
      cases he
    | some t =>
      rw [hn] at he
      exact Reader.readAllGo_no_diverge _ t.1 (Nat.le_refl _) (congrArg (fun x => x.2.2.2) (Option.some.inj he))
  · rw [e] at hp; exact hp rfl
  · rw [e] at hp; exact hp

/-- The high-level reader on **arbitrary** file bytes never panics (`Snap::read`, `Delta::read`,
`read_with_delta`, the object iteration) and never runs out of fuel. -/
theorem demo_reader_total (objSize : Nat → Option Nat) (file : List UInt8) (h : HeaderInfo) (cs : List HChunk)
    (ws : List HWarning) :
    readFileHl objSize file ≠ some (h, cs, ws, some .panic)
    ∧ readFileHl objSize file ≠ some (h, cs, ws, some (.inner .diverge)) := by
  unfold readFileHl
  cases Reader.new file with
  | none => exact ⟨nofun, nofun⟩
  | some t =>
    have := DemoReader.readAllGo_total objSize (t.1.data.length + 1) { raw := t.1, snap := Snap.empty } accepted_empty
      (Nat.le_refl _)
    exact ⟨fun he => this.1 (congrArg (fun x => x.2.2.2) (Option.some.inj he)),
      fun he => this.2 (congrArg (fun x => x.2.2.2) (Option.some.inj he))⟩

/-! ## non-vacuity -/

/-- header arguments satisfying `wf` that the writer accepts -/
example : exampleArgs.wf ∧ (Writer.new exampleArgs).isSome := by
  constructor
  · refine ⟨?_, ?_, ?_, ?_, ?_, ?_⟩ <;> simp [exampleArgs, inI32]
  · rw [new_accepts_iff]; simp [exampleArgs]

/-- the hypotheses of the typed theorems are satisfiable: a size function that follows the DDNet
table, and a typed object set with an ordinal and a UUID type -/
example : ObjSizeAgrees (fun tid _ => match tid with
    | .ordinal o => (ddnetObjSize o).getD 0
    | .uuid _ => 2) ddnetObjSize := by
  apply ddnet_table_agrees
  intro t n hm id
  have : ∀ p ∈ Tw.Gen.Demo.ddnet_obj_sizes, (ddnetObjSize p.1).getD 0 = p.2 := by decide
  exact this (t, n) hm

example : Typed (fun tid _ => match tid with
    | .ordinal o => (ddnetObjSize o).getD 0
    | .uuid _ => 2) [⟨.ordinal 4, 2, [10, 20, 1, 0]⟩, ⟨.uuid 0x22ca938d13803e2b9e7bd2558ea6be11, 6, [-5, 0]⟩] := by
  intro it hit
  simp only [List.mem_cons, List.mem_nil_iff, or_false] at hit
  rcases hit with rfl | rfl
  · refine ⟨by decide, ?_⟩
    intro o ho; injection ho with ho; subst ho; decide
  · refine ⟨rfl, ?_⟩
    intro o ho; cases ho

/-- in-range headers of each shape -/
example : (ChunkHeader.tick (.delta 31) false).inRange ∧ (ChunkHeader.tick (.absolute (-5)) true).inRange
    ∧ (ChunkHeader.data .message 65535).inRange := by
  refine ⟨⟨by omega, rfl⟩, ?_, ?_⟩
  · show inI32 (-5); unfold inI32; omega
  · show 65535 < 65536; omega

/-- a tick sequence with inline and absolute markers is accepted -/
example : (Writer.writeAll { file := [], prevTick := none }
    [.tick 5 true, .tick 36 false, .tick 37 false, .tick 1000037 false]).2 = .ok := by decide

end Tw.Props.C15
