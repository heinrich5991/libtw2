import Tw.Model.ServerBrowse
import Tw.Proofs.ServerBrowse
import Tw.Proofs.ServerBrowseOrder
import Tw.Proofs.ServerBrowseMerge
import Tw.Proofs.ServerBrowseFold
import Tw.Proofs.ServerBrowseRepaired
import Tw.Proofs.ServerBrowseEncode
import Tw.Proofs.ServerBrowseLists
import Tw.Gen.Browse

/-!
# C18 — server-info parsing is total; merging parts is order-free and idempotent

The property theorems (helper lemmas: `Tw/Proofs/ServerBrowse*.lean`).  Model:
`Tw/Model/ServerBrowse.lean`, tied to `serverbrowse/src/protocol.rs` by the `browse`
correspondence domain and by the regenerated constants of `Tw/Gen/Browse.lean`.
-/
namespace Tw.Props.C18
open Tw.ServerBrowse Tw.Gen.Browse

/-! ## Parsing never panics -/

/-- The sanity checks in front of the two `1 << n` statements on the 64-bit `received` mask reject
every `n` that would overflow the shift: `packet_no` is rejected from `PACKET_NO_REJECT_FROM` on, a
client slot `j` is skipped from `SLOT_SKIP_FROM` on (both regenerated from the comparison in the
source). With the bounds `> 64` of the original code both are 65 and this is false (D9). -/
theorem guards_exclude_shift_overflow :
    PACKET_NO_REJECT_FROM ≤ RECEIVED_BITS ∧ SLOT_SKIP_FROM ≤ RECEIVED_BITS := by decide

/-- `parse_response` returns a value or nothing for every datagram. -/
theorem parseResponse_total (data : List UInt8) (site : String) : parseResponse data ≠ .panic site := by
  unfold parseResponse
  cases data with
  | nil => exact fun e => nomatch e
  | cons first rest =>
    simp only
    by_cases h04 : first.toNat = 0x04
    · rw [if_pos h04]
      by_cases hl : (first :: rest).length < TOKEN_7.length
      · rw [if_pos hl]; exact fun e => nomatch e
      · rw [if_neg hl, splitAtChecked_ok (n := 8) (Nat.le_of_not_lt hl)]; exact fun e => nomatch e
    rw [if_neg h04]
    by_cases h21 : first.toNat = 0x21
    · rw [if_pos h21]
      by_cases hl : (first :: rest).length < 17
      · rw [if_pos hl]; exact fun e => nomatch e
      · rw [if_neg hl, splitAtChecked_ok (Nat.le_of_not_lt hl)]; exact fun e => nomatch e
    rw [if_neg h21]
    by_cases hl : (first :: rest).length < HEADER_LEN
    · rw [if_pos hl]; exact fun e => nomatch e
    rw [if_neg hl]
    by_cases hc : first.toNat &&& PACKETFLAG_CONNLESS = 0
    · rw [if_pos hc]; exact fun e => nomatch e
    · rw [if_neg hc, splitAtChecked_ok (Nat.le_of_not_lt hl)]; exact fun e => nomatch e

/-! ### The thirteen response kinds are each recognised (with any payload, any tokens) -/

/-- `List5`, `List6`, `Info5`, `Info6`, `Info6Ddper`, `Info664`, `Info6Ex`, `Info6ExMore`, `Count`:
the nine 14-byte headers -/
theorem kinds_header6 (payload : List UInt8) :
    parseResponse (bytesOf LIST_5 ++ payload) = .ok (some (.list5 (parseList5 payload.length payload))) ∧
    parseResponse (bytesOf LIST_6 ++ payload) = .ok (some (.list6 (parseList6 payload.length payload))) ∧
    parseResponse (bytesOf INFO_5 ++ payload) = .ok (some (.info .info5 payload)) ∧
    parseResponse (bytesOf INFO_6 ++ payload) = .ok (some (.info .info6 payload)) ∧
    parseResponse (bytesOf INFO_6_DDPER ++ payload) = .ok (some (.info .info6Ddper payload)) ∧
    parseResponse (bytesOf INFO_6_64 ++ payload) = .ok (some (.info .info664 payload)) ∧
    parseResponse (bytesOf INFO_6_EX ++ payload) = .ok (some (.info .info6Ex payload)) ∧
    parseResponse (bytesOf INFO_6_EX_MORE ++ payload) = .ok (some (.info .info6ExMore payload)) ∧
    parseResponse (bytesOf COUNT ++ payload) = .ok ((parseCount payload).map .count) := by
  have ff := fun (h : List UInt8) (hh : h.length = HEADER_LEN ∧ h.take 6 = [255, 255, 255, 255, 255, 255]) =>
    parseResponse_ff6 payload hh.1 hh.2 (by decide) (by decide)
  refine ⟨?_, ?_, ?_, ?_, ?_, ?_, ?_, ?_, ?_⟩
  · rw [ff _ (by decide), classify6, if_pos rfl]
  · rw [ff _ (by decide), classify6, if_neg (by decide), if_pos rfl]
  · rw [ff _ (by decide), classify6, if_neg (by decide), if_neg (by decide), if_pos rfl]
  · rw [ff _ (by decide), classify6, if_neg (by decide), if_neg (by decide), if_neg (by decide), if_pos rfl]
  · rw [parseResponse_plain6 payload (by decide) (by decide) (by decide), classify6, if_neg (by decide),
      if_neg (by decide), if_neg (by decide), if_neg (by decide), if_pos rfl]
  · rw [ff _ (by decide), classify6, if_neg (by decide), if_neg (by decide), if_neg (by decide), if_neg (by decide),
      if_neg (by decide), if_pos rfl]
  · rw [ff _ (by decide), classify6, if_neg (by decide), if_neg (by decide), if_neg (by decide), if_neg (by decide),
      if_neg (by decide), if_neg (by decide), if_pos rfl]
  · rw [ff _ (by decide), classify6, if_neg (by decide), if_neg (by decide), if_neg (by decide), if_neg (by decide),
      if_neg (by decide), if_neg (by decide), if_neg (by decide), if_pos rfl]
  · rw [ff _ (by decide), classify6, if_neg (by decide), if_neg (by decide), if_neg (by decide), if_neg (by decide),
      if_neg (by decide), if_neg (by decide), if_neg (by decide), if_neg (by decide), if_pos rfl]
    cases parseCount payload <;> rfl

/-- `List7`, `Info7`, `Count7`: `0x21`, our token, their token (any bytes), `ff ff ff ff`, the tag -/
theorem kinds_header7 (a b c d e f g h : UInt8) (payload : List UInt8) :
    parseResponse (0x21 :: a :: b :: c :: d :: e :: f :: g :: h :: (bytesOf (LIST_7.drop 9) ++ payload))
      = .ok (some (.list7 [a, b, c, d] [e, f, g, h] (parseList6 payload.length payload))) ∧
    parseResponse (0x21 :: a :: b :: c :: d :: e :: f :: g :: h :: (bytesOf (INFO_7.drop 9) ++ payload))
      = .ok (some (.info7 [a, b, c, d] [e, f, g, h] payload)) ∧
    parseResponse (0x21 :: a :: b :: c :: d :: e :: f :: g :: h :: (bytesOf (COUNT_7.drop 9) ++ payload))
      = .ok ((parseCount payload).map (.count7 [a, b, c, d] [e, f, g, h])) := by
  refine ⟨?_, ?_, ?_⟩
  · rw [parseResponse_header7 a b c d e f g h _ payload (by decide), classify7, if_pos (by decide)]
  · rw [parseResponse_header7 a b c d e f g h _ payload (by decide), classify7, if_neg (by decide), if_pos (by decide)]
  · rw [parseResponse_header7 a b c d e f g h _ payload (by decide), classify7, if_neg (by decide), if_neg (by decide),
      if_pos (by decide)]
    cases parseCount payload <;> rfl

/-- `Token7` -/
theorem kind_token7 (a b c d : UInt8) (payload : List UInt8) :
    parseResponse (0x04 :: 0 :: 0 :: a :: b :: c :: d :: 0x05 :: payload)
      = .ok ((parseToken7 payload).map (.token7 [a, b, c, d])) := by
  have hlen : 8 ≤ (0x04 :: 0 :: 0 :: a :: b :: c :: d :: 0x05 :: payload).length := by
    simp only [List.length_cons]; omega
  unfold parseResponse
  simp only
  rw [if_pos (by decide), if_neg (Nat.not_lt.2 (show TOKEN_7.length ≤ _ from hlen)), splitAtChecked_ok hlen]
  simp only [List.take_succ_cons, List.drop_succ_cons, List.take_zero, List.drop_zero,
    fillRange_cons_succ, fillRange_cons_zero, fillRange_zero, classifyToken7]
  rw [if_pos (by decide)]
  cases parseToken7 payload <;> rfl

/-! ### Master-server payloads: address lists, counts, tokens -/

/-- A 0.5 list has one address per complete 6-byte record (a trailing partial record is dropped);
each record is an IPv4 address and a little-endian port. The model's fuel always suffices. -/
theorem list5_records (payload : List UInt8) :
    (parseList5 payload.length payload).length = payload.length / 6 ∧
    ∀ (fuel : Nat) (a b c d p0 p1 : UInt8) (rest : List UInt8),
      parseList5 (fuel + 1) (a :: b :: c :: d :: p0 :: p1 :: rest)
        = { v4 := true, ip := [a, b, c, d], port := p0.toNat + 256 * p1.toNat } :: parseList5 fuel rest :=
  ⟨parseList5_length _ _ (Nat.le_refl _), parseList5_record⟩

/-- A 0.6 / 0.7 list has one address per complete 18-byte record: 16 address bytes and a big-endian
port; an address with the IPv4-mapping prefix `00×10 ff ff` is handed out as IPv4. -/
theorem list6_records (payload : List UInt8) :
    (parseList6 payload.length payload).length = payload.length / 18 ∧
    (∀ (fuel : Nat) (ip : List UInt8), ip.length = 16 → ∀ (p0 p1 : UInt8) (rest : List UInt8),
      parseList6 (fuel + 1) (ip ++ p0 :: p1 :: rest) = unpackAddr6 ip p0 p1 :: parseList6 fuel rest) ∧
    ∀ (ip : List UInt8) (p0 p1 : UInt8),
      (unpackAddr6 ip p0 p1).port = 256 * p0.toNat + p1.toNat ∧
      ((unpackAddr6 ip p0 p1).v4 = true ↔ ip.take 12 = bytesOf IPV4_MAPPING) ∧
      (ip.take 12 = bytesOf IPV4_MAPPING → (unpackAddr6 ip p0 p1).ip = ip.drop 12) ∧
      (ip.take 12 ≠ bytesOf IPV4_MAPPING → (unpackAddr6 ip p0 p1).ip = ip) :=
  ⟨parseList6_length _ _ (Nat.le_refl _), parseList6_record,
    fun ip p0 p1 => by
      unfold unpackAddr6
      by_cases h : ip.take 12 = bytesOf IPV4_MAPPING <;> simp [h]⟩

/-- `parse_count`: nothing for fewer than two bytes, else the big-endian `u16` of the first two;
`parse_token7`: nothing for fewer than four bytes, else the first four. -/
theorem count_and_token (bs : List UInt8) :
    ((bs.length < 2 → parseCount bs = none) ∧
      ∀ a b rest, bs = a :: b :: rest → parseCount bs = some (256 * a.toNat + b.toNat)) ∧
    ((bs.length < 4 → parseToken7 bs = none) ∧
      ∀ a b c d rest, bs = a :: b :: c :: d :: rest → parseToken7 bs = some [a, b, c, d]) := by
  refine ⟨⟨fun h => ?_, fun a b rest e => e ▸ rfl⟩, ⟨fun h => ?_, fun a b c d rest e => e ▸ rfl⟩⟩
  · unfold parseCount
    split
    · simp only [List.length_cons] at h; omega
    · rfl
  · unfold parseToken7
    split
    · simp only [List.length_cons] at h; omega
    · rfl

/-- Tie: the protocol constants the recognition and the address decoding depend on (regenerated
from the source; a changed tag or mapping prefix makes this stop checking). -/
theorem tie_protocol_constants :
    IPV4_MAPPING = [0, 0, 0, 0, 0, 0, 0, 0, 0, 0, 255, 255] ∧
    LIST_5.drop 10 = [108, 105, 115, 116] ∧ LIST_6.drop 10 = [108, 105, 115, 50] ∧ COUNT.drop 10 = [115, 105, 122, 50] ∧
    INFO_5.drop 10 = [105, 110, 102, 50] ∧ INFO_6.drop 10 = [105, 110, 102, 51] ∧
    INFO_6_DDPER = [100, 112, 0, 0, 0, 0, 255, 255, 255, 255, 105, 110, 102, 51] ∧
    INFO_6_64.drop 10 = [100, 116, 115, 102] ∧ INFO_6_EX.drop 10 = [105, 101, 120, 116] ∧
    INFO_6_EX_MORE.drop 10 = [105, 101, 120, 43] ∧
    TOKEN_7 = [4, 0, 0, 255, 255, 255, 255, 5] ∧
    LIST_7.drop 13 = [108, 105, 115, 50] ∧ COUNT_7.drop 13 = [115, 105, 122, 50] ∧ INFO_7.drop 13 = [105, 110, 102, 51] ∧
    LIST_5.take 10 = List.replicate 10 255 ∧ LIST_7.take 13 = 33 :: List.replicate 12 255 ∧
    PACKETFLAG_CONNLESS = 64 := by decide

/-- Every `Info*Response::parse` that yields a `PartialServerInfo` (dtsf, iext, iex+) — and the
common first half of the others — returns a value or nothing for every payload. -/
theorem parsePartial_total (k : InfoKind) (payload : List UInt8) (site : String) :
    parsePartial k payload ≠ .panic site :=
  (parseServerInfo_yields guards_exclude_shift_overflow.1 guards_exclude_shift_overflow.2 _ _ _).ne_panic site

/-- `Info5Response::parse`, `Info6Response::parse`, `Info6DdperResponse::parse`,
`Info7Response::parse` (and the sorted view of the other three) never panic. -/
theorem parseFull_total (k : InfoKind) (payload : List UInt8) (site : String) :
    parseFull k payload ≠ .panic site := by
  unfold parseFull
  have := parsePartial_total k payload
  cases h : parsePartial k payload with
  | panic s => exact absurd h (this s)
  | ok r => cases r <;> simp

/-- The fuel `parse_server_info`'s client loop is run with in the model (`payload.length + 1`) always
suffices: with any larger fuel the result is the same, i.e. the loop ends because the input is used
up (every iteration consumes at least the NUL of the client name), never because of the bound. -/
theorem client_loop_fuel_suffices (k : InfoKind) (ver : Version) (extra j : Nat) (bs : List UInt8)
    (acc : List ClientInfo) (recv : Nat) :
    parseClients k.reader ver (bs.length + 1 + extra) j bs acc recv
      = parseClients k.reader ver (bs.length + 1) j bs acc recv :=
  parseClients_fuel k.reader_consuming ver _ _ j bs acc recv (by omega) (by omega)

/-- What the count sanity check guarantees for every info any `Info*Response::parse` hands out:
`0 ≤ players ≤ clients ≤ max_clients`, `0 ≤ max_players ≤ max_clients`, `max_clients` within the
maximum of the version (16 / 16 / 16 / 64 / — / 64). -/
theorem parsed_counts_sane (k : InfoKind) (payload : List UInt8) (p : PartialInfo)
    (h : parsePartial k payload = .ok (some p)) :
    CountsSane p.info ∧ p.info.infoVersion = k.received.version :=
  have hp := (parseServerInfo_yields guards_exclude_shift_overflow.1 guards_exclude_shift_overflow.2 _ _ _).of_eq h
  ⟨hp.1, hp.2.1⟩

/-- The `received` masks the parser builds (the mechanism the merge relies on): bit 0 for the main
packet of an extended info, bit `n` (1 ≤ n ≤ 63) for an `iex+` packet with packet number `n`, the
bits of the kept clients' slots — none beyond slot 63 — for a legacy 64-player packet, nothing for
the single-packet kinds. These are exactly the masks `Family.part` gives the parts. -/
theorem parsed_mask_shape (k : InfoKind) (payload : List UInt8) (p : PartialInfo)
    (h : parsePartial k payload = .ok (some p)) :
    match k with
    | .info6Ex => p.received = 1
    | .info6ExMore => ∃ n, PACKET_NO_MIN ≤ n ∧ n < PACKET_NO_REJECT_FROM ∧ p.received = 1 <<< n
    | .info664 => ∃ off n, p.received = rangeMask off n ∧ p.info.clients.length = n ∧ (n = 0 ∨ off + n ≤ RECEIVED_BITS)
    | _ => p.received = 0 := by
  obtain ⟨-, -, hm⟩ := (parseServerInfo_yields guards_exclude_shift_overflow.1 guards_exclude_shift_overflow.2
    k.reader k.received payload).of_eq h
  cases k
  case info6ExMore => exact hm
  all_goals
    obtain ⟨off, hm⟩ := hm
    first | exact hm | exact ⟨off, hm⟩

/-! ## Ties to the source for literals the model writes itself -/

/-- `parse_response`: first bytes `0x04` / `0x21`, header lengths 8 / 17, the masked ranges
`[3,7)`, `[1,9)`, `[0,6)` / `[2,6)`; `parse_count` (big endian), `parse_token7` (4 bytes). -/
theorem tie_parse_response :
    lits_parse_response = [4, 0, 8, 8, 8, 3, 7, 3, 7, 255, 33, 17, 0, 17, 17, 17, 1, 5, 5, 9, 1, 9, 255, 0, 0,
      2, 6, 6, 6, 255, 2, 6, 0] ∧
    lits_parse_count = [2, 2, 0, 8, 1] ∧ lits_parse_token7 = [4, 0, 1, 2, 3] ∧
    TOKEN_7.length = 8 ∧ LIST_7.length = 17 ∧ INFO_7.length = 17 ∧ COUNT_7.length = 17 ∧ HEADER_LEN = 14 := by
  decide

/-- the two shift statements are the ones the model has panic branches for -/
theorem tie_shift_sites : SHIFT_OPERANDS = ["packet_no", "j"] ∧ RECEIVED_BITS = 64 := by decide

/-- `get_info` requires the main packet of an extended info (second `fix:` commit) -/
theorem tie_get_info_requires_main : GET_INFO_REQUIRES_MAIN = true := by decide

/-- `merge` still never writes `self.received` (D10, open): when this stops being true the model
of `merge` and `C18_merge_partial` have to be revisited -/
theorem tie_merge_never_updates_received : MERGE_UPDATES_RECEIVED = false := by decide

/-! ## Sorting -/

/-- `clients.sort()` returns a sorted arrangement of exactly the clients it was given … -/
theorem sort_sorted_perm (l : List ClientInfo) :
    (sortClients l).Perm l ∧ (sortClients l).Pairwise (fun a b => a.le b = true) :=
  ⟨sortClients_perm l, sortClients_sorted l⟩

/-- … which does not depend on the order in which they were collected. -/
theorem sort_order_free {l₁ l₂ : List ClientInfo} (h : l₁.Perm l₂) : sortClients l₁ = sortClients l₂ :=
  sortClients_eq_of_perm h

/-- the derived `Ord` of `ClientInfo` is a total order whose equivalence is equality -/
theorem client_order_total (a b d : ClientInfo) :
    (a.le b = true ∨ b.le a = true) ∧ (a.le b = true → b.le a = true → a = b) ∧
    (a.le b = true → b.le d = true → a.le d = true) :=
  ⟨ClientInfo.le_total a b, ClientInfo.le_antisymm, ClientInfo.le_trans⟩

/-! ## Merging -/

/-- **Full statement (not a theorem on the current tree: D10).** For all the parts of one
well-formed 64-player legacy or extended info (`Family`), every non-empty sequence of part indices
— any order, any repetition — folded with `merge` from its first element gives a `get_info` result
that depends only on the set of parts: the complete info (header, every announced client exactly
once, sorted) when every part occurs, nothing otherwise. -/
def C18_merge_full : Prop :=
  ∀ (f : Family), f.WellFormed → ∀ (seq : List Nat), seq ≠ [] → (∀ i ∈ seq, i < f.size) →
    f.result seq = if f.Covers seq then some f.completeInfo else none

/-- The full statement for repetition-free sequences (`seq.Nodup` is exactly the negation of the
classifier of the open finding D10). -/
theorem C18_merge_partial (f : Family) (hwf : f.WellFormed) (seq : List Nat) (hne : seq ≠ [])
    (hr : ∀ i ∈ seq, i < f.size) (hnd : seq.Nodup) :
    f.result seq = if f.Covers seq then some f.completeInfo else none :=
  f.result_nodup hwf tie_get_info_requires_main seq hne hr hnd

/-- Order-freeness, spelled out: two repetition-free orderings of the same parts give the same
`get_info` result. -/
theorem merge_order_free_partial (f : Family) (hwf : f.WellFormed) (s₁ s₂ : List Nat) (hne : s₁ ≠ [])
    (hr : ∀ i ∈ s₁, i < f.size) (hnd : s₁.Nodup) (hp : s₁.Perm s₂) :
    f.result s₁ = f.result s₂ := by
  have hne2 : s₂ ≠ [] := fun e => hne (List.perm_nil.1 (e ▸ hp))
  have hr2 : ∀ i ∈ s₂, i < f.size := fun i hi => hr i (hp.symm.subset hi)
  have hnd2 : s₂.Nodup := hp.nodup_iff.1 hnd
  rw [C18_merge_partial f hwf s₁ hne hr hnd, C18_merge_partial f hwf s₂ hne2 hr2 hnd2]
  simp only [Family.Covers, hp.mem_iff]

/-- The complete info lists every client of every part exactly once, in sorted order. -/
theorem complete_lists_each_once (f : Family) :
    f.completeInfo.clients.Perm ((List.range f.size).flatMap f.chunk) ∧
    f.completeInfo.clients.Pairwise (fun a b => a.le b = true) :=
  ⟨sortClients_perm _, sortClients_sorted _⟩

/-- A merge that is refused changes nothing. -/
theorem merge_error_leaves_accumulator (s o : PartialInfo) (e : MergeError) (h : (merge s o).2 = some e) :
    (merge s o).1 = s :=
  mergeWith_error (fun a _ => a) s o e h

/-- Idempotence as far as the code has it: a part whose mask is contained in the accumulator's
mask is recognised ("we already have that server info") and leaves the accumulator untouched. -/
theorem merge_known_part_is_noop (s o : PartialInfo) (htok : s.info.token = o.info.token)
    (hver : s.info.infoVersion = o.info.infoVersion)
    (hmulti : s.info.infoVersion = .v664 ∨ s.info.infoVersion = .v6Ex)
    (hold : s.received &&& o.received = o.received) : merge s o = (s, none) :=
  mergeWith_known (fun a _ => a) htok hver hmulti hold

/-- `take_info` hands out exactly what `get_info` reports and then resets the accumulator (mask all
ones, default info); when `get_info` reports nothing it changes nothing. -/
theorem takeInfo_spec (s : PartialInfo) :
    (takeInfo s).2 = (getInfo s).2 ∧
    ((getInfo s).2.isSome → (takeInfo s).1 = { info := {}, received := 2 ^ RECEIVED_BITS - 1 }) ∧
    ((getInfo s).2 = none → (takeInfo s).1 = s) := by
  unfold takeInfo
  cases h : getInfo s with
  | mk s' r =>
    cases r with
    | none =>
      have hs := getInfo_fst s
      rw [h] at hs
      exact ⟨rfl, by simp, fun _ => hs⟩
    | some i => exact ⟨rfl, fun _ => rfl, by simp⟩

/-- D10 in the model: the main packet of an extended info announcing two clients, then its `iex+`
packet twice — every part has been received, but the result is not the complete info (the second
copy was appended again, three clients ≠ two announced). Same for the legacy version. The byte
strings are those of `corpus/browse/finding-d10-merge-repeat.txt`. -/
theorem C18_merge_witness : ¬ C18_merge_full := by
  intro h
  have := h witnessEx (by decide) [0, 1, 1] (by decide) (by decide)
  revert this
  decide

theorem C18_merge_witness_legacy :
    witnessLegacy.WellFormed ∧ witnessLegacy.Covers [0, 1, 1] ∧ witnessLegacy.result [0, 1, 1] = none := by
  decide

/-- Worse, a repetition can make an incomplete set look complete: of an extended info announcing
three clients in three packets, the main packet and packet 1 twice give three collected clients, so
`get_info` reports a "complete" info that lists client `b` twice and lacks client `c`. -/
theorem C18_merge_witness_false_complete :
    witnessEx3.WellFormed ∧ ¬ witnessEx3.Covers [0, 1, 1] ∧
    witnessEx3.result [0, 1, 1] = some (witnessEx3.hdr.withClients [clientA, clientB, clientB]) := by
  decide

/-- Only the accumulator's own mask is ever consulted, so repeating the part the accumulator
started from (or the main packet) is recognised and harmless. -/
theorem repeated_first_part_is_harmless :
    witnessEx.result [0, 0, 1] = some witnessEx.completeInfo ∧
    witnessLegacy.result [0, 0, 1, 0] = some witnessLegacy.completeInfo := by
  decide

/-! ## Round trip through a reference encoder

`encInfo` / `encMore` (in `Model/ServerBrowseEnc.lean`) write an info the way a server does:
decimal texts (`%d`) or varints, NUL-terminated strings, fields in wire order per version.  They are
specification-level (the library has no writer for these packets).  `HeadOk` / `ClientOk` say that
every field is representable (NUL-free valid UTF-8 within the capacity, integers in `i32`, counts
passing the receiver's sanity check, `u32` crc, non-negative size, flags 0/1 where the wire only
carries `is_player`). -/

/-- Every representable info of a normal kind (all but `iex+`) parses back to itself, with the mask
of its clients' slots (`iext`: bit 0; `dtsf`: slots `offset ..`; others: none). -/
theorem roundtrip_normal (k : InfoKind) (hk : k ≠ .info6ExMore) (i : ServerInfo) (offset : Nat)
    (h : HeadOk k i offset) (hc : ∀ c ∈ i.clients, ClientOk k c)
    (hslots : k = .info664 → offset + i.clients.length ≤ RECEIVED_BITS) :
    parsePartial k (encInfo k i offset) = .ok (some { info := i, received := maskFor k offset i.clients.length }) :=
  parsePartial_encInfo (by decide) k hk i offset h hc hslots

/-- … an `iex+` packet with packet number 1..63 to the default info carrying its clients and the bit
of its number … -/
theorem roundtrip_more (token : Int) (htok : Tw.Packer.inI32 token) (no : Nat) (hlo : 1 ≤ no) (hhi : no < 64)
    (cs : List ClientInfo) (hc : ∀ c ∈ cs, ClientOk .info6ExMore c) :
    parsePartial .info6ExMore (encMore token no cs)
      = .ok (some { info := (moreHdr token).withClients cs, received := 1 <<< no }) :=
  parsePartial_encMore (by decide) (by decide) token htok no hlo hhi cs hc

/-- … and the single-packet parsers (`Info5/6/6Ddper/7Response::parse`) return the info with its
clients sorted. -/
theorem roundtrip_full (k : InfoKind) (hk : k ≠ .info6ExMore) (i : ServerInfo) (offset : Nat)
    (h : HeadOk k i offset) (hc : ∀ c ∈ i.clients, ClientOk k c)
    (hslots : k = .info664 → offset + i.clients.length ≤ RECEIVED_BITS) :
    parseFull k (encInfo k i offset) = .ok (some { i with clients := sortClients i.clients }) := by
  unfold parseFull
  rw [roundtrip_normal k hk i offset h hc hslots]

/-- The accumulator values `Family.part i` that the merge theorems talk about are exactly what the
parser returns for the datagrams of a well-formed, representable family — for all families, not
only the concrete ones below. -/
theorem roundtrip_family_parts (f : Family) (hwf : f.WellFormed) (henc : f.Encodable) (i : Nat) (hi : i < f.size) :
    parsePartial (f.kind i) (f.encodePart i) = .ok (some (f.part i)) :=
  f.parse_encodePart (by decide) (by decide) (by decide) hwf henc i hi

/-- The executable checker (`representableB`, the one the `e` requests of the correspondence run use)
is sound: whatever it accepts round-trips. -/
theorem roundtrip_checked (k : InfoKind) (i : ServerInfo) (offset : Nat) (h : representableB k i offset = true) :
    parsePartial k (encInfo k i offset) = .ok (some { info := i, received := maskFor k offset i.clients.length }) ∧
    parseFull k (encInfo k i offset) = .ok (some { i with clients := sortClients i.clients }) := by
  obtain ⟨hk, hh, hc, hs⟩ := representableB_sound h
  exact ⟨roundtrip_normal k hk i offset hh hc hs, roundtrip_full k hk i offset hh hc hs⟩

theorem roundtrip_checked_more (token : Int) (no : Nat) (cs : List ClientInfo)
    (h : representableMoreB token no cs = true) :
    parsePartial .info6ExMore (encMore token no cs)
      = .ok (some { info := (moreHdr token).withClients cs, received := 1 <<< no }) := by
  obtain ⟨ht, hlo, hhi, hc⟩ := representableMoreB_sound h
  exact roundtrip_more token ht no hlo hhi cs hc

/-- **General encodability**: every well-formed family whose header and clients pass the executable
test is `Encodable`; hence for all of them the parts `Family.part i` of the merge theorems are what
the parser returns for the family's datagrams. -/
theorem roundtrip_family_checked (f : Family) (hwf : f.WellFormed) (h : f.representableB = true)
    (i : Nat) (hi : i < f.size) :
    parsePartial (f.kind i) (f.encodePart i) = .ok (some (f.part i)) :=
  roundtrip_family_parts f hwf (f.encodable_of_representableB hwf h) i hi

example : witnessEx.representableB = true ∧ witnessLegacy.representableB = true ∧ witnessEx3.representableB = true ∧
    representableB .info7 witnessV7 0 = true := by decide

-- non-vacuity: both concrete families are representable, and their encodings are byte for byte the
-- payloads of `corpus/browse/finding-d10-merge-repeat.txt`
example : witnessEx.Encodable ∧ witnessLegacy.Encodable := ⟨witnessEx_encodable, witnessLegacy_encodable⟩
example : witnessEx.encodePart 0 = witnessExMainBytes ∧ witnessEx.encodePart 1 = witnessExMoreBytes ∧
    witnessLegacy.encodePart 0 = witnessLegacy0Bytes ∧ witnessLegacy.encodePart 1 = witnessLegacy1Bytes := by decide
-- the reference encoder reproduces the payload of the repository's own test `parse_info_v7`
example : encInfo .info7 witnessV7 0 = witnessV7Bytes ∧
    parseFull .info7 witnessV7Bytes = .ok (some { witnessV7 with clients := sortClients witnessV7.clients }) := by decide
example : decimal (-2147483648) = [45, 50, 49, 52, 55, 52, 56, 51, 54, 52, 56] ∧ decimal 0 = [48] := by decide

/-! ### The hypothetical repair of D10 (statements about `mergeRepaired`, NOT about the code)

`mergeRepaired` is `merge` plus the statement `self.received |= other.received` after the swap. The
repository does not contain it (it would make the shipped test `parse_info_v6_ex` fail, see the D10
record); these theorems only show that the missing mask update is the *only* obstacle to the full
property. -/

/-- `mergeRepaired` differs from the modelled `merge` in nothing but the mask of the accumulator -/
theorem mergeRepaired_differs_only_in_mask (s o : PartialInfo) :
    (mergeRepaired s o).1.info = (merge s o).1.info ∧ (mergeRepaired s o).2 = (merge s o).2 :=
  mergeWith_congr (· ||| ·) (fun a _ => a) s o

/-- With the mask update the full statement `C18_merge_full` holds (stated for `resultRepaired`, the
fold of `mergeRepaired`): any order, any repetition, the result depends only on the set of parts. -/
theorem C18_merge_full_holds_for_repaired_merge (f : Family) (hwf : f.WellFormed) (seq : List Nat)
    (hne : seq ≠ []) (hr : ∀ i ∈ seq, i < f.size) :
    f.resultRepaired seq = if f.Covers seq then some f.completeInfo else none :=
  f.resultRepaired_spec hwf tie_get_info_requires_main seq hne hr

example : witnessEx.resultRepaired [0, 1, 1] = some witnessEx.completeInfo ∧
    witnessLegacy.resultRepaired [1, 0, 1, 1, 0] = some witnessLegacy.completeInfo ∧
    witnessEx3.resultRepaired [0, 1, 1] = none := by decide

-- non-vacuity: the hypotheses of `C18_merge_partial` are met by both concrete families, whose parts
-- are what the parser returns for the datagrams of the corpus file, and the statement computes
example : witnessEx.WellFormed ∧ witnessLegacy.WellFormed := by decide
example : witnessEx.result [1, 0] = some witnessEx.completeInfo ∧ witnessEx.result [1] = none ∧
    witnessEx.result [0] = none := by decide
example : parsePartial .info6Ex witnessExMainBytes = .ok (some (witnessEx.part 0)) ∧
    parsePartial .info6ExMore witnessExMoreBytes = .ok (some (witnessEx.part 1)) := by decide
example : parsePartial .info664 witnessLegacy0Bytes = .ok (some (witnessLegacy.part 0)) ∧
    parsePartial .info664 witnessLegacy1Bytes = .ok (some (witnessLegacy.part 1)) := by decide

end Tw.Props.C18
