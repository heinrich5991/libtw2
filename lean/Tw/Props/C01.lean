import Tw.Model.NetSim
import Tw.Model.Conn6
import Tw.Model.Conn7
import Tw.Proofs.ConnSafetyOnline
import Tw.Proofs.ConnSafety6
import Tw.Proofs.ConnSafety7
import Tw.Proofs.Conn6
import Tw.Proofs.Conn7
import Tw.Proofs.RsConn
import Tw.Proofs.RsConn7

/-!
# C01 — vital chunks are delivered exactly once, in order, uncorrupted

**System** (`Tw/Model/NetSim.lean`): two full connection objects (`Tw.Conn6.Conn` / `Tw.Conn7.Conn`,
starting at `Connection::new`) and an adversarial network that keeps the monotone history of every
datagram either side ever sent.  Moves: application calls on either side (`connect`, `send` vital /
non-vital, `send_connless`, `flush`, `tick`, `disconnect`), `deliver to i` of *any* datagram of the
peer's history at any time, any number of times (duplication, reordering, delay; loss = never
delivering), clock advance.  Variants: `proto6 false` (0.6 with the DDNet token), `proto6 true` (0.6
towards a peer that does not use the token), `proto7`.

**Assumptions** (predicates on a move in a world, `admissible` = they hold for every move of the
schedule and every call returns): H1 `h1` — a vital chunk is submitted only while the resend queue
holds fewer than 512 chunks; H2 `h2` — a datagram is delivered only while its ack is fewer than 1024
behind the receiver's `sequence` and every vital sequence number it carries is fewer than 1024
behind the sequence number the receiver waits for (both measured on the ghost absolute counters:
`unwrap` decodes a 10-bit value against the sender's counter stamped on the datagram); H3 (the
application drains every iterator) is built in.  H2 is tight: a chunk exactly 1024 behind is accepted
(`h2_tight`).

**Proved, for every admissible schedule from two fresh connections, all three variants**
(`C01_conn6`, `C01_conn7`, `C01_all`; `Safe`):
1. the vital payloads handed to either application are a prefix of the vital payloads the other
   application submitted — nothing skipped, duplicated, reordered or altered, across any number of
   sequence wrap-arounds;
2. every non-vital payload handed over was submitted non-vital by the peer;
3. either side is told `Ready` at most once, and only after the peer has emitted its
   `ConnectAccept` (0.6) / `Accept` (0.7) datagram;
4. `lazy_eq_eager`: the lazy delivery iterator yields exactly the chunks the eager scan accepts, for
   every packet, starting ack and flag.
Also `wire_hint_consistent`: the only totalised case of the 0.6 wire model (`P6.wireRead` on a packet
read against the token hint) is unreachable.

`C01_conn6_accept_token`: the same when the accepting 0.6 connection is created by
`Connection::new_accept_token` after a stateless listener answered the handshake.

Clauses 1 and 2 for the two online cores alone (`NetSim.Core`, with a stamp-based H2) are `online_vital_prefix`,
`online_nonvital_membership` of `Proofs/ConnSafetyOnline.lean`.
-/
namespace Tw.Props.C01
open Tw.Conn Tw.NetSim

/-- Tie: the sequence modulus the modular arithmetic of the proofs is written for -/
theorem tie_seqmod : seqMod = 1024 ∧ Tw.Gen.Conn.P7.SEQUENCE_MODULUS = 1024 ∧ maxNumChunks = 255 := by decide

/-- the acceptance rule: `Sequence::update` accepts exactly the successor modulo 1024 -/
theorem update_accepts_successor (ack s : Nat) :
    ((seqUpdate ack s).2 = .current ↔ (ack + 1) % 1024 = s) ∧
    (seqUpdate ack s).1 = if (ack + 1) % 1024 = s then s else ack :=
  ⟨seqUpdate_accept_snd ack s, seqUpdate_accept_fst ack s⟩

/-- **lazy = eager**: the eager scan of `ReceivePacket::connected`, instrumented to record what it
accepts, computes the same `(ack, request_resend)` as the code's scan and records exactly the events
the lazy iterator `ReceiveChunks` yields from the saved ack — for every packet and every start -/
theorem lazy_eq_eager (ack : Nat) (rr : Bool) (cs : List Chunk) :
    (eagerTrace ack rr cs).1 = receiveEager ack rr cs ∧ (eagerTrace ack rr cs).2 = receiveLazy ack cs :=
  ⟨eagerTrace_fst ack rr cs, eagerTrace_snd ack rr cs⟩

/-! ## The theorem: clauses 1–3 for every admissible schedule, all variants -/

/-- an admissible schedule runs to the end (no call panics, every delivered index exists) -/
theorem admissible_runs {P : Proto} : ∀ (sched : List (Move P)) (w : World P),
    admissible w sched = true → ∃ w', run w sched = some w' := by
  intro sched
  induction sched with
  | nil => intro w _; exact ⟨w, rfl⟩
  | cons m ms ih =>
    intro w h
    obtain ⟨_, _, w1, hs, h1⟩ := admissible_cons.mp h
    obtain ⟨w', hw'⟩ := ih w1 h1
    exact ⟨w', by simp only [NetSim.run, hs]; exact hw'⟩

/-- **C01 for 0.6**, with (`tokenless = false`) and without (`tokenless = true`) the DDNet token -/
theorem C01_conn6 (tokenless : Bool) (sched : List (Move (proto6 tokenless))) (w : World (proto6 tokenless))
    (hadm : admissible (World.init (proto6 tokenless)) sched = true)
    (hrun : run (World.init (proto6 tokenless)) sched = some w) : Safe w :=
  (P6.steps6 tokenless).safe_init Tw.Conn6.cfg_ok sched w hadm hrun

/-- **C01 for 0.6 with an accepting side made by `Connection::new_accept_token`** (a stateless
listener answered the handshake: `b` starts online with the token, its history holds the listener's
`ConnectAccept` datagrams): the same conclusion for every admissible schedule -/
theorem C01_conn6_accept_token (now token k : Nat) (sched : List (Move (proto6 false))) (w : World (proto6 false))
    (hadm : admissible (World.initAccept6 now token k) sched = true)
    (hrun : NetSim.run (World.initAccept6 now token k) sched = some w) : Safe w :=
  (P6.steps6 false).safe Tw.Conn6.cfg_ok (P6.initAccept_inv now token k) (P6.initAccept_hs now token k) sched w hadm hrun

/-- **C01 for 0.7** -/
theorem C01_conn7 (sched : List (Move proto7)) (w : World proto7)
    (hadm : admissible (World.init proto7) sched = true) (hrun : run (World.init proto7) sched = some w) :
    Safe w :=
  P7.steps7.safe_init Tw.Conn7.cfg_ok sched w hadm hrun

/-- **C01**: 0.6 with token, 0.6 without token, 0.7 -/
theorem C01_all (P : Proto) (hP : P = proto6 false ∨ P = proto6 true ∨ P = proto7)
    (sched : List (Move P)) (hadm : admissible (World.init P) sched = true) :
    ∃ w, run (World.init P) sched = some w ∧ Safe w := by
  obtain ⟨w, hw⟩ := admissible_runs sched _ hadm
  refine ⟨w, hw, ?_⟩
  rcases hP with rfl | rfl | rfl
  · exact C01_conn6 false sched w hadm hw
  · exact C01_conn6 true sched w hadm hw
  · exact C01_conn7 sched w hadm hw

/-- clause 1 spelled out: in every reachable world, both directions -/
theorem C01_vital_prefix (P : Proto) (hP : P = proto6 false ∨ P = proto6 true ∨ P = proto7)
    (sched : List (Move P)) (w : World P) (hadm : admissible (World.init P) sched = true)
    (hrun : run (World.init P) sched = some w) :
    w.b.deliveredVital <+: w.a.submittedVital ∧ w.a.deliveredVital <+: w.b.submittedVital := by
  obtain ⟨w', hw', hs⟩ := C01_all P hP sched hadm
  rw [hrun] at hw'; injection hw' with hw'; subst hw'
  exact ⟨hs.vital_ab, hs.vital_ba⟩

/-- the one totalised case of the 0.6 wire model is dead: in every reachable world (admissible or not)
no datagram of the peer's history other than a close message is read against the receiver's token
hint (`P6.misread`), so `P6.wireRead` never turns a datagram into a read error that the reader of the
code would parse -/
theorem wire_hint_consistent (tokenless : Bool) (sched : List (Move (proto6 tokenless)))
    (w : World (proto6 tokenless)) (hrun : NetSim.run (World.init (proto6 tokenless)) sched = some w)
    (to : Side) (dg : Sent Tw.Conn6.Packet) (hdg : dg ∈ (w.get to.other).out) :
    P6.misread tokenless dg.pkt (Tw.Conn6.Conn.hint (w.get to).conn) = false := by
  have h := run_loc (P6.loc6 tokenless) sched _ w (init_loc (P6.loc6 tokenless)) hrun
  exact P6.misread_false (h.side to).1 ((h.side to.other).2 dg hdg)

/-- … also from the `new_accept_token` start -/
theorem wire_hint_consistent_accept_token (now token k : Nat) (sched : List (Move (proto6 false)))
    (w : World (proto6 false)) (hrun : NetSim.run (World.initAccept6 now token k) sched = some w)
    (to : Side) (dg : Sent Tw.Conn6.Packet) (hdg : dg ∈ (w.get to.other).out) :
    P6.misread false dg.pkt (Tw.Conn6.Conn.hint (w.get to).conn) = false := by
  have h := run_loc (P6.loc6 false) sched _ w (P6.initAccept_loc now token k) hrun
  exact P6.misread_false (h.side to).1 ((h.side to.other).2 dg hdg)

/-- H2 cannot be weakened: a chunk whose sequence number is exactly 1024 behind the one the
receiver waits for passes the acceptance test (the 10-bit sequence space cannot tell them apart) -/
theorem h2_tight (d : Nat) (hd : 1024 ≤ d) : (seqUpdate (d % 1024) ((d - 1024 + 1) % 1024)).2 = .current := by
  rw [seqUpdate_accept_snd, seqNext_eq]
  omega

/-! ## Non-vacuity of the main theorems: admissible schedules with handshake, loss, duplication,
reordering, a peer-requested resend and a timer tick, in which chunks are delivered -/

example : admissible (World.init (proto6 false)) (demo6 false) = true := by decide +kernel
example : (run (World.init (proto6 false)) (demo6 false)).map summary =
    some ([[[1], [2], [3]], [[1], [2], [3]], [[9], [9]], [[7]]], 1) := by decide +kernel

example : admissible (World.init (proto6 true)) (demo6 true) = true := by decide +kernel
example : (run (World.init (proto6 true)) (demo6 true)).map summary =
    some ([[[1], [2], [3]], [[1], [2], [3]], [[9], [9]], [[7]]], 1) := by decide +kernel

example : admissible (World.init proto7) demo7 = true := by decide +kernel
example : (run (World.init proto7) demo7).map summary =
    some ([[[1], [2], [3]], [[1], [2], [3]], [[9], [9]], [[7]]], 1) := by decide +kernel

example : admissible (World.initAccept6 0 777 1) demoAccept6 = true := by decide +kernel
example : (NetSim.run (World.initAccept6 0 777 1) demoAccept6).map summary =
    some ([[[1], [2], [3]], [[1], [2], [3]], [[9], [9]], [[7]]], 1) := by decide +kernel

/-! ## Function-level tie: `Sequence` of `net/src/connection.rs`, translated by `tools/rs2lean`

`Tw.Gen.RsConn.*` is regenerated from the Rust source on every run; these theorems state that the
regenerated definitions compute the hand-written `seqNext` / `seqCompare` / `seqUpdate` the theorems
above are about (representation map: `Sequence { seq }` ↦ `seq`, `SequenceOrdering` ↦ `SeqOrd` via
`Tw.RsConn.ordMap`; `Except.error` = panic). -/

theorem tie_rs_seq_from_u16 (s : Nat) :
    (s < seqMod → Tw.Gen.RsConn.Sequence.from_u16 s = .ok ⟨s⟩) ∧
    (seqMod ≤ s → ∃ p, Tw.Gen.RsConn.Sequence.from_u16 s = .error p) :=
  ⟨Tw.RsConn.seq_from_u16_eq s, Tw.RsConn.seq_from_u16_panics s⟩

theorem tie_rs_seq_next (s : Tw.Gen.RsConn.Sequence) (h : s.seq < 65535) :
    Tw.Gen.RsConn.Sequence.next s = .ok (⟨seqNext s.seq⟩, ⟨seqNext s.seq⟩) :=
  Tw.RsConn.seq_next_eq s h

theorem tie_rs_seq_compare (a b : Tw.Gen.RsConn.Sequence) :
    Tw.Gen.RsConn.Sequence.compare a b = .ok (Tw.RsConn.ordMap (seqCompare a.seq b.seq)) :=
  Tw.RsConn.seq_compare_eq a b

theorem tie_rs_seq_update (a b : Tw.Gen.RsConn.Sequence) (h : a.seq < 65535) :
    Tw.Gen.RsConn.Sequence.update a b =
      .ok (Tw.RsConn.ordMap (seqUpdate a.seq b.seq).2, ⟨(seqUpdate a.seq b.seq).1⟩) :=
  Tw.RsConn.seq_update_eq a b h

example : (⟨1023⟩ : Tw.Gen.RsConn.Sequence).seq < 65535 := by decide

/-! The same for the 0.7 twin, `Sequence` of `net/src/connection7.rs` (`Tw.Gen.RsConn7.*`). -/

theorem tie_rs7_seq_from_u16 (s : Nat) :
    (s < seqMod → Tw.Gen.RsConn7.Sequence.from_u16 s = .ok ⟨s⟩) ∧
    (seqMod ≤ s → ∃ p, Tw.Gen.RsConn7.Sequence.from_u16 s = .error p) :=
  ⟨Tw.RsConn7.seq_from_u16_eq s, Tw.RsConn7.seq_from_u16_panics s⟩

theorem tie_rs7_seq_next (s : Tw.Gen.RsConn7.Sequence) (h : s.seq < 65535) :
    Tw.Gen.RsConn7.Sequence.next s = .ok (⟨seqNext s.seq⟩, ⟨seqNext s.seq⟩) :=
  Tw.RsConn7.seq_next_eq s h

theorem tie_rs7_seq_compare (a b : Tw.Gen.RsConn7.Sequence) :
    Tw.Gen.RsConn7.Sequence.compare a b = .ok (Tw.RsConn7.ordMap (seqCompare a.seq b.seq)) :=
  Tw.RsConn7.seq_compare_eq a b

theorem tie_rs7_seq_update (a b : Tw.Gen.RsConn7.Sequence) (h : a.seq < 65535) :
    Tw.Gen.RsConn7.Sequence.update a b =
      .ok (Tw.RsConn7.ordMap (seqUpdate a.seq b.seq).2, ⟨(seqUpdate a.seq b.seq).1⟩) :=
  Tw.RsConn7.seq_update_eq a b h

end Tw.Props.C01
