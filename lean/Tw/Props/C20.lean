import Tw.Proofs.NetTick
import Tw.Proofs.NetPending
import Tw.Proofs.NetExamples
import Tw.Proofs.NetLazy
import Tw.Proofs.NetC01Final
import Tw.Proofs.NetFault

/-!
# C20 — the multi-peer endpoint keeps peers isolated

Model: `Tw.Net` (`net/src/net.rs` over the 0.6 connection model `Tw.Conn6`).  Specification side:
`Tw.Net.refStep` / `refRun` (`Model/NetRef.lean`): one address, one slot, one independent `Conn6`
connection driven by the projected history.  Hypothesis of the property: no address has two live
peers at once, i.e. `Net::connect` is not called for an address that has a peer (`histOk`); nothing
else can give an address a second peer (that is part of `invariant_along_histories`).
-/
namespace Tw.Props.C20
open Tw.Net Tw.Conn Tw.Time
open Tw.Conn6 (Env Packet TOKEN_NONE)

/-! ## ties to the source literals -/

/-- the canned packets `Net::accept` feeds: the token-less one is a prefix of the other, which adds
`TKEN` and the "no token yet" token -/
theorem tie_connect_packets :
    Tw.Gen.Net.CONNECT_PACKET = Tw.Gen.Net.CONNECT_PACKET_NO_TOKEN ++ [84, 75, 69, 78] ++ Tw.Gen.Conn.P6.TOKEN_NONE
    ∧ cannedToken = TOKEN_NONE := by decide

/-- the peer id counter: starts at 0, steps by 1, wraps at 2^32 -/
theorem tie_peer_id_counter :
    Tw.Gen.Net.firstPeerId = 0 ∧ Tw.Gen.Net.peerIdStep = 1 ∧ idMod = 4294967296 := by decide

/-! ## the peer table -/

/-- **The peer table stays a map**: no call that returns gives two live peers one id or one address. -/
theorem invariant_step (env : Env) (net net' : Net) (op : Op) (r : Ret) (o : Out)
    (hi : PInv net.peers) (hok : opOk net op = true) (hs : step env net op = .ok (net', r, o)) :
    PInv net'.peers := (step_sim hi hok hs).inv

/-- **Lookup correctness of the linear map**: under the invariant, the peer `pid_from_addr` finds
for an address is the peer `peers[pid]` finds for its id, and vice versa. -/
theorem lookup_correct (ps : Peers) (hi : PInv ps) (a pid : Nat) (p : Peer) :
    slot ps a = some (pid, p) ↔ (lookup ps pid = some p ∧ p.addr = a) := by
  constructor
  · intro h; exact ⟨slot_lookup hi h, (slot_mem h).2⟩
  · rintro ⟨h, rfl⟩; exact lookup_slot hi h

/-- `Peers::pid_from_addr` (a linear search) returns the id of the first entry with that address -/
theorem pid_from_addr_correct (ps : Peers) (a : Nat) : pidFromAddr ps a = (slot ps a).map (·.1) :=
  pidFromAddr_eq ps a

/-- a fresh peer never gets an id that is in use -/
theorem fresh_id_not_live (net net1 : Net) (addr pid : Nat) (tok : Bool)
    (h : newPeer net addr tok = .ok (net1, pid)) : lookup net.peers pid = none := (newPeer_ok h).vacant

/-! ## isolation: one step -/

/-- **Isolation, one call.**  In a state satisfying the invariant, a call that returns acts on the
slot of *every* address `a` as follows: if the call concerns `a` (datagram from `a`, `connect` /
`send_connless` to `a`, API call on the id of `a`'s peer, tick) then the new slot, the return value
and everything the call emitted for `a` are exactly what the single-address reference computes from
`a`'s old slot alone; otherwise `a`'s slot is unchanged and nothing at all is emitted for `a`. -/
theorem isolation_step (env : Env) (net net' : Net) (op : Op) (r : Ret) (o : Out) (a : Nat)
    (hi : PInv net.peers) (hok : opOk net op = true) (hs : step env net op = .ok (net', r, o)) :
    match projOp net a op with
    | some lop => refStep net.acceptConnections a env (slot net.peers a) lop = .ok (slot net'.peers a, r, o.for a)
    | none => slot net'.peers a = slot net.peers a ∧ o.for a = {} :=
  (step_sim hi hok hs).perAddr a

/-- **Datagrams go only to the address the call concerns** (events and warnings too: `isolation_step`). -/
theorem datagrams_only_to_concerned (env : Env) (net net' : Net) (op : Op) (r : Ret) (o : Out)
    (hi : PInv net.peers) (hok : opOk net op = true) (hs : step env net op = .ok (net', r, o))
    (b : Nat) (pkt : Packet) (hm : (b, pkt) ∈ o.sent) : (projOp net b op).isSome = true := by
  cases hp : projOp net b op with
  | some lop => rfl
  | none => exact absurd hm (not_mem_sent (by rw [(((step_sim hi hok hs).perAddr b).of_none hp).2]) pkt)

/-- **No failure of its own.**  A call of the endpoint panics or fails to return only if it names
a peer id that is not live (`peers[pid]`: "invalid pid"), or the single-address reference fails in
exactly the same way on the projected call (its connection's own panic sites, the state assertions
of `accept` / `reject` / `disconnect`, the id allocator with all 2^32 ids in use).  (Before the
repair of D22 `Net::accept` could panic where the reference does not: `d22_legacy_witness`.) -/
theorem failures_are_the_references (env : Env) (net : Net) (op : Op) (f : Fail)
    (hi : PInv net.peers) (hok : opOk net op = true) (hs : step env net op = .error f) :
    invalidPid net op = true ∨
      ∃ a lop, projOp net a op = some lop ∧
        refStep net.acceptConnections a env (slot net.peers a) lop = .error f := by
  have := step_spec (env := env) hi hok
  rwa [hs] at this

/-- **`accept` of a pending peer always succeeds** (given a usable random source when the client
asked for a token): it sends exactly one datagram — `ConnectAccept`, to the peer's address — and
the peer's connection is then `Pending` with the 500 ms timer armed.  In particular the endpoint's
own assertions in `Net::accept` cannot fire for a peer that was announced by `Connect(pid)` and not
yet accepted or rejected, whatever datagrams arrived in between (`pending_peer_not_answered`). -/
theorem accept_of_pending_peer_succeeds (env : Env) (net : Net) (pid : Nat) (p : Peer)
    (hi : PInv net.peers) (hl : lookup net.peers pid = some p) (hp : p.conn.state = .unconnected)
    (hd : p.token = true → Tw.Conn6.tokenRandom env.draws ≠ none) :
    ∃ net' t, step env net (.accept pid) =
        .ok (net', .unit, { sent := [(p.addr, Packet.control 0 t .connectAccept)] }) ∧
      slot net'.peers p.addr = some (pid, { p with conn := ⟨.pending t, Timeout.after env.now sendUs⟩ }) ∧
      (p.token = false → t = none) ∧ (p.token = true → t = Tw.Conn6.tokenRandom env.draws) := by
  have hf := feed_canned_unconnected env p.conn hp p.token hd
  generalize ht : (if p.token then Tw.Conn6.tokenRandom env.draws else none) = t at hf
  refine ⟨{ net with peers := update net.peers pid { p with conn := ⟨.pending t, Timeout.after env.now sendUs⟩ } }, t, ?_, ?_,
    fun h => by rw [← ht, h]; rfl, fun h => by rw [← ht, h]; rfl⟩
  · simp only [step, accept, modifyPeer, hl, peerAccept, hp, hf]
    simp [liftOut]
  · simp only [(upd_update hi hl (p' := { p with conn := ⟨.pending t, Timeout.after env.now sendUs⟩ }) rfl).slot]
    simp

/-! ## isolation: histories (the refinement) -/

/-- **Refinement.**  For every history `h` that respects the hypothesis, from any state satisfying
the invariant, and every address `a`: the endpoint's trace restricted to `a` (`runFor`: per call the
return value if the call concerns `a`, and the datagrams / events / warnings tagged `a`) is the
trace of the independent single-address reference on the projected history `h|a`, and the
reference ends in `a`'s slot (in particular with the same connection state, hence the same
per-peer deadline `Conn.needsTick`). -/
theorem refinement (a : Nat) (h : History) (net net' : Net) (tr : List (Ret × Out))
    (hi : PInv net.peers) (hok : histOk net h = true) (hr : runFor a net h = .ok (net', tr)) :
    refRun net.acceptConnections a (slot net.peers a) (projHist a net h) = .ok (slot net'.peers a, tr) :=
  (run_sim a h net net' tr hi hok hr).2

/-- the refinement from a fresh endpoint -/
theorem refinement_from_new (acc : Bool) (a : Nat) (h : History) (net' : Net) (tr : List (Ret × Out))
    (hok : histOk (Net.new acc) h = true) (hr : runFor a (Net.new acc) h = .ok (net', tr)) :
    refRun acc a none (projHist a (Net.new acc) h) = .ok (slot net'.peers a, tr) :=
  (run_sim a h (Net.new acc) net' tr ⟨.nil, .nil⟩ hok hr).2

/-- `runFor a` is the run of the endpoint with every output restricted to `a`: same final state,
and the outputs are the `Out.for a` parts of the real outputs -/
theorem runFor_is_restriction (a : Nat) (h : History) (net net' : Net) (outs : List (Ret × Out))
    (hr : run net h = .ok (net', outs)) :
    ∃ tr, runFor a net h = .ok (net', tr) ∧ tr.map (·.2) = outs.map (fun ro => ro.2.for a) := by
  induction h generalizing net net' outs with
  | nil => cases hr; exact ⟨[], rfl, rfl⟩
  | cons x xs ih =>
    obtain ⟨env, op⟩ := x
    obtain ⟨net1, r, o, outs1, hst, hrest, rfl⟩ := run_cons_ok hr
    obtain ⟨tr, h1, h2⟩ := ih net1 net' outs1 hrest
    exact ⟨((if (projOp net a op).isSome then r else .unit), o.for a) :: tr,
      by simp only [runFor, hst, h1], by simp [h2]⟩

/-- **Live peer ids are pairwise distinct and no address has two peers**, after every history of
endpoint operations that respects the hypothesis, from a fresh endpoint (server or client). -/
theorem invariant_along_histories (acc : Bool) (h : History) (net' : Net) (outs : List (Ret × Out))
    (hok : histOk (Net.new acc) h = true) (hr : run (Net.new acc) h = .ok (net', outs)) :
    (pids net'.peers).Nodup ∧ (addrs net'.peers).Nodup := by
  -- `run_sim` carries the invariant along `runFor a`, whose final state is that of `run`: any address will do
  obtain ⟨tr, htr, _⟩ := runFor_is_restriction 0 h _ net' outs hr
  have := (run_sim 0 h (Net.new acc) net' tr ⟨.nil, .nil⟩ hok htr).1
  exact ⟨this.pid, this.addr⟩

/-! ## results that are not drained -/

/-- **A `ReceivePacket` that is dropped half-way** (the application pulled `k` events): everything
`Net::feed` does — the connection's state including the advanced `ack`, the removal of the peer on a
`Disconnect`, the datagrams sent, the warnings — is done, exactly as if the result had been drained;
the application has seen a prefix of the events and the rest is lost to it (vital chunks among them
are acknowledged and will not be resent: draining is the application's obligation, H3 of C01). -/
theorem undrained_receive_packet (env : Env) (net net' : Net) (a : Nat) (rd : Option Bool → Option Packet)
    (k : Nat) (r : Ret) (o' : Out) (h : stepLazy env net (.feed a rd) (some k) = .ok (net', r, o')) :
    ∃ o, step env net (.feed a rd) = .ok (net', r, o) ∧ o'.sent = o.sent ∧ o'.warns = o.warns ∧
      o'.events = o.events.take k :=
  stepLazy_feed h

/-- **A `Tick` that is never polled does nothing** (no peer ticks, nothing is sent, no deadline
moves); polled at least once it is the drained tick, because the first `next()` runs through all
peers when `Callback::send` cannot fail. -/
theorem unpolled_tick (env : Env) (net : Net) (k : Nat) :
    stepLazy env net .tick (some 0) = .ok (net, .unit, {}) ∧
    stepLazy env net .tick (some (k + 1)) = step env net .tick ∧
    stepLazy env net .tick none = step env net .tick := ⟨rfl, rfl, rfl⟩

/-- **Histories with partly consumed results**: same final state, same datagrams, same warnings as
the drained history (unpolled ticks removed); the events the application saw are a sub-sequence of
the drained run's.  So every theorem of this file about `run` / `runFor` (`refinement`,
`invariant_along_histories`, …) speaks about such applications too, through `drainedHist`. -/
theorem lazy_histories (lh : LHistory) (net net' : Net) (outs' : List (Ret × Out))
    (h : runLazy net lh = .ok (net', outs')) :
    ∃ outs, run net (drainedHist lh) = .ok (net', outs) ∧ allSent outs' = allSent outs ∧
      allWarns outs' = allWarns outs ∧ (allEvents outs').Sublist (allEvents outs) :=
  runLazy_drained lh net net' outs' h

/-! ## unknown addresses -/

/-- **From an address without a peer, only a connect request on an accepting endpoint creates a
(pending) peer; a connless payload is delivered; everything else yields one warning and nothing
else.  Nothing is ever sent.** -/
theorem unknown_address (env : Env) (net net' : Net) (a : Nat) (rd : Option Bool → Option Packet)
    (r : Ret) (o : Out) (hi : PInv net.peers) (hs : slot net.peers a = none)
    (hf : feed env net a rd = .ok (net', r, o)) :
    o.sent = [] ∧
    ((∃ ack tok pid, rd none = some (.control ack tok .connect) ∧ net.acceptConnections = true ∧
        lookup net.peers pid = none ∧ net'.peers = net.peers ++ [(pid, Peer.new a tok.isSome)] ∧
        o.events = [(a, .connect pid)] ∧ o.warns = []) ∨
     (∃ d, rd none = some (.connless d) ∧ net' = net ∧ o.events = [(a, .connless a none d)] ∧ o.warns = []) ∨
     (∃ w, net' = net ∧ o.events = [] ∧ o.warns = [(a, .connless a w)])) := by
  rw [feed_unknown rd hs] at hf
  rcases stateless_cases net a false rd with ⟨w, e, _⟩ | ⟨d, hrd, e, _⟩ | ⟨hp, _⟩ |
    ⟨_, hacc, ack, tok, hrd, e, _⟩
  · cases e.symm.trans hf
    exact ⟨rfl, .inr (.inr ⟨w, rfl, rfl, rfl⟩)⟩
  · cases e.symm.trans hf
    exact ⟨rfl, .inr (.inl ⟨d, hrd, rfl, rfl, rfl⟩)⟩
  · cases hp
  · rw [e] at hf
    cases hnp : newPeer net a tok.isSome with
    | error f => rw [hnp] at hf; cases hf
    | ok v =>
      rw [hnp] at hf
      cases hf
      exact ⟨rfl, .inl ⟨ack, tok, v.2, hrd, hacc, (newPeer_ok hnp).vacant, (newPeer_ok hnp).peers, rfl, rfl⟩⟩

/-- **A peer that is pending acceptance is never answered**: while its connection is still
`Unconnected`, a datagram from its address sends nothing, leaves the peer table alone and creates
no second peer (the repaired D22). -/
theorem pending_peer_not_answered (env : Env) (net net' : Net) (a pid : Nat) (p : Peer)
    (rd : Option Bool → Option Packet) (r : Ret) (o : Out) (hi : PInv net.peers)
    (hs : slot net.peers a = some (pid, p)) (hp : p.conn.state = .unconnected)
    (hf : feed env net a rd = .ok (net', r, o)) : o.sent = [] ∧ net' = net := by
  rw [feed_pending rd hi hs hp] at hf
  rcases stateless_cases net a true rd with ⟨_, e, _⟩ | ⟨_, _, e, _⟩ | ⟨_, e, _⟩ | ⟨hf', _⟩
  · cases e.symm.trans hf
    exact ⟨rfl, rfl⟩
  · cases e.symm.trans hf
    exact ⟨rfl, rfl⟩
  · cases e.symm.trans hf
    exact ⟨rfl, rfl⟩
  · cases hf'

/-- … nor does it do anything on a tick: the connection of a peer that was announced and not yet
accepted is untouched and sends nothing, and its deadline is inactive.  Together with
`pending_peer_not_answered`, `unknown_address` (a new peer starts as `Peer.new`) and
`isolation_step` (calls for other addresses do not touch the slot): nothing is sent to a client
before the application accepts or rejects it. -/
theorem pending_peer_silent_on_tick (env : Env) (net net' : Net) (r : Ret) (o : Out) (a pid : Nat)
    (tok : Bool) (hi : PInv net.peers) (hs : slot net.peers a = some (pid, Peer.new a tok))
    (ht : step env net .tick = .ok (net', r, o)) :
    slot net'.peers a = some (pid, Peer.new a tok) ∧ o.for a = {} ∧
      (Peer.new a tok).conn.needsTick = .inactive :=
  ⟨(pending_silent_on_tick hi hs ht).1, (pending_silent_on_tick hi hs ht).2, rfl⟩

/-- **Nothing is sent to a client between `Connect(pid)` and the application's decision.**  From
a state in which `a`'s peer has just been announced (`Peer.new`, the state `unknown_address` creates),
along every history respecting the hypothesis that contains no API call on `pid` and no
`send_connless` to `a` — whatever datagrams arrive from `a` or anybody else, whatever happens to
other peers, however many ticks — the peer stays exactly as announced and not a single datagram is
addressed to `a`. -/
theorem silent_until_decided (a pid : Nat) (tok : Bool) (h : History) (net net' : Net)
    (outs : List (Ret × Out)) (hi : PInv net.peers) (hok : histOk net h = true)
    (hs : slot net.peers a = some (pid, Peer.new a tok))
    (hq : ∀ x ∈ h, quietFor a pid x.2 = true) (hr : run net h = .ok (net', outs)) :
    slot net'.peers a = some (pid, Peer.new a tok) ∧ ∀ ro ∈ outs, ∀ pkt, (a, pkt) ∉ ro.2.sent := by
  obtain ⟨h1, h2⟩ := pending_run a pid tok h net net' outs hi hok hs hq hr
  exact ⟨h1, fun ro hro pkt => not_mem_sent (h2 ro hro) pkt⟩

/-! ## a peer is gone after it was disconnected by either side -/

/-- after `disconnect` / `reject` / `ignore` the peer id is absent and its address unknown again -/
theorem gone_after_close (env : Env) (net net' : Net) (pid : Nat) (p : Peer) (reason : Bytes)
    (r : Ret) (o : Out) (hi : PInv net.peers) (hl : lookup net.peers pid = some p)
    (hs : step env net (.disconnect pid reason) = .ok (net', r, o) ∨
          step env net (.reject pid reason) = .ok (net', r, o) ∨
          step env net (.ignore pid) = .ok (net', r, o)) :
    lookup net'.peers pid = none ∧ slot net'.peers p.addr = none := by
  have key : ∀ f, removePeer net pid f = .ok (net', r, o) →
      lookup net'.peers pid = none ∧ slot net'.peers p.addr = none := by
    intro f h
    have hk := (removePeer_sim hi hl).ok h
    have href := hk.self
    rw [lookup_slot hi hl] at href
    obtain ⟨_, _, hnone, _⟩ := slotRemove_ok href
    exact ⟨lookup_none_of_slot_emptied hi hk.inv (lookup_slot hi hl) hnone (fun b hb => (hk.others b hb).1), hnone⟩
  rcases hs with h | h | h
  · exact key _ h
  · exact key _ h
  · exact key (fun _ => .ok {}) h

/-- after the endpoint reported `Disconnect(pid, _)` the peer id is absent and the address unknown -/
theorem gone_after_disconnect_event (env : Env) (net net' : Net) (a pid : Nat)
    (rd : Option Bool → Option Packet) (reason : Bytes) (r : Ret) (o : Out) (hi : PInv net.peers)
    (hf : feed env net a rd = .ok (net', r, o)) (he : (a, NEvent.disconnect pid reason) ∈ o.events) :
    lookup net'.peers pid = none ∧ slot net'.peers a = none := by
  have hk := (feed_sim hi).ok hf
  have hmem : (a, NEvent.disconnect pid reason) ∈ (o.for a).events :=
    List.mem_filter.2 ⟨he, by simp⟩
  obtain ⟨hnone, p, hs⟩ := ref_dgram_disconnect hk.self hmem
  exact ⟨lookup_none_of_slot_emptied hi hk.inv hs hnone (fun b hb => (hk.others b hb).1), hnone⟩

/-! ## the deadline -/

/-- **`Net::needs_tick` is the minimum over the peers**: not later than any peer's deadline, and
equal to one of them (inactive when there is no peer). -/
theorem needs_tick_is_min (net : Net) :
    (∀ e ∈ net.peers, Timeout.le net.needsTick e.2.conn.needsTick = true) ∧
    ((net.peers = [] ∧ net.needsTick = .inactive) ∨ ∃ e ∈ net.peers, net.needsTick = e.2.conn.needsTick) :=
  ⟨needsTick_le net, needsTick_attained net⟩

/-! ## the id allocator -/

/-- `Peers::new_peer` returns (does not spin forever) whenever fewer than 2^32 peers are live.  (In
any state: `hn` is the property's wording and is not needed.) -/
theorem new_peer_terminates (net : Net) (addr : Nat) (tok : Bool) (hn : net.nextPeerId < idMod)
    (hlen : net.peers.length < idMod) : ∃ net1 pid, newPeer net addr tok = .ok (net1, pid) :=
  newPeer_returns net addr tok hlen

/-- … in particular in every state reachable from a fresh endpoint (of which nothing is used: `hr`
is the property's wording) -/
theorem new_peer_terminates_reachable (acc : Bool) (h : History) (net' : Net) (outs : List (Ret × Out))
    (hr : run (Net.new acc) h = .ok (net', outs)) (hlen : net'.peers.length < idMod)
    (addr : Nat) (tok : Bool) : ∃ net1 pid, newPeer net' addr tok = .ok (net1, pid) :=
  newPeer_returns net' addr tok hlen

/-! ## composition with C01: reliable delivery through the endpoint -/

/-- **C20 ∘ C01.**  One endpoint, one remote 0.6 connection at address `addr`, C01's adversarial
network between them (any datagram either side ever sent to the other is delivered at any time, any
number of times, in any order, or never), while the endpoint serves any other addresses and peers
in any interleaving (`Tw.NetC01`, `Model/NetC01.lean`; scope: the first peer `addr` ever gets; no
datagram with source `addr` that the remote did not send).  If the image of the schedule in the
two-connection world of C01 is admissible there (C01's H1/H2: fewer than 512 unacknowledged vital
chunks, no datagram delayed across 1024 sequence numbers), then

* the vital chunks the endpoint handed to its application for the peer at `addr` are a **prefix of
  what the remote's connection submitted** — nothing skipped, duplicated, reordered or altered —,
* the vital chunks the remote's connection delivered are a prefix of what `Net::send` accepted for
  that peer, and
* the ghost history C01 speaks about is the endpoint's real history of datagrams to `addr`.

Proof: the per-address simulation (`step_sim` / `feed_sim` of `NetPeers`, which `isolation_step` restates)
identifies the endpoint's peer with the connection `b` of C01's world move by move — `Net::accept`
with the delivery of the client's own connect request, which is the canned packet because every
connect request a connection writes is `control 0 TOKEN_NONE connect` —, then `C01_conn6`. -/
theorem vital_chunks_through_net (tl acc : Bool) (addr : Nat) (sched : List Tw.NetC01.NMove)
    (w : Tw.NetC01.NW tl)
    (hrun : Tw.NetC01.nwRun addr (Tw.NetC01.NW.init tl acc) sched = some w)
    (hok : Tw.NetC01.nwOk addr (Tw.NetC01.NW.init tl acc) sched = true)
    (hadm : Tw.NetSim.admissible (Tw.NetSim.World.init (Tw.NetSim.proto6 tl))
      (Tw.NetC01.ghostSched addr (Tw.NetC01.NW.init tl acc) sched) = true) :
    w.netVital <+: w.g.a.submittedVital ∧ w.g.a.deliveredVital <+: Tw.NetSim.vitalOf w.netSub ∧
      w.netOut = w.g.b.out.map (·.pkt) :=
  Tw.NetC01.net_c01 tl acc addr sched w hrun hok hadm

/-- the coupling behind it, for any run: the connection object of the endpoint's peer at `addr` *is*
the connection `b` of the ghost world, and the ghost's logs are the endpoint's -/
theorem net_peer_is_c01_connection (tl acc : Bool) (addr : Nat) (sched : List Tw.NetC01.NMove)
    (w : Tw.NetC01.NW tl)
    (hrun : Tw.NetC01.nwRun addr (Tw.NetC01.NW.init tl acc) sched = some w)
    (hok : Tw.NetC01.nwOk addr (Tw.NetC01.NW.init tl acc) sched = true) :
    (∀ pid p, slot w.net.peers addr = some (pid, p) → p.conn = w.g.b.conn) ∧
      w.netVital = w.g.b.deliveredVital ∧ w.netSub = w.g.b.submitted ∧
      Tw.NetSim.run (Tw.NetSim.World.init (Tw.NetSim.proto6 tl))
        (Tw.NetC01.ghostSched addr (Tw.NetC01.NW.init tl acc) sched) = some w.g := by
  have hc := Tw.NetC01.coup_run sched _ w (Tw.NetC01.coup_init tl acc addr) hok hrun
  exact ⟨fun pid p h => (hc.conn pid p h).1, hc.vital, hc.sub, Tw.NetC01.ghost_run sched _ w hrun⟩

/-- the ghost world never ends a run of the composite world: in a coupled state a move fails only
if the endpoint's own call fails (or its datagram does not exist / the call is outside the world's
alphabet), or the address would get a second peer, or it is a move of the remote (whose own call or
delivery may fail) -/
theorem composite_run_ends_for_real_reasons (tl : Bool) (addr : Nat) (w : Tw.NetC01.NW tl)
    (m : Tw.NetC01.NMove) (hc : Tw.NetC01.Coup addr w)
    (hok : ∀ d op, m = .net d op → opOk w.net op = true) (h : Tw.NetC01.nwStep addr w m = none) :
    Tw.NetC01.realStep tl addr w m = none ∨
      (∃ net1 r o, Tw.NetC01.realStep tl addr w m = some (net1, r, o) ∧
        (Tw.NetC01.created addr w net1 && w.born) = true) ∨
      ((∃ d c, m = .remCall d c) ∨ ∃ i d alt, m = .toRemote i d alt) :=
  Tw.NetC01.nwStep_none hc hok h

example : (Tw.NetC01.nwRun 1 (Tw.NetC01.NW.init false true) Tw.NetC01.demoRun).map Tw.NetC01.summary =
    some ([[7], [8]], [([5], true)], [[7], [8]], [[5]]) := by rfl
example : Tw.NetC01.nwOk 1 (Tw.NetC01.NW.init false true) Tw.NetC01.demoRun = true := by decide +kernel
example : Tw.NetSim.admissible (Tw.NetSim.World.init (Tw.NetSim.proto6 false))
    (Tw.NetC01.ghostSched 1 (Tw.NetC01.NW.init false true) Tw.NetC01.demoRun) = true := by decide +kernel

/-! ## non-vacuity, and the history of D22 -/

example : histOk (Net.new true) exampleHistory = true := by decide +kernel
example : finalPeers (run (Net.new true) exampleHistory) = some ([2], [3]) := by decide +kernel
example : PInv (Net.new true).peers := ⟨.nil, .nil⟩

example : ∀ x ∈ exampleHistory.take 2, quietFor 1 0 x.2 = true := by decide +kernel

/-- **D22 (repaired), witness in the model of the old code**: with `Net::feed` as it was, the
history "connect request, the client's retransmission, accept" answers the retransmission (a
datagram is sent although the application has not accepted the peer) and `Net::accept` then
panics.  With the repaired `feed` the same history runs (`exampleHistory` starts with it). -/
theorem d22_legacy_witness :
    ∃ net1 net2 o1 o2,
      legacyStep { now := 0 } (Net.new true) (.feed 1 (connectReq true)) = .ok (net1, .unit, o1) ∧
      legacyStep { now := 0, draws := [0x01020304] } net1 (.feed 1 (connectReq true)) = .ok (net2, .unit, o2) ∧
      o2.sent ≠ [] ∧
      legacyStep { now := 0, draws := [0x01020304] } net2 (.accept 0) =
        .error (.panic "accept: assert is_unconnected") := by
  refine ⟨_, _, _, _, rfl, rfl, by decide, by decide⟩

/-! ## `Callback::send` fails (`Model/NetFault.lean`: `stepF`, armed faults per destination) -/

/-- **A peer is gone after the application ended it, whatever the callback answered**: after
`disconnect` / `reject` / `ignore` under any armed send faults — in particular when the `send` of the
close datagram returns `Err` — the peer id is absent and the address is unknown again. -/
theorem gone_after_close_even_if_send_fails (env : Env) (net net' : Net) (arms arms' : Arms)
    (pid : Nat) (p : Peer) (reason : Bytes) (r : Ret) (o : Out) (x : List (Nat × Packet))
    (hi : PInv net.peers) (hl : lookup net.peers pid = some p)
    (hs : stepF env net arms (.disconnect pid reason) = .ok (net', r, o, x, arms') ∨
          stepF env net arms (.reject pid reason) = .ok (net', r, o, x, arms') ∨
          stepF env net arms (.ignore pid) = .ok (net', r, o, x, arms')) :
    lookup net'.peers pid = none ∧ slot net'.peers p.addr = none := by
  rcases hs with h | h | h
  · obtain ⟨o0, h0⟩ := stepF_state (fun _ => rfl) h
    exact gone_after_close env net net' pid p reason r o0 hi hl (.inl h0)
  · obtain ⟨o0, h0⟩ := stepF_state (fun _ => rfl) h
    exact gone_after_close env net net' pid p reason r o0 hi hl (.inr (.inl h0))
  · obtain ⟨o0, h0⟩ := stepF_state (fun _ => rfl) h
    exact gone_after_close env net net' pid p reason r o0 hi hl (.inr (.inr h0))

/-- **A failed send changes nothing but the datagram**: a call that does not run the retransmission
loop (every call except `tick` with a due retransmission and `feed` of a resend request) ends, under
any armed send faults, in exactly the state and with the return value of the same call with an
infallible `send`. -/
theorem failed_send_is_a_lost_datagram (env : Env) (net net' : Net) (arms arms' : Arms) (op : Op)
    (r : Ret) (o : Out) (x : List (Nat × Packet)) (hc : ∀ a, fromResend env net op a = false)
    (h : stepF env net arms op = .ok (net', r, o, x, arms')) :
    ∃ o0, step env net op = .ok (net', r, o0) :=
  stepF_state hc h

/-- non-vacuity: a pending peer at address 1 is rejected while the next `send` to 1 fails — the close
datagram is not sent (it is the reported failure), the armed fault is used up, no peer is left -/
example :
    (match step { now := 0 } (Net.new true) (.feed 1 (connectReq true)) with
     | .ok (net1, _, _) =>
       (match stepF { now := 0 } net1 [(1, 1)] (.reject 0 [98]) with
        | .ok (net2, _, o, x, arms) => net2.peers.isEmpty && o.sent.isEmpty && x.length == 1 && arms.isEmpty
        | .error _ => false)
     | .error _ => false) = true := by decide +kernel

end Tw.Props.C20
