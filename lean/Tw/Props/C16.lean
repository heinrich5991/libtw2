import Tw.Model.Datafile
import Tw.Model.Inflate
import Tw.Proofs.Datafile
import Tw.Proofs.DatafileWriter
import Tw.Model.Map
import Tw.Proofs.Map
import Tw.Proofs.MapWriter
import Tw.Gen.MapItems
import Tw.Gen.Datafile

/-!
# C16 — datafile and map readers are total; accepted files are fully traversable

Property theorems only (helper lemmas: `Tw/Proofs/Datafile.lean`, `DatafileWriter.lean`, `Map.lean`,
`MapWriter.lean`).  The model `Tw/Model/Datafile.lean` follows `datafile/src/raw.rs` + `format.rs`
*after* the two D13 repairs (see `notes/datafile.md`); it is tied to the code by the `datafile`
correspondence domain.
Every overflow check, assertion, `assert_usize` and slice index of the code is an explicit
`Outcome.panic` in the model, so "`≠ .panic`" is the statement "does not panic" and the
`off + len ≤ items_raw.len()` / range conclusions are the statement "does not read out of bounds".
-/
namespace Tw.Props.C16
open Tw.Datafile

/-- **Totality of opening.**  For every byte string, `Reader::new` (header read, header checks,
table reads, `check`) returns a reader or an error; none of its arithmetic steps, assertions or
slice indexes can fail. -/
theorem reader_new_never_panics (bytes : List UInt8) (site : String) :
    Reader.new bytes ≠ .panic site :=
  (new_spec bytes).not_panic site

/-- The header arithmetic (`calculate_total_size` with the < 2 GiB rule, `calculate_size_field`,
`calculate_swaplen_field`) cannot overflow once `HeaderRest::check` has passed. -/
theorem header_check_never_panics (h : Header) (hr : h.checkRest = true) (site : String) :
    h.checkSizeAndSwaplen ≠ .panic site :=
  (Header.checkSizeAndSwaplen_spec h hr).not_panic site

/-- An accepted file is completely present: the whole data section lies inside the file, and every
table has the length the header announces. -/
theorem accepted_shape (bytes : List UInt8) (r : Reader) (h : Reader.new bytes = .ok r) :
    r.itemTypes.length = r.numItemTypes.toNat ∧ r.itemOffsets.length = r.numItems.toNat
      ∧ r.dataOffsets.length = r.numData.toNat ∧ 4 * r.itemsRaw.length = r.sizeItems.toNat
      ∧ r.sizeData.toNat ≤ r.dataRegion.length
      ∧ (∀ uds, r.uncompSizes = some uds → uds.length = r.numData.toNat) := by
  have inv := (Accepted.of_new h).inv
  have hd := (Accepted.of_new h).data
  exact ⟨inv.typesLen, inv.offsLen, inv.doffsLen, inv.rawLen, hd, inv.udsLen⟩

/-- `num_items()`, `num_data()`, `num_item_types()` (`assert_usize`) on an accepted file. -/
theorem accepted_counts (bytes : List UInt8) (r : Reader) (h : Reader.new bytes = .ok r) :
    r.numItemsU = .ok r.numItems.toNat ∧ r.numDataU = .ok r.numData.toNat
      ∧ r.numItemTypesU = .ok r.numItemTypes.toNat :=
  counts_ok (Accepted.of_new h).inv

/-- **`item(index)` for every in-range index**: no panic, and the returned slice is
`items_raw[off .. off + len]` with `off + len ≤ items_raw.len()`. -/
theorem accepted_item (bytes : List UInt8) (r : Reader) (h : Reader.new bytes = .ok r)
    (k : Nat) (hk : k < r.numItems.toNat) :
    ∃ v, r.item k = .ok v ∧ v.off + v.len ≤ r.itemsRaw.length
      ∧ v.data = (r.itemsRaw.drop v.off).take v.len ∧ v.data.length = v.len
      ∧ v.typeId < 65536 ∧ v.id < 65536 :=
  item_ok (Accepted.of_new h).inv hk

/-- `item_header(index)` (used by `check` itself and by `item`) for every in-range index. -/
theorem accepted_item_header (bytes : List UInt8) (r : Reader) (h : Reader.new bytes = .ok r)
    (k : Nat) (hk : k < r.numItems.toNat) :
    ∃ w size, r.itemHeader k = .ok (w, size) ∧ 0 ≤ size ∧ size % 4 = 0 := by
  have inv := (Accepted.of_new h).inv
  obtain ⟨_, w, data, hat⟩ := inv.items k hk
  exact ⟨w, _, hat.header, by omega, by omega⟩

/-- **`item_type_indices(type_id)` for every `u16`** (indeed every number): no panic, and the
range is a sub-range of `0 .. num_items`. -/
theorem accepted_item_type_indices (bytes : List UInt8) (r : Reader)
    (h : Reader.new bytes = .ok r) (typeId : Nat) :
    ∃ a b, r.itemTypeIndices typeId = .ok (a, b) ∧ a ≤ b ∧ b ≤ r.numItems.toNat :=
  itemTypeIndices_ok (Accepted.of_new h).inv typeId

/-- Every item inside the range `item_type_indices(type_id)` returns carries that type id (the
fourth block of `check`); this is what the map reader's `assert!(raw.type_id == …)` relies on. -/
theorem accepted_type_range_items_have_type (bytes : List UInt8) (r : Reader)
    (h : Reader.new bytes = .ok r) (typeId a b k : Nat)
    (hr : r.itemTypeIndices typeId = .ok (a, b)) (hk1 : a ≤ k) (hk2 : k < b) :
    ∃ v, r.item k = .ok v ∧ v.typeId = typeId := by
  have inv := (Accepted.of_new h).inv
  obtain ⟨v, hv, _, hty⟩ := item_of_type_range inv hr hk1 hk2
  exact ⟨v, hv, hty⟩

/-- **`item_type(index)`** for every index below `num_item_types`. -/
theorem accepted_item_type (bytes : List UInt8) (r : Reader) (h : Reader.new bytes = .ok r)
    (k : Nat) (hk : k < r.numItemTypes.toNat) : ∃ t, r.itemType k = .ok t ∧ t < 65536 :=
  itemType_ok (Accepted.of_new h).inv hk

/-- **`find_item(type_id, item_id)` for every pair**: no panic; a returned item lies inside
`items_raw` and has the requested id. -/
theorem accepted_find_item (bytes : List UInt8) (r : Reader) (h : Reader.new bytes = .ok r)
    (typeId itemId : Nat) :
    ∃ res, r.findItem typeId itemId = .ok res
      ∧ ∀ v, res = some v → v.off + v.len ≤ r.itemsRaw.length ∧ v.id = itemId := by
  have inv := (Accepted.of_new h).inv
  obtain ⟨res, hres, hv⟩ := findItem_ok inv typeId itemId
  exact ⟨res, hres, fun v h => ⟨(hv v h).1.1, (hv v h).2.1⟩⟩

/-- **`data_size_file(index)`** (the `assert!(start <= end)`) for every data index; the stored
block lies inside the data section. -/
theorem accepted_data_size_file (bytes : List UInt8) (r : Reader) (h : Reader.new bytes = .ok r)
    (k : Nat) (hk : k < r.numData.toNat) :
    ∃ off n, r.dataOffsets[k]? = some off ∧ 0 ≤ off ∧ r.dataSizeFile k = .ok n
      ∧ off.toNat + n ≤ r.sizeData.toNat :=
  dataSizeFile_ok (Accepted.of_new h).inv hk

/-- **`read_data(index)` for every data index**, for any zlib that honours its contract
(`inflate destLen src` produces at most `destLen` bytes): an error or the data, never a panic or
an out-of-bounds write; a version-3 block is exactly the bytes `off .. off + n` of the data
section; a version-4 block has exactly the length the size table announces. -/
theorem accepted_read_data (bytes : List UInt8) (r : Reader) (h : Reader.new bytes = .ok r)
    (inflate : Nat → List UInt8 → Option (List UInt8))
    (hz : ∀ n src out, inflate n src = some out → out.length ≤ n)
    (k : Nat) (hk : k < r.numData.toNat) :
    (∃ e, r.readData inflate k = .err e)
      ∨ ∃ out, r.readData inflate k = .ok out
          ∧ (r.uncompSizes = none → ∃ off n, r.dataOffsets[k]? = some off ∧ 0 ≤ off
                ∧ off.toNat + n ≤ r.sizeData.toNat ∧ out = (r.dataRegion.drop off.toNat).take n
                ∧ out.length = n)
          ∧ (∀ uds, r.uncompSizes = some uds → ∃ u, uds[k]? = some u ∧ 0 ≤ u ∧ out.length = u.toNat) :=
  readData_spec (Accepted.of_new h).inv inflate hz hk

/-- The zlib stand-in used by the driver satisfies the contract assumed of `uncompress` above. -/
theorem driver_inflate_contract (destLen : Nat) (src out : List UInt8)
    (h : Tw.Inflate.inflate destLen src = some out) : out.length ≤ destLen :=
  Tw.Inflate.inflate_le destLen src out h

/-- D13 regression, in the model: the two files on which `Reader::new` panicked before the D13
repairs are rejected as `Malformed`. -/
theorem d13_witnesses_rejected :
    (Reader.new [68, 65, 84, 65, 3, 0, 0, 0, 32, 0, 0, 0, 32, 0, 0, 0, 1, 0, 0, 0, 0, 0, 0, 0, 0, 0, 0, 0,
        0, 0, 0, 0, 0, 0, 0, 0, 0, 0, 0, 0, 0, 0, 0, 128, 0, 0, 0, 0]).isErr .malformed = true
    ∧ (Reader.new [68, 65, 84, 65, 3, 0, 0, 0, 68, 0, 0, 0, 68, 0, 0, 0, 1, 0, 0, 0, 2, 0, 0, 0, 0, 0, 0, 0,
        28, 0, 0, 0, 0, 0, 0, 0, 0, 0, 0, 0, 0, 0, 0, 0, 2, 0, 0, 0, 0, 0, 0, 0, 14, 0, 0, 0,
        0, 0, 0, 0, 6, 0, 0, 0, 1, 2, 3, 4, 5, 6, 1, 0, 0, 0, 6, 0, 0, 0, 1, 2, 3, 4, 5, 6]).isErr .malformed = true := by
  constructor <;> decide

/-- non-vacuity: a version-3 file with one type, two items and one data block is accepted -/
example : (Reader.new (writeDf 3 id [⟨4, 0, [7]⟩, ⟨4, 1, []⟩] [[1, 2, 3]])).isOk = true := by decide

/-- non-vacuity: a version-4 file (identity "compression") is accepted -/
example : (Reader.new (writeDf 4 id [⟨0, 0, [1]⟩, ⟨5, 2, [-1, 2]⟩] [[9], []])).isOk = true := by decide


/-! ## The file-backed reader (`datafile/src/file.rs`) -/

/-- **A datafile embedded in a larger file.**  `datafile::Reader::new(file)` with the file
positioned at byte `start` (`Reader::open` is `start = 0`) behaves exactly like the raw reader on
the bytes from `start` on: same acceptance, same tables, and `read_data` addresses the same data
region (after the repair of the seek base: position in the file = `datafile_start + seek_base +
offset`).  Hence every theorem of this file about `Reader.new` holds for the file-backed reader,
for every file content and every start position. -/
theorem file_open_at_offset_eq_raw (file : List UInt8) (start : Nat) :
    fileOpen file start = Reader.new (file.drop start) := by
  unfold fileOpen
  cases h : Reader.new (file.drop start) with
  | panic s => rfl
  | err e => rfl
  | ok r =>
    have hlen := (Accepted.of_new h).header
    obtain ⟨pre, hpre⟩ := (Accepted.of_new h).suffix
    dsimp only
    -- a complete header was read from `start` on, so `start` lies inside the file
    rw [if_neg (by simp only [List.length_drop, headerSize] at hlen; omega)]
    have hsb : (file.drop start).length - r.dataRegion.length = pre.length := by
      rw [hpre]; simp
    have hd : file.drop (start + pre.length) = r.dataRegion := by
      rw [← List.drop_drop, hpre]; exact List.drop_left' rfl
    rw [hsb, hd]

/-- the `checked_sub(datafile_start).unwrap()` of `ensure_filesize` cannot fail, even for a file
positioned beyond its end -/
theorem file_open_never_panics (file : List UInt8) (start : Nat) (site : String) :
    fileOpen file start ≠ .panic site := by
  rw [file_open_at_offset_eq_raw]; exact reader_new_never_panics _ site

/-- **`debug_dump` is total** on every accepted file (debug logging enabled: `item_type` for
every type, `item` for every item of every type range, `read_data` for every data block), for a
zlib that honours its contract: the first `read_data` error or `Ok`, never a panic. -/
theorem accepted_debug_dump (bytes : List UInt8) (r : Reader) (h : Reader.new bytes = .ok r)
    (inflate : Nat → List UInt8 → Option (List UInt8))
    (hz : ∀ n src out, inflate n src = some out → out.length ≤ n) (site : String) :
    r.debugDump inflate ≠ .panic site :=
  debugDump_no_panic (Accepted.of_new h).inv inflate hz site

/-! ## Callbacks that fail (`raw::CallbackError`) -/

/-- **I/O errors of the callbacks.**  If any of the callback calls of `Reader::new` (`read` ×5–6,
`set_seek_base`, `ensure_filesize`; `fails k` = the k-th call returns `Err(CallbackError)`) fails,
the result is `Error::Callback` or the format error that is detected before that call — never a
panic, and never a different reader: `newCb` is `new` or the callback's error.  With callbacks
that never fail it is `new`. -/
theorem callback_errors_new (bytes : List UInt8) (fails : Nat → Bool) :
    (Reader.newCb bytes fails = Reader.new bytes ∨ Reader.newCb bytes fails = .err .callback)
      ∧ (∀ site, Reader.newCb bytes fails ≠ .panic site)
      ∧ Reader.newCb bytes (fun _ => false) = Reader.new bytes :=
  ⟨newCb_cases bytes fails, newCb_no_panic bytes fails, newCb_no_failure bytes⟩

/-- `read_data` with a failing `seek_read` or `alloc_data_buffer`: the callback's error or the
result without failure; the reader (`&self`) is not modified, so a later call without failure
returns what it would have returned (`readDataCb … false false = readData …`). -/
theorem callback_errors_read_data (r : Reader) (inflate : Nat → List UInt8 → Option (List UInt8))
    (index : Nat) (failSeek failAlloc : Bool) :
    (r.readDataCb inflate index failSeek failAlloc = r.readData inflate index
        ∨ r.readDataCb inflate index failSeek failAlloc = .err .callback)
      ∧ r.readDataCb inflate index false false = r.readData inflate index :=
  ⟨readDataCb_cases r inflate index failSeek failAlloc, readDataCb_no_failure r inflate index⟩

/-! ## Writer / reader round trip -/

/-- **Round trip, both format versions.**  For versions 3 and 4, any well-formed item list and any
data blocks (each at most `i32::MAX` bytes, the limit of the size table) whose file stays below
2 GiB, and any zlib pair with `inflate |x| (deflate x) = x`: `Reader::new` accepts the written
file, and the reader returns exactly the items (type id, id, data words, in order) and exactly
the data blocks that were stored. -/
theorem roundtrip (ver : Nat) (deflate : List UInt8 → List UInt8)
    (inflate : Nat → List UInt8 → Option (List UInt8)) (items : List Item) (datas : List (List UInt8))
    (hv : ver = 3 ∨ ver = 4) (hwf : ItemsWellFormed items)
    (htotal : (sizesOf ver deflate items datas).total ver ≤ 2147483647)
    (hlen : ∀ d ∈ datas, d.length ≤ 2147483647)
    (hz : ∀ x ∈ datas, inflate x.length (deflate x) = some x) :
    ∃ r, Reader.new (writeDf ver deflate items datas) = .ok r
      ∧ r.numItems = items.length ∧ r.numData = datas.length
      ∧ (∀ k (hk : k < items.length), ∃ v, r.item k = .ok v ∧ v.typeId = items[k].typeId
            ∧ v.id = items[k].id ∧ v.data = items[k].data)
      ∧ (∀ i (hi : i < datas.length), r.readData inflate i = .ok datas[i]) :=
  have wr := Writable.of_wellFormed hv hwf htotal hlen
  ⟨_, new_writeDf wr, rfl, rfl,
    fun _ hk => writtenReader_item_view ver deflate items datas wr.ids hk,
    fun _ hi => writtenReader_readData wr hz hi⟩

/-- non-vacuity of the hypotheses of `roundtrip`: a three-type item list is well-formed, and the
identity pair satisfies the zlib hypothesis -/
example : ItemsWellFormed [⟨0, 0, [1]⟩, ⟨4, 0, [7, -1, 2147483647]⟩, ⟨4, 65535, []⟩, ⟨65535, 2, [-2147483648]⟩]
    ∧ (∀ x ∈ [[104, 105, 0], [], [255, 0, 1, 2, 3]], (fun (_ : Nat) (s : List UInt8) => some s) x.length (id x) = some x) := by
  refine ⟨⟨?_, ?_⟩, fun x _ => rfl⟩
  · simp [InI32]
  · simp

/-- The writer's header is accepted: for v ∈ {3,4} and *every* item/data set below 2 GiB,
`Header::read` on the written file yields the version and counts of what was written and
`check_size_and_swaplen` accepts `size`/`swaplen` as the non-crude variant with `expected_size` =
the writer's total (the first step of `roundtrip`, without the well-formedness hypotheses). -/
theorem writer_header_accepted' (ver : Nat) (hv : ver = 3 ∨ ver = 4)
    (deflate : List UInt8 → List UInt8) (items : List Item) (datas : List (List UInt8))
    (hmax : (sizesOf ver deflate items datas).total ver ≤ 2147483647) :
    ∃ h, Header.read (writeDf ver deflate items datas) = .ok h
      ∧ h.version = ver ∧ h.numItems = items.length ∧ h.numData = datas.length
      ∧ h.numItemTypes = (groupTypes items 0).length
      ∧ h.checkSizeAndSwaplen
          = .ok { expectedSize := ((sizesOf ver deflate items datas).total ver : Nat), crude := false } :=
  have ⟨hread, hcheck⟩ := header_writeDf ver hv deflate items datas hmax
  ⟨_, hread, rfl, rfl, rfl, rfl, hcheck⟩

/-- bytes ↔ words: what the writer serialises is what the reader's table reads see -/
theorem words_bytes_roundtrip (ws : List Int) (h : ∀ w ∈ ws, InI32 w) (rest : List UInt8) :
    wordsOfBytes (bytesOfWords ws) = ws
      ∧ readExact (4 * ws.length) (bytesOfWords ws ++ rest) = some (bytesOfWords ws, rest) := by
  refine ⟨wordsOfBytes_bytesOfWords ws h, ?_⟩
  exact readExact_append _ (bytesOfWords_length ws)

/-- kernel-checked executable instances of `roundtrip` (identity "compression"): three item types,
empty and non-empty items and blocks, both versions -/
theorem roundtrip_instances :
    roundTripOk 3 id (fun _ s => some s)
        [⟨0, 0, [1]⟩, ⟨4, 0, [7, -1, 2147483647]⟩, ⟨4, 65535, []⟩, ⟨65535, 2, [-2147483648]⟩]
        [[104, 105, 0], [], [255, 0, 1, 2, 3]] = true
    ∧ roundTripOk 4 id (fun _ s => some s)
        [⟨0, 0, [1]⟩, ⟨4, 0, [7, -1, 2147483647]⟩, ⟨4, 65535, []⟩, ⟨65535, 2, [-2147483648]⟩]
        [[104, 105, 0], [], [255, 0, 1, 2, 3]] = true
    ∧ roundTripOk 3 id (fun _ s => some s) [] [] = true
    ∧ roundTripOk 4 id (fun _ s => some s) [] [] = true := by
  decide +kernel

/-! ## Map layer (`map/src/format.rs`, `map/src/reader.rs`) -/

section Map
open Tw.Map Tw.Gen.MapItems

/-- Tie to the source: the layout `(version, offset, ignore_version, len)` of every
`impl MapItem for …` in `map/src/format.rs`, as extracted on this run, is the table the `from_raw`
models were written against. -/
theorem tie_map_item_table :
    Tw.Gen.MapItems.all.map (fun p => (p.1, p.2.version, p.2.offset, p.2.ignoreVersion, p.2.len)) =
      [("MapItemCommonV0", 0, 0, true, 1), ("MapItemInfoV1ExtraRace", 1, 5, false, 1),
       ("MapItemEnvelopeV1Legacy", 1, 1, false, 4), ("MapItemLayerV1CommonV0", 0, 0, true, 1),
       ("MapItemVersionV1", 1, 1, false, 0), ("MapItemInfoV1", 1, 1, false, 4),
       ("MapItemInfoV2", 2, 5, true, 1), ("MapItemImageV1", 1, 1, false, 5),
       ("MapItemImageV2", 2, 6, false, 1), ("MapItemEnvelopeV1", 1, 1, false, 11),
       ("MapItemEnvelopeV2", 2, 12, false, 1), ("MapItemGroupV1", 1, 1, false, 6),
       ("MapItemGroupV2", 2, 7, false, 5), ("MapItemGroupV3", 3, 12, false, 3),
       ("MapItemLayerV1", 1, 1, true, 2), ("MapItemDdraceSoundV1", 1, 1, false, 4),
       ("MapItemLayerV1TilemapV1", 1, 1, false, 0), ("MapItemLayerV1TilemapV2", 2, 1, false, 11),
       ("MapItemLayerV1TilemapV3", 3, 12, false, 3), ("MapItemLayerV1QuadsV1", 1, 1, false, 3),
       ("MapItemLayerV1QuadsV2", 2, 4, false, 3), ("MapItemLayerV1DdraceSoundsV1", 1, 1, false, 6),
       ("MapItemLayerV1DdraceSoundsV2", 2, 7, false, 0)] := rfl

/-- Tie: the word position of every struct field the `from_raw` models read by number. -/
theorem tie_map_field_positions :
    fields_MapItemInfoV1 = [("author", 0), ("version", 1), ("credits", 2), ("license", 3)]
    ∧ fields_MapItemImageV1 = [("width", 0), ("height", 1), ("external", 2), ("name", 3), ("data", 4)]
    ∧ fields_MapItemGroupV1 = [("offset_x", 0), ("offset_y", 1), ("parallax_x", 2), ("parallax_y", 3),
        ("start_layer", 4), ("num_layers", 5)]
    ∧ fields_MapItemGroupV2 = [("use_clipping", 0), ("clip_x", 1), ("clip_y", 2), ("clip_w", 3), ("clip_h", 4)]
    ∧ fields_MapItemLayerV1 = [("type_", 0), ("flags", 1)]
    ∧ fields_MapItemLayerV1TilemapV2 = [("width", 0), ("height", 1), ("flags", 2), ("color_red", 3),
        ("color_green", 4), ("color_blue", 5), ("color_alpha", 6), ("color_env", 7),
        ("color_env_offset", 8), ("image", 9), ("data", 10)]
    ∧ fields_MapItemLayerV1QuadsV1 = [("num_quads", 0), ("data", 1), ("image", 2)]
    ∧ fields_MapItemLayerV1DdraceSoundsV1 = [("num_sources", 0), ("data", 1), ("sound", 2), ("name", 3)] :=
  ⟨rfl, rfl, rfl, rfl, rfl, rfl, rfl, rfl⟩

/-- Tie: item type numbers, flags and tile struct sizes used by the map model, and the datafile
constants and struct sizes used by the reader model. -/
theorem tie_constants :
    [MAP_ITEMTYPE_VERSION, MAP_ITEMTYPE_INFO, MAP_ITEMTYPE_IMAGE, MAP_ITEMTYPE_ENVELOPE,
      MAP_ITEMTYPE_GROUP, MAP_ITEMTYPE_LAYER, MAP_ITEMTYPE_ENVPOINTS, MAP_ITEMTYPE_DDRACE_SOUND]
      = [0, 1, 2, 3, 4, 5, 6, 7]
    ∧ [MAP_ITEMTYPE_LAYER_V1_TILEMAP, MAP_ITEMTYPE_LAYER_V1_QUADS, MAP_ITEMTYPE_LAYER_V1_DDRACE_SOUNDS,
        MAP_ITEMTYPE_LAYER_V1_DDRACE_SOUNDS_LEGACY] = [2, 3, 10, 9]
    ∧ [LAYERFLAG_DETAIL, LAYERFLAGS_ALL, TILELAYERFLAG_GAME, TILELAYERFLAG_TELEPORT, TILELAYERFLAG_SPEEDUP,
        TILELAYERFLAG_FRONT, TILELAYERFLAG_SWITCH, TILELAYERFLAG_TUNE] = [1, 1, 1, 2, 4, 8, 16, 32]
    ∧ [sizeOf_Tile, sizeOf_TeleTile, sizeOf_SpeedupTile, sizeOf_SwitchTile, sizeOf_TuneTile] = [4, 2, 6, 4, 2]
    ∧ lits_extra_offset = [2, 3, 0, 1, 2, 3, 4]
    ∧ (Tw.Gen.Datafile.VERSION3, Tw.Gen.Datafile.VERSION4, Tw.Gen.Datafile.ITEMTYPE_ID_RANGE) = (3, 4, 65536)
    ∧ Tw.Gen.Datafile.MAGIC = magicData ∧ Tw.Gen.Datafile.MAGIC_BIGENDIAN = magicAtad
    ∧ [Tw.Gen.Datafile.sizeOf_Header, Tw.Gen.Datafile.sizeOf_HeaderVersion, Tw.Gen.Datafile.sizeOf_ItemType,
        Tw.Gen.Datafile.sizeOf_ItemHeader] = [headerSize, 8, 12, 8]
    ∧ Tw.Gen.Datafile.headerRestFields
        = ["size", "swaplen", "num_item_types", "num_items", "num_data", "size_items", "size_data"] :=
  ⟨rfl, rfl, rfl, rfl, rfl, rfl, rfl, rfl, rfl, rfl⟩

/-- Tie: the comparisons of the datafile reader's validation code (`Reader::check` and whatever
helper it may be split into, the header checks of `format.rs`, `ensure_filesize` of `file.rs`) as a
sorted multiset of *shapes* `[!]<left><op><right>` — an operand is kept only if it is an integer
literal or an ALL_CAPS constant, `!` marks a comparison inside a negated group — and the fact that
the seek base of `file.rs` includes `datafile_start`.  An operator flip (`<` ↔ `<=`), a dropped
negation or another limit constant breaks this theorem even when no generated input separates
the versions; renaming, local `let`s, closures (`find`/`position`) and private helper functions
do not. -/
theorem tie_datafile_comparisons :
    Tw.Gen.Datafile.cmp_raw_validation
      = ["!0<=_", "!0<=_", "!_<=_", "!_<ITEMTYPE_ID_RANGE", "!_>_", "_!=0", "_!=_", "_!=_", "_!=_", "_!=_", "_!=_", "_<0", "_<0", "_<0", "_<0", "_==_", "_>_", "_>_", "_>_", "_>_"]
    ∧ Tw.Gen.Datafile.cmp_format_header
      = ["_!=0", "_!=MAGIC", "_!=MAGIC_BIGENDIAN", "_!=VERSION3", "_!=VERSION4", "_!=_", "_!=_", "_!=_", "_!=_", "_!=_", "_<0", "_<0", "_<0", "_<0", "_<0", "_<0", "_<0", "_<_", "_<_", "_>=4"]
    ∧ Tw.Gen.Datafile.cmp_file_ensure_filesize = ["_>=_"]
    ∧ Tw.Gen.Datafile.file_seek_base_uses_start = true :=
  ⟨rfl, rfl, rfl, rfl⟩

/-- Tie: comparison shapes of the map layer's validation code (`from_slice_rest`, the extra-race
`from_slice`/`offset`, `get_index_impl`, `get_index_opt`, every `from_raw`). -/
theorem tie_map_comparisons :
    Tw.Gen.MapItems.cmp_map_format
      = ["!_<=_", "!_<_", "_!=0", "_<=_", "_<_", "_<_", "_==0", "_==_"]
    ∧ Tw.Gen.MapItems.cmp_map_reader
      = ["!_<_", "_!=0", "_!=0", "_!=0", "_!=0", "_!=MAP_ITEMTYPE_LAYER_V1_DDRACE_SOUNDS", "_==-1", "_==-1", "_==0", "_==0", "_>_", "_>_"] :=
  ⟨rfl, rfl⟩

/-- **`MapItemExt::from_slice_rest` is total** for every layout and every slice (the two slice
operations and the size assertion cannot fail), and a found item is exactly the window
`slice[offset .. offset + len]`. -/
theorem map_from_slice_rest_total (sp : Spec) (slice : List Int) :
    (∀ site, fromSliceRest sp slice ≠ .panic site)
      ∧ ∀ item rest, fromSliceRest sp slice = .found item rest →
          sp.offset + sp.len ≤ slice.length ∧ item = (slice.drop sp.offset).take sp.len
            ∧ rest = slice.drop (sp.offset + sp.len) := by
  refine ⟨fun s => fromSliceRest_no_panic sp slice s, fun item rest h => ?_⟩
  obtain ⟨h1, h2, _, h4⟩ := fromSliceRest_found h
  exact ⟨h1, h2, h4⟩

/-- **`get_index` / `get_index_opt`**: a returned index lies in the range it was checked against. -/
theorem map_get_index_in_range (index : Int) (a b : Nat) (e : String) :
    (∀ i, getIndex index a b e = .ok i → a ≤ i ∧ i < b)
      ∧ (∀ i, getIndexOpt index a b e = .ok (some i) → a ≤ i ∧ i < b)
      ∧ (∀ s, getIndex index a b e ≠ .panic s) ∧ (∀ s, getIndexOpt index a b e ≠ .panic s) :=
  ⟨fun _ h => (getIndex_spec index a b e).of_ok h, fun i h => (getIndexOpt_spec index a b e).of_ok h i rfl,
    (getIndex_spec index a b e).not_panic, (getIndexOpt_spec index a b e).not_panic⟩

/-- **`version()`, `check_version()`, `info()`** on every accepted datafile: no panic (the
`unreachable!()` of `version()` is not reached); the data indices of the info item are below
`num_data`. -/
theorem map_version_info_total (bytes : List UInt8) (r : Reader) (h : Reader.new bytes = .ok r) :
    (∀ s, version r ≠ .panic s) ∧ (∀ s, checkVersion r ≠ .panic s) ∧ (∀ s, info r ≠ .panic s)
      ∧ ∀ i, info r = .ok i → ∀ d, d ∈ [i.author, i.version, i.credits, i.license, i.settings] →
          ∀ k, d = some k → k < r.numData.toNat :=
  have inv := (Accepted.of_new h).inv
  ⟨(version_spec inv).not_panic, (checkVersion_spec inv).not_panic,
    ((info_spec inv).mono fun _ ⟨h1, h2, h3, h4, h5⟩ => lt_of_optIn_five h1 h2 h3 h4 h5).total⟩

/-- **`group(index)` for every index of `group_indices()`**: the type assertion holds, no panic,
and the group's `layer_indices` is a sub-range of the layer items. -/
theorem map_group_total (bytes : List UInt8) (r : Reader) (h : Reader.new bytes = .ok r)
    (ga gb k : Nat) (hg : typeRange r MAP_ITEMTYPE_GROUP = .ok (ga, gb)) (h1 : ga ≤ k) (h2 : k < gb) :
    (∀ s, group r k ≠ .panic s) ∧ ∃ la lb, typeRange r MAP_ITEMTYPE_LAYER = .ok (la, lb)
      ∧ ∀ g, group r k = .ok g → la ≤ g.layersStart ∧ g.layersStart ≤ g.layersEnd ∧ g.layersEnd ≤ lb := by
  have inv := (Accepted.of_new h).inv
  obtain ⟨la, lb, hl, _, _⟩ := typeRange_ok inv MAP_ITEMTYPE_LAYER
  obtain ⟨np, ok⟩ := (group_spec inv hg hl h1 h2).total
  exact ⟨np, la, lb, hl, ok⟩

/-- **`layer(index)` for every index of the layer range** (hence for every index a group
returns): the type assertion holds, no panic (the `unreachable!()` of `Layer::from_raw` is not
reached), and every data / image / envelope / sound index of the layer is inside the corresponding
range; tile layers have non-zero dimensions. -/
theorem map_layer_total (bytes : List UInt8) (r : Reader) (h : Reader.new bytes = .ok r)
    (la lb k : Nat) (hl : typeRange r MAP_ITEMTYPE_LAYER = .ok (la, lb)) (h1 : la ≤ k) (h2 : k < lb) :
    (∀ s, layer r k ≠ .panic s) ∧ ∀ l, layer r k = .ok l →
      ∃ ea eb ia ib sa sb, typeRange r MAP_ITEMTYPE_ENVELOPE = .ok (ea, eb)
        ∧ typeRange r MAP_ITEMTYPE_IMAGE = .ok (ia, ib)
        ∧ typeRange r MAP_ITEMTYPE_DDRACE_SOUND = .ok (sa, sb)
        ∧ l.InRange 0 r.numData.toNat ea eb ia ib sa sb :=
  (layer_spec (Accepted.of_new h).inv hl h1 h2).total

/-- **`image(index)` for every item index**: no panic; name and data index below `num_data`. -/
theorem map_image_total (bytes : List UInt8) (r : Reader) (h : Reader.new bytes = .ok r)
    (k : Nat) (hk : k < r.numItems.toNat) :
    (∀ s, image r k ≠ .panic s) ∧ ∀ x, image r k = .ok x →
      x.name < r.numData.toNat ∧ ∀ d, x.data = some d → d < r.numData.toNat :=
  ((image_spec (Accepted.of_new h).inv hk).mono fun _ ⟨hn, hd⟩ => ⟨hn, fun d hdd => (hd d hdd).2⟩).total

/-- **`game_layers()`**: no panic (both loops, every `group`/`layer` call inside them and the two
final `unwrap`s), and every data index it returns is below `num_data`. -/
theorem map_game_layers_total (bytes : List UInt8) (r : Reader) (h : Reader.new bytes = .ok r) :
    (∀ s, gameLayers r ≠ .panic s) ∧ ∀ gl, gameLayers r = .ok gl →
      gl.game < r.numData.toNat ∧ ∀ d, d ∈ [gl.teleport, gl.speedup, gl.front, gl.switch, gl.tune] →
        ∀ k, d = some k → k < r.numData.toNat :=
  ((gameLayers_spec (Accepted.of_new h).inv).mono fun _ ⟨h0, h1, h2, h3, h4, h5⟩ =>
    ⟨h0, lt_of_optIn_five h1 h2 h3 h4 h5⟩).total

/-- **String, image-name, settings and tile accessors for every data index**, for any zlib that
honours its contract: errors or values, never a panic; a tile array has exactly
`height × width` elements of its struct size. -/
theorem map_data_accessors_total (bytes : List UInt8) (r : Reader) (h : Reader.new bytes = .ok r)
    (z : Zlib) (hz : ∀ n src out, z n src = some out → out.length ≤ n)
    (d : Nat) (hd : d < r.numData.toNat) :
    (∀ s, Tw.Map.string r z d ≠ .panic s) ∧ (∀ s, imageName r z d ≠ .panic s)
      ∧ (∀ s, settings r z d ≠ .panic s)
      ∧ (∀ size e s, tilesRaw r z d size e ≠ .panic s)
      ∧ (∀ width height size e, (∀ s, tiles r z d width height size e ≠ .panic s)
          ∧ ∀ raw, tiles r z d width height size e = .ok raw →
              raw.length % size = 0 ∧ height * width = raw.length / size) := by
  have inv := (Accepted.of_new h).inv
  exact ⟨(string_spec inv z hz hd).not_panic, (imageName_spec inv z hz hd).not_panic,
    (settings_spec inv z hz hd).not_panic, fun size e => (tilesRaw_spec inv z hz hd size e).not_panic,
    fun width height size e => (tiles_spec inv z hz hd width height size e).total⟩

/-- **`SettingsIter` terminates** on every byte string: from any position inside the block,
`length - pos + 1` calls of `next` reach `None`; no call indexes outside the block. -/
theorem settings_iter_terminates (s : List UInt8) (pos : Nat) (hpos : pos ≤ s.length) :
    ∃ items, settingsAll s (s.length - pos + 1) pos = some (.ok items) :=
  settingsAll_terminates s _ pos hpos (Nat.le_refl _)

/-- non-vacuity: a settings block with two entries -/
example : settingsAll [97, 0, 98, 99, 0] 6 0 = some (.ok [[97], [98, 99]]) := by rfl


/-- **Map round trip.**  For every well-formed map `m` (`WMap.Ok`: ids fit 16 bits, every index of
the info item, the images and the layers lies in the range the format demands, the groups' layer
counts add up, every word fits an `i32`, file below 2 GiB) and every zlib pair with
`inflate |x| (deflate x) = x`: the file `writeMap deflate m` (independent writer model: version,
info, images, envelopes, groups, layers of all kinds, sounds, data) is accepted, and the map reader
returns the map — version 1, the info item's indices, the group and image ranges, every image,
every group with its layer range, every layer (tile layers of every kind with colour, colour
envelope, image and data indices; quad layers; sound layers) and every data block. -/
theorem map_roundtrip (deflate : List UInt8 → List UInt8)
    (inflate : Nat → List UInt8 → Option (List UInt8)) (m : WMap) (ok : m.Ok deflate)
    (hz : ∀ x ∈ m.datas, inflate x.length (deflate x) = some x) :
    ∃ r, Reader.new (writeMap deflate m) = .ok r
      ∧ version r = .ok 1 ∧ checkVersion r = .ok ()
      ∧ info r = .ok { author := m.info.author, version := m.info.version, credits := m.info.credits,
                       license := m.info.license, settings := m.info.settings }
      ∧ typeRange r MAP_ITEMTYPE_GROUP = .ok (grpRange m)
      ∧ typeRange r MAP_ITEMTYPE_IMAGE = .ok (imgRange m)
      ∧ (∀ i (hi : i < m.images.length), image r (2 + i)
            = .ok { width := m.images[i].width, height := m.images[i].height, name := m.images[i].name,
                    data := m.images[i].data })
      ∧ (∀ i (hi : i < m.groups.length), group r (gBase m + i)
            = .ok { offsetX := m.groups[i].offsetX, offsetY := m.groups[i].offsetY,
                    parallaxX := m.groups[i].parallaxX, parallaxY := m.groups[i].parallaxY,
                    layersStart := (layRange m).1 + startOf m.groups i,
                    layersEnd := (layRange m).1 + startOf m.groups i + m.groups[i].numLayers,
                    clipping := m.groups[i].clipping, name := nameGet (nameW m.groups[i].name) })
      ∧ (∀ i (hi : i < m.layers.length), layer r (lBase m + i)
            = .ok (m.layers[i].read (envRange m).1 (imgRange m).1 (sndRange m).1))
      ∧ (∀ d (hd : d < m.datas.length), Tw.Map.readData r inflate d = .ok m.datas[d]) := by
  refine ⟨mapReader deflate m, new_writeDf ok.writable,
    version_mapReader ok, ?_, info_mapReader ok, grpRange_mapReader ok, imgRange_mapReader ok,
    fun i hi => image_mapReader ok hi, fun i hi => group_mapReader ok hi,
    fun i hi => layer_mapReader ok hi, ?_⟩
  · unfold checkVersion; rw [version_mapReader ok]; rfl
  · intro d hd
    unfold Tw.Map.readData mapReader
    rw [writtenReader_readData ok.writable hz hd]
    rfl

/-- **Strings and settings come back as stored.**  A data block `s ++ [0]` without inner NUL is
returned by `string` as `s`; a settings block that is the concatenation of NUL-terminated entries
is iterated by `SettingsIter` into exactly those entries. -/
theorem map_strings_settings_roundtrip (r : Reader) (z : Zlib) (d : Nat) :
    (∀ s : List UInt8, Tw.Map.readData r z d = .ok (s ++ [0]) → (∀ b ∈ s, b ≠ 0) →
        Tw.Map.string r z d = .ok s)
      ∧ ∀ ss : List (List UInt8), (∀ s ∈ ss, ∀ b ∈ s, b ≠ 0) →
          settingsAll ((ss.map (· ++ [0])).flatten) (ss.length + 1) 0 = some (.ok ss) := by
  refine ⟨fun s h hs => string_of_data h hs, fun ss hss => ?_⟩
  have := settingsAll_join ss hss [] (ss.length + 1) (Nat.le_refl _)
  simpa using this

/-- non-vacuity: a sample map with two groups, four layers (game, normal with colour envelope,
quads, teleport), two images and an envelope satisfies `WMap.Ok` -/
example : (sampleMap 1).Ok id := by
  refine ⟨by decide, by decide, by decide, ?_, ?_, by decide, by decide +kernel, by decide⟩
  · intro i hi
    have : i = 0 ∨ i = 1 := by simp [sampleMap] at hi; omega
    rcases this with rfl | rfl <;> simp [sampleMap, startOf, sampleTile]
  · intro l hl
    simp [sampleMap, sampleTile] at hl
    rcases hl with rfl | rfl | rfl | rfl <;>
      simp [WLayer.Ok, envRange, imgRange, rangeOf, sampleMap, eBase, sampleTile] <;>
      constructor <;> simp [WTileKind.extraData]

end Map

end Tw.Props.C16
