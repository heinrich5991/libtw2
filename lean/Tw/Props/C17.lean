import Tw.Model.Teehistorian
import Tw.Gen.Teehistorian
import Tw.Proofs.TeehistParse
import Tw.Proofs.TeehistRun
import Tw.Proofs.TeehistInterp
import Tw.Proofs.TeehistSem
import Tw.Proofs.TeehistTicks
import Tw.Proofs.TeehistSums
import Tw.Model.TeehistorianSpec

/-!
# C17 — teehistorian reading is independent of stream fragmentation

Property theorems only; helper lemmas live in `Tw/Proofs/Teehist*.lean`.  The model is
`Tw/Model/Teehistorian.lean`; it is tied to `teehistorian/src/{raw.rs,format/item.rs}` by the
`teehist` correspondence domain and by the `tie_*` theorems over the regenerated tables below.
-/
namespace Tw.Props.C17
open Tw.Teehistorian Tw.Teehistorian.Spec

/-! ### Ties to the source -/

/-- Item ids and table sizes. -/
theorem tie_ids :
    Gen.Teehistorian.FINISH = -1 ∧ Gen.Teehistorian.TICK_SKIP = -2 ∧ Gen.Teehistorian.PLAYER_NEW = -3 ∧
    Gen.Teehistorian.PLAYER_OLD = -4 ∧ Gen.Teehistorian.INPUT_DIFF = -5 ∧ Gen.Teehistorian.INPUT_NEW = -6 ∧
    Gen.Teehistorian.MESSAGE = -7 ∧ Gen.Teehistorian.JOIN = -8 ∧ Gen.Teehistorian.DROP = -9 ∧
    Gen.Teehistorian.CONSOLE_COMMAND = -10 ∧ Gen.Teehistorian.EX = -11 ∧
    Gen.Teehistorian.INPUT_LEN = 10 ∧ Gen.Teehistorian.CONSOLE_COMMAND_MAX_ARGS = 16 ∧
    Gen.Teehistorian.BUFFER_SIZE = 8192 :=
  ⟨rfl, rfl, rfl, rfl, rfl, rfl, rfl, rfl, rfl, rfl, rfl, rfl, rfl, rfl⟩

/-- `Kind::decode` dispatches exactly as `kindOfId` does: which ids exist, which read a second
integer, which is guarded by `version.has_ex()`. -/
theorem tie_kind_arms :
    Gen.Teehistorian.kindArms =
      [("FINISH", false, "Finish", false), ("TICK_SKIP", false, "TickSkip", false),
       ("PLAYER_NEW", false, "PlayerNew", true), ("PLAYER_OLD", false, "PlayerOld", true),
       ("INPUT_DIFF", false, "InputDiff", false), ("INPUT_NEW", false, "InputNew", false),
       ("MESSAGE", false, "Message", false), ("JOIN", false, "Join", false), ("DROP", false, "Drop", false),
       ("CONSOLE_COMMAND", false, "ConsoleCommand", false), ("EX", true, "Ex", false)] := rfl

/-- The read sequences of the `decode` functions that `parseRest` models by hand
(0 int, 1 string, 2 data; `ConsoleCommand` ends with the string read inside its loop). -/
theorem tie_core_decodes :
    ["PlayerDiff", "Finish", "TickSkip", "PlayerNew", "PlayerOld", "InputDiff", "InputNew", "Message", "Join",
      "Drop", "ConsoleCommand"].map (fun n => Gen.Teehistorian.decodeReads.lookup n) =
    [some ([0, 0], ["dx", "dy"]), some ([], []), some ([0], ["dt"]), some ([0, 0], ["x", "y"]), some ([], []),
     some ([0, 0, 0, 0, 0, 0, 0, 0, 0, 0, 0], ["cid", "diff"]),
     some ([0, 0, 0, 0, 0, 0, 0, 0, 0, 0, 0], ["cid", "new"]),
     some ([0, 2], ["cid", "msg"]), some ([0], ["cid"]), some ([0, 1], ["cid", "reason"]),
     some ([0, 0, 1, 0, 1], ["cid", "flag_mask", "cmd", "num_args"])] := by decide +kernel

/-- The extension table the model dispatches on has one row per UUID constant, every row was
assembled completely (UUID bytes and read sequence found), and no two rows share a UUID. -/
theorem tie_ex_table :
    exTable.length = Gen.Teehistorian.uuids.length ∧ exTable.length = 20 ∧
    (exTable.map (·.uuid)).Nodup ∧ exTable.all (fun r => r.uuid.length == 16) = true := by decide +kernel

/-- `Item::cid` and the first field (the model takes the first value for the variants listed in `cidSome`): every
variant whose first field is called `cid` is in `cidSome`, and every other variant is in `cidNone` or is one of the
three `Player*` kinds, whose client id is read with the item kind (`Kind::decode`).  This is the right disjunct; the
left one, equality of the two name lists in order, fails on the generated tables, which order two variants
differently. -/
theorem tie_cid_table :
    (Gen.Teehistorian.decodeReads.filter fun (_, _, names) => names.head? == some "cid").map (·.1) =
      Gen.Teehistorian.cidSome.filter (fun n => ! ["PlayerDiff", "PlayerNew", "PlayerOld"].contains n) ∨
    ((Gen.Teehistorian.decodeReads.filter fun (_, _, names) => names.head? == some "cid").all
        (fun (n, _, _) => Gen.Teehistorian.cidSome.contains n) = true ∧
     (Gen.Teehistorian.decodeReads.filter fun (_, _, names) => names.head? != some "cid").all
        (fun (n, _, _) => Gen.Teehistorian.cidNone.contains n || ["PlayerDiff", "PlayerNew", "PlayerOld"].contains n) = true) := by
  right; decide +kernel

/-- What `Reader::read` does to the tick state, as the model's `Reader.pre`/`Reader.post` assume it:
every tick update is overflow-checked and reports `TickOverflow`; `prev_player_cid` is only ever
cleared or set to a record's client id; the `TickSkip` arm clears it (the repair of defect D11) and
toggles `in_tick`; the implicit tick is decided by `prev >= cid`.  The translator inlines private
helpers, classifies right-hand sides and normalises the comparison, so that behaviour-preserving
refactorings (helper extraction, renames, `a >= b` ↔ `b <= a`, statement order) leave this tie
intact. -/
theorem tie_read_assignments :
    Gen.Teehistorian.readEffects =
      [("in_tick", "false"), ("in_tick", "true"), ("max_cid", "max"), ("next_item_kind", "Some"),
       ("prev_player_cid", "None"), ("prev_player_cid", "Some"), ("tick", "checked_add:TickOverflow")] ∧
    Gen.Teehistorian.tickSkipEffects =
      [("in_tick", "false"), ("in_tick", "true"), ("prev_player_cid", "None"),
       ("tick", "checked_add:TickOverflow")] ∧
    Gen.Teehistorian.implicitTickCmp = "prev >= cid" ∧
    Gen.Teehistorian.lits_empty = [0, 1] ∧ Gen.Teehistorian.lits_read_more = [0, 0, 0] :=
  ⟨rfl, rfl, rfl, rfl, rfl⟩

/-! ### Prefix monotonicity of every item parser -/

/-- A parse result obtained on a prefix of the stream is final (item id). -/
theorem parseKind_prefix_ok (hasEx : Bool) (p q rest : List UInt8) (k : Kind)
    (h : parseKind hasEx p = .ok k rest) : parseKind hasEx (p ++ q) = .ok k (rest ++ q) :=
  (good_parseKind hasEx).ok_append h q

theorem parseKind_prefix_err (hasEx : Bool) (p q : List UInt8) (e : ItemErr)
    (h : parseKind hasEx p = .err e) : parseKind hasEx (p ++ q) = .err e :=
  (good_parseKind hasEx).err_append h q

/-- A parse result obtained on a prefix of the stream is final (rest of every record kind,
including every extension item). -/
theorem parseRest_prefix_ok (k : Kind) (p q rest : List UInt8) (it : FItem)
    (h : parseRest k p = .ok it rest) : parseRest k (p ++ q) = .ok it (rest ++ q) :=
  (good_parseRest k).ok_append h q

theorem parseRest_prefix_err (k : Kind) (p q : List UInt8) (e : ItemErr)
    (h : parseRest k p = .err e) : parseRest k (p ++ q) = .err e :=
  (good_parseRest k).err_append h q

/-- What a successful parse consumed is a prefix of its input (the committed offset never
exceeds the buffered bytes). -/
theorem parse_consumes_prefix (hasEx : Bool) (k : Kind) (p rest : List UInt8) :
    (∀ k', parseKind hasEx p = .ok k' rest → ∃ pre, p = pre ++ rest ∧ pre ≠ []) ∧
    (∀ it, parseRest k p = .ok it rest → ∃ pre, p = pre ++ rest) := by
  refine ⟨fun k' h => ?_, fun it h => (good_parseRest k).ok_prefix h⟩
  obtain ⟨pre, hpre⟩ := (good_parseKind hasEx).ok_prefix h
  refine ⟨pre, hpre, ?_⟩
  intro hnil
  have := parseKind_consumes h
  rw [hpre, hnil] at this
  simp at this

/-- The header framing the model parses is the generated magic: 16 bytes, the teehistorian UUID. -/
theorem tie_magic :
    Gen.Teehistorian.MAGIC_LEN = 16 ∧ magic.length = 16 ∧
    magic = [0x69, 0x9d, 0xb1, 0x7b, 0x8e, 0xfb, 0x34, 0xff, 0xb1, 0xd8, 0xda, 0x6f, 0x60, 0xc1, 0x5d, 0xd1] :=
  ⟨rfl, rfl, rfl⟩

/-- The source of the header framing, the version dispatch, the refill test and the `file.rs`
callback are the ones `pHeader`, `Env.cfgOf`, `readMore` and `fileCb`/`OsRead.ev` were written
against: magic first (`read_raw(MAGIC_LEN)`, compared with `UUID`), then one `read_string`; versions
1 and 2 only, `EX` for every version but 1; a callback result that `is_some` continues, `None` is
`UnexpectedEnd`; `File::read` `Ok(0)` is EOF, `Interrupted` is `Some(0)`, other errors are passed on. -/
theorem tie_header_and_file :
    Gen.Teehistorian.readMagic =
      "{ let magic = p.read_raw(MAGIC_LEN)?; if magic != UUID { return Err(WrongMagic.into()); } Ok(()) }" ∧
    Gen.Teehistorian.readHeaderCalls = ["read_magic", "read_header"] ∧
    Gen.Teehistorian.headerTextRead = "string" ∧
    Gen.Teehistorian.fromHeaderArms =
      [("1", "Reader::empty(format::Version::V1)"), ("2", "Reader::empty(format::Version::V2)"),
       ("_", "return Err(format::Error::UnknownVersion)")] ∧
    Gen.Teehistorian.hasExBody = "{ self != Version::V1 }" ∧
    Gen.Teehistorian.readMoreShape = ["is_some", "Ok(())", "Err(format::Error::UnexpectedEnd.into())"] ∧
    Gen.Teehistorian.fileReadArms =
      [("Ok(0)", "Ok(None)"), ("Ok(read)", "Ok(Some(read))"),
       ("Err(ref e) if e.kind() == io::ErrorKind::Interrupted", "Ok(Some(0))"), ("Err(e)", "Err(e)")] :=
  ⟨rfl, rfl, rfl, rfl, rfl, rfl, rfl⟩

/-! ### Independence from the fragmentation -/

/-- **Every read schedule yields the reference output — header included.**  `total` is *any* byte
string (the header may be valid, truncated, or carry a wrong magic; its JSON content is judged by
the parameter `env.json`), `ds` the sizes the read callback returns (zero allowed; afterwards it
delivers as much as fits, then EOF).  `reference` parses the header framing and the records on the
complete byte string, without any buffer. -/
theorem run_eq_reference (env : Env) (total : List UInt8) (ds : List Nat) :
    run env total ds = reference env total :=
  runCb_eq_reference env _ (noFail_sizes _ _ _)

/-- **The fragmentation of the header (and of everything after it) does not change the result.** -/
theorem header_fragmentation_independent (env : Env) (total : List UInt8) (ds₁ ds₂ : List Nat) :
    run env total ds₁ = run env total ds₂ := by
  rw [run_eq_reference, run_eq_reference]

/-- The prefix properties of the header framing: a header recognised (or rejected for its magic)
on a prefix of the file is recognised identically on the whole file, and what it consumed is
exactly the header. -/
theorem header_prefix (json : List UInt8 → Except Nat Int) (p q rest : List UInt8) (r : HeaderRes)
    (h : pHeader json p = .ok r rest) :
    pHeader json (p ++ q) = .ok r (rest ++ q) ∧ ∃ pre, p = pre ++ rest :=
  ⟨(good_pHeader json).ok_append h q, (good_pHeader json).ok_prefix h⟩

/-- After a complete valid header `hdr` (configuration `cfg`) the output is the reference output of
the stream `s` that follows, for every read schedule. -/
theorem run_eq_runWhole (env : Env) (hdr s : List UInt8) (cfg : Cfg) (hh : HeaderOk env hdr cfg)
    (ds : List Nat) : run env (hdr ++ s) ds = runWhole cfg s :=
  (run_eq_reference env (hdr ++ s) ds).trans (reference_of_headerOk hh s)

/-- **The item sequence and the final result do not depend on how the stream is split across read
callbacks.**  (`header_fragmentation_independent` says the same of any byte string, valid header or not.) -/
theorem fragmentation_independent (env : Env) (hdr s : List UInt8) (cfg : Cfg) (hh : HeaderOk env hdr cfg)
    (ds₁ ds₂ : List Nat) : run env (hdr ++ s) ds₁ = run env (hdr ++ s) ds₂ := by
  rw [run_eq_runWhole env hdr s cfg hh, run_eq_runWhole env hdr s cfg hh]

/-- **Fragmentations stated explicitly.**  A fragmentation is a list of read results (chunks,
empty ones allowed) whose concatenation is the file, followed by EOF.  `Cb.ofChunks` is the
callback that returns exactly these results (`chunk_read_results`), and any two fragmentations of
the same file make the reader produce the same items and the same final result. -/
theorem chunks_independent (env : Env) (total : List UInt8) (cs₁ cs₂ : List (List UInt8))
    (h₁ : cs₁.flatten = total) (h₂ : cs₂.flatten = total) :
    runCb env (Cb.ofChunks cs₁) = runCb env (Cb.ofChunks cs₂) ∧
    runCb env (Cb.ofChunks cs₁) = reference env total := by
  have e₁ := runCb_eq_reference env (Cb.ofChunks cs₁) (noFail_ofChunks cs₁)
  have e₂ := runCb_eq_reference env (Cb.ofChunks cs₂) (noFail_ofChunks cs₂)
  have r₁ : (Cb.ofChunks cs₁).rem = total := h₁
  have r₂ : (Cb.ofChunks cs₂).rem = total := h₂
  rw [r₁] at e₁; rw [r₂] at e₂
  exact ⟨e₁.trans e₂.symm, e₁⟩

/-- The callback of `chunks_independent` hands out exactly the listed chunks — each one that fits
into the buffer space it is offered, which the callback contract demands of every read result —
and then reports EOF. -/
theorem chunk_read_results (ch : List UInt8) (cs : List (List UInt8)) (space : Nat) :
    (ch.length ≤ space → (Cb.ofChunks (ch :: cs)).read space = .data ch (Cb.ofChunks cs)) ∧
    (Cb.ofChunks []).read space = .eof :=
  ⟨ofChunks_read_fits ch cs space, ofChunks_read_eof space⟩

/-- **A failing callback** (`Callback::Error`, `Error::Io` in `file.rs`): for every callback —
any read sizes, failing at any invocation, with or without the `Ok(0)`-is-EOF rule of `file.rs` —
the output is the reference output, or the final result is the callback's error and the items
read before it are a prefix of the reference items. -/
theorem callback_failure_prefix (env : Env) (c : Cb) :
    runCb env c = reference env c.rem ∨
    ((runCb env c).final = .cbErr ∧ ¬ c.noFail ∧ (runCb env c).items <+: (reference env c.rem).items) :=
  runCb_vs_reference env c

/-- **The public `Reader` of `file.rs`** (callback = `File::read`: `Ok(0)` is EOF, `Ok(n)` is
`Some(n)`, `EINTR` is passed on as an empty read, any other error ends the reading): whatever
`read(2)` does — short reads of any positive size, interruptions and an I/O error at any point —
the output is the reference output, or `Error::Io` after a prefix of the reference items. -/
theorem file_reader (env : Env) (total : List UInt8) (evs : List OsRead) :
    (OsRead.eio ∉ evs → runFile env total evs = reference env total) ∧
    (runFile env total evs = reference env total ∨
      ((runFile env total evs).final = .cbErr ∧
        (runFile env total evs).items <+: (reference env total).items)) := by
  refine ⟨fun h => runCb_eq_reference env (fileCb total evs) (noFail_fileCb h), ?_⟩
  rcases runCb_vs_reference env (fileCb total evs) with h | ⟨h1, _, h3⟩
  · exact Or.inl h
  · exact Or.inr ⟨h1, h3⟩

-- non-vacuity: a complete header (magic, `{}`, NUL) that the content parser accepts as version 2
example : HeaderOk ⟨fun _ => .ok 2⟩ (magic ++ [0x7b, 0x7d, 0]) ⟨true⟩ :=
  ⟨2, by decide +kernel, rfl⟩
-- PLAYER_NEW 2; PLAYER_NEW 3; TICK_SKIP 0; PLAYER_DIFF 2; FINISH behind that header, read byte by
-- byte / with empty reads
example :
    run ⟨fun _ => .ok 2⟩ (magic ++ [0x7b, 0x7d, 0] ++ [0x42, 2, 0, 0, 0x42, 3, 0, 0, 0x41, 0, 2, 1, 1, 0x40])
        (List.replicate 33 1) =
      ⟨[.tickStart 0, .playerNew 2 0 0, .playerNew 3 0 0, .tickEnd 0, .tickStart 1,
        .playerChange 2 1 1 0 0, .tickEnd 1], .finished, ⟨4, [(2, (1, 1)), (3, (0, 0))], []⟩⟩ := by decide +kernel
example :
    run ⟨fun _ => .ok 2⟩ (magic ++ [0x7b, 0x7d, 0] ++ [0x42, 2, 0, 0, 0x42, 3, 0, 0, 0x41, 0, 2, 1, 1, 0x40])
        [0, 5, 0, 0, 2, 17, 1] =
      runWhole ⟨true⟩ [0x42, 2, 0, 0, 0x42, 3, 0, 0, 0x41, 0, 2, 1, 1, 0x40] := by decide +kernel
-- header framing: wrong magic after 16 bytes, version 3, header cut before its NUL
example :
    (run ⟨fun _ => .ok 2⟩ (List.replicate 16 7 ++ [0x7b]) [3, 3]).final = .err (.header .wrongMagic) ∧
    (run ⟨fun _ => .ok 3⟩ (magic ++ [0x7b, 0x7d, 0, 0x40]) [1, 1]).final = .err .unknownVersion ∧
    (run ⟨fun _ => .ok 2⟩ (magic ++ [0x7b, 0x7d]) [4]).final = .err .unexpectedEnd := by decide +kernel
-- a callback that fails at its fourth invocation: prefix of the items, then the callback error
example :
    runCb ⟨fun _ => .ok 2⟩
      { rem := magic ++ [0x7b, 0x7d, 0] ++ [0x42, 2, 0, 0, 0x42, 3, 0, 0, 0x40],
        ds := [.size 19, .size 4, .size 2, .fail] } =
      ⟨[.tickStart 0, .playerNew 2 0 0], .cbErr, ⟨3, [(2, (0, 0))], []⟩⟩ := by decide +kernel
-- the file reader with an interruption and short reads
example :
    runFile ⟨fun _ => .ok 2⟩ (magic ++ [0x7b, 0x7d, 0] ++ [0x42, 2, 0, 0, 0x40])
      [.data 1 (by decide), .eintr, .data 30 (by decide), .eintr, .data 100 (by decide)] =
      ⟨[.tickStart 0, .playerNew 2 0 0, .tickEnd 0], .finished, ⟨3, [(2, (0, 0))], []⟩⟩ := by decide +kernel

/-! ### Totality -/

/-- The full totality statement: items, then the end or an error — nothing else. -/
def C17_full : Prop :=
  ∀ (env : Env) (total : List UInt8) (ds : List Nat),
    (run env total ds).final = .finished ∨ ∃ e, (run env total ds).final = .err e

/-- **Any byte string — header included —, under any fragmentation, yields items and then the end
or an error; nothing else.**  The model has no panic outcome (the arithmetic is checked or wrapping,
`offset ≤ len` holds by construction) and, since the repair of finding D18 (the tables are sparse
maps), no resource-exhaustion outcome either: every client id `0 … i32::MAX` costs one map node.
What this theorem adds is that none of the loops runs out of its fuel, for any schedule. -/
theorem reader_total (env : Env) (total : List UInt8) (ds : List Nat) :
    (run env total ds).final = .finished ∨ ∃ e, (run env total ds).final = .err e := by
  rw [run_eq_reference]
  unfold reference
  cases pHeader env.json total with
  | needMore => exact Or.inr ⟨_, rfl⟩
  | err e => exact Or.inr ⟨_, rfl⟩
  | ok r rest =>
    cases r with
    | bad e => exact Or.inr ⟨_, rfl⟩
    | version v =>
      simp only
      cases env.cfgOf v with
      | none => exact Or.inr ⟨_, rfl⟩
      | some cfg =>
        simp only
        have := runWhole_final cfg rest
        cases h : (runWhole cfg rest).final with
        | finished => exact Or.inl rfl
        | err e => exact Or.inr ⟨e, rfl⟩
        | cbErr => exact absurd h (runWhole_not_cbErr cfg rest)
        | outOfFuel => exact absurd h this

/-- The full statement holds. -/
theorem reader_total_full : C17_full := reader_total

/-- The same for every fragmentation given as an explicit chunk list, and for the public `Reader`
of `file.rs` over any `read(2)` behaviour without an I/O error. -/
theorem reader_total_chunks_and_file (env : Env) (total : List UInt8) :
    (∀ cs : List (List UInt8), cs.flatten = total →
      (runCb env (Cb.ofChunks cs)).final = .finished ∨ ∃ e, (runCb env (Cb.ofChunks cs)).final = .err e) ∧
    (∀ evs : List OsRead, OsRead.eio ∉ evs →
      (runFile env total evs).final = .finished ∨ ∃ e, (runFile env total evs).final = .err e) := by
  have key := reader_total env total []
  rw [run_eq_reference] at key
  refine ⟨fun cs h => ?_, fun evs h => ?_⟩
  · rw [(chunks_independent env total cs cs h h).2]; exact key
  · rw [(file_reader env total evs).1 h]; exact key

/-! ### The reader before the repair of finding D18 -/

/-- Below the table bound the old reader (tables = `VecMap`s on a machine that can allocate `slots`
entries, `Legacy.runWhole`) produced exactly what the repaired reader produces: the repair changes
nothing but the resource use.  (So under `CidsBelow` the old reader was total as well; without it,
`d18_legacy_witness`.) -/
theorem legacy_agrees_below (slots : Nat) (cfg : Cfg) (s : List UInt8)
    (hc : CidsBelow slots (parseAll cfg.hasEx (s.length + 1) s).1) :
    Legacy.runWhole slots cfg s = some (runWhole cfg s) :=
  Legacy.interp_of_below slots cfg _ _ _ hc

-- non-vacuity: the hypothesis is decidable and holds for an ordinary stream
example : CidsBelow 1000 (parseAll true 15 [0x42, 2, 0, 0, 0x42, 3, 0, 0, 0x41, 0, 2, 1, 1, 0x40]).1 := by
  decide +kernel

/-- **Finding D18 in the pre-repair model**, on the recorded input (`PLAYER_NEW` with client id
2^17, then `FINISH`, behind a complete version-2 header): whatever number of table slots up to 2^17
the machine can allocate, the old reader ends in resource exhaustion (`none`) — while the repaired
reader reads the same file to its end. -/
theorem d18_legacy_witness (slots : Nat) (h : slots ≤ 131072) :
    Legacy.reference slots ⟨fun _ => .ok 2⟩ (magic ++ [0x7b, 0x7d, 0] ++ [0x42, 0x80, 0x80, 0x10, 0, 0, 0x40]) = none ∧
    run ⟨fun _ => .ok 2⟩ (magic ++ [0x7b, 0x7d, 0] ++ [0x42, 0x80, 0x80, 0x10, 0, 0, 0x40]) [] =
      ⟨[.tickStart 0, .playerNew 131072 0 0, .tickEnd 0], .finished, ⟨131073, [(131072, (0, 0))], []⟩⟩ := by
  refine ⟨?_, by decide +kernel⟩
  have hh : pHeader (fun _ => .ok 2) (magic ++ [0x7b, 0x7d, 0] ++ [0x42, 0x80, 0x80, 0x10, 0, 0, 0x40]) =
      .ok (.version 2) [0x42, 0x80, 0x80, 0x10, 0, 0, 0x40] := by decide +kernel
  have hp : parseAll true 8 [0x42, 0x80, 0x80, 0x10, 0, 0, 0x40] =
      ([⟨.playerNew 131072, .playerNew 131072 0 0⟩, ⟨.finish, .finish⟩], .afterFinish) := by decide +kernel
  have hpre : preAll 4 Reader.empty (.playerNew 131072) =
      ([.tickStart 0], .ready { Reader.empty with inTick := true }) := by rfl
  simp only [Legacy.reference, hh, Env.cfgOf, Legacy.runWhole, List.length_cons, List.length_nil]
  show Legacy.interp slots ⟨true⟩ Reader.empty (parseAll true 8 [0x42, 0x80, 0x80, 0x10, 0, 0, 0x40]).1
    (parseAll true 8 [0x42, 0x80, 0x80, 0x10, 0, 0, 0x40]).2 = none
  rw [hp]
  exact Legacy.interp_none_of_first (c := 131072) hpre (by decide) h

/-! ### Tick structure -/

/-- **Tick boundaries are properly nested start/end pairs with strictly increasing numbers**, every
other item lies inside a tick, and a stream that ends with `FINISH` leaves no tick open — under
every fragmentation. -/
theorem tick_structure (env : Env) (hdr s : List UInt8) (cfg : Cfg) (hh : HeaderOk env hdr cfg) (ds : List Nat) :
    ∃ st, tickRun ⟨none, -1⟩ (run env (hdr ++ s) ds).items = some st ∧
      ((run env (hdr ++ s) ds).final = .finished → st.cur = none) := by
  rw [run_eq_runWhole env hdr s cfg hh]
  exact (runWhole_ticks cfg s).nested

/-- **The tick numbers equal the numbers the format documentation assigns**: the tick every
reported item lies in is the tick `doc/teehistorian.md`'s pseudo-code computes for its message
(all of them when the stream ends with `FINISH`, a prefix when reading stops at an error). -/
theorem ticks_equal_doc (env : Env) (hdr s : List UInt8) (cfg : Cfg) (hh : HeaderOk env hdr cfg) (ds : List Nat) :
    (itemTicks none (run env (hdr ++ s) ds).items <+:
      (docItemTicks 0 none ((messages cfg.hasEx s).map msgKind)).map some) ∧
    ((run env (hdr ++ s) ds).final = .finished →
      itemTicks none (run env (hdr ++ s) ds).items =
        (docItemTicks 0 none ((messages cfg.hasEx s).map msgKind)).map some) := by
  rw [run_eq_runWhole env hdr s cfg hh]
  exact ⟨(runWhole_ticks cfg s).ticks_prefix, (runWhole_ticks cfg s).ticks_eq⟩

/-! ### Running sums -/

/-- **Player positions and inputs equal the running sums of the recorded differences**: every
reported item is the one computed from exact integer sums, reduced modulo 2^32 only when
reported (`expectedItems`); in particular `PlayerChange.old_pos`/`pos` and `Input.input`. -/
theorem sums_equal_doc (env : Env) (hdr s : List UInt8) (cfg : Cfg) (hh : HeaderOk env hdr cfg) (ds : List Nat) :
    ((reported (run env (hdr ++ s) ds).items).map some <+:
      expectedItems Sums.empty (messages cfg.hasEx s)) ∧
    ((run env (hdr ++ s) ds).final = .finished →
      (reported (run env (hdr ++ s) ds).items).map some =
        expectedItems Sums.empty (messages cfg.hasEx s)) := by
  rw [run_eq_runWhole env hdr s cfg hh]
  exact ⟨(runWhole_sums cfg s).items_prefix, (runWhole_sums cfg s).items_eq⟩

/-- **The tables the reader exposes after the last call hold the running sums**: after a stream
that ends with `FINISH`, `player_pos(cid)` and `input(cid)` are, for every client id, the exact
integer sums of the recorded differences (`sumsAfter`) reduced modulo 2^32 — `None` exactly for the
ids without a live player / input — under every fragmentation. -/
theorem tables_equal_doc (env : Env) (hdr s : List UInt8) (cfg : Cfg) (hh : HeaderOk env hdr cfg) (ds : List Nat)
    (hf : (run env (hdr ++ s) ds).final = .finished) (c : Nat) :
    (run env (hdr ++ s) ds).access.playerPos c =
      ((sumsAfter Sums.empty (messages cfg.hasEx s)).pos c).map (fun p => (wrap32 p.1, wrap32 p.2)) ∧
    (run env (hdr ++ s) ds).access.input c =
      ((sumsAfter Sums.empty (messages cfg.hasEx s)).inp c).map (fun v => v.map wrap32) := by
  rw [run_eq_runWhole env hdr s cfg hh] at hf ⊢
  have := (runWhole_sums cfg s).tables hf
  exact ⟨this.1 c, this.2 c⟩

-- PLAYER_NEW 0 at (i32::MAX, i32::MIN); PLAYER_DIFF 0 (+1, -1); INPUT_NEW 7 (ten 3s); FINISH
example :
    (runWhole ⟨true⟩ ([0x42, 0, 0xbf, 0xff, 0xff, 0xff, 0x0f, 0xff, 0xff, 0xff, 0xff, 0x0f, 0, 1, 0x40] ++
      [0x45, 7, 3, 3, 3, 3, 3, 3, 3, 3, 3, 3, 0x40])).access =
      ⟨8, [(0, (-2147483648, 2147483647))], [(7, [3, 3, 3, 3, 3, 3, 3, 3, 3, 3])]⟩ := by decide +kernel

-- non-vacuity / regression for the repaired defect D11: PLAYER_NEW 2; PLAYER_NEW 3; TICK_SKIP 0;
-- PLAYER_DIFF 2; FINISH — the documentation puts the last record into tick 1
example :
    docItemTicks 0 none ((messages true [0x42, 2, 0, 0, 0x42, 3, 0, 0, 0x41, 0, 2, 1, 1, 0x40]).map msgKind) =
      [0, 0, 1] := by decide +kernel
example :
    itemTicks none (runWhole ⟨true⟩ [0x42, 2, 0, 0, 0x42, 3, 0, 0, 0x41, 0, 2, 1, 1, 0x40]).items =
      [some 0, some 0, some 1] := by decide +kernel
-- wrapping: PLAYER_NEW 0 at (i32::MAX, i32::MIN); PLAYER_DIFF 0 (+1, -1)
example :
    reported (runWhole ⟨true⟩
      [0x42, 0, 0xbf, 0xff, 0xff, 0xff, 0x0f, 0xff, 0xff, 0xff, 0xff, 0x0f, 0, 1, 0x40, 0x40]).items =
      [.playerNew 0 2147483647 (-2147483648), .playerChange 0 (-2147483648) 2147483647 2147483647 (-2147483648)] := by
  decide +kernel
-- explicit chunks with empty ones
example :
    runCb ⟨fun _ => .ok 2⟩
      (Cb.ofChunks [magic, [], [0x7b, 0x7d], [0, 0x42], [2, 0], [], [0, 0x40]]) =
      ⟨[.tickStart 0, .playerNew 2 0 0, .tickEnd 0], .finished, ⟨3, [(2, (0, 0))], []⟩⟩ := by decide +kernel

end Tw.Props.C17
