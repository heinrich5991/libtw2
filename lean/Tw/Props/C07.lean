import Tw.Proofs.HuffmanTable
import Tw.Proofs.HuffmanStream
import Tw.Proofs.HuffmanRefTree
import Tw.Proofs.HuffmanRefC
import Tw.Proofs.HuffmanRefD

/-!
# C07 — the Huffman codec is lossless, bounded and agrees with the reference

Property theorems; the lemmas are in `Tw/Proofs/Huffman*.lean`.  Model: `Tw/Model/Huffman.lean` (spec-form compressor, bit-serial
decompressor), `Tw/Model/HuffmanStream.lean` (the compressor in the form of the Rust code),
`Tw/Model/HuffmanRef.lean` (the C++ reference), `Tw/Model/HuffmanFreq.lean` (`from_frequencies`),
`Tw/Model/HuffmanRefTree.lean` (the reference's `ConstructTree`).
The model is tied to `huffman/src/lib.rs` by the `huffman` correspondence domain and by the
regenerated table / literal ties below.  All general theorems are for an arbitrary table `t` with
`WellFormed t` (decidable); the built-in table satisfies it (`table_wellFormed`).
-/
namespace Tw.Props.C07
open Tw.Huffman

/-! ## ties to the source -/

/-- The constants of `huffman/src/lib.rs` are the ones the model was written against. -/
theorem tie_consts :
    Tw.Gen.Huffman.EOF = EOF ∧ Tw.Gen.Huffman.NUM_SYMBOLS = NUM_SYMBOLS
      ∧ Tw.Gen.Huffman.NUM_NODES = NUM_NODES ∧ Tw.Gen.Huffman.ROOT_IDX = ROOT_IDX
      ∧ Tw.Gen.Huffman.numNodesInSource = NUM_NODES := by decide

/-- The integer constants of `to_symbol_repr` / `to_node` (mask `0xff`, shifts 16 and 8, limit 24, the
child indices 0 and 1), of the compressor (byte width 8, increments, `EOF`) and of the decompressor
(`ROOT_IDX`, `EOF`, the zero byte that continues a finished input), as sorted sets of the significant
numbers (0 and 1 dropped) with file-level constants resolved and closures / new private helpers counted
once per call site — insensitive to reordering, renaming and to the extraction of a repeated statement,
sensitive to any changed, added or removed constant. -/
theorem tie_literals :
    Tw.Gen.Huffman.lits_to_symbol_repr = [8, 16, 255]
      ∧ Tw.Gen.Huffman.lits_to_node = [8, 16, 24]
      ∧ Tw.Gen.Huffman.lits_compress_impl_unsafe = [8, 256]
      ∧ Tw.Gen.Huffman.lits_decompress_unsafe = [256, 512] := by decide

/-- The built-in table (regenerated from `huffman/src/instances/teeworlds.rs` on every run) is
well-formed: 513 entries; every inner node's children have smaller indices and differ; every
symbol's stored `(bits, len)` has `0 < len ≤ 24`, `bits < 2^len`, and walking those bits from the
root reaches exactly that leaf without meeting a leaf earlier.  Kernel-evaluated. -/
theorem table_wellFormed : WellFormed Tw.Gen.Huffman.table := wellFormed_table

/-! ## (1) lossless -/

/-- Decompressing what was compressed returns the original bytes, for the compact form
(`bug = false`) and the reference-compatible form (`bug = true`), into every buffer that can hold
the original. -/
theorem roundtrip (t : Table) (h : WellFormed t) (bug : Bool) (xs : List UInt8) (cap : Nat)
    (hcap : xs.length ≤ cap) : decompress t (compress t bug xs) cap = .ok xs :=
  decompress_compress t h bug xs cap hcap

/-- … in particular for the built-in table. -/
theorem roundtrip_builtin (bug : Bool) (xs : List UInt8) :
    decompress Tw.Gen.Huffman.table (compress Tw.Gen.Huffman.table bug xs) xs.length = .ok xs :=
  decompress_compress _ wellFormed_table bug xs _ (Nat.le_refl _)

/-- The `Vec` API (`libtw2_huffman::decompress(&compress(xs))`, which reserves `8 * input.len()`
bytes and turns both errors into `InvalidInput`) returns the original for every input. -/
theorem roundtrip_vec (t : Table) (h : WellFormed t) (bug : Bool) (xs : List UInt8) :
    decompressVec t (compress t bug xs) = some xs := by
  simp only [decompressVec]
  rw [decompress_compress t h bug xs _ (length_le_compress t h bug xs)]

/-- `InvalidInput` from the `Vec` API means exactly: the decoded bytes do not fit into `8 * len`
(a runaway decompression); there is no other failure. -/
theorem decompressVec_invalid_iff (t : Table) (h : WellFormed t) (input : List UInt8) :
    decompressVec t input = none ↔ decompress t input (8 * input.length) = .capacity := by
  have hterm := decompress_terminates t h input (8 * input.length)
  simp only [decompressVec]
  revert hterm
  generalize decompress t input (8 * input.length) = r
  cases r <;> simp

/-! ## (2) the predicted length is exact -/

theorem compressedLen_exact (t : Table) (xs : List UInt8) :
    (compress t false xs).length = compressedLen t xs := compress_length_false t xs

theorem compressedLenBug_exact (t : Table) (xs : List UInt8) :
    (compress t true xs).length = compressedLenBug t xs := compress_length_true t xs

/-- The two predictions differ by at most one byte, as the doc comment of `compressed_len_bug` says. -/
theorem compressedLen_differ_by_at_most_one (t : Table) (xs : List UInt8) :
    compressedLen t xs ≤ compressedLenBug t xs ∧ compressedLenBug t xs ≤ compressedLen t xs + 1 := by
  simp only [compressedLen, compressedLenBug]
  omega

/-- the reference-compatible form is the compact form plus one zero byte exactly when the bit stream
fills its last byte -/
theorem compress_bug_is_compress_plus_zero (t : Table) (xs : List UInt8) :
    compress t true xs =
      compress t false xs ++ (if (compress t false xs).length * 8 = compressedBitLen t xs then [0] else []) := by
  have hl : (compress t false xs).length = (compressedBitLen t xs + 7) / 8 := compress_length_false t xs
  simp only [compress, Bool.false_eq_true, false_and, if_false, List.append_nil, true_and] at hl ⊢
  rw [hl, streamBits_length]
  congr 1
  by_cases h0 : compressedBitLen t xs % 8 = 0
  · rw [if_pos h0, if_pos (by omega)]
  · rw [if_neg h0, if_neg (by omega)]

/-- `compress_into_vec` (the public `compress`) reserves `3 * len + 3` bytes and unwraps the result:
the reservation always suffices, so it never panics. -/
theorem compress_vec_never_panics (t : Table) (h : WellFormed t) (xs : List UInt8) :
    compressInto t false xs (3 * xs.length + 3) = some (compress t false xs) := by
  have := compressedLen_le_vec t h xs
  simp only [compressInto, compress_length_false]
  rw [if_pos this]

/-- compression into a buffer succeeds exactly when the predicted length fits -/
theorem compressInto_iff (t : Table) (xs : List UInt8) (cap : Nat) :
    (compressInto t false xs cap = some (compress t false xs) ↔ compressedLen t xs ≤ cap)
      ∧ (compressInto t true xs cap = some (compress t true xs) ↔ compressedLenBug t xs ≤ cap) := by
  simp only [compressInto, compress_length_false, compress_length_true]
  constructor <;> (split <;> simp_all)

/-- The compressor in the form of the Rust code (`compress_impl_unsafe`: one `u8` under construction,
first partial byte / whole bytes / remainder per symbol, every `output.next().ok_or(())?`) computes
exactly the spec form used above: the same bytes when they fit into `cap`, the capacity error
otherwise, and none of its `u8`/`u32` overflow sites is reached. -/
theorem streaming_compressor_eq_spec (t : Table) (h : WellFormed t) (bug : Bool) (xs : List UInt8)
    (cap : Nat) :
    compressStreamInto t bug xs cap =
      if (compress t bug xs).length ≤ cap then .ok (compress t bug xs) else .capacity :=
  compressStreamInto_eq t h bug xs cap

/-- Hence `compress_impl_unsafe` never panics on a well-formed table, whatever the input and the buffer size. -/
theorem streaming_compressor_no_panic (t : Table) (h : WellFormed t) (bug : Bool) (xs : List UInt8)
    (cap : Nat) : compressStreamInto t bug xs cap ≠ .panic := by
  rw [compressStreamInto_eq t h bug xs cap]; split <;> simp

/-! ## (3) the decoder is total and bounded -/

/-- On every input and for every capacity the decoder terminates within its fuel (the model's
`diverge` outcome is impossible) … -/
theorem decompress_total (t : Table) (h : WellFormed t) (input : List UInt8) (cap : Nat) :
    decompress t input cap ≠ .diverge := decompress_terminates t h input cap

/-- … never produces more than `cap` bytes (for any table) … -/
theorem decompress_within_capacity (t : Table) (input : List UInt8) (cap : Nat) (out : List UInt8)
    (h : decompress t input cap = .ok out) : out.length ≤ cap := decompress_bound t input cap out h

/-- … its result at a smaller capacity is the result at a larger one, cut down: the same bytes if
they fit, the capacity error otherwise … -/
theorem decompress_capacity_cut (t : Table) (h : WellFormed t) (input : List UInt8) (cap' cap : Nat)
    (hc : cap' ≤ cap) : decompress t input cap' = (decompress t input cap).trunc cap' :=
  decompress_trunc t h input cap' cap hc

/-- … and it reports the capacity error exactly when the decoded bytes do not fit: every
successful decoding of this input (at whatever capacity) is longer than `cap`. -/
theorem decompress_capacity_iff (t : Table) (h : WellFormed t) (input : List UInt8) (cap : Nat) :
    decompress t input cap = .capacity ↔
      ∀ cap' out, decompress t input cap' = .ok out → cap < out.length :=
  Tw.Huffman.decompress_capacity_iff t h input cap

/-- `decompressFast` (the remaining capacity carried along instead of `out.length` at every byte) is a
faster evaluation of the same function, for every table, input and capacity — for drivers whose sweeps
are dominated by runaway decodings into large buffers. -/
theorem decompressFast_is_decompress (t : Table) (input : List UInt8) (cap : Nat) :
    decompressFast t input cap = decompress t input cap := decompressFast_eq t input cap

/-! ## (4) agreement with the C++ reference (`huffman.cpp`, modelled in `Tw/Model/HuffmanRef.lean`) -/

/-- The reference-compatible output is byte-identical to what `CHuffman::Compress` writes (32-bit
bit buffer, final byte written unconditionally), for every input. -/
theorem compress_bug_eq_reference (t : Table) (h : WellFormed t) (xs : List UInt8) :
    compress t true xs = refCompress t xs := (refCompress_eq_compress_bug t h xs).symm

/-- … also as a function of the buffer size (the reference returns -1 iff the bytes do not fit). -/
theorem compress_bug_into_eq_reference (t : Table) (h : WellFormed t) (xs : List UInt8) (cap : Nat) :
    compressInto t true xs cap = refCompressInto t xs cap := by
  simp only [compressInto, refCompressInto, refCompress_eq_compress_bug t h xs]

/-- Whenever `CHuffman::Decompress` (10-bit lookup table, 32-bit bit buffer whose `unsigned
Bitcount` wraps around at the end of the input, "no more bits" error below the table) decodes an
input successfully into a buffer of `cap` bytes, this decoder returns the same bytes.  `LutOk t`
(decidable) says that a symbol the lookup table finds has `m_NumBits` equal to the depth at which it
was found, which is so in every well-formed table (`WellFormed.lutOk`); `fuel` bounds the iterations
of the reference's loop (running out of it is not `ok`). -/
theorem reference_decodes_implies_same (t : Table) (h : WellFormed t) (hl : LutOk t) (fuel : Nat)
    (input : List UInt8) (cap : Nat) (out : List UInt8)
    (hr : refDecompress t fuel input cap = .ok out) : decompress t input cap = .ok out :=
  refDecompress_agrees t h fuel input cap out hr

/-- The built-in table satisfies `LutOk`, as every well-formed table does: paths from the root are
unique (`WellFormed.lutOk`). -/
theorem table_lutOk : LutOk Tw.Gen.Huffman.table := wellFormed_table.lutOk

/-- The converse fails — the reference rejects truncated streams this decoder completes with zero
bits (doc/huffman.md) — so the implication above is all the property asks for: concretely, the
documentation's example without its last byte. -/
theorem reference_is_stricter_witness :
    refDecompress Tw.Gen.Huffman.table 9 [0xb1, 0x08, 0x2a, 0x6e] 7 = .error
      ∧ decompress Tw.Gen.Huffman.table [0xb1, 0x08, 0x2a, 0x6e] 7 = .ok [0, 1, 0, 2, 0, 0x80, 0] := by
  rw [refDecompress_table, decompress_table]
  decide +kernel

/-! ## tables built from arbitrary frequency vectors -/

/-- The full statement for `Huffman::from_frequencies`: every vector of 256 `u32` frequencies yields a
table (to which all of the above then applies, see `fromFrequencies_tables_partial`).  **Not
provable**: `from_frequencies` panics when the Huffman tree is deeper than 24 (open finding D16,
e.g. all-zero frequencies — model and implementation both `panic` on the replay in
`corpus/huffman/finding-d16.txt`; `C07_full_witness`). -/
def C07_full : Prop :=
  ∀ f : List Nat, f.length = 256 → (∀ x ∈ f, x < 2 ^ 32) →
    ∃ t, fromFrequencies f = .ok t ∧ WellFormed t ∧ LutOk t

/-- The counterexample in the model (D16): on the all-zero frequency vector every merge has
frequency 0, the stable sort keeps the newest parent last, the tree is a chain of depth 256 and the
25th push onto the 24-entry stack is the `ArrayVec` capacity panic.  Proved symbolically (the kernel
cannot evaluate 256 sorts of 257 elements in reasonable time). -/
theorem fromFrequencies_allzero_witness :
    fromFrequencies (List.replicate 256 0)
      = .panic "stack.push: ArrayVec capacity (code longer than 24 bits)" :=
  fromFrequencies_zero_panics

/-- … hence the full statement is false in the model (as it is in the implementation). -/
theorem C07_full_witness : ¬ C07_full := by
  intro hfull
  obtain ⟨t, ht, _⟩ := hfull (List.replicate 256 0) (List.length_replicate ..) (by
    intro x hx
    have : x = 0 := List.eq_of_mem_replicate hx
    subst this; decide)
  rw [fromFrequencies_zero_panics] at ht
  cases ht

/-- **Every table `Huffman::from_frequencies` returns is well-formed** (whenever it returns, i.e. does
not hit D16): the merge loop builds a forest (`rustForest_forest`), the iterative traversal writes into
every symbol's entry the code of the path from the root to that symbol, of length 1..24
(`assignD_valid`); paths are unique, so the reference's lookup table is consistent with the stored
lengths (`WellFormed.lutOk`). -/
theorem fromFrequencies_wellFormed (f : List Nat) (t : Table) (hok : fromFrequencies f = .ok t) :
    WellFormed t ∧ LutOk t :=
  have h := WellFormed.of_fromFrequencies f t hok
  ⟨h, h.lutOk⟩

/-- Hence the whole property for tables built from arbitrary frequency vectors, under exactly the
hypothesis that excludes D16 (`from_frequencies` returns): lossless in both output forms, the
streaming (Rust-form) compressor computes the spec form, the decoder is total, bounded and
capacity-exact, `compress_bug` is byte-identical to the reference's `Compress`, and whatever the
reference's `Decompress` decodes this decoder decodes to the same bytes. -/
theorem fromFrequencies_tables_partial (f : List Nat) (t : Table) (hok : fromFrequencies f = .ok t) :
    (∀ bug xs cap, xs.length ≤ cap → decompress t (compress t bug xs) cap = .ok xs)
    ∧ (∀ bug xs cap, compressStreamInto t bug xs cap =
        if (compress t bug xs).length ≤ cap then .ok (compress t bug xs) else .capacity)
    ∧ (∀ input cap, decompress t input cap ≠ .diverge)
    ∧ (∀ input cap out, decompress t input cap = .ok out → out.length ≤ cap)
    ∧ (∀ input cap' cap, cap' ≤ cap → decompress t input cap' = (decompress t input cap).trunc cap')
    ∧ (∀ xs, compress t true xs = refCompress t xs)
    ∧ (∀ fuel input cap out, refDecompress t fuel input cap = .ok out →
        decompress t input cap = .ok out) :=
  have h := WellFormed.of_fromFrequencies f t hok
  ⟨fun bug xs cap hc => decompress_compress t h bug xs cap hc,
   fun bug xs cap => compressStreamInto_eq t h bug xs cap,
   fun input cap => decompress_terminates t h input cap,
   fun input cap out ho => decompress_bound t input cap out ho,
   fun input cap' cap hc => decompress_trunc t h input cap' cap hc,
   fun xs => (refCompress_eq_compress_bug t h xs).symm,
   fun fuel input cap out hr => refDecompress_agrees t h fuel input cap out hr⟩

/-! ## the reference's own tree (`ConstructTree`, `Setbits_r`; model `refConstruct`) -/

/-- For every frequency vector on which the reference's `int` arithmetic cannot overflow
(`Σ f + 1 < 2^31`) and `from_frequencies` returns, the table it returns **is** the reference's tree
(same inner nodes, every symbol the same `(bits, length)`); with the theorems of section (4) the codec
is then byte-compatible with the reference for that table, not only for the built-in one.  The
hypothesis says that the reference's sums are defined and no entry is ≥ 2^31 (the class of finding
D16b). -/
theorem fromFrequencies_is_reference_tree_partial (f : List Nat) (t : Table)
    (hok : fromFrequencies f = .ok t) (hsum : f.sum + 1 < 2147483648) :
    (refConstruct f).toTable = t := by
  obtain ⟨hlen, hdfs, _⟩ := fromFrequencies_ok f t hok
  rw [← dfs_eq_refSetbits _ t (rustForest_forest f hlen) hdfs, ← refConstruct_nodes f hsum]
  rfl

/-- the shipped frequencies (regenerated from `huffman/data/frequencies`) satisfy the hypothesis -/
theorem shipped_frequencies_in_int_range : Tw.Gen.Huffman.frequencies.sum + 1 < 2147483648 := by
  decide +kernel

/-- the full statement without the hypothesis — false: D16b -/
def C07_reference_tree_full : Prop :=
  ∀ (f : List Nat) (t : Table), f.length = 256 → (∀ x ∈ f, x < 2 ^ 32) →
    fromFrequencies f = .ok t → (refConstruct f).toTable = t

/-- **D16b in the model**: byte 0 with frequency `2^32 - 1` (−1 in the reference's `int`), every other
byte 2.  The Rust merges EOF with byte 255 first, the reference merges byte 0 with EOF; whatever table
`from_frequencies` returns, it is not the reference's tree. -/
theorem reference_tree_signed_frequency_witness (t : Table)
    (hok : fromFrequencies d16bFreqs = .ok t) : (refConstruct d16bFreqs).toTable ≠ t := by
  intro heq
  obtain ⟨hlen, hdfs, hsz⟩ := fromFrequencies_ok d16bFreqs t hok
  obtain ⟨⟨_, hs2⟩, _⟩ := dfs_valid _ t (rustForest_forest _ hlen) hdfs
  have hrs : (refConstruct d16bFreqs).nodes.size = 513 := by
    have := congrArg Array.size heq
    rw [toTable_size, hsz] at this
    exact this
  have h257 : node (refConstruct d16bFreqs).toTable 257 = node (refConstruct d16bFreqs).nodes 257 :=
    toTable_node_inner _ 257 (by rw [hrs]; decide) (by decide)
  rw [heq, hs2 257 (by decide), d16b_first_merge.1, d16b_first_merge.2] at h257
  cases h257

/-- The first merges of the D16b witness (node 257): `from_frequencies` joins EOF and byte 255, `ConstructTree` byte 0 and EOF. -/
theorem reference_tree_first_merge_witness :
    node (rustForest d16bFreqs) 257 = (256, 255)
      ∧ node (refConstruct d16bFreqs).nodes 257 = (0, 256) := d16b_first_merge

/-! ## non-vacuity -/

example : decompress Tw.Gen.Huffman.table [0xb1, 0x08, 0x2a, 0x6e, 0x00] 7
    = .ok [0, 1, 0, 2, 0, 0x80, 0] := by
  rw [decompress_table]
  decide +kernel
example : compress Tw.Gen.Huffman.table true [0, 1, 0, 2, 0, 0x80, 0] = [0xb1, 0x08, 0x2a, 0x6e, 0x00] := by
  decide +kernel
example : decompress Tw.Gen.Huffman.table [0xb1, 0x08, 0x2a, 0x6e, 0x00] 6 = .capacity := by
  rw [decompress_table]
  decide +kernel
example : decompress Tw.Gen.Huffman.table [0xff, 0xff] 100 = .capacity := by
  rw [decompress_table]
  decide +kernel
example : refDecompress Tw.Gen.Huffman.table 9 [0xb1, 0x08, 0x2a, 0x6e, 0x00] 7
    = .ok [0, 1, 0, 2, 0, 0x80, 0] := by
  rw [refDecompress_table]
  decide +kernel

end Tw.Props.C07
