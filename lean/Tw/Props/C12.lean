import Tw.Gen.SnapXfer
import Tw.Proofs.SnapXferSeq

/-!
# C12 — multi-part snapshot transfer reassembles exactly once

Property theorems only; helper lemmas are in `Tw/Proofs/SnapXfer.lean` (part map, chunker, single
steps) and `Tw/Proofs/SnapXferSeq.lean` (the invariant along a message sequence).  The model is
`Tw/Model/SnapXfer.lean` (`deltaChunks` = `snapshot/src/snap.rs delta_chunks`, `Receiver` =
`snapshot/src/receiver.rs DeltaReceiver`), tied to the code by the `recv` correspondence domain and
the literal ties below.

Vocabulary (defined in the proof files, repeated here for the reader):
* `Fresh r tick` — every tick the receiver `r` knows of (`r.newest`: the transfer in progress, else the
  last completed tick) is older than `tick`; this is "`r` can receive `tick`" without a transfer for
  `tick` itself already under way;
* `newestSeen r pre` — the maximum of `r.newest` and the ticks of the messages `pre`;
* `Admissible r msgs ms` — every element of `ms` is an element of `msgs`, or its tick is older than
  `newestSeen r pre` for the messages `pre` before it;
* `SeenAll msgs pre` — every element of `msgs` occurs in `pre`;
* `isDelivery x` — the result `x` is `Ok(Some(_))`.
-/
namespace Tw.Props.C12
open Tw.SnapXfer

/-- Tie to the source: the argument checks of `DeltaReceiver::snap` — `num_parts` in `0 ..= 32`, `part`
in `0 .. num_parts` — extracted as ranges whichever way they are spelt (`0 <= x && x <= 32`,
`(0..=MAX_PARTS).contains(&x)`, …), and the numbers other than 0 and 1 that `snap` and its private
helpers mention (literals and file-level constants, as a sorted set): only the 32. -/
theorem tie_receiver_snap :
    Tw.Gen.SnapXfer.receiver_num_parts_range = (0, maxParts) ∧
      Tw.Gen.SnapXfer.receiver_part_lower = 0 ∧
      Tw.Gen.SnapXfer.receiver_part_below_num_parts = true ∧
      Tw.Gen.SnapXfer.lits_receiver_snap = [maxParts] := by decide

/-- Tie to the source: part size 900, no number other than 0 and 1 in `delta_chunks` / `DeltaChunks::next`
(literals and constants, `MAX_SNAPSHOT_PACKSIZE` apart), and the wrapping subtraction (fix of D8). -/
theorem tie_delta_chunks :
    partSize = 900 ∧ Tw.Gen.SnapXfer.lits_delta_chunks = [] ∧
      Tw.Gen.SnapXfer.lits_delta_chunks_next = [] ∧
      Tw.Gen.SnapXfer.delta_chunks_wrapping = true := by decide

/-- The sender never panics on data of up to 32 parts, whatever the ticks are, and produces at
least one message; all its messages carry `tick`. -/
theorem delta_chunks_total (tick base crc : Int) (data : List UInt8)
    (hlen : data.length ≤ maxParts * partSize) :
    ∃ msgs, deltaChunks tick base data crc = .ok msgs ∧ msgs ≠ [] ∧ ∀ m, m ∈ msgs → m.tick = tick := by
  have hn : numParts data.length ≤ 2147483647 := Nat.le_trans (numParts_le _ hlen) (by decide)
  have hform := deltaChunks_form (deltaChunks_eq (tick := tick) (base := base) (crc := crc) hn)
  exact ⟨_, deltaChunks_eq hn, hform.ne_nil, hform.tick_eq⟩

/-- The parts of the sender's messages, in order, concatenate to the data, and there are
`ceil(len/900)` of them. -/
theorem chunks_concat (data : List UInt8) :
    ((List.range (numParts data.length)).map (chunk data)).flatten = data ∧
      data.length ≤ partSize * numParts data.length ∧
      (∀ i, (chunk data i).length ≤ partSize) :=
  ⟨flatten_all_chunks data, numParts_cover _, fun i => by simp [chunk]; omega⟩

/-- The receiver recovers the base tick from the relative value on the wire for every pair of
ticks (sender and receiver both wrap). -/
theorem base_tick_roundtrip (tick base : Int) (hb : inI32 base) :
    wrapSub tick (wrapSub tick base) = base := wrapSub_wrapSub tick base hb

/-- **C12, message by message.**  For all data of at most 32 parts, all `tick`, `base`, `crc`,
every receiver state `r` for which `tick` is newer than everything it knows, and every admissible
sequence `ms` (messages of the transfer in any order with any repetition, interleaved with
messages older than the newest tick seen so far): look at any message `m` of the sequence, the
messages `pre` before it, and the state `s` the receiver is in when `m` arrives.

1. `m` is not one of the transfer's messages (so it is an older one): `Err(OldDelta)`, no warning,
   state unchanged.
2. `m` belongs to the transfer and all of the transfer's messages have already arrived:
   `Err(OldDelta)`, no warning, state unchanged.
3. `m` belongs to the transfer, has arrived before, and the transfer is not yet complete:
   `Err(DuplicatePart)`, no warning, state unchanged.
4. `m` is a new part and some part is still missing afterwards: `Ok(None)`, no warning.
5. `m` is the first message after which every part has arrived: `Ok(Some(d))` with
   `d = (base, tick, data, crc)` (no payload for empty data), no warning. -/
theorem transfer_classified (tick base crc : Int) (data : List UInt8) (msgs : List Msg)
    (r : Receiver) (ms : List Msg)
    (hbase : inI32 base) (hlen : data.length ≤ maxParts * partSize)
    (hchunks : deltaChunks tick base data crc = .ok msgs)
    (hfresh : Fresh r tick) (hadm : Admissible r msgs ms)
    (pre : List Msg) (m : Msg) (post : List Msg) (hsplit : ms = pre ++ m :: post) :
    let s := r.after pre
    let d : Received :=
      { deltaTick := base, tick := tick, dataCrc := if data = [] then none else some (data, crc) }
    (m ∉ msgs → s.step m = (s, .error .oldDelta, [])) ∧
    (m ∈ msgs → SeenAll msgs pre → s.step m = (s, .error .oldDelta, [])) ∧
    (m ∈ msgs → ¬ SeenAll msgs pre → m ∈ pre → s.step m = (s, .error .duplicatePart, [])) ∧
    (m ∈ msgs → m ∉ pre → ¬ SeenAll msgs (pre ++ [m]) → (s.step m).2 = (.ok none, [])) ∧
    (m ∈ msgs → m ∉ pre → SeenAll msgs (pre ++ [m]) → (s.step m).2 = (.ok (some d), [])) :=
  (classify hbase hlen (deltaChunks_form hchunks) hfresh hadm post hsplit).verdict

/-- **C12, exactly once.**  Under the same hypotheses: if every message of the transfer occurs in
the sequence, exactly one of the results is a delivery (by `transfer_classified` it is
`(base, tick, data, crc)`, produced by the first message that completes the part set); if some
message is missing, none is.  (`r.run ms` lists result and warnings of every message.) -/
theorem delivered_exactly_once (tick base crc : Int) (data : List UInt8) (msgs : List Msg)
    (r : Receiver) (ms : List Msg)
    (hbase : inI32 base) (hlen : data.length ≤ maxParts * partSize)
    (hchunks : deltaChunks tick base data crc = .ok msgs)
    (hfresh : Fresh r tick) (hadm : Admissible r msgs ms) :
    (SeenAll msgs ms → (r.run ms).countP isDelivery = 1) ∧
    (¬ SeenAll msgs ms → (r.run ms).countP isDelivery = 0) :=
  deliveries hbase hlen (deltaChunks_form hchunks) hfresh ms [] (by simpa using hadm)

/-- Messages for ticks older than the newest one the receiver knows of are refused with
`OldDelta`, silently and without any change of the receiver state — in **every** state, so they
can never complete, overwrite or corrupt a transfer. -/
theorem older_rejected (r : Receiver) (m : Msg) (t : Int) (hn : r.newest = some t) (h : m.tick < t) :
    r.step m = (r, .error .oldDelta, []) :=
  Tw.SnapXfer.older_rejected r m t hn h

/-- A well-formed message of a *newer* tick abandons the transfer in progress: the newer tick
becomes the newest known one, and from then on every message of the abandoned tick (or older) is
refused with `OldDelta` and no state change, whatever else arrives in between (`pre`). -/
theorem newer_tick_abandons (r : Receiver) (tick : Int) (m : Msg)
    (hr : r.newest = some tick) (hm : tick < m.tick) (hwf : m.wellFormed) :
    (r.step m).1.newest = some m.tick ∧
    ∀ (pre : List Msg) (x : Msg), x.tick ≤ tick →
      ((r.step m).1.after pre).step x = ((r.step m).1.after pre, .error .oldDelta, []) := by
  have hf : Fresh r m.tick := by intro t ht; rw [hr] at ht; injection ht with ht; omega
  have hnew := step_newest_of_accept r m hf.canReceive hwf
  exact ⟨hnew, fun pre x hx => refused_after_newer _ m.tick tick hnew hm pre x hx⟩

/-- The newest tick the receiver knows of never decreases. -/
theorem newest_monotone (r : Receiver) (ms : List Msg) (t : Int) (h : r.newest = some t) :
    ∃ t', (r.after ms).newest = some t' ∧ t ≤ t' := newest_mono r ms t h

-- non-vacuity: a new receiver is fresh for every tick; sequences made of the transfer's messages
-- (any order, any repetition) are admissible; the extreme tick pair of D8 produces messages
example (tick : Int) : Fresh Receiver.new tick := by intro t h; simp [Receiver.new, Receiver.newest] at h
example (r : Receiver) (msgs : List Msg) : Admissible r msgs (msgs ++ msgs.reverse ++ msgs) :=
  admissible_of_all_mem r msgs _ (by intro m h; simp at h; exact h)
example : inI32 (-1) ∧ inI32 2147483647 ∧ inI32 (-2147483648) := by decide
example : deltaChunks 2147483647 (-1) [1, 2, 3] 7 = .ok [.single 2147483647 (-2147483648) 7 [1, 2, 3]] := by
  decide
example : (Receiver.new.run [.single 2147483647 (-2147483648) 7 [1, 2, 3]]) =
    [(.ok (some { deltaTick := -1, tick := 2147483647, dataCrc := some ([1, 2, 3], 7) }), [])] := by
  decide
-- an older message between the parts is admissible: receiver that completed tick 4 before
example : Admissible { previousTick := some 4 } [Msg.empty 9 1] [.empty 3 0, .empty 9 1, .empty 9 1, .empty 8 2] := by
  intro pre m post h
  match pre, h with
  | [], h => injection h with h1 _; subst h1; right; exact ⟨4, rfl, by decide⟩
  | [_], h =>
    injection h with _ h; injection h with h1 _; subst h1; left; simp
  | [_, _], h =>
    injection h with _ h; injection h with _ h; injection h with h1 _; subst h1; left; simp
  | [a, b, c], h =>
    injection h with ha h; injection h with hb h; injection h with hc h; injection h with h1 _
    subst ha hb hc h1; right; exact ⟨9, by decide, by decide⟩
  | _ :: _ :: _ :: _ :: _ :: _, h => simp at h

end Tw.Props.C12
