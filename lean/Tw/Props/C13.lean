import Tw.Gen.SnapMgr
import Tw.Proofs.SnapBound

/-!
# C13 — client and server snapshot state never diverge silently

Model: `Tw/Model/SnapMgr.lean` — `Storage` (sender and receiver roles), the sender glue of
`server/src/main.rs`, `Manager`, and `Sys`: both sides plus the history of everything that was
ever put on the snapshot channel (`msgs`) and on the acknowledgement channel (`acks`).  An event
sequence (`Ev`) is a sender history interleaved with an arbitrary delivery schedule: `deliver i` /
`deliverAck j` hand over *any* message sent so far, any number of times, in any order, or never;
`forgedAck` is an acknowledgement nobody sent; `clientReset` is `Manager::reset`.

The snapshot/delta layer is the parameter `ops : Ops S D` with the laws `Laws ops`:
`apply a (create a b) = b` and `read (write d) = d` (both C09), written deltas are not empty, and the
cleared delta means "same as base".  `ops.emptyWhenSame` selects the sender glue: `false` is
`server/src/main.rs` (always writes the delta, never sends `SnapEmpty`), `true` a protocol-conforming
sender that sends `SnapEmpty` when the new snapshot equals the base (as the reference server does);
the theorems cover both, so the `temp_delta.clear()` of `ManagerInner::add_delta` is part of the
verified model.
The receiver is the C12 model.  The checksum is not used in the argument.
-/
namespace Tw.Props.C13
open Tw.SnapXfer Tw.SnapMgr

/-- Tie to the source: `MAX_STORED_SNAPSHOT`, the literals of `Storage::add_delta`
(`unwrap_or(-1)`, `delta_tick >= 0`, `delta_tick != -1`) and `set_delta_tick` (`tick < 0`,
`tick != -1`), the base tick the sender glue passes to `delta_chunks`, and `new_builder` recycling a
copy of the newest stored snapshot (repair of D25; the number is that of `notes/recv.md`), and the 64 KiB
the glue reserves for the packed delta. -/
theorem tie_storage :
    maxStored = 100 ∧ Tw.Gen.SnapMgr.lits_add_delta = [0, 1, 1, maxStored] ∧
      Tw.Gen.SnapMgr.lits_set_delta_tick = [0, 1] ∧
      Tw.Gen.SnapMgr.glue_base_tick_or_minus_one = true ∧
      Tw.Gen.SnapMgr.new_builder_continues_newest = true ∧ writeCapacity = 65536 := by decide

/-- **C13, safety.**  For every lawful snapshot layer, every sender history whose ticks are `i32`s
and strictly increasing, and every delivery schedule of snapshot messages and acknowledgements
(loss, duplication, reordering, forged acknowledgements, client resets): if the history runs
without a panic of the snapshot layer, then for every delivery of a message with tick `t`

* if the `Manager` accepts (`Ok(Some(s))`), `s` is the snapshot the sender built for `t`
  (`(t, s) ∈ sent`, and `sent` has one snapshot per tick) and `ack_tick() = Some(t)`;
* if it returns `Ok(None)` (part of an incomplete transfer), `ack_tick()` is unchanged;
* if it returns an error, `ack_tick()` is unchanged or has been cleared — it never advances. -/
theorem accepted_snapshot_is_senders {S D : Type} (ops : Ops S D) (laws : Laws ops)
    (evs : List (Ev S)) (hapi : sendsOk none evs)
    (y : Sys S) (obs : List (Obs S)) (hrun : Sys.run ops {} evs = .ok (y, obs)) :
    Functional y.sent ∧
    ∀ t res before after, Obs.delivered t res before after ∈ obs →
      (∀ s, res = .ok (some s) → (t, s) ∈ y.sent ∧ after = some t) ∧
      (res = .ok none → after = before) ∧
      (∀ e, res = .error e → after = before ∨ after = none) := by
  obtain ⟨hg, hobs, _⟩ := run_safe laws.on evs {} none ⟨good_init, fun _ _ => trivial⟩
    (fun _ hp => nomatch hp) hapi (fun _ _ _ _ _ => trivial) y obs hrun
  exact ⟨hg.sentFun, fun _ _ _ _ hmem => Obs.ok_delivered (hobs _ hmem)⟩

/-- The laws hold for the concrete snapshot model `Tw.Snap` (`Model/Snap.lean`, properties C09–C11)
over the snapshots with the builder's registry invariant (`ExtOk`, established for every
builder-reachable snapshot by C10) whose item sizes agree with the object-size table: this is
C09's `applyDelta_createDelta` and `readDelta_of_writeInts`, C10's `buildFromRaw_of_extOk`, and C08's
`writeInt_length`. -/
theorem laws_of_snapshot_model (objSize : Nat → Option Nat) (refGlue : Bool) :
    Laws (snapOps objSize refGlue) :=
  snapOps_laws objSize refGlue

/-- **C13 for the concrete snapshot model**: `accepted_snapshot_is_senders` (either sender glue) with `Delta::create`,
`Delta::write`, `Delta::read`, `Snap::read_with_delta` and `Snap::crc` of `Model/Snap.lean` as
the snapshot layer — no law is assumed. -/
theorem accepted_snapshot_is_senders_snap_model (objSize : Nat → Option Nat) (refGlue : Bool)
    (evs : List (Ev { s : Tw.Snap.Snap // GoodSnap objSize s })) (hapi : sendsOk none evs)
    (y : Sys { s : Tw.Snap.Snap // GoodSnap objSize s })
    (obs : List (Obs { s : Tw.Snap.Snap // GoodSnap objSize s }))
    (hrun : Sys.run (snapOps objSize refGlue) {} evs = .ok (y, obs)) :
    Functional y.sent ∧
    ∀ t res before after, Obs.delivered t res before after ∈ obs →
      (∀ s, res = .ok (some s) → (t, s) ∈ y.sent ∧ after = some t) ∧
      (res = .ok none → after = before) ∧
      (∀ e, res = .error e → after = before ∨ after = none) :=
  accepted_snapshot_is_senders (snapOps objSize refGlue) (snapOps_laws objSize refGlue) evs hapi y obs hrun

/-- **C13, safety, with the builder and the free list.**  The same statement for histories in
which the sender builds its snapshots with `new_builder()` (seeded from the newest stored snapshot,
else from the free list) from what the application adds (`sendItems`), for any builder whatsoever
(`BuildOps`): a refused item (`BuilderError`) sends nothing; everything that is delivered obeys the
verdict of `accepted_snapshot_is_senders`. -/
theorem accepted_snapshot_is_senders_with_builder {S D I : Type} (ops : Ops S D) (laws : Laws ops)
    (b : BuildOps S I) (evs : List (EvB S I)) (hapi : sendsOkB none evs)
    (y : SysB S) (obs : List (ObsB S)) (hrun : SysB.run ops b {} evs = .ok (y, obs)) :
    Functional y.sys.sent ∧
    ∀ t res before after, ObsB.obs (Obs.delivered t res before after) ∈ obs →
      (∀ s, res = .ok (some s) → (t, s) ∈ y.sys.sent ∧ after = some t) ∧
      (res = .ok none → after = before) ∧
      (∀ e, res = .error e → after = before ∨ after = none) := by
  have hbk : ∀ e, e ∈ evs → BuildKeeps b (fun _ => True) e := by
    intro e _
    cases e with
    | sendItems t items => intro _ _ _ _; trivial
    | other e => cases e <;> trivial
  obtain ⟨hg, hobs, _⟩ := runB_safe laws.on b trivial evs {} none goodB_init (fun _ hp => nomatch hp) hapi hbk
    y obs hrun
  exact ⟨hg.sentFun, fun _ _ _ _ hmem => Obs.ok_delivered (hobs _ hmem)⟩

/-- `ack_tick` is cleared on an unknown base and on a bad checksum (and set only by a successful
apply: `Storage.finishDelta`) — for every storage state, delta and snapshot layer. -/
theorem ack_cleared_on_unknown_base_or_bad_checksum {S D : Type} (ops : Ops S D) (st : Storage S)
    (crc : Option Int) (deltaTick tick : Int) (delta : D) :
    ((st.addDelta ops crc deltaTick tick delta).2.1 = .error .unknownSnap ∨
      (st.addDelta ops crc deltaTick tick delta).2.1 = .error .invalidCrc) →
    (st.addDelta ops crc deltaTick tick delta).1.ackTick = none := by
  rcases addDelta_cases ops st crc deltaTick tick delta with h | ⟨kept, _, h⟩ | ⟨kept, b, w, _, _, h⟩
  · rw [h]; exact fun h => h.elim (fun h => nomatch h) (fun h => nomatch h)
  · rw [h]; exact fun _ => rfl
  rw [h]
  rcases finishDelta_cases ops { st with snaps := kept } crc tick b delta w with
    ⟨e, _, h'⟩ | ⟨new, _, ⟨c, _, _, h'⟩ | ⟨_, snaps, _, h'⟩⟩
  · rw [h']; exact fun h => h.elim (fun h => nomatch h) (fun h => nomatch h)
  · rw [h']; exact fun _ => rfl
  · rw [h']; exact fun h => h.elim (fun h => nomatch h) (fun h => nomatch h)

/-- The invariant behind it: at every moment every snapshot stored on the receiving side under
tick `t` is the sender's snapshot for `t`, the sender's base is a snapshot it still stores (with a
non-negative tick) or the empty one, and the receiver is either idle or holds true parts of one of
the sender's transfers. -/
theorem exchange_invariant {S D : Type} (ops : Ops S D) (laws : Laws ops)
    (evs : List (Ev S)) (hapi : sendsOk none evs)
    (y : Sys S) (obs : List (Obs S)) (hrun : Sys.run ops {} evs = .ok (y, obs)) :
    (∀ s, s ∈ y.client.storage.snaps → (s.tick, s.snap) ∈ y.sent) ∧
    (∀ s, s ∈ y.sender.snaps → (s.tick, s.snap) ∈ y.sent) ∧
    (∀ t, y.sender.deltaTick = some t → 0 ≤ t ∧ ∃ d, y.sender.snaps.getLast? = some d ∧ d.tick = t) ∧
    RecvOk y.xfers y.client.receiver := by
  obtain ⟨hg, _, _⟩ := run_safe laws.on evs {} none ⟨good_init, fun _ _ => trivial⟩
    (fun _ hp => nomatch hp) hapi (fun _ _ _ _ _ => trivial) y obs hrun
  exact ⟨hg.clientStored, hg.senderStored, hg.senderDelta, hg.recvOk⟩

/-- The receiver alone: whatever consistent transfers are interleaved in whatever way (newer ticks
included), a delivery carries exactly the base tick, tick, data and checksum the sender cut up (no
payload for empty data: `SnapEmpty`). -/
theorem receiver_delivers_only_what_was_sent {xfers : List Xfer} (huniq : UniqueTicks xfers)
    {r : Receiver} (hr : RecvOk xfers r) {x : Xfer} (hx : x ∈ xfers) (hb : inI32 x.base)
    {ms : List Msg} (hms : x.chunks = .ok ms) {m : Msg} (hm : m ∈ ms) :
    RecvOk xfers (r.step m).1 ∧
      ∀ d, (r.step m).2.1 = .ok (some d) →
        d = { deltaTick := x.base, tick := x.tick,
              dataCrc := if x.bytes = [] then none else some (x.bytes, x.crc) } :=
  recv_step_safe huniq hr hx hb hms hm

/-- **No panic (partial).**  The protocol layer (`Storage`, glue, `DeltaReceiver`, `Manager`) has no
panic of its own: if `Delta::create` succeeds on the snapshot pairs it is given and the delta fits
the glue's buffer, no history panics — whatever the ticks and the schedule are.  The excluded case
(`create = none`) is D15 / D25, see `C13_full` and `no_panic_witness`. -/
theorem no_panic_partial {S D : Type} (ops : Ops S D)
    (hcreate : ∀ a b, ∃ d, ops.create a b = some d)
    (hwrite : ∀ d, ∃ bs, ops.write d = some bs ∧ bs.length ≤ 65536)
    (evs : List (Ev S)) (y : Sys S) : ∃ r, Sys.run ops y evs = .ok r := by
  induction evs generalizing y with
  | nil => exact ⟨_, rfl⟩
  | cons e rest ih =>
    have hstep : ∃ r, y.step ops e = .ok r := by
      by_cases hsend : ∃ t s, e = .send t s
      · obtain ⟨tick, snap, rfl⟩ := hsend
        obtain ⟨d, hd⟩ := hcreate (y.sender.baseOf ops ({ tick := tick, snap := snap } :: y.sender.snaps)) snap
        obtain ⟨x, ms, h⟩ := sendSnap_total (st := y.sender) (tick := tick) hd (.inr (hwrite d))
        simp only [Sys.step, h]
        exact ⟨_, rfl⟩
      · obtain ⟨y', o, h, -⟩ := Sys.step_other ops y fun t s h => hsend ⟨t, s, h⟩
        exact ⟨_, h⟩
    obtain ⟨⟨y1, o1⟩, h1⟩ := hstep
    obtain ⟨⟨y2, os⟩, h2⟩ := ih y1
    exact ⟨(y2, o1 :: os), by simp [Sys.run, h1, h2]⟩

/-- **No panic on the sending side, from application-level hypotheses (partial: up to the glue's
buffer).**  The concrete model: snapshot layer of `Model/Snap.lean`, builder with `recycle`,
`Storage` with its free list, the glue with its 64 KiB buffer (`execOps`, `execBuild`).  Hypotheses:
the object-size table agrees with the sizes the application uses and has no entry for the registry
type or an extended type number (`TableOk`; true of `obj_size` of every protocol crate); every item
the application adds has a valid type, a `u16` id, `i32` data and the size fixed for its
`(type, id)` (`EvOk`, `ItemOk`); nothing is said about ticks or the delivery schedule (any `i32` ticks, any acknowledgements
incl. forged ones, any losses).  Then a history either runs to the end — no panic in
`Snap::recycle`, `Builder::add_item`, `Delta::create` (D15/D25), the size assertion of
`Delta::write`, `delta_chunks`, `Storage` — or it panics and `Oversize objSize` holds: between some two
well-formed snapshots the packed delta is larger than the buffer `send_snapshots` reserves.  (`Oversize`
speaks of the table, not of this history; `runB_total_or_oversize` has it for the snapshots with a predicate the
builder keeps, which is how the budget theorem below excludes it.)  What keeps this from `C13_full`: the
buffer of the server glue. -/
theorem sender_panics_only_on_buffer_overflow_partial (objSize : Nat → Option Nat)
    (size : Tw.Snap.TypeId → Nat → Nat) (ht : TableOk objSize size) (refGlue : Bool)
    (evs : List (EvB Tw.Snap.Snap (List Item))) (hev : ∀ e, e ∈ evs → EvOk size e) :
    (∃ r, SysB.run (execOps objSize refGlue) execBuild {} evs = .ok r) ∨
    ((∃ s, SysB.run (execOps objSize refGlue) execBuild {} evs = .panic s) ∧ Oversize objSize) :=
  runB_total_or_oversize ht refGlue (Q := fun _ => True) trivial evs {} (invB_init size _) hev
    (fun e _ => by cases e with
      | sendItems t items => intro _ _ _ _ _ _; trivial
      | other e => trivial)

/-- **No panic at all within a size budget (partial only by that budget).**  The same executable
model and application-level hypotheses, plus a budget per snapshot: UUID types among a fixed list
`U`, at most `N` items, at most `M` data integers, with `5·(3 + 4·(|U|+N) + 4·|U| + M) ≤ 65536`
(e.g. 8 UUID types, 200 items, 8000 integers).  Then **no history panics**: not the builder, not
`Delta::create`, not `Delta::write`, not the glue's 64 KiB buffer, not `delta_chunks`, not
`Storage`, not the receiver, not the `Manager` — for any `i32` ticks (increasing or not), any
acknowledgements (forged ones included), any loss, duplication and reordering, either sender glue.
The bound comes from `Delta::write` emitting at most `3 + |a| + 3·|b| + data(b)` integers of at most
five bytes each, and a snapshot of the builder chain having at most `|U| + N` items. -/
theorem exchange_never_panics_within_budget_partial (objSize : Nat → Option Nat)
    (size : Tw.Snap.TypeId → Nat → Nat) (ht : TableOk objSize size) (refGlue : Bool)
    (U : List Int) (N M : Nat) (hk : 5 * (3 + 4 * (U.length + N) + (4 * U.length + M)) ≤ 65536)
    (evs : List (EvB Tw.Snap.Snap (List Item))) (hev : ∀ e, e ∈ evs → EvOk size e)
    (hbud : ∀ e, e ∈ evs → EvBudget U N M e) :
    ∃ r, SysB.run (execOps objSize refGlue) execBuild {} evs = .ok r :=
  runB_never_panics ht refGlue U N M hk evs hev hbud

/-- **C13 over one executable model.**  Snapshot layer of `Model/Snap.lean` over plain values
(`execOps`), builder with `recycle`, free list, glue buffer, either sender glue, the C12 receiver,
`Manager` and `Storage`: for every history in which the application adds acceptable items (`EvOk`) and
the ticks are `i32`s and increasing (`sendsOkB`), whatever the delivery schedule, if the run does not
hit the glue's buffer limit then every accepted snapshot is the sender's snapshot for that tick
and sets `ack_tick`, an incomplete transfer leaves `ack_tick` alone, and an error leaves it alone or
clears it.  The laws of the snapshot layer are *proved* for the executable layer on the snapshots
the builder chain makes (`execOps_lawsOn`), nothing is assumed. -/
theorem exchange_safe_executable_model (objSize : Nat → Option Nat)
    (size : Tw.Snap.TypeId → Nat → Nat) (ht : TableOk objSize size) (refGlue : Bool)
    (evs : List (EvB Tw.Snap.Snap (List Item))) (hev : ∀ e, e ∈ evs → EvOk size e)
    (hapi : sendsOkB none evs)
    (y : SysB Tw.Snap.Snap) (obs : List (ObsB Tw.Snap.Snap))
    (hrun : SysB.run (execOps objSize refGlue) execBuild {} evs = .ok (y, obs)) :
    Functional y.sys.sent ∧
    ∀ t res before after, ObsB.obs (Obs.delivered t res before after) ∈ obs →
      (∀ s, res = .ok (some s) → (t, s) ∈ y.sys.sent ∧ after = some t) ∧
      (res = .ok none → after = before) ∧
      (∀ e, res = .error e → after = before ∨ after = none) := by
  obtain ⟨hg, hobs, _⟩ := runB_safe (execOps_lawsOn objSize size refGlue) execBuild (Tw.Snap.built_empty size) evs {} none
    goodB_init (fun _ hp => nomatch hp) hapi (fun e he => execBuild_keeps e (hev e he)) y obs hrun
  exact ⟨hg.sentFun, fun _ _ _ _ hmem => Obs.ok_delivered (hobs _ hmem)⟩

/-- **C13 in one statement for the executable model (partial only by the budget).**  Application-level
hypotheses only — acceptable items, increasing `i32` ticks, the size budget: every history runs to
the end without a panic on either side, and every delivery obeys the verdict (accepted = the
sender's snapshot for that tick with `ack_tick` set; otherwise `ack_tick` unchanged or cleared). -/
theorem exchange_correct_within_budget_partial (objSize : Nat → Option Nat)
    (size : Tw.Snap.TypeId → Nat → Nat) (ht : TableOk objSize size) (refGlue : Bool)
    (U : List Int) (N M : Nat) (hk : 5 * (3 + 4 * (U.length + N) + (4 * U.length + M)) ≤ 65536)
    (evs : List (EvB Tw.Snap.Snap (List Item))) (hev : ∀ e, e ∈ evs → EvOk size e)
    (hbud : ∀ e, e ∈ evs → EvBudget U N M e) (hapi : sendsOkB none evs) :
    ∃ y obs, SysB.run (execOps objSize refGlue) execBuild {} evs = .ok (y, obs) ∧
      Functional y.sys.sent ∧
      ∀ t res before after, ObsB.obs (Obs.delivered t res before after) ∈ obs →
        (∀ s, res = .ok (some s) → (t, s) ∈ y.sys.sent ∧ after = some t) ∧
        (res = .ok none → after = before) ∧
        (∀ e, res = .error e → after = before ∨ after = none) := by
  obtain ⟨⟨y, obs⟩, hrun⟩ := exchange_never_panics_within_budget_partial objSize size ht refGlue U N M hk
    evs hev hbud
  exact ⟨y, obs, hrun, exchange_safe_executable_model objSize size ht refGlue evs hev hapi y obs hrun⟩

/-- The full-strength "nothing panics" statement: for *every* lawful snapshot layer.  It is false
for a layer whose `create` can fail, and the real `Delta::create` can (open finding D15; D25 reached the
same panic until its repair). -/
def C13_full : Prop :=
  ∀ (S D : Type) (ops : Ops S D), Laws ops → ∀ evs : List (Ev S), sendsOk none evs →
    ∃ r, Sys.run ops {} evs = .ok r

/-- a snapshot layer whose `create` refuses (what `Delta::create` does on differing item sizes) -/
theorem no_panic_witness : ¬ C13_full := by
  intro h
  let ops : Ops Unit Unit :=
    { empty := (), create := fun _ _ => none, write := fun _ => some [0], clear := (),
      read := fun _ => .ok (), apply := fun _ _ => .ok (), crc := fun _ => 0,
      same := fun _ _ => false, emptyWhenSame := false }
  have laws : Laws ops :=
    { apply_create := by intro a b d h; cases h
      read_write := by intro d bs _; rfl
      write_nonempty := by intro d bs h; cases h; simp
      same_clear := by intro a b h; cases h }
  obtain ⟨r, hr⟩ := h Unit Unit ops laws [.send 0 ()] (by simp [sendsOk, inI32])
  simp [Sys.run, Sys.step, sendSnap, Storage.addSnap, ops] at hr

/-- **D25 in the concrete snapshot model.**  Two snapshots built the way the sender glue built them
before the repair of `Storage::new_builder` while the free list was empty (a fresh `Builder` each): the first holds one item of UUID type 1001
(two integers), the second additionally one item of UUID type 1000 (one integer), added first.
Every `(type, id)` keeps its size, yet the builder gives raw type number 0x4000 to type 1001 in the
first snapshot and to type 1000 in the second, the raw key `(0x4000, 0)` has two and one integers,
and `Delta::create` refuses (it panicked in the implementation; `corpus/snapmgr/fixed-d25.txt`).
This is why `new_builder` continues the registry of the newest stored snapshot. -/
theorem d25_witness :
    ∃ a b : Tw.Snap.Snap,
      freshBuild [(.uuid 1001, 0, [5, 5])] = some a ∧
      freshBuild [(.uuid 1000, 0, [7]), (.uuid 1001, 0, [5, 5])] = some b ∧
      Tw.Snap.createDelta a.raw b.raw = none := by
  refine ⟨_, _, rfl, rfl, ?_⟩
  decide

/-- **D25 repaired, in the concrete snapshot model.**  Since the repair every builder the sender
uses continues the snapshot built before it (`Step.recycle`), so the snapshots the sender stores lie
on one chain that starts with `Builder::new()`.  If the application gives every item the size it fixed for that
`(type, id)` (`Step.add`), any earlier snapshot `a` and later snapshot `b`
of the chain have agreeing raw item sizes — a UUID type keeps its raw number along the chain — and
`Delta::create(a, b)` does not panic.  (`d25_witness` shows that this fails for unrelated fresh
builders.) -/
theorem recycled_builder_chain_never_refuses {size : Tw.Snap.TypeId → Nat → Nat} {a b : Tw.Snap.Builder}
    (h0 : Tw.Snap.Chain size Tw.Snap.Builder.new a) (h1 : Tw.Snap.Chain size a b) :
    Tw.Snap.SizesAgree a.snap.raw b.snap.raw ∧
      ∃ d, Tw.Snap.createDelta a.snap.raw b.snap.raw = some d :=
  Tw.Snap.chain_create h0 h1

-- non-vacuity of the budget: 8 UUID types, 200 items, 8000 data integers per snapshot
example : 5 * (3 + 4 * (8 + 200) + (4 * 8 + 8000)) ≤ 65536 := by decide
example : Budget [1, 2, 3] 200 8000 [(.uuid 2, 7, [1, 2, 3]), (.ordinal 5, 0, [4, 5, 6])] :=
  { uuids := by
      intro it hit u hu
      simp only [List.mem_cons, List.not_mem_nil, or_false] at hit
      rcases hit with rfl | rfl
      · injection hu with hu; subst hu; decide
      · cases hu
    count := by decide
    data := by decide }

-- non-vacuity: the 0.6 object-size table with any size function that extends it satisfies `TableOk`
example : TableOk (fun t => (Tw.Gen.Snap.objSize_tw06.find? (·.1 == t)).map (·.2))
    (fun tid id => match tid with
      | .ordinal o => ((Tw.Gen.Snap.objSize_tw06.find? (·.1 == o)).map (·.2)).getD (1 + id % 4)
      | .uuid _ => 3 + id % 2) where
  registry := by decide
  extended := by
    intro t ht
    have : ∀ p, p ∈ Tw.Gen.Snap.objSize_tw06 → p.1 < 16384 := by decide
    cases hf : Tw.Gen.Snap.objSize_tw06.find? (·.1 == t) with
    | none => rfl
    | some p =>
      have h1 := this p (List.mem_of_find?_eq_some hf)
      have h2 := List.find?_some hf
      simp only [beq_iff_eq] at h2
      rw [Tw.Snap.offsetExt_eq] at ht
      omega
  ordinal := by
    intro o n id _ _ h
    simp only [h, Option.getD_some]

-- non-vacuity: a lawful snapshot layer exists (snapshot = byte string, delta = 1 :: target, cleared
-- delta = "same as base", protocol-conforming glue),
-- and histories with increasing ticks satisfy `sendsOk`
example : Laws ({ empty := [], create := fun _ b => some (1 :: b), write := fun d => some (0 :: d),
                  clear := [], read := fun bs => .ok bs.tail,
                  apply := fun a d => .ok (match d with | [] => a | _ :: t => t),
                  crc := fun s => s.length, same := fun a b => a == b,
                  emptyWhenSame := true } : Ops (List UInt8) (List UInt8)) :=
  { apply_create := by intro a b d h; cases h; rfl
    read_write := by intro d bs h; cases h; rfl
    write_nonempty := by intro d bs h; cases h; simp
    same_clear := by intro a b h; simp at h; simp [h] }
example : sendsOk (S := Nat) none [.send 0 7, .deliver 0, .ack, .deliverAck 0, .send 2147483647 8, .deliver 5] :=
  by simp [sendsOk, inI32]

end Tw.Props.C13
