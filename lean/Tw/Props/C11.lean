import Tw.Model.Snap
import Tw.Gen.Snap
import Tw.Proofs.SnapRaw
import Tw.Proofs.SnapTotal
import Tw.Proofs.SnapAccepted

/-!
# C11 — snapshot and delta parsers are total and enforce their limits

Model: `Tw/Model/Snap.lean`.  "Never panics" = the model function never returns its `panic`
outcome (every Rust panic site of the modelled code is such an outcome; the correspondence run maps a
caught Rust panic to the same outcome).  "Never loops" = the two loops whose trip count depends on
the input take the input length as fuel, and the fuel is proved sufficient.  A Rust `i32` is an
`Int` satisfying `I32`; byte inputs need no hypothesis.

Before the fix of D19 `apply_delta_total` was false (`delta_size_mismatch_is_error` is the former
panic witness); D20 concerned `recycle`/`add_item` on parsed snapshots (fixed, see notes).
-/
namespace Tw.Props.C11
open Tw.Snap

theorem tie_consts :
    maxSize = 65536 ∧ maxItems = 1024 ∧ typeIdEx = 0 ∧ offsetExt = 16384 := by decide

/-- Tie to the source: the 4 of `read_from_ints` (`% 4`, `/ 4`; its `< 0` and first offset `0` are
not in the list: 0 and 1 are not significant numbers), the literals of `serialized_ints_size` and of
`prepare_item_vacant`. -/
theorem tie_literals :
    Tw.Gen.Snap.lits_read_from_ints = [4] ∧
    Tw.Gen.Snap.lits_serialized_ints_size = [2] ∧ Tw.Gen.Snap.lits_prepare_item_vacant = [1024, 65536] := by
  decide

/-- what "inside the limits" means for an accepted snapshot -/
theorem wf_limits {s : RawSnap} (h : s.WF) :
    s.items.length ≤ 1024 ∧ 4 * (2 + s.items.length + s.items.length + dataLen s.items) ≤ 65536 :=
  WF_limits h

/-- Reading a snapshot from any integer sequence ends with a value or an error, never a panic;
every accepted snapshot holds at most 1024 items and 64 KiB, with sorted distinct keys. -/
theorem read_snapshot_ints_total (data : List Int) (hI : ∀ x ∈ data, I32 x) :
    (∀ p, Snap.readFromInts data ≠ .panic p) ∧
    (∀ s ws, Snap.readFromInts data = .ok (s, ws) → s.raw.WF ∧ s.raw.items.length ≤ 1024 ∧ s.raw.size ≤ 65536) :=
  ⟨Snap.readFromInts_not_panic data,
    fun _ _ hs => ⟨Snap.readFromInts_WF hI hs, WF_limits (Snap.readFromInts_WF hI hs)⟩⟩

/-- The same for any byte sequence. -/
theorem read_snapshot_bytes_total (bs : List UInt8) :
    (∀ p, Snap.readBytes bs ≠ .panic p) ∧
    (∀ s ws, Snap.readBytes bs = .ok (s, ws) → s.raw.WF ∧ s.raw.items.length ≤ 1024 ∧ s.raw.size ≤ 65536) :=
  ⟨Snap.readBytes_not_panic bs, fun _ _ hs => ⟨Snap.readBytes_WF hs, WF_limits (Snap.readBytes_WF hs)⟩⟩

/-- The byte-decoding loop of `RawSnap::read` is bounded by the input length: the fuel `bs.length`
is never what stops it, and it produces at most one integer per input byte. -/
theorem decode_loop_bounded (bs : List UInt8) (fuel : Nat) (h : bs.length ≤ fuel) :
    decodeInts fuel bs = decodeInts bs.length bs := decodeInts_fuel fuel bs h

/-- Reading a delta from any integer or byte sequence, with any object-size table, never panics;
in particular the update loop never runs out of its fuel (= the size of the remaining input). -/
theorem read_delta_total (objSize : Nat → Option Nat) (src : Src) : ∀ p, readDelta objSize src ≠ .panic p :=
  readDelta_not_panic objSize src

theorem read_delta_fuel_suffices (objSize : Nat → Option Nat) (deleted : List Int) (fuel : Nat) (src : Src)
    (upd : Items) (bl num : Nat) (ws : List Warning) (h : src.size ≤ fuel) :
    ∀ p, readUpdates objSize deleted fuel src upd bl num ws ≠ .panic p :=
  readUpdates_not_panic objSize deleted fuel src upd bl num ws h

/-- An accepted delta has a sorted update map with `i32` keys and data. -/
theorem read_delta_accepts_wf (objSize : Nat → Option Nat) {src : Src} {d : Delta} {ws : List Warning}
    (hs : src.AllI32) (h : readDelta objSize src = .ok (d, ws)) :
    Sorted d.updated ∧ ∀ p ∈ d.updated, I32 p.1 ∧ ∀ v ∈ p.2, I32 v :=
  readDelta_I32 objSize hs h

/-- What `Delta::read` accepts (from fewer than 2^31 integers / bytes) is a well-formed delta in
the sense of C09's `Delta.WF` — sorted set of deleted `i32` keys, sorted map of `i32` updates,
sizes that fit — up to the one thing the reader only warns about: a key both deleted and updated.
If `DeleteUpdate` was not warned, it *is* `Delta.WF` (so C09's wire round trip applies to it). -/
theorem read_delta_accepts_delta_wf (objSize : Nat → Option Nat) {src : Src} {d : Delta} {ws : List Warning}
    (hs : src.AllI32) (hsize : src.size < 2147483648) (h : readDelta objSize src = .ok (d, ws)) :
    SortedSet d.deleted ∧ (∀ k ∈ d.deleted, I32 k) ∧ Sorted d.updated ∧
    (∀ p ∈ d.updated, I32 p.1 ∧ ∀ x ∈ p.2, I32 x) ∧
    d.deleted.length < 2147483648 ∧ d.updated.length < 2147483648 ∧ dataLen d.updated < 2147483648 ∧
    (Warning.deleteUpdate ∉ ws → d.WF) :=
  readDelta_accepts_WF objSize hs hsize h

/-- Applying any delta whatsoever to any accepted snapshot never panics … -/
theorem apply_delta_total {a : Snap} (ha : a.raw.WF) (d : Delta) : ∀ p, a.readWithDelta d ≠ .panic p :=
  Snap.readWithDelta_not_panic ha.1 d

/-- … and what it accepts is again inside the limits. -/
theorem apply_delta_accepts_wf {a s : RawSnap} {d : Delta} {ws : List Warning} (ha : a.WF)
    (hd : ∀ p ∈ d.updated, I32 p.1 ∧ ∀ v ∈ p.2, I32 v) (h : applyDelta a d = .ok (s, ws)) :
    s.WF ∧ s.items.length ≤ 1024 ∧ s.size ≤ 65536 :=
  ⟨applyDelta_WF ha hd h, WF_limits (applyDelta_WF ha hd h)⟩

/-- Every accepted (= well-formed) raw snapshot can be written out — neither assertion of
`write_impl` fires — and read back, from integers and from bytes, to the same snapshot. -/
theorem accepted_rewritable {s : RawSnap} (h : s.WF) :
    ∃ xs, s.writeInts = some xs ∧ RawSnap.readFromInts xs = .ok (s, []) ∧
      RawSnap.readBytes (packInts xs) = .ok (s, []) :=
  ⟨_, writeInts_eq_reference h, RawSnap.readFromInts_written h, RawSnap.readBytes_written h⟩

/-- The same at the `Snap` level: the registry of the re-read snapshot is the one of the first read
(`build_from_raw` depends on the raw items only; warnings such as `ExcessUuidItemData` may repeat). -/
theorem accepted_snap_rewritable {data : List Int} (hI : ∀ x ∈ data, I32 x) {s : Snap} {ws : List Warning}
    (h : Snap.readFromInts data = .ok (s, ws)) :
    ∃ xs ws', s.raw.writeInts = some xs ∧ Snap.readFromInts xs = .ok (s, ws') := by
  obtain ⟨ws1, ws2, hr, hb, _⟩ := thenBuild_eq h
  have hwf := RawSnap.readFromInts_WF hI hr
  refine ⟨_, ws2, writeInts_eq_reference hwf, ?_⟩
  rw [Snap.readFromInts_def, RawSnap.readFromInts_written hwf]
  simp only [thenBuild, hb, List.nil_append]

/-- Other operations on accepted values: `Delta::create` between accepted snapshots with agreeing
sizes does not panic (without them it does: D15, C09). -/
theorem create_delta_total_partial (a b : RawSnap) (hag : SizesAgree a b) : createDelta a b ≠ none := by
  intro h
  exact ((createDelta_eq_none_iff a b).mp h) hag

/-- Follow-up operations on an accepted snapshot (`Accepted` is what `build_from_raw` establishes,
see the three theorems below): enumerating the items never panics; looking up an item by a valid
ordinal or any UUID never panics; `recycle` never panics (since the fixes of D6 and D20), keeps the
UUID types, and no `add_item` of a UUID-typed item on the recycled builder can trip an assertion. -/
theorem accepted_followups_total {s : Snap} (hs : Accepted s) :
    s.items ≠ none ∧
    (∀ o id, 0 < o → o < offsetExt → s.item (.ordinal o) id ≠ none) ∧
    (∀ u id, s.item (.uuid u) id ≠ none) ∧
    (∃ b, s.recycle = some b ∧ b.snap.ext = s.ext ∧
      ∀ u id data, b.addItem (.uuid u) id data ≠ none) := by
  refine ⟨items_ne_none hs, ?_, ?_, ?_⟩
  · intro o id h1 h2
    exact item_ne_none s (.ordinal o) id ⟨h1, h2⟩
  · intro u id
    exact item_ne_none s (.uuid u) id trivial
  · obtain ⟨b, hb, h1, _, h3⟩ := recycle_ne_none hs
    refine ⟨b, hb, h3, ?_⟩
    exact fun u id data => Builder.addItem_ne_none h1 nofun

/-- A snapshot accepted from integers is `Accepted`, and it is never larger than its input
(items + data words + the two header words ≤ number of input integers): the reader's allocations
are bounded by the input. -/
theorem accepted_from_ints {data : List Int} (hI : ∀ x ∈ data, I32 x) {s : Snap} {ws : List Warning}
    (h : Snap.readFromInts data = .ok (s, ws)) :
    Accepted s ∧ s.raw.items.length + dataLen s.raw.items + 2 ≤ data.length := by
  obtain ⟨ws1, ws2, hr, hb, _⟩ := thenBuild_eq h
  exact ⟨accepted_of_buildFromRaw (RawSnap.readFromInts_WF hI hr) hb, RawSnap.readFromInts_size_le hr⟩

/-- The same from bytes (the bound is in bytes: at most one integer per byte). -/
theorem accepted_from_bytes {bs : List UInt8} {s : Snap} {ws : List Warning}
    (h : Snap.readBytes bs = .ok (s, ws)) :
    Accepted s ∧ s.raw.items.length + dataLen s.raw.items + 2 ≤ bs.length :=
  accepted_of_readBytes h

/-- And a snapshot obtained by applying an accepted delta to an accepted snapshot. -/
theorem accepted_from_delta {a s : Snap} {d : Delta} {ws : List Warning} (ha : a.raw.WF)
    (hd : ∀ p ∈ d.updated, I32 p.1 ∧ ∀ v ∈ p.2, I32 v) (h : a.readWithDelta d = .ok (s, ws)) : Accepted s :=
  accepted_of_readWithDelta ha hd h

/-- An accepted delta is never larger than its input either: three header words, one word per
deleted key, two words per updated item plus its data words fit into the input size (integers, or
bytes) — `Delta::read` only ever pushes what it has read. -/
theorem accepted_delta_bounded (objSize : Nat → Option Nat) {src : Src} {d : Delta} {ws : List Warning}
    (h : readDelta objSize src = .ok (d, ws)) :
    3 + d.deleted.length + 2 * d.updated.length + dataLen d.updated ≤ src.size :=
  readDelta_alloc objSize h

/-- `Snap::recycle`'s numbering loop cannot overflow for *any* item list (since the fix of D20):
the counter stays `≤ 0x8000`, so `next_type_id + 256` fits a `u16`. -/
theorem recycle_numbering_total (m : Items) (n : Nat) (h : n ≤ 32768) :
    ∃ n', recycleNext m n = some n' ∧ n' ≤ 32768 ∧ (offsetExt ≤ n → offsetExt ≤ n') :=
  recycleNext_spec m n h

/-- The former panic witness of D19 (nine-integer delta with an explicit size 3 for an item stored
with size 2) is an error since the fix. -/
theorem delta_size_mismatch_is_error :
    ∃ d, readDelta (fun _ => none) (.ints [0, 1, 0, 5, 1, 3, 7, 8, 9]) = .ok (d, []) ∧
      applyDelta ⟨[(keyOf 5 1, [1, 2])]⟩ d = .err .deltaDifferingSizes := by
  refine ⟨⟨[], [(keyOf 5 1, [7, 8, 9])]⟩, ?_, ?_⟩ <;> decide

/-! Every error variant of `snap::Error` is reachable (the eighteen variants). -/

example : RawSnap.readFromInts [] = .err .unexpectedEnd := by decide
example : RawSnap.readFromInts [-1, 0] = .err .intOutOfRange := by decide
example : RawSnap.readFromInts [0, 1] = .err .offsetsUnpacking := by decide
example : RawSnap.readFromInts [4, 1, 4, 0] = .err .invalidOffset := by decide
example : RawSnap.readFromInts [8, 0] = .err .itemsUnpacking := by decide
example : RawSnap.readFromInts [16, 2, 0, 8, 5, 1, 5, 2] = .err .duplicateKey := by decide
example : Snap.readFromInts [40, 2, 0, 20, 16384, 1, 2, 3, 4, 16385, 1, 2, 3, 4] = .err .duplicateUuidType := by
  decide
example : Snap.readFromInts [8, 1, 0, 16384, 1] = .err .invalidUuidType := by decide
example : Snap.readFromInts [8, 1, 0, 1073741825, 5] = .err .missingUuidType := by decide
-- the two limit errors (any 1025th item; a single item of 16381 integers = 65540 bytes)
example (s : RawSnap) (k : Int) (h : s.items.length = 1024) (hk : mfind k s.items = none) :
    s.addItem k [] = .error .tooManyItems := by
  simp [RawSnap.addItem, hk, vacantCheck, h, maxItems_eq]
example (d : List Int) (h : d.length = 16381) : RawSnap.empty.addItem 5 d = .error .tooLongSnap := by
  simp [RawSnap.addItem, RawSnap.empty, mfind, vacantCheck, serializedSize, dataLen, maxItems_eq, maxSize_eq, h]
example : readDelta (fun _ => none) (.ints []) = .err .unexpectedEnd := by decide
example : readDelta (fun _ => none) (.bytes [0x40]) = .err .intOutOfRange := by decide
example : readDelta (fun _ => none) (.ints [1, 0, 0]) = .err .deletedItemsUnpacking := by decide
example : readDelta (fun _ => none) (.ints [0, 1, 0, 5]) = .err .itemDiffsUnpacking := by decide
example : readDelta (fun _ => none) (.ints [0, 1, 0, -1, 0]) = .err .typeIdRange := by decide
example : readDelta (fun _ => none) (.ints [0, 1, 0, 5, 65536]) = .err .idRange := by decide
example : readDelta (fun _ => none) (.ints [0, 1, 0, 5, 1, -1]) = .err .negativeSize := by decide
example : readDelta (fun t => if t = 1 then some 1 else some 4294967295) (.ints [0, 2, 0, 1, 0, 7, 2, 0])
    = .err .tooLongDiff := by decide
example : applyDelta ⟨[(keyOf 5 1, [1, 2])]⟩ ⟨[], [(keyOf 5 1, [7, 8, 9])]⟩ = .err .deltaDifferingSizes := by
  decide

end Tw.Props.C11
