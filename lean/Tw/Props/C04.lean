import Tw.Model.Conn6
import Tw.Model.Conn7
import Tw.Proofs.Conn6
import Tw.Proofs.Conn7
import Tw.Proofs.ConnSeq
import Tw.Proofs.Packet6Write
import Tw.Proofs.Packet7Write
import Tw.Proofs.ConnWire6
import Tw.Proofs.ConnWire7
import Tw.Proofs.ConnTok7
import Tw.Proofs.RsConn
import Tw.Proofs.RsConn7

/-!
# C04 — everything the connection layer sends is well-formed; bad sends are refused

Model: `Tw/Model/Conn.lean` (shared online core), `Conn6.lean`, `Conn7.lean`, on *structured*
packets.  "Well-formed" at this level is `Packet.valid`: the datagram fits `MAX_PACKETSIZE` even
uncompressed, the header chunk count equals the number of chunks and is at most 255, every chunk
payload has a length the chunk header can express, an empty chunk packet carries the resend request
flag (no `ChunksNoChunks` warning), response tokens are not `TOKEN_NONE`.  That a valid structured
packet is written to bytes the reader parses back without warning is proved here by composing with the
packet codec's round trip (C05): `conn6_wire_roundtrip`, `conn6_wire_chunks`, `conn6_schedule_wire` and
the 0.7 counterparts (`Tw/Proofs/ConnWire6.lean`, `ConnWire7.lean`: the chunk iterator inverts the chunk
writer on the connection's chunk lists).  The chunk payloads are carried through the model as the very byte lists that were queued.

Schedules are arbitrary lists of calls, each with its own clock value and random draws; the only
hypothesis is `runPermitted`: each call is permitted by the API in the state it is made in.
-/
namespace Tw.Props.C04
open Tw.Conn

/-! ## Ties to the regenerated constants -/

/-- the constants shared by the two protocol files agree (the shared core uses the 0.6 names) -/
theorem tie_shared_constants :
    Tw.Gen.Conn.P6.MAX_PAYLOAD = Tw.Gen.Conn.P7.MAX_PAYLOAD ∧
    Tw.Gen.Conn.P6.MAX_PACKETSIZE = Tw.Gen.Conn.P7.MAX_PACKETSIZE ∧
    Tw.Gen.Conn.P6.CHUNK_HEADER_SIZE = Tw.Gen.Conn.P7.CHUNK_HEADER_SIZE ∧
    Tw.Gen.Conn.P6.CHUNK_HEADER_SIZE_VITAL = Tw.Gen.Conn.P7.CHUNK_HEADER_SIZE_VITAL ∧
    Tw.Gen.Conn.P6.SEQUENCE_MODULUS = Tw.Gen.Conn.P7.SEQUENCE_MODULUS ∧
    Tw.Gen.Conn.C6.arrayCap = Tw.Gen.Conn.C7.arrayCap ∧
    Tw.Gen.Conn.C6.resendTimeoutMs = Tw.Gen.Conn.C7.resendTimeoutMs ∧
    Tw.Gen.Conn.C6.sendTimeoutMs = Tw.Gen.Conn.C7.sendTimeoutMs := by decide

/-- the arithmetic side conditions the size proofs rest on: a full packet plus headers (and the 0.6
token) is exactly `MAX_PACKETSIZE`; the scratch buffers are large enough; `can_fit_chunk` tests the
chunk counter against `u8::MAX` (no integer literal in its body) -/
theorem tie_sizes :
    Tw.Gen.Conn.P6.HEADER_SIZE + (Tw.Gen.Conn.P6.MAX_PAYLOAD + Tw.Gen.Conn.P6.CHUNK_HEADER_SIZE_VITAL)
      + Tw.Gen.Conn.P6.TOKEN_SIZE = Tw.Gen.Conn.P6.MAX_PACKETSIZE ∧
    Tw.Gen.Conn.P7.HEADER_SIZE + (Tw.Gen.Conn.P7.MAX_PAYLOAD + Tw.Gen.Conn.P7.CHUNK_HEADER_SIZE_VITAL)
      = Tw.Gen.Conn.P7.MAX_PACKETSIZE ∧
    Tw.Gen.Conn.P6.MAX_PAYLOAD + Tw.Gen.Conn.P6.CHUNK_HEADER_SIZE_VITAL ≤ Tw.Gen.Conn.C6.arrayCap ∧
    Tw.Gen.Conn.P6.connlessMax + Tw.Gen.Conn.P6.HEADER_SIZE + Tw.Gen.Conn.P6.PADDING_SIZE_CONNLESS
      ≤ Tw.Gen.Conn.P6.MAX_PACKETSIZE ∧
    Tw.Gen.Conn.P7.connlessMax + Tw.Gen.Conn.P7.HEADER_SIZE_CONNLESS ≤ Tw.Gen.Conn.P7.MAX_PACKETSIZE ∧
    Tw.Gen.Conn.C6.lits_can_fit_chunk = [] ∧ Tw.Gen.Conn.C7.lits_can_fit_chunk = [] := by decide

/-! ## What `valid` means -/

/-- 0.6: a valid datagram is at most 1400 bytes; a chunk packet's count equals its number of chunks,
is at most 255, and every chunk payload is shorter than 1024 bytes -/
theorem valid6_spec (p : Tw.Conn6.Packet) (h : p.valid = true) :
    p.wireSize ≤ 1400 ∧
    ∀ ack tok rr n cs, p = .chunks ack tok rr n cs →
      n = cs.length ∧ cs.length ≤ 255 ∧ (∀ c ∈ cs, c.data.length < 1024) ∧ (n ≠ 0 ∨ rr = true) := by
  refine ⟨Tw.Conn6.valid_wire h, ?_⟩
  intro ack tok rr n cs hp
  subst hp
  simp only [Tw.Conn6.Packet.valid, Bool.and_eq_true, decide_eq_true_eq, List.all_eq_true,
    Bool.or_eq_true] at h
  refine ⟨h.1.1.1.2, h.1.1.2, ?_, h.2⟩
  exact fun c hc => Tw.Conn6.cfg_ok _ (h.1.2 c hc)

/-- 0.7: the same with payloads of at most 1390 bytes; response tokens are not `TOKEN_NONE` -/
theorem valid7_spec (p : Tw.Conn7.Packet) (h : p.valid = true) :
    p.wireSize ≤ 1400 ∧ p.writeOk = true ∧
    ∀ ack tok rr n cs, p = .chunks ack tok rr n cs →
      n = cs.length ∧ cs.length ≤ 255 ∧ (∀ c ∈ cs, c.data.length ≤ 1390) ∧ (n ≠ 0 ∨ rr = true) := by
  refine ⟨(Tw.Conn7.valid_wire h).1, (Tw.Conn7.valid_wire h).2, ?_⟩
  intro ack tok rr n cs hp
  subst hp
  simp only [Tw.Conn7.Packet.valid, Bool.and_eq_true, decide_eq_true_eq, List.all_eq_true,
    Bool.or_eq_true] at h
  refine ⟨h.1.1.1.2, h.1.1.2, ?_, h.2⟩
  intro c hc
  exact Tw.Conn7.cfg.accepts_le (h.1.2 c hc)

/-! ## No valid call panics, everything sent is valid (all schedules) -/

/-- **0.6, with and without token.**  From a fresh connection, every schedule of permitted calls runs
to completion — no call evaluates to a panic or a hang — and every datagram handed to the send
callback is valid. -/
theorem conn6_no_panic_all_valid (sched : List (Tw.Conn6.Env × Tw.Conn6.Op))
    (h : Tw.Conn6.runPermitted .new sched = true) :
    ∃ c outs, Tw.Conn6.run .new sched = .ok (c, outs) ∧ ∀ out ∈ outs, ∀ p ∈ out.sent, p.valid = true := by
  obtain ⟨c, outs, he, _, hv⟩ := Tw.Conn6.run_good sched .new Tw.Conn6.Conn.new_inv h
  exact ⟨c, outs, he, hv⟩

/-- the same from a connection created by `Connection::new_accept_token` -/
theorem conn6_accept_no_panic_all_valid (env : Tw.Conn6.Env) (tok : Nat)
    (sched : List (Tw.Conn6.Env × Tw.Conn6.Op))
    (h : Tw.Conn6.runPermitted (.newAcceptToken env tok) sched = true) :
    ∃ c outs, Tw.Conn6.run (.newAcceptToken env tok) sched = .ok (c, outs) ∧
      ∀ out ∈ outs, ∀ p ∈ out.sent, p.valid = true := by
  obtain ⟨c, outs, he, _, hv⟩ :=
    Tw.Conn6.run_good sched _ (Tw.Conn6.inv_online (Online.new_inv Tw.Conn6.cfg)) h
  exact ⟨c, outs, he, hv⟩

/-- **0.7.** -/
theorem conn7_no_panic_all_valid (sched : List (Tw.Conn7.Env × Tw.Conn7.Op))
    (h : Tw.Conn7.runPermitted .new sched = true) :
    ∃ c outs, Tw.Conn7.run .new sched = .ok (c, outs) ∧ ∀ out ∈ outs, ∀ p ∈ out.sent, p.valid = true := by
  obtain ⟨c, outs, he, _, hv⟩ := Tw.Conn7.run_good sched .new Tw.Conn7.Conn.new_inv h
  exact ⟨c, outs, he, hv⟩

/-! ## Bad sends are refused and leave the connection untouched; good ones are queued verbatim -/

/-- which payload lengths `send` accepts: below 1024 bytes in 0.6 (the 10-bit chunk size field), up to
`MAX_PAYLOAD` = 1390 in 0.7 -/
theorem accepts_iff (n : Nat) :
    (Tw.Conn6.cfg.accepts n = true ↔ n < 1024) ∧ (Tw.Conn7.cfg.accepts n = true ↔ n ≤ 1390) := by
  have h7 : Tw.Gen.Conn.P7.CHUNK_SIZE_BITS = 12 := rfl
  constructor
  · have h6 : (2 : Nat) ^ Tw.Gen.Conn.P6.CHUNK_SIZE_BITS = 1024 := rfl
    simp [Cfg.accepts, Tw.Conn6.cfg, maxPayload_eq, h6]; omega
  · simp [Cfg.accepts, Tw.Conn7.cfg, maxPayload_eq]

/-- `send` with an over-long payload returns `TooLongData`, sends nothing and returns the same
connection (both variants, any state of the online core) -/
theorem send_too_long_inert (cfg : Cfg) (o : Online) (now : Nat) (data : Bytes) (vital : Bool)
    (h : cfg.accepts data.length = false) : o.send cfg now data vital = .ok (o, .tooLongData, []) := by
  simp [Online.send, h]

/-- `flush` hands over exactly the queued chunks, in order, with the matching count -/
theorem flush_emits_queue (o : Online) :
    o.flush.2 = [] ∨ o.flush.2 = [⟨o.ack, o.requestResend, o.packet.numChunks, o.packet.chunks⟩] := by
  unfold Online.flush
  split
  · left; rfl
  · right; rfl

/-- an accepted payload never fails and ends up, bit-identical, as the last queued chunk; if it did
not fit, exactly the previously queued packet is sent first -/
theorem send_queues_verbatim (cfg : Cfg) (hc : cfg.Ok) (o : Online) (hinv : o.Inv cfg) (now : Nat)
    (data : Bytes) (vital : Bool) (h : cfg.accepts data.length = true) :
    ∃ o' fl, o.send cfg now data vital = .ok (o', .ok, fl) ∧
      (∃ v, o'.packet.chunks.getLast? = some ⟨v, data⟩ ∧ v.isSome = vital) ∧
      (fl = [] ∨ fl = [⟨o.ack, o.requestResend, o.packet.numChunks, o.packet.chunks⟩]) := by
  rcases Online.send_ok hc hinv now data vital with ⟨h0, _⟩ | ⟨_, he⟩
  · rw [h] at h0; cases h0
  · refine ⟨_, _, he, ?_, ?_⟩
    · cases vital <;> simp [Online.queued]
    · by_cases hf : o.packet.canFit data.length vital = true
      · left; simp [hf]
      · simp only [hf, Bool.false_eq_true, if_false]
        exact flush_emits_queue o

/-- the packet invariant behind all of this holds in every state a permitted schedule reaches
(0.6; the 0.7 statement is `Tw.Conn7.run_good`) -/
theorem conn6_invariant (sched : List (Tw.Conn6.Env × Tw.Conn6.Op))
    (h : Tw.Conn6.runPermitted .new sched = true) :
    ∃ c outs, Tw.Conn6.run .new sched = .ok (c, outs) ∧
      ∀ t o, c.state = .online t o →
        o.packet.numChunks = o.packet.chunks.length ∧ o.packet.chunks.length ≤ 255 ∧
        o.packet.size ≤ 1390 + 3 ∧ o.packetNonvital.chunks = o.packet.chunks.filter nonvital := by
  obtain ⟨c, outs, he, hinv, _⟩ := Tw.Conn6.run_good sched .new Tw.Conn6.Conn.new_inv h
  refine ⟨c, outs, he, ?_⟩
  intro t o hs
  have := hinv t o hs
  exact ⟨this.pn, this.cnt, this.size, this.nv⟩

/-! ## Sequence numbers stay in range; composition with the packet codec (C05) -/

/-- every ack and every chunk sequence number in every datagram sent, over every schedule (permitted
or not) that runs, is below `SEQUENCE_MODULUS` — with `valid` this is the packet writer's full
precondition -/
theorem conn6_all_sent_in_range (sched : List (Tw.Conn6.Env × Tw.Conn6.Op)) (c : Tw.Conn6.Conn)
    (outs : List Tw.Conn6.Out) (h : Tw.Conn6.run .new sched = .ok (c, outs)) :
    ∀ out ∈ outs, ∀ p ∈ out.sent, p.seqOk :=
  (Tw.Conn6.run_seq sched .new c outs Tw.Conn6.Conn.new_seqInv h).2

theorem conn7_all_sent_in_range (sched : List (Tw.Conn7.Env × Tw.Conn7.Op)) (c : Tw.Conn7.Conn)
    (outs : List Tw.Conn7.Out) (h : Tw.Conn7.run .new sched = .ok (c, outs)) :
    ∀ out ∈ outs, ∀ p ∈ out.sent, p.seqOk :=
  (Tw.Conn7.run_seq sched .new c outs Tw.Conn7.Conn.new_seqInv h).2

/-- **C04 ∘ C05 (0.6), per packet**: a structured packet that is `valid` and in range is written by
the packet model's `Packet::write` (into the connection's `MAX_PACKETSIZE` buffer) to at most
`MAX_PACKETSIZE` bytes which `Packet::read` — told whether the connection uses a token — parses back
to the same packet **without a single warning**, whichever way the compression choice went.
(`HuffmanRoundTrip t` is C07's theorem for the built-in table.) -/
theorem conn6_wire_roundtrip (t : Tw.Huffman.Table) (hrt : Tw.Packet6.HuffmanRoundTrip t)
    (p : Tw.Conn6.Packet) (hv : p.valid = true) (hs : p.seqOk) :
    ∃ bs, Tw.Packet6.write t (Tw.Wire6.toWire p) Tw.Gen.Packet6.MAX_PACKETSIZE = .ok bs ∧
      bs.length ≤ Tw.Gen.Packet6.MAX_PACKETSIZE ∧
      ∃ r, Tw.Packet6.read t bs (some (Tw.Wire6.toWire p).hasToken) (some Tw.Gen.Packet6.MAX_PACKETSIZE) = .ok r ∧
        r.pkt = Tw.Wire6.toWire p ∧ r.warns = [] := by
  obtain ⟨hval, hw⟩ := Tw.Wire6.toWire_valid p hv hs
  obtain ⟨bs, h1, h2, r, h3, h4, h5⟩ :=
    Tw.Packet6.write_read_roundtrip t hrt (Tw.Wire6.toWire p) hval _ _ (Nat.le_refl _) (Nat.le_refl _)
  exact ⟨bs, h1, h2, r, h3, h4, by rw [h5, hw]⟩

/-- … and the chunk iterator over the payload of a chunk packet yields exactly the queued chunks —
the header count equals their number, every payload is bit-identical, vital / sequence / resend flag
are preserved — again without a warning -/
theorem conn6_wire_chunks (ack : Nat) (tok : Option Nat) (rr : Bool) (n : Nat) (cs : List Chunk)
    (hv : (Tw.Conn6.Packet.chunks ack tok rr n cs).valid = true) (hs : (Tw.Conn6.Packet.chunks ack tok rr n cs).seqOk) :
    n = cs.length ∧
    ∃ chs it, Tw.Packet.Iter.drain Tw.Packet6.codec (Tw.Packet.Iter.new (Tw.Wire6.encChunks cs) n) = (chs, [], it, false) ∧
      chs.map Tw.Wire6.proj = cs.map Tw.Wire6.projC := by
  have hn : n = cs.length := (valid6_spec _ hv).2 ack tok rr n cs rfl |>.1
  refine ⟨hn, ?_⟩
  rw [hn]
  exact Tw.Wire6.drain_encChunks cs (Tw.Wire6.chunkEnc_of_valid hv hs)

/-- the bytes of one queued chunk are what the code's `write_chunk` appends to the packet buffer -/
theorem conn6_write_chunk_bytes (c : Chunk) (cap : Nat) (acc : List UInt8) (hl : c.data.length < 1024)
    (hs : ∀ s r, c.vital = some (s, r) → s < 1024) (hcap : acc.length + (Tw.Wire6.encChunk c).length ≤ cap) :
    Tw.Packet6.writeChunk c.data c.vital cap acc = .ok (acc ++ Tw.Wire6.encChunk c) := by
  rw [Tw.Packet6.writeChunk_eq c.data c.vital cap acc ⟨hl, hs⟩, ← Tw.Wire6.encHeader_eq, if_pos, List.append_assoc]
  · rfl
  · rw [Nat.add_assoc]
    simpa [Tw.Wire6.encChunk] using hcap

/-- **C04 ∘ C05 (0.6), over schedules**: for every schedule of permitted calls from a fresh
connection, every datagram handed to the send callback is — on the byte level of the packet model —
at most 1400 bytes long and parsed back by the library's reader to the same packet without a warning -/
theorem conn6_schedule_wire (t : Tw.Huffman.Table) (hrt : Tw.Packet6.HuffmanRoundTrip t)
    (sched : List (Tw.Conn6.Env × Tw.Conn6.Op)) (h : Tw.Conn6.runPermitted .new sched = true) :
    ∃ c outs, Tw.Conn6.run .new sched = .ok (c, outs) ∧ ∀ out ∈ outs, ∀ p ∈ out.sent,
      ∃ bs, Tw.Packet6.write t (Tw.Wire6.toWire p) Tw.Gen.Packet6.MAX_PACKETSIZE = .ok bs ∧ bs.length ≤ 1400 ∧
        ∃ r, Tw.Packet6.read t bs (some (Tw.Wire6.toWire p).hasToken) (some Tw.Gen.Packet6.MAX_PACKETSIZE) = .ok r ∧
          r.pkt = Tw.Wire6.toWire p ∧ r.warns = [] := by
  obtain ⟨c, outs, he, hv⟩ := conn6_no_panic_all_valid sched h
  refine ⟨c, outs, he, ?_⟩
  intro out ho p hp
  exact conn6_wire_roundtrip t hrt p (hv out ho p hp) (conn6_all_sent_in_range sched c outs he out ho p hp)

/-- **C04 ∘ C05 (0.7), per packet** (response tokens of `Connect` / `Token` packets are 32-bit values —
the model's tokens are natural numbers, `Wire7.tokRange`) -/
theorem conn7_wire_roundtrip (t : Tw.Huffman.Table) (hrt : Tw.Packet7.HuffmanRoundTrip t)
    (p : Tw.Conn7.Packet) (hv : p.valid = true) (hs : p.seqOk) (ht : Tw.Wire7.tokRange p) :
    ∃ bs, Tw.Packet7.write t (Tw.Wire7.toWire p) Tw.Gen.Packet7.MAX_PACKETSIZE = .ok bs ∧
      bs.length ≤ Tw.Gen.Packet7.MAX_PACKETSIZE ∧
      ∃ r, Tw.Packet7.read t bs (some Tw.Gen.Packet7.MAX_PACKETSIZE) = .ok r ∧
        r.pkt = Tw.Wire7.toWire p ∧ r.warns = [] := by
  obtain ⟨hval, hw⟩ := Tw.Wire7.toWire_valid p hv hs ht
  obtain ⟨bs, h1, h2, r, h3, h4, h5⟩ :=
    Tw.Packet7.write_read_roundtrip t hrt (Tw.Wire7.toWire p) hval _ _ (Nat.le_refl _) (Nat.le_refl _)
  exact ⟨bs, h1, h2, r, h3, h4, by rw [h5, hw]⟩

theorem conn7_wire_chunks (ack tok : Nat) (rr : Bool) (n : Nat) (cs : List Chunk)
    (hv : (Tw.Conn7.Packet.chunks ack tok rr n cs).valid = true) (hs : (Tw.Conn7.Packet.chunks ack tok rr n cs).seqOk) :
    n = cs.length ∧
    ∃ chs it, Tw.Packet.Iter.drain Tw.Packet7.codec (Tw.Packet.Iter.new (Tw.Wire7.encChunks cs) n) = (chs, [], it, false) ∧
      chs.map Tw.Wire7.proj = cs.map Tw.Wire7.projC := by
  have hn : n = cs.length := (valid7_spec _ hv).2.2 ack tok rr n cs rfl |>.1
  refine ⟨hn, ?_⟩
  rw [hn]
  exact Tw.Wire7.drain_encChunks cs (Tw.Wire7.chunkEnc_of_valid hv hs)

/-- **C04 ∘ C05 (0.7), over schedules**: for every schedule of permitted calls from a fresh connection
whose random draws are 32-bit values (`secure_random` fills four bytes; the model's draws are natural
numbers — `Env.drawsOk`; the token-range invariant is `Tw/Proofs/ConnTok7.lean`), every
datagram handed to the send callback is written to at most 1400 bytes that the reader parses back
to the same packet without a warning -/
theorem conn7_schedule_wire (t : Tw.Huffman.Table) (hrt : Tw.Packet7.HuffmanRoundTrip t)
    (sched : List (Tw.Conn7.Env × Tw.Conn7.Op)) (h : Tw.Conn7.runPermitted .new sched = true)
    (hd : ∀ eo ∈ sched, eo.1.drawsOk) :
    ∃ c outs, Tw.Conn7.run .new sched = .ok (c, outs) ∧ ∀ out ∈ outs, ∀ p ∈ out.sent,
      ∃ bs, Tw.Packet7.write t (Tw.Wire7.toWire p) Tw.Gen.Packet7.MAX_PACKETSIZE = .ok bs ∧ bs.length ≤ 1400 ∧
        ∃ r, Tw.Packet7.read t bs (some Tw.Gen.Packet7.MAX_PACKETSIZE) = .ok r ∧
          r.pkt = Tw.Wire7.toWire p ∧ r.warns = [] := by
  obtain ⟨c, outs, he, hv⟩ := conn7_no_panic_all_valid sched h
  refine ⟨c, outs, he, ?_⟩
  intro out ho p hp
  exact conn7_wire_roundtrip t hrt p (hv out ho p hp) (conn7_all_sent_in_range sched c outs he out ho p hp)
    (Tw.Conn7.conn7_all_sent_tokRange sched c outs hd he out ho p hp)

-- the byte form of the chunk the repository's own tests send (`\x40\x01\x01\x42`: vital, sequence 1, one byte)
example : Tw.Wire6.encChunks [⟨some (1, false), [0x42]⟩] = [0x40, 0x01, 0x01, 0x42] := by decide
example : Tw.Wire7.encChunks [⟨some (1, false), [0x42]⟩] = [0x40, 0x01, 0x01, 0x42] := by decide
example : (Tw.Conn6.Packet.chunks 5 (some 0x12345678) false 1 [⟨some (1, false), [0x42]⟩]).valid = true := by decide

/-! ## Non-vacuity: concrete permitted schedules, and the statement computes -/

/-- a client: connect, accept, queue 300 empty non-vital chunks (more than a `u8` counts — the input
that made the unrepaired code overflow), a 1023-byte vital chunk, flush, tick, disconnect -/
def demo6 : List (Tw.Conn6.Env × Tw.Conn6.Op) :=
  [({ now := 0 }, .connect),
   ({ now := 1 }, .feed fun _ => some (.control 0 (some 0x12345678) .connectAccept))] ++
  (List.replicate 300 ({ now := 2 }, Tw.Conn6.Op.send [] false)) ++
  [({ now := 3 }, .send (List.replicate 1023 7) true),
   ({ now := 4 }, .send (List.replicate 1024 7) true),
   ({ now := 5 }, .flush),
   ({ now := 2000000 }, .tick),
   ({ now := 2000001 }, .disconnect [98, 121, 101])]

example : Tw.Conn6.runPermitted .new
    ((demo6.map fun eo => ({ eo.1 with draws := [1] }, eo.2))) = true := by decide +kernel

def demo7 : List (Tw.Conn7.Env × Tw.Conn7.Op) :=
  [({ now := 0, draws := [0xffffffff, 5] }, .connect),
   ({ now := 1, draws := [1] }, .feed (some (.control 0 5 (.token 9)))),
   ({ now := 2, draws := [1] }, .feed (some (.control 0 5 .accept))),
   ({ now := 3 }, .send (List.replicate 1390 7) true),
   ({ now := 4 }, .send (List.replicate 1391 7) true),
   ({ now := 1500000 }, .tick),
   ({ now := 1500001 }, .disconnect [])]

example : Tw.Conn7.runPermitted .new demo7 = true := by decide +kernel

/-! ## Function-level tie: `can_fit_chunk` / `chunk_header_size`, translated by `tools/rs2lean`

`Tw.Gen.RsConn.*` is regenerated from `net/src/connection.rs` / `protocol.rs` on every run. -/

theorem tie_rs_chunk_header_size (vital : Bool) :
    Tw.Gen.RsConn.chunk_header_size vital = .ok (chunkHeaderSize vital) :=
  Tw.RsConn.chunk_header_size_eq vital

/-- representation map: the model's `PacketContents` with `numChunks = num_chunks` and
`size = data.len()`; the `usize` sums do not overflow for lengths that exist; `num_chunks` is a
`u8` in the Rust (`hu8`) -/
theorem tie_rs_can_fit_chunk (p : Tw.Gen.RsConn.PacketContents) (data : List UInt8) (vital : Bool)
    (q : PacketContents) (hn : q.numChunks = p.num_chunks) (hs : q.size = p.data.length)
    (hlen : p.data.length + 3 + data.length < 2 ^ 64) (hu8 : p.num_chunks < 256) :
    Tw.Gen.RsConn.PacketContents.can_fit_chunk p data vital = .ok (q.canFit data.length vital) :=
  Tw.RsConn.can_fit_chunk_eq p data vital q hn hs hlen hu8

example : (PacketContents.empty).numChunks = (⟨0, []⟩ : Tw.Gen.RsConn.PacketContents).num_chunks ∧
    (PacketContents.empty).size = (⟨0, []⟩ : Tw.Gen.RsConn.PacketContents).data.length := by decide

/-! The same for the 0.7 twins of `net/src/connection7.rs` / `protocol7.rs` (`Tw.Gen.RsConn7.*`). -/

theorem tie_rs7_chunk_header_size (vital : Bool) :
    Tw.Gen.RsConn7.chunk_header_size vital = .ok (chunkHeaderSize vital) :=
  Tw.RsConn7.chunk_header_size_eq vital

theorem tie_rs7_can_fit_chunk (p : Tw.Gen.RsConn7.PacketContents) (data : List UInt8) (vital : Bool)
    (q : PacketContents) (hn : q.numChunks = p.num_chunks) (hs : q.size = p.data.length)
    (hlen : p.data.length + 3 + data.length < 2 ^ 64) (hu8 : p.num_chunks < 256) :
    Tw.Gen.RsConn7.PacketContents.can_fit_chunk p data vital = .ok (q.canFit data.length vital) :=
  Tw.RsConn7.can_fit_chunk_eq p data vital q hn hs hlen hu8

end Tw.Props.C04
