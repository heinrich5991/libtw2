import Tw.Model.Snap
import Tw.Gen.Snap
import Tw.Proofs.SnapDelta
import Tw.Proofs.SnapWire
import Tw.Proofs.SnapRef
import Tw.Proofs.SnapFast

/-!
# C09 — applying a snapshot delta reproduces the target snapshot

Model: `Tw/Model/Snap.lean` (`createDelta` = `Delta::create_raw`, `applyDelta` =
`RawSnap::read_with_delta`, `Delta.writeInts` = `Delta::write_impl`, `readDelta` =
`Delta::read_impl` over integers or packed bytes).  Helper lemmas: `Tw/Proofs/Snap*.lean`.

The delta format cannot express a size change of an existing key; `Delta::create` panics on such
a pair (finding D15, open).  The theorems therefore carry `SizesAgree a b` and are named
`…_partial`; the unrestricted statement is `C09_full`, refuted in the model by
`create_panics_witness`.
-/
namespace Tw.Props.C09
open Tw.Snap

/-- Tie to the source: limits and type-id constants. -/
theorem tie_consts :
    maxSize = 65536 ∧ maxItems = 1024 ∧ typeIdEx = 0 ∧ offsetExt = 16384 := by decide

/-- (Lists are the *significant numbers* of each function: its integer literals and the values of
the named constants it mentions, as a sorted set without 0 and 1 — see `exlib.significant_set`.)
Tie to the source: the shifts/masks of `key`, `key_to_id`, `key_to_raw_type_id`, the header
padding word of `DeltaHeader::encode_obj`, the `2 +` of `serialized_ints_size`, the two limits in
`prepare_item_vacant`. -/
theorem tie_literals :
    Tw.Gen.Snap.lits_key = [16] ∧ Tw.Gen.Snap.lits_key_to_id = [65535] ∧
    Tw.Gen.Snap.lits_key_to_raw_type_id = [16, 65535] ∧ Tw.Gen.Snap.lits_encode_obj = [] ∧
    Tw.Gen.Snap.lits_serialized_ints_size = [2] ∧ Tw.Gen.Snap.lits_prepare_item_vacant = [1024, 65536] := by
  decide

/-- The full-strength statement of the first sentence of C09 (every pair of snapshots). -/
def C09_full : Prop :=
  ∀ a b : RawSnap, a.WF → b.WF → ∃ d, createDelta a b = some d ∧ applyDelta a d = .ok (b, [])

/-- For all snapshots `a`, `b` with agreeing item sizes: the delta computed from `a` to `b`, applied
to `a`, yields exactly `b` (same items, same data) and no warning. -/
theorem apply_create_partial {a b : RawSnap} (ha : a.WF) (hb : b.WF) (hag : SizesAgree a b) :
    ∃ d, createDelta a b = some d ∧ applyDelta a d = .ok (b, []) :=
  applyDelta_createDelta ha hb hag

/-- … in particular the checksum of the result is the checksum of the target. -/
theorem apply_create_crc_partial {a b : RawSnap} (ha : a.WF) (hb : b.WF) (hag : SizesAgree a b)
    {d : Delta} {s : RawSnap} {ws : List Warning} (hd : createDelta a b = some d)
    (hs : applyDelta a d = .ok (s, ws)) : s.crc = b.crc ∧ s.items = b.items ∧ ws = [] := by
  obtain ⟨d', hd', hap⟩ := applyDelta_createDelta ha hb hag
  rw [hd] at hd'
  injection hd' with hd'
  subst hd'
  rw [hs] at hap
  injection hap with hap
  injection hap with h1 h2
  subst h1 h2
  exact ⟨rfl, rfl, rfl⟩

/-- Wire form, integers: a well-formed delta written with an object-size table that agrees with
its items is read back unchanged and without warning. -/
theorem delta_wire_ints (objSize : Nat → Option Nat) {d : Delta} (hd : d.WF)
    (hok : SizesOk objSize d.updated) :
    ∃ xs, d.writeInts objSize = some xs ∧ readDelta objSize (.ints xs) = .ok (d, []) :=
  readDelta_writeInts false objSize hd hok

/-- Wire form, bytes (each integer packed by `Packer::write_int`). -/
theorem delta_wire_bytes (objSize : Nat → Option Nat) {d : Delta} (hd : d.WF)
    (hok : SizesOk objSize d.updated) :
    ∃ xs, d.writeInts objSize = some xs ∧ readDelta objSize (.bytes (packInts xs)) = .ok (d, []) :=
  readDelta_writeInts true objSize hd hok

/-- The whole journey: create, write (pre-agreed sizes omitted, others explicit — the same table on
both sides), read back from integers and from bytes, apply: the target snapshot, no warning
anywhere. -/
theorem delta_journey_partial (objSize : Nat → Option Nat) {a b : RawSnap} (ha : a.WF) (hb : b.WF)
    (hag : SizesAgree a b) (hok : SizesOk objSize b.items) :
    ∃ d xs, createDelta a b = some d ∧ d.writeInts objSize = some xs ∧
      readDelta objSize (.ints xs) = .ok (d, []) ∧
      readDelta objSize (.bytes (packInts xs)) = .ok (d, []) ∧
      applyDelta a d = .ok (b, []) := by
  obtain ⟨d, xs, hd, hw, hr, hap⟩ := delta_roundtrip_both objSize ha hb hag hok
  exact ⟨d, xs, hd, hw, hr false, hr true, hap⟩

/-- Reference deltas: any delta that deletes exactly the keys of `a` missing in `b`, lists
differences (or data, for new keys) of items of `b`, and omits only unchanged items — which is
what `CSnapshotDelta::CreateDelta` emits — applied to `a` also yields `b` without warning. -/
theorem apply_reference_delta_partial {a b : RawSnap} {d : Delta} (ha : a.WF) (hb : b.WF)
    (hag : SizesAgree a b) (hd : RefDelta a b d) : applyDelta a d = .ok (b, []) :=
  applyDelta_of_refDelta ha hb hag hd

/-- The delta the bundled reference computes (`refCreateDelta` = the model of
`CSnapshotDelta::CreateDelta`, tied to the C++ code by the correspondence run; snapshots handed to
the reference builder in ascending unsigned key order; the empty output stands for the empty
delta) is read by `Delta::read_from_ints` without warning, is a reference delta in the sense
above, and therefore — applied here — yields `b`. -/
theorem reference_delta_applies_partial (objSize : Nat → Option Nat) {a b : RawSnap} (ha : a.WF) (hb : b.WF)
    (hag : SizesAgree a b) (hok : SizesOk objSize b.items) :
    ∃ d, readDelta objSize (.ints
        (if (refCreateDelta objSize (unsignedOrder a.items) (unsignedOrder b.items)).isEmpty then [0, 0, 0]
         else refCreateDelta objSize (unsignedOrder a.items) (unsignedOrder b.items))) = .ok (d, []) ∧
      RefDelta a b d ∧ applyDelta a d = .ok (b, []) := by
  obtain ⟨d, h1, h2⟩ := refCreateDelta_refDelta objSize ha hb hag hok
  exact ⟨d, h1, h2, applyDelta_of_refDelta ha hb hag h2⟩

/-- A snapshot serializes to the same integers as the reference builder produces for the same
items (inserted in ascending unsigned key order, which is the order `write_impl` sorts into). -/
theorem snapshot_ints_eq_reference {s : RawSnap} (h : s.WF) :
    s.writeInts = some (refSnapInts (unsignedOrder s.items)) :=
  writeInts_eq_reference h

/-- `Delta::create` panics exactly on the pairs excluded above (D15). -/
theorem create_panics_iff (a b : RawSnap) : createDelta a b = none ↔ ¬ SizesAgree a b :=
  createDelta_eq_none_iff a b

/-- Witness of finding D15 in the model: the key `(5, 1)` with two and with three integers. -/
theorem create_panics_witness :
    (RawSnap.mk [(keyOf 5 1, [1, 2])]).WF ∧ (RawSnap.mk [(keyOf 5 1, [1, 2, 3])]).WF ∧
    createDelta ⟨[(keyOf 5 1, [1, 2])]⟩ ⟨[(keyOf 5 1, [1, 2, 3])]⟩ = none := by decide

/-- hence the unrestricted statement does not hold for the code as it is -/
theorem C09_full_refuted_witness : ¬ C09_full := by
  intro h
  obtain ⟨d, hd, _⟩ := h ⟨[(keyOf 5 1, [1, 2])]⟩ ⟨[(keyOf 5 1, [1, 2, 3])]⟩
    create_panics_witness.1 create_panics_witness.2.1
  rw [create_panics_witness.2.2] at hd
  exact absurd hd (by simp)

/-- The driver runs tree-backed twins (`Tw/Model/SnapFast.lean`) of the map-heavy model
functions; they compute exactly the list model, for every input (no hypothesis). -/
theorem driver_twin_build_eq (its : List (Int × List Int)) :
    Fast.buildFast its = Fast.buildList its 0 RawSnap.empty := Fast.buildFast_eq its

theorem driver_twin_apply_eq (a : RawSnap) (d : Delta) : Fast.applyDeltaFast a d = applyDelta a d :=
  Fast.applyDeltaFast_eq a d

theorem driver_twin_read_with_delta_eq (a : Snap) (d : Delta) :
    Fast.readWithDeltaFast a d = a.readWithDelta d := Fast.readWithDeltaFast_eq a d

-- non-vacuity: a pair over both sides of the signed-key boundary with an item removed, one
-- changed with wrapping difference, one added, one untouched; pre-agreed size for type 13
example :
    let a : RawSnap := ⟨[(keyOf 32769 7, [5]), (keyOf 0 16384, [1, 2, 3, 4]), (keyOf 13 1, [2147483647, 0])]⟩
    let b : RawSnap := ⟨[(keyOf 0 16384, [1, 2, 3, 4]), (keyOf 13 1, [-2147483648, 7]), (keyOf 14 3, [1, 1])]⟩
    a.WF ∧ b.WF ∧ SizesAgree a b ∧
      SizesOk (fun t => if t = 13 ∨ t = 14 then some 2 else none) b.items := by decide

example :
    (createDelta ⟨[(keyOf 13 1, [2147483647, 0])]⟩ ⟨[(keyOf 13 1, [-2147483648, 7])]⟩) =
      some ⟨[], [(keyOf 13 1, [1, 7])]⟩ := by decide

end Tw.Props.C09
