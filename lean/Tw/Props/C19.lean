import Tw.Model.Buffer
import Tw.Proofs.Buffer
import Tw.Proofs.BufferIdeal
import Tw.Gen.Buffer

/-!
# C19 — the uninitialised-buffer abstraction never overruns and counts exactly

Property theorems only (helper lemmas: `Tw/Proofs/Buffer.lean`, `Tw/Proofs/BufferIdeal.lean`).  The model is
`Tw/Model/Buffer.lean`: a view is the spare-capacity memory `mem` plus the separate counter `init`
(`BufferRef { buffer, initialized_ }`); containers are `{kind, buf, len}`; a session is a container,
the stack of live (nested, possibly capped) views and a reader.  It is tied to `buffer/src/**` by the
`buffer` correspondence domain (real nested `with_buffer` closures; exhaustive over all operation
sequences up to a small length per container shape, random longer ones) and the ties below.

The memory-safety sentence of C19 is *not* a theorem (a list model cannot exhibit undefined
behaviour); see `notes/buffer.md` for the Miri validation.
-/
namespace Tw.Props.C19
open Tw.Buffer

/-- Tie to the source: the literals of the `BufferRef` methods are the ones the model was written
against (`debug_assert!(*initialized == 0)`, `+= 1` per stored byte, `assert!(… == 0)` in `cap_at`),
every intermediate object starts its counter at 0, and exactly `vec`, `arrayvec`, `slice_ref`,
`buffer_ref` have a `Drop` impl (a slice has none; `CapAtBuffer` relies on its inner object's). -/
theorem tie_literals :
    Tw.Gen.Buffer.lits_new = [0] ∧ Tw.Gen.Buffer.lits_advance = [] ∧ Tw.Gen.Buffer.lits_extend = [1] ∧
    Tw.Gen.Buffer.lits_initialized = [] ∧ Tw.Gen.Buffer.lits_remaining = [] ∧
    Tw.Gen.Buffer.lits_cap_at = [0] ∧ Tw.Gen.Buffer.initial_counters = [0, 0, 0, 0, 0] ∧
    Tw.Gen.Buffer.drop_impls = ["vec", "arrayvec", "slice_ref", "buffer_ref"] :=
  ⟨rfl, rfl, rfl, rfl, rfl, rfl, rfl, rfl⟩

/-- Tie to the source: the reader types declared `ReadBufferMarker` ("`read` does not look at the
buffer it is given", the assumption under which `read_buffer_ref` hands out uninitialised memory)
are the reviewed list.  A new `unsafe impl` breaks this tie and must be reviewed. -/
theorem tie_marked_readers :
    Tw.Gen.Buffer.marked_readers =
      ["&'a [u8]", "&'a fs::File", "&'a mut R", "&'a net::TcpStream", "Box<R>", "fs::File",
       "io::BufReader<R>", "io::Chain<T, U>", "io::Empty", "io::Repeat", "io::Stdin",
       "io::StdinLock<'a>", "io::Take<R>", "net::TcpStream", "process::ChildStderr",
       "process::ChildStdout"] := rfl

/-! ## 1. the counter never exceeds the capacity -/

/-- For every container kind, capacity, pre-existing contents (and whatever the spare memory
holds), and **every** sequence of operations — writes, iterator extends (also ones that panic in
the middle), `advance`, nested and capped views, reads, early exits, panics and the unwinding they
cause — in the state reached: the container's length is at most its capacity, and for every live
view the counter is at most the view's capacity. -/
theorem counter_never_exceeds_capacity (k : Kind) (cap : Nat) (old : List UInt8) (junk : UInt8)
    (h : old.length ≤ cap) (ops : List Op) :
    let s := ((Sess.fresh (Store.fresh k cap old junk)).run ops).1
    s.store.len ≤ s.store.buf.length ∧ ∀ v ∈ s.stack, v.init ≤ v.mem.length := by
  intro s
  have hw : s.Wf := Sess.run_wf (Sess.fresh_wf _ (Store.fresh_wf k cap old junk fun _ => h)) ops
  exact ⟨hw.1.1, stackOk_mem hw.2⟩

/-- The unreachable panic sites (`remaining`'s subtraction, the slice expressions of `initialized`
and `extend`) are indeed never taken: under the invariant these operations do not panic. -/
theorem no_internal_panic (v : View) (h : v.init ≤ v.mem.length) (xs : List UInt8) :
    v.remaining = some (v.mem.length - v.init) ∧ v.initialized = some (v.mem.take v.init) ∧
    (v.extend xs).2 ≠ .panic := by
  refine ⟨View.remaining_eq h, View.initialized_eq h, ?_⟩
  rw [View.extend_res h]; split <;> simp

/-! ## 2. a write fails exactly when it does not fit, and commits exactly the fitting prefix -/

/-- `write xs` (and `extend` with an iterator yielding `xs`) returns `Err(CapacityError)` iff `xs`
is longer than `remaining()`. -/
theorem write_error_iff_too_long (v : View) (h : v.init ≤ v.mem.length) (xs : List UInt8) :
    (v.extend xs).2 = .cap ↔ xs.length > v.mem.length - v.init := by
  rw [View.extend_res h]
  simp only [View.room]
  by_cases hx : xs.length ≤ v.mem.length - v.init
  · simp [hx]
  · simp [hx]; omega

/-- Whether or not it fails, a write commits exactly the prefix of `xs` that fits: the initialised
bytes grow by that prefix, the counter by its length, the capacity stays, and nothing before the
old counter changes. -/
theorem write_commits_fitting_prefix (v : View) (h : v.init ≤ v.mem.length) (xs : List UInt8) :
    let v' := (v.extend xs).1
    let fit := xs.take (v.mem.length - v.init)
    v'.initialized = some (v.mem.take v.init ++ fit) ∧ v'.init = v.init + fit.length ∧
    v'.mem.length = v.mem.length ∧ v'.init ≤ v'.mem.length := by
  intro v' fit
  have hw := View.extend_wf h xs
  refine ⟨?_, ?_, View.extend_cap h xs, hw⟩
  · rw [View.initialized_eq hw, View.extend_done h]; rfl
  · rw [View.extend_init h, List.length_take, Nat.min_comm]; rfl

/-! ## 3. the initialised bytes are the writes, in order -/

/-- After any sequence of writes `xs₁, xs₂, …` through a view, `initialized()` is what was
initialised before followed by the concatenation of the writes, cut at the capacity; and all of the
writes succeed iff the concatenation fits. -/
theorem initialized_is_concatenation_of_writes (v : View) (h : v.init ≤ v.mem.length)
    (ws : List (List UInt8)) :
    (v.writeAll ws).1.initialized = some (v.mem.take v.init ++ ws.flatten.take (v.mem.length - v.init)) ∧
    ((∀ r ∈ (v.writeAll ws).2, r = Res.ok) ↔ ws.flatten.length ≤ v.mem.length - v.init) := by
  obtain ⟨h1, _, h3, h4⟩ := View.writeAll_spec ws h
  exact ⟨by rw [View.initialized_eq h1, h3]; rfl, h4⟩

/-- … in particular, when every write succeeded, exactly the concatenation of the writes. -/
theorem initialized_is_concatenation_of_successful_writes (cap : List UInt8) (ws : List (List UInt8))
    (hok : ∀ r ∈ (View.writeAll ⟨cap, 0⟩ ws).2, r = Res.ok) :
    (View.writeAll ⟨cap, 0⟩ ws).1.initialized = some ws.flatten := by
  have h : (⟨cap, 0⟩ : View).init ≤ (⟨cap, 0⟩ : View).mem.length := Nat.zero_le _
  obtain ⟨h1, h2⟩ := initialized_is_concatenation_of_writes ⟨cap, 0⟩ h ws
  rw [h1]
  have := h2.mp hok
  simp only [List.take_zero, List.nil_append, Nat.sub_zero] at *
  rw [List.take_of_length_le this]

/-! ## 4. release: the container grows by exactly the initialised bytes -/

/-- `Drop for VecBuffer` / `ArrayVecBuffer`: after the view is released the vector's contents are
the old contents followed by the view's initialised bytes, its length grew by exactly the counter,
its capacity is unchanged.  (The same for a caller-owned slice + counter, `BufferRef::new`: the
counted prefix of the slice grows by exactly the initialised bytes.) -/
theorem release_vector (s : Store) (v : View) (hk : s.kind = .vec ∨ s.kind = .arr ∨ s.kind = .raw)
    (hs : s.len ≤ s.buf.length) (hv : v.init ≤ v.mem.length) (hf : v.mem.length ≤ s.buf.length - s.len) :
    (s.release v).contents = s.contents ++ v.mem.take v.init ∧ (s.release v).len = s.len + v.init ∧
    (s.release v).buf.length = s.buf.length ∧ (s.release v).len ≤ (s.release v).buf.length := by
  have hsw : s.Wf := ⟨hs, by rcases hk with hk | hk | hk <;> simp [hk]⟩
  exact ⟨Store.release_vec_contents hsw hv hk, Store.release_vec_len hk, Store.release_vec_cap hsw hf hk,
    (Store.release_wf hsw hv hf).1⟩

/-- a byte slice has no length to update: it keeps its length and starts with the initialised bytes -/
theorem release_slice (s : Store) (v : View) (hk : s.kind = .slice) (h0 : s.len = 0)
    (hv : v.init ≤ v.mem.length) (hf : v.mem.length ≤ s.buf.length) :
    (s.release v).contents.take v.init = v.mem.take v.init ∧
    (s.release v).contents.length = s.contents.length := by
  have hsw : s.Wf := ⟨by omega, fun _ => h0⟩
  exact ⟨Store.release_slice_take hsw hv hk,
    Store.release_slice_length hsw (by simp [Store.room, h0]; exact hf) hk⟩

/-- `Drop for SliceRefBuffer`: the slice reference is narrowed to exactly the initialised bytes -/
theorem release_slice_ref (s : Store) (v : View) (hk : s.kind = .sref) (h0 : s.len = 0)
    (hv : v.init ≤ v.mem.length) (hf : v.mem.length ≤ s.buf.length) :
    (s.release v).contents = v.mem.take v.init := by
  have hsw : s.Wf := ⟨by omega, fun _ => h0⟩
  exact Store.release_sref_contents hsw hv hk

/-- `Drop for BufferRefBuffer`: releasing a nested view appends exactly the child's initialised
bytes to the parent's, adds the child's counter to the parent's, and keeps the parent's capacity. -/
theorem release_nested (p c : View) (hp : p.init ≤ p.mem.length) (hc : c.init ≤ c.mem.length)
    (hf : c.mem.length ≤ p.mem.length - p.init) :
    (p.writeBack c).initialized = some (p.mem.take p.init ++ c.mem.take c.init) ∧
    (p.writeBack c).init = p.init + c.init ∧ (p.writeBack c).mem.length = p.mem.length ∧
    (p.writeBack c).init ≤ (p.writeBack c).mem.length := by
  have hw := View.writeBack_wf hp hc hf
  refine ⟨?_, rfl, View.writeBack_cap hp hf, hw⟩
  rw [View.initialized_eq hw, View.writeBack_done hp hc]; rfl

/-! ## 5. capped views -/

/-- `x.cap_at(c₁).cap_at(c₂)…` yields (never panics) a view onto the first
`min(cap, c₁, c₂, …)` bytes with counter 0 — for *every* cap, also those beyond the capacity
(defect D14, repaired: the unrepaired code panicked there, see `cap_at_unfixed_witness`). -/
theorem cap_at_is_min (v : View) (h0 : v.init = 0) (caps : List Nat) :
    ∃ v', v.capAll caps = some v' ∧ v'.init = 0 ∧ v'.mem = v.mem.take (caps.foldl min v.mem.length) ∧
      v'.remaining = some (caps.foldl min v.mem.length) := by
  refine ⟨_, View.capAll_eq caps v h0, rfl, rfl, ?_⟩
  have := foldl_min_le caps v.mem.length
  simp [View.remaining, Nat.min_eq_left this]

/-- D14 in the model of the unrepaired code: `cap_at(8)` on a 4-byte slice panicked. -/
theorem cap_at_unfixed_witness :
    View.capAtUnfixed ⟨[0, 0, 0, 0], 0⟩ 8 = none ∧
    (View.capAt ⟨[0, 0, 0, 0], 0⟩ 8).map (·.remaining) = some (some 4) := ⟨rfl, rfl⟩

/-! ## 6. `advance` refuses to go past the capacity -/

/-- `advance(n)` succeeds iff `n ≤ remaining()`; otherwise it panics (the `assert!`) and the
counter is unchanged. -/
theorem advance_refuses_overrun (v : View) (h : v.init ≤ v.mem.length) (n : Nat) :
    (n ≤ v.mem.length - v.init → v.advance n = ({ v with init := v.init + n }, .ok)) ∧
    (n > v.mem.length - v.init → v.advance n = (v, .panic)) := by
  rw [View.advance_eq]
  exact ⟨fun hn => if_pos ⟨hn, h⟩, fun hn => if_neg fun hc => Nat.not_le.mpr hn hc.1⟩

/-! ## 7. every operation sequence: the model refines the ideal ("counts exactly") semantics

`Tw/Proofs/BufferIdeal.lean` defines the *ideal* semantics the property describes in words: a view is
just its capacity and the log of the bytes committed through it, in order (no memory, no counter);
a write appends the fitting prefix to the log; a released nested view's log is appended to its
parent's; the released outermost view's log is appended to the vector's contents (or becomes the
slice reference).  A capped view has capacity `min`. -/

/-- For every container kind, capacity, old contents, spare-memory content and **every** operation
sequence (writes, extends, panicking iterators, `advance`, nested and capped views, reads with any
reader, early exits, panics + unwinding):
* the model of the code gives exactly the responses of the ideal semantics
  (`Ok`/`Err(CapacityError)`, `remaining()`, the bytes of `initialized()` and of `read_buffer`,
  panics);
* every live view has the ideal view's capacity, its `initialized()` bytes are the ideal log — the
  concatenation, in order, of what was committed through it and through its released children — and
  its counter is the length of that log;
* a vector's contents are the ideal contents (old contents followed by the logs of the released
  outermost views), its length is their length, and its capacity is still `cap`; a slice keeps its
  length; a slice reference is exactly the ideal slice; a caller-owned counter counts exactly the
  ideal contents, which are a prefix of the caller's slice (a second `BufferRef::new` on a counter
  that is not 0 is refused — both semantics answer `panic`). -/
theorem model_refines_ideal_semantics (k : Kind) (cap : Nat) (old : List UInt8) (junk : UInt8)
    (h : old.length ≤ cap) (ops : List Op) :
    let m := (Sess.fresh (Store.fresh k cap old junk)).run ops
    let i := (ISess.fresh (IStore.fresh k cap old)).run ops
    m.2 = i.2 ∧
    m.1.stack.length = i.1.stack.length ∧
    (∀ p ∈ List.zip m.1.stack i.1.stack,
      p.1.mem.length = p.2.cap ∧ p.1.initialized = some p.2.log ∧ p.1.init = p.2.log.length ∧
      p.2.log.length ≤ p.2.cap) ∧
    ((k = .vec ∨ k = .arr) → m.1.store.contents = i.1.store.data ∧
      m.1.store.len = i.1.store.data.length ∧ m.1.store.buf.length = cap ∧ i.1.store.cap = cap) ∧
    (k = .slice → m.1.store.contents.length = old.length) ∧
    (k = .sref → m.1.store.contents = i.1.store.data) ∧
    (k = .raw → m.1.store.contents = i.1.store.data ∧ m.1.store.len = i.1.store.data.length ∧
      m.1.store.buf.length = old.length) := by
  intro m i
  have hs := Sess.run_sim ops (Sess.fresh_wf _ (Store.fresh_wf k cap old junk fun _ => h))
  rw [fresh_abs k cap old junk h] at hs
  obtain ⟨hw, hi⟩ : Sess.Sim m i := hs
  have hsame : i.1.store.Same (IStore.fresh k cap old) := ISess.run_same ops _
  clear_value m i
  subst hi
  have hmk : m.1.store.kind = k := hsame.1.trans (IStore.fresh_kind k cap old)
  have hcap : k ≠ .sref → m.1.store.buf.length = if k = .vec ∨ k = .arr then cap else old.length :=
    fun hk => (hsame.2 (by rwa [IStore.fresh_kind])).trans (IStore.fresh_cap k cap old)
  have hdata : k ≠ .slice → m.1.store.contents = m.1.abs.store.data :=
    fun hk => (Store.abs_data (hmk ▸ hk)).symm
  have hlen : k ≠ .sref → m.1.store.len = m.1.abs.store.data.length :=
    fun hk => (Store.abs_data_length hw.1 (hmk ▸ hk)).symm
  refine ⟨rfl, (List.length_map _).symm, ?_, ?_, ?_, ?_, ?_⟩
  · intro p hp
    rw [Sess.abs, ← List.map_prod_left_eq_zip, List.mem_map] at hp
    obtain ⟨v, hm, rfl⟩ := hp
    have hv : v.Wf := stackOk_mem hw.2 v hm
    exact ⟨rfl, View.initialized_eq hv, (View.done_length hv).symm, (View.done_length hv).symm ▸ hv⟩
  · rintro (rfl | rfl) <;> exact ⟨hdata (by decide), hlen (by decide), hcap (by decide), hcap (by decide)⟩
  · rintro rfl
    rw [Store.contents, hmk]
    exact hcap (by decide)
  · rintro rfl
    exact hdata (by decide)
  · rintro rfl
    exact ⟨hdata (by decide), hlen (by decide), hcap (by decide)⟩

/-- No byte of the uninitialised spare capacity is ever observed: the responses of every operation
sequence and the final contents of the container do not depend on what the spare memory held. -/
theorem outputs_independent_of_uninitialized_memory (k : Kind) (hk : k = .vec ∨ k = .arr) (cap : Nat)
    (old : List UInt8) (junk1 junk2 : UInt8) (h : old.length ≤ cap) (ops : List Op) :
    let m1 := (Sess.fresh (Store.fresh k cap old junk1)).run ops
    let m2 := (Sess.fresh (Store.fresh k cap old junk2)).run ops
    m1.2 = m2.2 ∧ m1.1.store.contents = m2.1.store.contents ∧ m1.1.store.len = m2.1.store.len := by
  intro m1 m2
  obtain ⟨a1, _, _, a4, _, _, _⟩ := model_refines_ideal_semantics k cap old junk1 h ops
  obtain ⟨b1, _, _, b4, _, _, _⟩ := model_refines_ideal_semantics k cap old junk2 h ops
  exact ⟨a1.trans b1.symm, (a4 hk).1.trans (b4 hk).1.symm, (a4 hk).2.1.trans (b4 hk).2.1.symm⟩

-- The ideal semantics does what the property says, e.g.: a write that does not fit reports the
-- error and commits exactly the fitting prefix; the vector ends up as old ++ committed bytes.
example :
    ((ISess.fresh (IStore.fresh .vec 4 [0xa0])).run
      [.openV [], .write [1], .openV [9], .write [2, 3, 4], .init, .init]).2 =
      [.opened, .wrote true, .opened, .wrote false, .closed (some [2, 3]), .closed (some [1, 2, 3])] ∧
    ((ISess.fresh (IStore.fresh .vec 4 [0xa0])).run
      [.openV [], .write [1], .openV [9], .write [2, 3, 4], .init, .init]).1.store.data = [0xa0, 1, 2, 3] :=
  ⟨rfl, rfl⟩

-- non-vacuity: concrete sessions (a 4-byte vector holding 1 byte; nested + capped views; an error
-- in the middle; a cap beyond the capacity)
example :
    let s := Sess.fresh (Store.fresh .vec 4 [0xa0] 0)
    let r := s.run [.openV [], .write [1], .openV [9], .write [2, 3, 4], .init, .init]
    r.1.store.contents = [0xa0, 1, 2, 3] ∧ r.1.store.len = 4 := ⟨rfl, rfl⟩

example : (View.writeAll ⟨[9, 9, 9], 0⟩ [[1], [2, 3], [4]]).2 = [.ok, .ok, .cap] := rfl

-- the hypotheses of the release theorems are met by the states a session reaches, e.g. a 4-byte
-- vector holding 1 byte with a view that committed 2 of its 3 bytes, and a parent/child pair
example :
    let s : Store := ⟨.vec, [0xa0, 0, 0, 0], 1⟩
    let v : View := ⟨[1, 2, 0], 2⟩
    (s.kind = .vec ∨ s.kind = .arr) ∧ s.len ≤ s.buf.length ∧ v.init ≤ v.mem.length ∧
    v.mem.length ≤ s.buf.length - s.len ∧ (s.release v).contents = [0xa0, 1, 2] := by decide

example :
    let p : View := ⟨[1, 0, 0, 0], 1⟩
    let c : View := ⟨[2, 3, 0], 2⟩
    p.init ≤ p.mem.length ∧ c.init ≤ c.mem.length ∧ c.mem.length ≤ p.mem.length - p.init ∧
    (p.writeBack c).initialized = some [1, 2, 3] := by decide

-- a caller-owned slice + counter (`BufferRef::new`): counted exactly; a second view on the counter
-- that is no longer 0 is refused; it cannot be capped
example :
    ((Sess.fresh (Store.fresh .raw 3 [7, 8, 9] 0)).run
      [.openV [1], .openV [], .write [1, 2], .init, .openV [], .setr (.bufr 2 [] (.slice [5, 6, 7])), .read []]).2 =
      [.badOp, .opened, .wrote true, .closed (some [1, 2]), .panic, .done, .panic] ∧
    ((Sess.fresh (Store.fresh .raw 3 [7, 8, 9] 0)).run
      [.openV [], .write [1, 2], .init]).1.store.contents = [1, 2] := ⟨rfl, rfl⟩

-- a `BufReader` delivers from its internal buffer: 2 bytes buffered, 1 delivered, then the other
example :
    ((Sess.fresh (Store.fresh .vec 4 [] 0)).run
      [.setr (.bufr 2 [] (.slice [5, 6, 7])), .read [1], .read [], .read []]).2 =
      [.done, .readOk [5], .readOk [6], .readOk [7]] := rfl

-- an over-claiming reader is refused (panic, nothing committed); an early error leaves the vector as it was
example :
    ((Sess.fresh (Store.fresh .vec 4 [0xa0] 0)).run [.setr (.liar 9 0xee), .read []]).2 = [.done, .panic] ∧
    ((Sess.fresh (Store.fresh .vec 4 [0xa0] 0)).run [.setr (.liar 9 0xee), .read []]).1.store.contents = [0xa0] ∧
    ((Sess.fresh (Store.fresh .vec 4 [0xa0] 0)).run [.setr (.fail 0xdd), .read [2]]).2 = [.done, .readErr] :=
  ⟨rfl, rfl, rfl⟩

end Tw.Props.C19
