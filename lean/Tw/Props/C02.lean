import Tw.Model.Conn6
import Tw.Model.Conn7
import Tw.Proofs.ConnStep6
import Tw.Proofs.ConnStep7
import Tw.Model.OnlineNet
import Tw.Proofs.ConnProgress
import Tw.Proofs.ConnTimed6
import Tw.Proofs.ConnTimed7
import Tw.Proofs.ConnOpen6
import Tw.Proofs.ConnOpen7

/-!
# C02 — the connection makes progress: every call returns, the deadline is finite

(a) **Every call returns.**  The model's functions are total; the only loop of the connection layer
is `Connection::resend`.  After the repair (commit "fix: Connection::resend looped forever …") it
places one chunk per iteration, so the model's `resendLoop` is structural recursion on the list of
chunks and no fuel is involved; `Fail.hang` is unreachable from every call in every state.  The loop
as it was is kept in `Tw.Conn.Unfixed` with explicit fuel: for a chunk that does not fit an empty
packet one iteration returns to the same state, and it runs out of every amount of fuel
(`unfixed_resend_diverges_witness`, defect D4 — replayed as a hang on the real 0.7 connection before
the repair).

(b) **The deadline is finite** in every non-idle state, as an invariant over all call sequences:
0.6 in `Connecting`, `Pending`, `Online`; 0.7 in `Token`, `Connecting`, `Pending`, `Online`.  For
0.7's `PendingConnect` it is false (defect D23, open): the full statement is `C02_deadline_full`,
the theorem is `conn7_deadline_finite_partial`, the counterexample `conn7_deadline_witness`.

(c) **Progress under a fair suffix.**  Online phase: `C02_progress` — over the two-endpoint system of
`Tw/Model/OnlineNet.lean` (`fairRound`: both sides resend and flush, every datagram of the round is
delivered once, in order), from every state reachable under an arbitrary admissible prefix at most
four fair rounds reach `quiescent` (everything handed over, queues and packets empty, no resend
request pending); the bound is constant.  Handshake: `handshake6_fair` (two deliveries) and
`handshake7_fair` (four deliveries) make the connector `Online` and `Ready`.

(c') **Timed fair suffix over two full connections** (`Tw/Model/NetSim.lean`, `World`: two complete
`Conn6`/`Conn7` values incl. tokens and timers, clock, per-endpoint datagram histories):
`C02_timed_progress6_partial`, `C02_timed_progress7_partial` — from every world reached by
an admissible schedule from two fresh connections in which both sides are `Online`, four timed
rounds (clock +1 s, both tick, clock +0.5 s, both tick, the datagrams emitted by the ticks delivered
in order) reach quiescence; every tick of the round is at or after the reported deadline
(`timers_due6/7`) and the two sides hold the same token (`tokens_agree6/7`), for every reachable
world.  `C02_fair_progress6_partial` / `C02_fair_progress7_partial` strengthen the round: every datagram sent
during the suffix is delivered, the answers to resend requests included.  Partial only in that both sides are
`Online` already: the handshake rounds are not part of these four.

(c'') **Handshake and online phase composed, from any reachable world**: `C02_open_progress6` (≤ 5 fair
rounds) and `C02_open_progress7` (≤ 6 fair rounds): exactly one side has called `connect`, nobody is
disconnected ⇒ the connector becomes online and `Ready`, everything is handed over and acknowledged,
all queues empty.  These are the full progress statements of the property; the role hypothesis is
necessary (`C02_simultaneous_open6_witness`).
-/
namespace Tw.Props.C02
open Tw.Conn Tw.Time

/-- the two timer intervals the model uses (ms), as extracted from both connection files -/
theorem tie_timeouts :
    Tw.Gen.Conn.C6.resendTimeoutMs = 1000 ∧ Tw.Gen.Conn.C6.sendTimeoutMs = 500 ∧
    Tw.Gen.Conn.C7.resendTimeoutMs = 1000 ∧ Tw.Gen.Conn.C7.sendTimeoutMs = 500 := by decide

/-! ## (a) every call returns -/

/-- no call of the 0.6 connection, in any state, with any arguments, fails to return -/
theorem conn6_call_returns (env : Tw.Conn6.Env) (c : Tw.Conn6.Conn) (op : Tw.Conn6.Op) :
    Tw.Conn6.step env c op ≠ .error .hang := Tw.Conn6.step_nohang env c op

theorem conn7_call_returns (env : Tw.Conn7.Env) (c : Tw.Conn7.Conn) (op : Tw.Conn7.Op) :
    Tw.Conn7.step env c op ≠ .error .hang := Tw.Conn7.step_nohang env c op

/-- in particular `resend`, for every configuration, queue and chunk size -/
theorem resend_returns (cfg : Cfg) (now : Nat) (o : Online) (send : Timeout) :
    o.resend cfg now send ≠ .error .hang := Online.resend_nohang cfg now o send

/-- whole schedules -/
theorem conn6_schedule_returns (sched : List (Tw.Conn6.Env × Tw.Conn6.Op)) :
    Tw.Conn6.run .new sched ≠ .error .hang :=
  Tw.Conn6.run_nohang sched .new

theorem conn7_schedule_returns (sched : List (Tw.Conn7.Env × Tw.Conn7.Op)) :
    Tw.Conn7.run .new sched ≠ .error .hang :=
  Tw.Conn7.run_nohang sched .new

/-- D4, the loop before the repair: with nothing queued, a chunk that does not fit an empty packet
(`3 + len > MAX_PAYLOAD`) makes one iteration return the same todo list and the same state … -/
theorem unfixed_resend_step_fixpoint (cfg : Cfg) (c : ResendChunk) (rest : List ResendChunk) (o : Online)
    (hfit : o.packet.canFit c.data.length true = false) (hidle : o.canSend = false) :
    Unfixed.resendStep cfg c rest o = .ok (c :: rest, o) := by
  simp [Unfixed.resendStep, hfit, Online.flush, hidle]

/-- … so the loop exhausts every amount of fuel -/
theorem unfixed_resend_diverges (cfg : Cfg) (now : Nat) (c : ResendChunk) (rest : List ResendChunk) (o : Online)
    (hfit : o.packet.canFit c.data.length true = false) (hidle : o.canSend = false) :
    ∀ (fuel : Nat) (send : Timeout) (acc : List Flushed),
      Unfixed.resendLoop cfg now fuel (c :: rest) o send acc = .error .hang := by
  intro fuel
  induction fuel with
  | zero => intro send acc; rfl
  | succ n ih =>
    intro send acc
    simp only [Unfixed.resendLoop, hfit, Bool.false_eq_true, if_false]
    have : o.flush = (o, []) := by simp [Online.flush, hidle]
    rw [this]
    exact ih _ _

/-- the concrete witness replayed on the implementation: 0.7, one vital chunk of 1388 bytes -/
theorem unfixed_resend_diverges_witness (data : Bytes) (hlen : data.length = 1388) (fuel : Nat) :
    Unfixed.resendLoop Tw.Conn7.cfg 0 fuel [⟨.inactive, 1, data⟩] .new .inactive [] = .error .hang :=
  unfixed_resend_diverges _ _ _ _ _
    (by simp only [hlen]; decide) (by decide) fuel _ _

/-- … on which the repaired loop returns (the chunk is queued; it travels alone in a datagram of
exactly `MAX_PACKETSIZE` bytes) -/
theorem fixed_resend_witness (data : Bytes) (hlen : data.length = 1388) :
    ∃ o s fl, resendLoop Tw.Conn7.cfg 0 [⟨.inactive, 1, data⟩] .new .inactive [] = .ok (o, s, fl) := by
  obtain ⟨o, s, fl, he, _⟩ := resendLoop_spec Tw.Conn7.cfg_ok 0 [⟨.inactive, 1, data⟩] .new .inactive []
    (Online.new_inv _) (by intro c hc; simp at hc; subst hc; simp only [hlen]; decide) (by simp)
  exact ⟨o, s, fl, he⟩

/-! ## (b) the deadline is finite in every non-idle state -/

/-- **0.6**: in every state reached by any schedule from a fresh connection, unless the connection is
idle (`Unconnected`, `Disconnected`), `needs_tick` is an instant -/
theorem conn6_deadline_finite (sched : List (Tw.Conn6.Env × Tw.Conn6.Op)) (c : Tw.Conn6.Conn)
    (outs : List Tw.Conn6.Out) (h : Tw.Conn6.run .new sched = .ok (c, outs))
    (hn : c.state ≠ .unconnected ∧ c.state ≠ .disconnected) : c.needsTick ≠ .inactive :=
  Tw.Conn6.armed_needsTick (Tw.Conn6.run_armed sched .new c outs (fun hl => nomatch hl) h) hn

/-- … also from `Connection::new_accept_token` -/
theorem conn6_accept_deadline_finite (env : Tw.Conn6.Env) (tok : Nat)
    (sched : List (Tw.Conn6.Env × Tw.Conn6.Op)) (c : Tw.Conn6.Conn) (outs : List Tw.Conn6.Out)
    (h : Tw.Conn6.run (.newAcceptToken env tok) sched = .ok (c, outs))
    (hn : c.state ≠ .unconnected ∧ c.state ≠ .disconnected) : c.needsTick ≠ .inactive :=
  Tw.Conn6.armed_needsTick (Tw.Conn6.run_armed sched _ c outs (fun _ => rfl) h) hn

/-- the full 0.7 statement: finite deadline in every state other than `Unconnected`/`Disconnected` -/
def C02_deadline_full : Prop :=
  ∀ (sched : List (Tw.Conn7.Env × Tw.Conn7.Op)) (c : Tw.Conn7.Conn) (outs : List Tw.Conn7.Out),
    Tw.Conn7.run .new sched = .ok (c, outs) →
    c.state ≠ .unconnected ∧ c.state ≠ .disconnected → c.needsTick ≠ .inactive

/-- **0.7**, proved for every state except `PendingConnect` (`armedKind`: `Token`, `Connecting`,
`Pending`, `Online`) -/
theorem conn7_deadline_finite_partial (sched : List (Tw.Conn7.Env × Tw.Conn7.Op)) (c : Tw.Conn7.Conn)
    (outs : List Tw.Conn7.Out) (h : Tw.Conn7.run .new sched = .ok (c, outs))
    (hn : c.state.armedKind = true) : c.needsTick ≠ .inactive :=
  Tw.Conn7.armed_needsTick (Tw.Conn7.run_armed sched .new c outs (fun hl => nomatch hl) h) hn

/-- D23: after answering a token request the 0.7 acceptor is mid-handshake with no deadline -/
theorem conn7_deadline_witness : ¬ C02_deadline_full := by
  intro h
  have := h [({ now := 0, draws := [7] }, .feed (some (.control 0 Tw.Conn7.TOKEN_NONE (.token 5))))]
    ⟨.pendingConnect 7, .inactive⟩ [{ sent := [.control 0 5 (.token 7)] }] rfl (by decide)
  exact this rfl

/-! ## (c) progress under a fair suffix -/

/-- the full progress claim for the online phase: from every state reachable under an arbitrary
admissible prefix (loss, duplication, reordering, delay, application calls), at most **four** fair
rounds reach quiescence — everything submitted handed over, both resend queues and packets empty, no
resend request pending.  The bound is a constant: round 1 hands everything over; what is still resent in
round 2 is a duplicate, so the receiver asks for a resend; that makes it send a datagram in round 3, whose
ack empties the sender's queue; round 4 clears the last resend request.  (The handshake rounds are
`handshake6_fair` / `handshake7_fair`.) -/
def C02_progress_full : Prop :=
  ∀ (cfg : Cfg), cfg.Ok → ∀ (ms : List Tw.OnlineNet.Move) (s : Tw.OnlineNet.Sys), Tw.OnlineNet.run cfg .init ms = some s →
    ∃ k s', k ≤ 4 ∧ Tw.OnlineNet.fairRounds cfg k s = some s' ∧ Tw.OnlineNet.quiescent s'

/-- **progress under a fair suffix (online phase)** — proof: `Tw/Proofs/ConnProgress.lean`; the four-round
argument itself is `Tw/Proofs/ConnProgressV.lean` -/
theorem C02_progress : C02_progress_full :=
  fun _ hc ms s hr => Tw.OnlineNet.progress hc ms s hr

/-- … for the 0.6 and the 0.7 configuration -/
theorem C02_progress6 (ms : List Tw.OnlineNet.Move) (s : Tw.OnlineNet.Sys)
    (hr : Tw.OnlineNet.run Tw.Conn6.cfg .init ms = some s) :
    ∃ k s', k ≤ 4 ∧ Tw.OnlineNet.fairRounds Tw.Conn6.cfg k s = some s' ∧ Tw.OnlineNet.quiescent s' :=
  C02_progress _ Tw.Conn6.cfg_ok ms s hr

theorem C02_progress7 (ms : List Tw.OnlineNet.Move) (s : Tw.OnlineNet.Sys)
    (hr : Tw.OnlineNet.run Tw.Conn7.cfg .init ms = some s) :
    ∃ k s', k ≤ 4 ∧ Tw.OnlineNet.fairRounds Tw.Conn7.cfg k s = some s' ∧ Tw.OnlineNet.quiescent s' :=
  C02_progress _ Tw.Conn7.cfg_ok ms s hr

/-- the chunks of a packet are exactly the sender's chunks `d, d+1, …, d+m-1` in order (non-vital
chunks may be interleaved) — the shape `resend` gives a packet -/
inductive NextChunks (sub : List Bytes) : Nat → List Chunk → Nat → Prop where
  | nil (d : Nat) : NextChunks sub d [] 0
  | nonvital (d m : Nat) (data : Bytes) (cs : List Chunk) : NextChunks sub d cs m →
      NextChunks sub d (⟨none, data⟩ :: cs) m
  | vital (d m : Nat) (r : Bool) (data : Bytes) (cs : List Chunk) : sub[d]? = some data →
      NextChunks sub (d + 1) cs m → NextChunks sub d (⟨some ((d + 1) % 1024, r), data⟩ :: cs) (m + 1)

/-- **in-order delivery makes full progress**: a receiver that has been handed `d` chunks and is fed a
packet carrying exactly the next `m` chunks accepts all of them — its ack advances to `d + m`, it is
handed exactly those payloads, and it does not ask for a resend because of this packet -/
theorem progress_in_order_delivery_partial (sub : List Bytes) (cs : List Chunk) (d m : Nat) (rr : Bool)
    (h : NextChunks sub d cs m) :
    receiveEager (d % 1024) rr cs = ((d + m) % 1024, rr) ∧
    Tw.OnlineNet.vitalPayloads (receiveLazy (d % 1024) cs) = (sub.drop d).take m := by
  -- the case `a = d` of `receive_consecutive`: no retransmission among the chunks
  have hc : Consecutive sub d cs m := by
    induction h with
    | nil d => exact .nil d
    | nonvital d m data cs _ ih => exact .nonvital d m data cs ih
    | vital d m r data cs hd _ ih => exact .vital d m r data cs hd ih
  obtain ⟨i1, i2, i3⟩ := receive_consecutive sub cs d m hc d rr (Nat.le_refl _) (Nat.le_add_right _ _)
  rw [Nat.max_eq_right (Nat.le_add_right _ _)] at i1
  rw [Nat.add_sub_cancel_left] at i2
  exact ⟨Prod.ext i1 (by rw [i3]; simp), by rw [Tw.OnlineNet.vitalPayloads_conn]; exact i2⟩

/-- a lossy, reordering prefix followed by fair rounds reaches quiescence (computed on the model) -/
theorem fair_round_demo :
    (match Tw.OnlineNet.run Tw.Conn7.cfg .init
        [.send true [1] true, .send true [2] true, .flush true, .send true [3] true, .send false [7] true,
         .flush true, .deliver false 1] with
      | none => false
      | some s =>
        match Tw.OnlineNet.fairRounds Tw.Conn7.cfg 3 s with
        | none => false
        | some s' =>
          s'.del false == s'.sub true && s'.del true == s'.sub false &&
          (s'.ep true).resendQueue.isEmpty && (s'.ep false).resendQueue.isEmpty &&
          (s'.ep true).packet.chunks.isEmpty && (s'.ep false).packet.chunks.isEmpty) = true := by
  decide +kernel

/-! ### (c') timed fair suffix over two full connections -/

section Timed
open Tw.NetSim

/-- **0.6 (with and without token, `tl`), timed**: from every world reachable by an admissible schedule
(H1/H2 of C01) from two fresh connections in which both sides are online, four timed rounds — clock
+1 s, both tick, clock +0.5 s, both tick, then the datagrams the ticks emitted are delivered in order —
reach quiescence: everything submitted handed over in both directions, both resend queues and packets
empty, no resend request pending.  `_partial`: (i) both sides already `Online` (handshake rounds:
`handshake6_fair`); (ii) the round delivers the datagrams emitted by the ticks, not those emitted while a
delivery is processed. -/
theorem C02_timed_progress6_partial (tl : Bool) (alt : P6.Alt) (sched : List (Move (proto6 tl)))
    (w : World (proto6 tl)) (hadm : admissible (World.init (proto6 tl)) sched = true)
    (hrun : NetSim.run (World.init (proto6 tl)) sched = some w) {ta tb : Option Nat} {oa ob : Tw.Conn.Online}
    (ha : w.a.conn.state = .online ta oa) (hb : w.b.conn.state = .online tb ob) :
    ∃ w', timedRounds alt 4 w = some w' ∧ w'.quiescent :=
  timed_progress (P6.pend6 tl) Tw.Conn6.cfg_ok (P6.sim6 tl) (P6.loct6 tl) alt (P6.onlineW6 tl sched w hadm hrun ha hb)

/-- **0.7, timed** (same statement) -/
theorem C02_timed_progress7_partial (sched : List (Move proto7)) (w : World proto7)
    (hadm : admissible (World.init proto7) sched = true) (hrun : NetSim.run (World.init proto7) sched = some w)
    {oa ta ob tb : Nat} {ca cb : Tw.Conn.Online} (ha : w.a.conn.state = .online oa ta ca)
    (hb : w.b.conn.state = .online ob tb cb) :
    ∃ w', timedRounds () 4 w = some w' ∧ w'.quiescent :=
  timed_progress P7.pend7 Tw.Conn7.cfg_ok P7.sim7 P7.loct7 () (P7.onlineW7 sched w hadm hrun ha hb)

/-- **0.6, the full fair suffix**: as above, but every datagram sent during the suffix is delivered —
the ticks' datagrams *and* the answers to resend requests emitted while a delivery is processed
(`fairRoundT`: delivery cursors per direction; leftovers of the previous round first).  The only
reason for `_partial` is that both sides are already `Online` (handshake rounds:
`handshake6_fair`). -/
theorem C02_fair_progress6_partial (tl : Bool) (draws : List Nat) (alt : P6.Alt) (sched : List (Move (proto6 tl)))
    (w : World (proto6 tl)) (hadm : admissible (World.init (proto6 tl)) sched = true)
    (hrun : NetSim.run (World.init (proto6 tl)) sched = some w) {ta tb : Option Nat} {oa ob : Tw.Conn.Online}
    (ha : w.a.conn.state = .online ta oa) (hb : w.b.conn.state = .online tb ob) :
    ∃ s', fairRoundsT draws alt 4 (FairState.start w) = some s' ∧ s'.w.quiescent :=
  fair_progress (P6.pend6 tl) Tw.Conn6.cfg_ok (P6.sim6 tl) (P6.loct6 tl) draws alt (P6.onlineW6 tl sched w hadm hrun ha hb)

/-- **0.7, the full fair suffix** -/
theorem C02_fair_progress7_partial (draws : List Nat) (sched : List (Move proto7)) (w : World proto7)
    (hadm : admissible (World.init proto7) sched = true) (hrun : NetSim.run (World.init proto7) sched = some w)
    {oa ta ob tb : Nat} {ca cb : Tw.Conn.Online} (ha : w.a.conn.state = .online oa ta ca)
    (hb : w.b.conn.state = .online ob tb cb) :
    ∃ s', fairRoundsT draws () 4 (FairState.start w) = some s' ∧ s'.w.quiescent :=
  fair_progress P7.pend7 Tw.Conn7.cfg_ok P7.sim7 P7.loct7 draws () (P7.onlineW7 sched w hadm hrun ha hb)

/-- **why the progress statements carry a state hypothesis** (0.6): if *both* applications called
`connect` (simultaneous open), then in every world reachable afterwards nobody is ever pending or
online and nobody is told `Ready` — each side ignores the other's `Connect`.  "The connecting side
becomes ready" therefore cannot hold from every reachable state; it needs exactly one connecting
side.  (Such worlds are reachable: example below the proof in `Tw/Proofs/ConnOpen6.lean`.) -/
theorem C02_simultaneous_open6_witness (tl : Bool) (sched : List (Move (proto6 tl))) (w : World (proto6 tl))
    (hadm : admissible (World.init (proto6 tl)) sched = true)
    (hrun : NetSim.run (World.init (proto6 tl)) sched = some w) (ha : P6.hasConnect w.a) (hb : P6.hasConnect w.b) :
    (∀ s : Side, P6.stTok (w.get s).conn.state = none) ∧
      Tw.Conn.Event.ready ∉ w.a.events ∧ Tw.Conn.Event.ready ∉ w.b.events :=
  P6.simultaneous_open6 tl sched w hadm hrun ha hb

/-- in every reachable world (no admissibility needed) an online endpoint and its pending-or-online
peer hold the same token, so neither drops the other's datagrams -/
theorem tokens_agree6 (tl : Bool) (sched : List (Move (proto6 tl))) (w : World (proto6 tl))
    (hrun : NetSim.run (World.init (proto6 tl)) sched = some w) (s : Side) {t1 : Option Nat} {o1 : Tw.Conn.Online}
    (h1 : (w.get s).conn.state = .online t1 o1) {t2 : Option Nat}
    (h2 : P6.stTok (w.get s.other).conn.state = some t2) : t1 = t2 := by
  have hl := run_loc (P6.loc6 tl) sched _ w (init_loc (P6.loc6 tl)) hrun
  have hg := P6.agree6_run sched _ w (P6.agree6_init tl) hrun
  cases s with
  | a => exact hg.1.agree hg.2 hl.1.1 hl.2.1 h1 h2
  | b => exact hg.2.agree hg.1 hl.2.1 hl.1.1 h1 h2

theorem tokens_agree7 (sched : List (Move proto7)) (w : World proto7)
    (hrun : NetSim.run (World.init proto7) sched = some w) (s : Side) {t o : Nat}
    (h1 : (w.get s).conn.state.theirToken? = some t) (h2 : (w.get s.other).conn.state.ownToken? = some o) : t = o := by
  have hg := P7.agree7_run sched _ w P7.agree7_init hrun
  cases s with
  | a => exact hg.1.agree hg.2 h1 h2
  | b => exact hg.2.agree hg.1 h1 h2

/-- in every reachable world, while a deadline is reported the send timer is due within 500 ms and
every retransmission timer within 1 s (0.7 `PendingConnect` unconstrained: D23) -/
theorem timers_due6 (tl : Bool) (sched : List (Move (proto6 tl))) (w : World (proto6 tl))
    (hrun : NetSim.run (World.init (proto6 tl)) sched = some w) : P6.Timed w.now w.a.conn ∧ P6.Timed w.now w.b.conn :=
  run_loct (P6.loct6 tl) sched _ w (init_loct (P6.loct6 tl)) hrun

theorem timers_due7 (sched : List (Move proto7)) (w : World proto7)
    (hrun : NetSim.run (World.init proto7) sched = some w) : P7.Timed w.now w.a.conn ∧ P7.Timed w.now w.b.conn :=
  run_loct P7.loct7 sched _ w (init_loct P7.loct7) hrun

-- non-vacuity: an admissible busy schedule that ends online and unsettled, settled after four timed rounds
example : admissible (World.init (proto6 false)) (busy6 false) = true := P6.busy6_admissible
example : (((NetSim.run (World.init (proto6 false)) (busy6 false)).bind (timedRounds .exact 4)).map World.settled) = some true :=
  P6.busy6_timed
example : (((NetSim.run (World.init proto7) busy7).bind (timedRounds () 4)).map World.settled) = some true :=
  P7.busy7_timed
example : (((NetSim.run (World.init (proto6 false)) (busy6 false)).bind fun w =>
    fairRoundsT (P := proto6 false) [] P6.Alt.exact 4 (FairState.start w)).map fun s => s.w.settled) = some true :=
  P6.busy6_fair

/-! #### handshake + online phase, from any reachable world (0.6) -/

/-- **an online connector has been told `Ready`** (0.6): in every reachable world a side that sent a
`Connect` and is `Online` has `Ready` among its events (by C01 exactly once) -/
theorem C02_ready_of_connector6 (tl : Bool) (sched : List (Move (proto6 tl))) (w : World (proto6 tl))
    (hrun : NetSim.run (World.init (proto6 tl)) sched = some w) (s : Side) {t : Option Nat} {o : Tw.Conn.Online}
    (h1 : (w.get s).conn.state = .online t o) (h2 : P6.hasConnect (w.get s)) :
    Tw.Conn.Event.ready ∈ (w.get s).events :=
  P6.ready_of_connector6 tl sched w hrun s h1 h2

/-- … exactly once (with C01's "at most once") -/
theorem C02_ready_exactly_once6 (tl : Bool) (sched : List (Move (proto6 tl))) (w : World (proto6 tl))
    (hrun : NetSim.run (World.init (proto6 tl)) sched = some w) (s : Side) {t : Option Nat} {o : Tw.Conn.Online}
    (h1 : (w.get s).conn.state = .online t o) (h2 : P6.hasConnect (w.get s)) :
    readyCount (w.get s).events = 1 := by
  have hne := readyCount_pos_of_mem (P6.ready_of_connector6 tl sched w hrun s h1 h2)
  have hh := run_hs (P6.hs6 tl) sched _ w init_hs hrun
  cases s with
  | a => exact (hh.1.1.resolve_left hne).1
  | b => exact (hh.2.1.resolve_left hne).1

/-- no acceptor is online while its peer is still connecting (every reachable world) -/
theorem C02_no_online_acceptor_while_connecting6 (tl : Bool) (sched : List (Move (proto6 tl)))
    (w : World (proto6 tl)) (hrun : NetSim.run (World.init (proto6 tl)) sched = some w) (s : Side)
    (h1 : (w.get s).conn.state = .connecting) (h2 : ¬ P6.hasConnect (w.get s.other)) (t : Option Nat)
    (o : Tw.Conn.Online) : (w.get s.other).conn.state ≠ .online t o :=
  P6.no_online_acceptor_while_connecting6 tl sched w hrun s h1 h2 t o

/-- **0.6, handshake and online phase composed — the full progress statement for 0.6**: from every
world reachable by an admissible schedule (arbitrary loss, duplication, reordering, delay and
application calls) in which `a` has called `connect`, `b` has not (`C02_simultaneous_open6_witness`
shows the roles are necessary) and nobody is disconnected, at most **five** rounds of the fair suffix
— every datagram delivered once in order, both sides tick at their reported deadline; the acceptor's
random source can produce a token — end with `a` online and told `Ready`, everything handed over and
acknowledged on both sides, all queues empty (`quiescentH`: `b` is still `Pending` if `a` never sent
a chunk).  No shape hypothesis on the starting world. -/
theorem C02_open_progress6 (tl : Bool) (draws : List Nat) (alt : (proto6 tl).Alt) (nt : Nat)
    (hnt : Tw.Conn6.tokenRandom draws = some nt) (sched : List (Move (proto6 tl))) (w : World (proto6 tl))
    (hadm : admissible (World.init (proto6 tl)) sched = true)
    (hrun : NetSim.run (World.init (proto6 tl)) sched = some w)
    (ha : P6.hasConnect w.a) (hb : ¬ P6.hasConnect w.b)
    (hda : w.a.conn.state ≠ .disconnected) (hdb : w.b.conn.state ≠ .disconnected) :
    ∃ k, k ≤ 5 ∧ ∃ s', fairRoundsT draws alt k (FairState.start w) = some s' ∧ s'.w.quiescentH ∧
      (∃ t o s, s'.w.a.conn = ⟨.online t o, s⟩) ∧ Tw.Conn.Event.ready ∈ s'.w.a.events :=
  P6.open_progress6 tl draws alt nt hnt sched w hadm hrun ha hb hda hdb

/-! #### handshake + online phase, from any reachable world (0.7) -/

/-- **0.7, handshake and online phase composed — the full progress statement for 0.7**: from every
world reachable by an admissible schedule in which `a` has called `connect` and `b` has not (role
hypothesis on the schedule: `P7.connects`) and nobody is disconnected, at most **six** rounds of the
fair suffix (the acceptor's random source can produce a token) end with `a` online and told `Ready`,
everything handed over and acknowledged, all queues empty.  No exclusion for D23 is needed: the
missing timer of `PendingConnect` is harmless under the fair suffix because the connector
retransmits its token request and the acceptor answers each one. -/
theorem C02_open_progress7 (draws : List Nat) (nt : Nat) (hnt : Tw.Conn7.tokenRandom draws = some nt)
    (sched : List (Move proto7)) (w : World proto7)
    (hadm : admissible (World.init proto7) sched = true)
    (hrun : NetSim.run (World.init proto7) sched = some w)
    (hca : P7.connects .a sched = true) (hcb : P7.connects .b sched = false)
    (hda : w.a.conn.state ≠ .disconnected) (hdb : w.b.conn.state ≠ .disconnected) :
    ∃ k, k ≤ 6 ∧ ∃ s', fairRoundsT draws () k (FairState.start w) = some s' ∧ s'.w.quiescentH ∧
      (∃ o t c s, s'.w.a.conn = ⟨.online o t c, s⟩) ∧ Tw.Conn.Event.ready ∈ s'.w.a.events :=
  P7.opened_of_shape draws nt hnt w (run_inv P7.sim7 sched _ w (init_inv P7.sim7) hadm hrun)
    (run_loct P7.loct7 sched _ w (init_loct P7.loct7) hrun) (P7.shape_of_reachable sched w hrun hca hcb hda hdb)

/-- every such reachable world is in one of the handshake shapes (`P7.Shape`: token × {unconnected,
pendingConnect}, connecting × {pendingConnect, pending}, online+Ready × {pending, online}) with matching
token pairs and own tokens different from `TOKEN_NONE` -/
theorem C02_handshake_shapes7 (sched : List (Move proto7)) (w : World proto7)
    (hrun : NetSim.run (World.init proto7) sched = some w)
    (hca : P7.connects .a sched = true) (hcb : P7.connects .b sched = false)
    (hda : w.a.conn.state ≠ .disconnected) (hdb : w.b.conn.state ≠ .disconnected) : P7.Shape w :=
  P7.shape_of_reachable sched w hrun hca hcb hda hdb

/-- an online 0.7 connector has been told `Ready`, and its peer is pending, online or disconnected -/
theorem C02_ready_of_connector7 (sched : List (Move proto7)) (w : World proto7)
    (hrun : NetSim.run (World.init proto7) sched = some w) (hca : P7.connects .a sched = true)
    {o t : Nat} {c : Tw.Conn.Online} (h : w.a.conn.state = .online o t c) :
    Tw.Conn.Event.ready ∈ w.a.events ∧
      (P7.tag w.b.conn.state = 4 ∨ P7.tag w.b.conn.state = 5 ∨ P7.tag w.b.conn.state = 6) :=
  P7.ready_of_connector7 sched w hrun hca h

/-- … exactly once -/
theorem C02_ready_exactly_once7 (sched : List (Move proto7)) (w : World proto7)
    (hrun : NetSim.run (World.init proto7) sched = some w) (hca : P7.connects .a sched = true)
    {o t : Nat} {c : Tw.Conn.Online} (h : w.a.conn.state = .online o t c) : readyCount w.a.events = 1 :=
  ((run_hs P7.hs7 sched _ w init_hs hrun).1.1.resolve_left
    (readyCount_pos_of_mem (P7.ready_of_connector7 sched w hrun hca h).1)).1

end Timed

/-! ### the handshake rounds (separate from the online phase) -/

/-- **0.6 handshake, fair delivery**: `connect`, then the connect request delivered to a fresh acceptor
(whose random source yields a usable token `t`), then its answer delivered back: the connector is
`Online` with `t`, has been told `Ready` exactly in that call, and has sent `Accept`; the acceptor is
`Pending` with `t` and its send timer armed (it goes `Online` with the first chunk packet:
`Tw.Conn6.feedBody`, chunks case).  Three calls, two datagram deliveries. -/
theorem handshake6_fair (now1 now2 now3 : Nat) (draws : List Nat) (t : Nat)
    (ht : Tw.Conn6.tokenRandom draws = some t) :
    ∃ c1 c2 s1,
      Tw.Conn6.connect { now := now1 } .new =
        .ok (c1, { sent := [.control 0 (some Tw.Conn6.TOKEN_NONE) .connect] }) ∧
      Tw.Conn6.feed { now := now2, draws := draws } .new (fun _ => some (.control 0 (some Tw.Conn6.TOKEN_NONE) .connect)) =
        .ok (s1, { sent := [.control 0 (some t) .connectAccept] }) ∧
      s1.state = .pending (some t) ∧ s1.needsTick ≠ .inactive ∧
      Tw.Conn6.feed { now := now3 } c1 (fun _ => some (.control 0 (some t) .connectAccept)) =
        .ok (c2, { sent := [.control 0 (some t) .accept], events := [.ready] }) ∧
      c2.state = .online (some t) .new := by
  -- the two deliveries are the handshake steps of the fair suffix (`Tw/Proofs/ConnFairH6.lean`); the reader there is the
  -- wire's with tokens, `wireRead false p .exact`, which at the hint of these two states returns `p` (`feed_congr rfl`)
  refine ⟨⟨.connecting, Tw.Time.Timeout.after now1 sendUs⟩, _, _, ?_,
    (Tw.Conn6.feed_congr rfl).trans (Tw.NetSim.P6.feed_unc_connect false now2 draws _ .exact t ht), rfl, ?_,
    (Tw.Conn6.feed_congr rfl).trans (Tw.NetSim.P6.feed_cng_ca false now3 [] _ .exact (some t) nofun), rfl⟩
  · simp [Tw.Conn6.connect, Tw.Conn6.Conn.new, Tw.Conn6.tickAction, Tw.Conn6.sendControl, Tw.Conn6.controlPacket,
      Tw.NetSim.P6.emit_one _ _ .connect nofun]
  · simp [Tw.Conn6.Conn.needsTick, Tw.Time.Timeout.min, Tw.Time.Timeout.le, Tw.Time.Timeout.after]

/-- **0.7 handshake, fair delivery**: token request, token answer, connect, accept — five calls, four
datagram deliveries — make the connector `Online` and `Ready`; the acceptor is `Pending` (online with
the first chunk packet).  While the acceptor is in `PendingConnect` (after the second call) it has no
deadline (D23), which does not matter as long as the client's `Connect` arrives. -/
theorem handshake7_fair (n1 n2 n3 n4 n5 : Nat) (dA dB : List Nat) (a b : Nat)
    (ha : Tw.Conn7.tokenRandom dA = some a) (hb : Tw.Conn7.tokenRandom dB = some b) :
    ∃ c1 c2 c3 s1 s2,
      Tw.Conn7.connect { now := n1, draws := dA } .new =
        .ok (c1, { sent := [.control 0 Tw.Conn7.TOKEN_NONE (.token a)] }) ∧
      Tw.Conn7.feed { now := n2, draws := dB } .new (some (.control 0 Tw.Conn7.TOKEN_NONE (.token a))) =
        .ok (s1, { sent := [.control 0 a (.token b)] }) ∧
      Tw.Conn7.feed { now := n3 } c1 (some (.control 0 a (.token b))) =
        .ok (c2, { sent := [.control 0 b (.connect a)] }) ∧
      Tw.Conn7.feed { now := n4 } s1 (some (.control 0 b (.connect a))) =
        .ok (s2, { sent := [.control 0 a .accept] }) ∧
      s2.state = .pending b a ∧ s2.needsTick ≠ .inactive ∧
      Tw.Conn7.feed { now := n5 } c2 (some (.control 0 a .accept)) = .ok (c3, { events := [.ready] }) ∧
      c3.state = .online a b .new := by
  have na := Tw.Conn7.tokenRandom_ne ha
  have hem := Tw.NetSim.P7.emit_one 0 Tw.Conn7.TOKEN_NONE (.token a) nofun nofun
    (by intro rt h; injection h with h; subst h; exact na)
  -- the four deliveries are the handshake steps of the fair suffix (`Tw/Proofs/ConnFairH7.lean`)
  refine ⟨⟨.token a, Tw.Time.Timeout.after n1 sendUs⟩, _, _, _, _, ?_, Tw.NetSim.P7.feed_unc_token n2 dB _ a b hb,
    Tw.NetSim.P7.feed_tok_token n3 [] _ a b na, Tw.NetSim.P7.feed_pc_connect n4 [] _ a b, rfl, ?_,
    Tw.NetSim.P7.feed_cng_accept n5 [] _ a b, rfl⟩
  · simp [Tw.Conn7.connect, Tw.Conn7.Conn.new, ha, Tw.Conn7.tickAction, Tw.Conn7.sendControl, Tw.Conn7.sendControlWith,
      Tw.Conn7.State.theirToken?, hem]
  · simp [Tw.Conn7.Conn.needsTick, Tw.Time.Timeout.min, Tw.Time.Timeout.le, Tw.Time.Timeout.after]

/-! ## Non-vacuity -/

example : NextChunks [[5], [6]] 0 [⟨some (1, true), [5]⟩, ⟨none, [9]⟩, ⟨some (2, true), [6]⟩] 2 :=
  .vital 0 1 true [5] _ rfl (.nonvital 1 1 [9] _ (.vital 1 0 true [6] _ rfl (.nil 2)))

example : ∃ c outs, Tw.Conn6.run .new [({ now := 0 }, .connect)] = .ok (c, outs) ∧
    c.state = .connecting ∧ c.needsTick = .active 500000 := ⟨_, _, rfl, rfl, rfl⟩

example : (Tw.Conn7.State.token 5).armedKind = true := rfl

end Tw.Props.C02
