import Tw.Model.GamenetTyping
import Tw.Proofs.Gamenet
import Tw.Proofs.GamenetCap
import Tw.Proofs.GamenetObj
import Tw.Proofs.GamenetTies
import Tw.Gen.Spec_tw05
import Tw.Gen.Spec_tw06
import Tw.Gen.Spec_tw07
import Tw.Gen.Spec_ddnet
import Tw.Gen.GamenetMsg

/-!
# C14 — generated message and object codecs match the protocol descriptions

The property theorems (lemmas: `Tw/Proofs/Gamenet*.lean`).  The model is the generic
interpreter `Tw/Model/Gamenet.lean` over the description language `Tw/Model/GamenetSpec.lean`; the
four shipped descriptions are regenerated into `Tw/Gen/Spec_*.lean` on every run.  The theorems are
quantified over *every* description (member list `ms : ML`), not stated per message; the `tie_*`
theorems say that the shipped descriptions lie in the fragment of the language that the generator
can emit and the interpreter models faithfully (`wfMs` / `wfOs`).

Predicates (`Tw/Model/GamenetTyping.lean`, all decidable, `Bool`-valued):
`wfMs ms` the generator has a message codec for `ms` (greedy members last, `optional` around a
single read); `wtMs ms v` the value satisfies every described constraint; `absentOk v` the absent
optional members of `v` are the trailing ones.
-/
namespace Tw.Props.C14
open Tw.Gamenet
open Tw.Packer (Warning inI32 writeInt)

/-! ### Ties: the regenerated descriptions -/

/-- Every message of the four shipped descriptions has a message encoding in the generator
(greedy members last, `optional` only around a single fallible read), every snapshot object an
integer encoding. -/
theorem tie_wf_descriptions :
    wfProto Tw.Gen.Spec_tw05.spec = true ∧ wfProto Tw.Gen.Spec_tw06.spec = true ∧
    wfProto Tw.Gen.Spec_tw07.spec = true ∧ wfProto Tw.Gen.Spec_ddnet.spec = true := by
  decide +kernel

/-- The enum ranges / flag masks that the translator resolved into the member types are those of
the descriptions' enumeration and flag tables. -/
theorem tie_enum_flag_references :
    refsOk Tw.Gen.Spec_tw05.spec = true ∧ refsOk Tw.Gen.Spec_tw06.spec = true ∧
    refsOk Tw.Gen.Spec_tw07.spec = true ∧ refsOk Tw.Gen.Spec_ddnet.spec = true := by
  decide +kernel

/-- The generated `obj_size` functions (arms extracted from `snap_obj.rs`) give, for every
ordinal snapshot object, the number of integers the description's members occupy. -/
theorem tie_obj_size :
    objSizesOk Tw.Gen.Spec_tw05.spec = true ∧ objSizesOk Tw.Gen.Spec_tw06.spec = true ∧
    objSizesOk Tw.Gen.Spec_tw07.spec = true ∧ objSizesOk Tw.Gen.Spec_ddnet.spec = true := by
  decide +kernel

/-- The system and game message identifiers of the shipped descriptions are ones `encode_id` accepts, connless ids
are 8 bytes; every message, connless and object identifier identifies its description (dispatch finds exactly it);
no object is without members.  (Object identifiers never reach `encode_id`.) -/
theorem tie_identifiers :
    idsOk Tw.Gen.Spec_tw05.spec = true ∧ idsOk Tw.Gen.Spec_tw06.spec = true ∧
    idsOk Tw.Gen.Spec_tw07.spec = true ∧ idsOk Tw.Gen.Spec_ddnet.spec = true := by
  decide +kernel

/-- Tie to the generated Rust: the arms of `System::decode_msg`, `Game::decode_msg`,
`SnapObj::decode_obj` and `Connless::decode_connless` of all four crates (extracted from the
sources in order, with the values of the `pub const` identifiers they match on: ordinals, UUIDs,
8-byte connless headers) are exactly the descriptions' messages / objects with their identifiers,
each decoded by the struct of its name. -/
theorem tie_dispatch_arms :
    (dispatchOk Tw.Gen.Spec_tw05.rustSystem Tw.Gen.Spec_tw05.spec.system ∧
     dispatchOk Tw.Gen.Spec_tw05.rustGame Tw.Gen.Spec_tw05.spec.game ∧
     dispatchOk Tw.Gen.Spec_tw05.rustObjects Tw.Gen.Spec_tw05.spec.objects ∧
     connlessDispatchOk Tw.Gen.Spec_tw05.rustConnless Tw.Gen.Spec_tw05.spec.connless) ∧
    (dispatchOk Tw.Gen.Spec_tw06.rustSystem Tw.Gen.Spec_tw06.spec.system ∧
     dispatchOk Tw.Gen.Spec_tw06.rustGame Tw.Gen.Spec_tw06.spec.game ∧
     dispatchOk Tw.Gen.Spec_tw06.rustObjects Tw.Gen.Spec_tw06.spec.objects ∧
     connlessDispatchOk Tw.Gen.Spec_tw06.rustConnless Tw.Gen.Spec_tw06.spec.connless) ∧
    (dispatchOk Tw.Gen.Spec_tw07.rustSystem Tw.Gen.Spec_tw07.spec.system ∧
     dispatchOk Tw.Gen.Spec_tw07.rustGame Tw.Gen.Spec_tw07.spec.game ∧
     dispatchOk Tw.Gen.Spec_tw07.rustObjects Tw.Gen.Spec_tw07.spec.objects ∧
     connlessDispatchOk Tw.Gen.Spec_tw07.rustConnless Tw.Gen.Spec_tw07.spec.connless) ∧
    (dispatchOk Tw.Gen.Spec_ddnet.rustSystem Tw.Gen.Spec_ddnet.spec.system ∧
     dispatchOk Tw.Gen.Spec_ddnet.rustGame Tw.Gen.Spec_ddnet.spec.game ∧
     dispatchOk Tw.Gen.Spec_ddnet.rustObjects Tw.Gen.Spec_ddnet.spec.objects ∧
     connlessDispatchOk Tw.Gen.Spec_ddnet.rustConnless Tw.Gen.Spec_ddnet.spec.connless) := by
  -- One evaluation for all four protocols, not one each: the kernel converts every distinct name literal once per
  -- evaluation, and most names recur across the protocols (checked separately the four cost about twice as much).
  decide +kernel

/-- Tie to `gamenet/common/src/msg.rs`: the integer literals of `SystemOrGame::decode_id`
(`id & 1 != 0`, `id >> 1`, `msg != 0`) and `encode_id` (`i != 0`, `=> 0`, `1 << 31`, `== 0`,
`iid << 1`) are the ones `decodeId` / `encodeId` were written against. -/
theorem tie_message_id_literals :
    Tw.Gen.GamenetMsg.lits_decode_id = [1, 0, 1, 0] ∧
    Tw.Gen.GamenetMsg.lits_encode_id = [0, 0, 1, 31, 0, 1] := by decide

/-! ### Messages (system, game, connless): one statement for every description -/

/-- *Canonical bytes decode without warnings to the value they were built from.*  For every
description the generator can emit and every value it admits: `encode` succeeds and `decode` of
the result gives the value back with no warning. -/
theorem encode_decode_roundtrip (ms : ML) (v : VL) (hwf : wfMs ms = true) (hwt : wtMs ms v = true)
    (hab : absentOk v = true) :
    ∃ bs, encStruct ms v = .ok bs ∧ decodeMembers ms bs = .ok v [] := by
  obtain ⟨bs, he, hd⟩ := decM_encM_decMs_encMs.2 ms v hwf hwt hab
  exact ⟨bs, by rw [encStruct, guardWrap_absentOk hab, he], decodeMembers_clean.mpr hd⟩

/-- Canonical bytes of a description: built by the encoding from a value the description admits. -/
def Canonical (ms : ML) (bs : List UInt8) : Prop :=
  ∃ v, wtMs ms v = true ∧ absentOk v = true ∧ encStruct ms v = .ok bs

/-- *… and re-encode to the same bytes*: whatever canonical bytes decode to is written back as
exactly those bytes (and there was no warning). -/
theorem canonical_reencodes (ms : ML) (bs : List UInt8) (v : VL) (ws : List Warning) (hwf : wfMs ms = true)
    (hc : Canonical ms bs) (hd : decodeMembers ms bs = .ok v ws) : ws = [] ∧ encStruct ms v = .ok bs := by
  obtain ⟨v', hwt, hab, he⟩ := hc
  obtain ⟨bs', he', hd'⟩ := encode_decode_roundtrip ms v' hwf hwt hab
  rw [he] at he'
  cases he'
  rw [hd] at hd'
  cases hd'
  exact ⟨rfl, he⟩

/-- *Exactly the described layout*: for every description without `optional` and without
`int32_string` members, a byte string that decodes **without any warning** is the canonical
encoding of the value it decodes to — `encode` writes back exactly the input.  (Together with
`encode_decode_roundtrip`: "decodes without warning" ⇔ "is the encoding of an admitted value".)
Both exclusions are necessary, see the two examples below. -/
theorem clean_decode_is_canonical (ms : ML) (bs : List UInt8) (v : VL) (hno : noOptMs ms = true)
    (hni : noIntStrMs ms = true) (hd : decodeMembers ms bs = .ok v []) : encStruct ms v = .ok bs :=
  clean_decode_canonical_present ms bs v (decMs_present hno (decodeMembers_clean.mp hd)) hni hd

/-- `"+5"` and `"5"` both decode silently to 5 (`int32_string` uses `str::parse`) … -/
example : decodeMembers (.cons .int32String .nil) [43, 53, 0] = .ok (.cons (.int 5) .nil) [] ∧
    encStruct (.cons .int32String .nil) (.cons (.int 5) .nil) = .ok [53, 0] := by decide
/-- … and an unreadable trailing optional member is silently absent. -/
example : decodeMembers Tw.Gen.Spec_tw06.sys_info.members [48, 0, 120, 121] = .ok (.cons (.bytes [48]) (.cons .none .nil)) [] ∧
    encStruct Tw.Gen.Spec_tw06.sys_info.members (.cons (.bytes [48]) (.cons .none .nil)) = .ok [48, 0] := by decide

/-- How many of the shipped system / game / connless descriptions the hypotheses of
`clean_decode_is_canonical` cover: (covered, all) per protocol. -/
theorem tie_clean_canonical_coverage :
    cleanCanonCount Tw.Gen.Spec_tw05.spec = (43, 43) ∧ cleanCanonCount Tw.Gen.Spec_tw06.spec = (52, 56) ∧
    cleanCanonCount Tw.Gen.Spec_tw07.spec = (73, 74) ∧ cleanCanonCount Tw.Gen.Spec_ddnet.spec = (101, 107) := by
  decide +kernel

/-- *Whatever decodes can be written back* (the statement that failed before the fix of D24):
for every description whose optional members are its trailing members, every byte string that
`decode` accepts — canonical or not, with or without warnings — yields a value that `encode`
accepts, and the bytes written decode to the same value without warnings. -/
theorem decoded_message_reencodes (ms : ML) (bs : List UInt8) (v : VL) (ws : List Warning)
    (hwf : wfMs ms = true) (hol : optsLast ms = true) (hd : decodeMembers ms bs = .ok v ws) :
    ∃ bs', encStruct ms v = .ok bs' ∧ decodeMembers ms bs' = .ok v [] := by
  obtain ⟨r, ws', h, _⟩ := decodeMembers_ok.mp hd
  exact encode_decode_roundtrip ms v hwf (decMs_wt h) (decMs_absentOk ms bs v r ws' hwf hol h)

/-- In every shipped message description the optional members are the trailing ones. -/
theorem tie_optionals_last :
    optsLastProto Tw.Gen.Spec_tw05.spec = true ∧ optsLastProto Tw.Gen.Spec_tw06.spec = true ∧
    optsLastProto Tw.Gen.Spec_tw07.spec = true ∧ optsLastProto Tw.Gen.Spec_ddnet.spec = true := by
  decide +kernel

/-- *Small buffers.*  `encStructCap cap` executes the generated `encode` step by step (asserts,
then one write per member) against a buffer of `cap` bytes.  For every value that `encode` can
write at all: it is written completely, byte for byte the same, into every buffer that is large
enough, and refused with `CapacityError` — never a panic — by every buffer that is too small. -/
theorem encode_respects_capacity (cap : Nat) (ms : ML) (v : VL) (bs : List UInt8)
    (h : encStruct ms v = .ok bs) :
    encStructCap cap ms v = if bs.length ≤ cap then .ok bs else .capacity := by
  simp only [encStructCap, h]
  rw [if_neg (by simp)]
  exact runSteps_of_writes cap (structSteps_ok h)

/-- … the same for `System::encode` / `Game::encode` including the id. -/
theorem message_encode_respects_capacity (cap : Nat) (sys : Bool) (s : Spec) (v : VL) (bs : List UInt8)
    (h : encodeMsg sys s v = .ok bs) :
    encodeMsgCap cap sys s v = if bs.length ≤ cap then .ok bs else .capacity := by
  simp only [encodeMsgCap, h]
  rw [if_neg (by simp)]
  unfold encodeMsg at h
  split at h
  · cases h
  · obtain ⟨x, y, hx, hy, rfl⟩ := Enc.seq_ok h
    exact runSteps_of_writes cap (writesOf_append (by simp [idSteps, hx, writesOf]) (structSteps_ok hy))

example : encodeMsgCap 4 true Tw.Gen.Spec_tw06.sys_info (.cons (.bytes [48, 46, 54]) (.cons .none .nil)) = .capacity ∧
    encodeMsgCap 5 true Tw.Gen.Spec_tw06.sys_info (.cons (.bytes [48, 46, 54]) (.cons .none .nil)) = .ok [3, 48, 46, 54, 0] := by
  decide

/-- The same with message ids: `System::encode` / `Game::encode`, then `msg::decode` dispatching on
the id (`ordinal << 1 | sys`, or 0 and a UUID). -/
theorem message_roundtrip (p : ProtoSpec) (sys : Bool) (s : Spec) (v : VL)
    (hfind : findSpec s.id (if sys then p.system else p.game) = some s) (hid : idOk s.id = true)
    (hwf : wfMs s.members = true) (hwt : wtMs s.members v = true) (hab : absentOk v = true) :
    ∃ bs, encodeMsg sys s v = .ok bs ∧ decodeMsg p bs = .ok sys s v [] := by
  obtain ⟨b, he, hd⟩ := encode_decode_roundtrip s.members v hwf hwt hab
  obtain ⟨ib, hie, hid'⟩ := decodeId_encodeId sys s.id hid b
  exact ⟨ib ++ b, by simp [encodeMsg, he, hie, Enc.ok_seq_ok], by simp [decodeMsg, hid', hfind, hd]⟩

theorem connless_roundtrip (p : ProtoSpec) (s : ConnlessSpec) (v : VL)
    (hfind : findConnless s.id p.connless = some s) (hid : s.id.length = 8)
    (hwf : wfMs s.members = true) (hwt : wtMs s.members v = true) (hab : absentOk v = true) :
    ∃ bs, encodeConnless s v = .ok bs ∧ decodeConnless p bs = .ok s v [] := by
  obtain ⟨b, he, hd⟩ := encode_decode_roundtrip s.members v hwf hwt hab
  exact ⟨s.id ++ b, by simp [encodeConnless, he, Enc.ok_seq_ok], by simp [decodeConnless, hid, hfind, hd]⟩

/-- Message ids: every ordinal in `1 .. 2^30 - 1` and every UUID survives `encode_id` / `decode_id`
with its system flag. -/
theorem message_id_roundtrip (sys : Bool) (id : Ident) (h : idOk id = true) (rest : List UInt8) :
    ∃ bs, encodeId sys id = .ok bs ∧ decodeId (bs ++ rest) = .ok (sys, id) rest [] :=
  decodeId_encodeId sys id h rest

/-- *Every described constraint is enforced*: whatever `decode` accepts — with or without
warnings, for any description whatsoever — satisfies the description (ranges, enum membership,
booleans, control characters, string termination, sizes). -/
theorem decoded_is_welltyped (ms : ML) (bs : List UInt8) (v : VL) (ws : List Warning)
    (hd : decodeMembers ms bs = .ok v ws) : wtMs ms v = true := by
  obtain ⟨r, ws', h, _⟩ := decodeMembers_ok.mp hd
  exact decMs_wt h

/-- *Violations are rejected*, constraint by constraint: an integer outside its range, … -/
theorem range_violation_rejected (min max : Option Int) (x : Int) (hi : inI32 x) (h : checkRange min max x = false)
    (rest : List UInt8) : decM (.int32 min max) (writeInt x ++ rest) = .err .intOutOfRange rest [] :=
  decM_intCheck_reject rfl hi (by simp [h]) rest

/-- … a value that is not a member of the enumeration, … -/
theorem enum_violation_rejected (name : String) (lo : Int) (n : Nat) (x : Int) (hi : inI32 x) (h : inEnum lo n x = false)
    (rest : List UInt8) : decM (.enum name lo n) (writeInt x ++ rest) = .err .intOutOfRange rest [] :=
  decM_intCheck_reject rfl hi (by simp [h]) rest

/-- … a boolean other than 0 and 1, … -/
theorem bool_violation_rejected (x : Int) (hi : inI32 x) (h : x ≠ 0 ∧ x ≠ 1) (rest : List UInt8) :
    decM .boolean (writeInt x ++ rest) = .err .intOutOfRange rest [] := by
  have : checkRange (some 0) (some 1) x = false := by
    simp only [checkRange, Bool.and_eq_false_iff, decide_eq_false_iff_not]; omega
  exact decM_intCheck_reject rfl hi (by simp [this]) rest

/-- … a control character where the description forbids them, … -/
theorem control_character_rejected (s : List UInt8) (hn : hasNul s = false) (hc : hasControl s = true)
    (rest : List UInt8) : decM (.string true) (s ++ 0 :: rest) = .err .controlCharacters rest [] := by
  simp [decM, Tw.Packer.readString_append s hn rest, hc]

/-- … a string without terminator; … -/
theorem unterminated_string_rejected (strict : Bool) (s : List UInt8) (hn : hasNul s = false) :
    decM (.string strict) s = .err .unexpectedEnd [] [] := by
  simp [decM, readString_unterminated s hn]

/-- … and the error of a member is the error of the message. -/
theorem member_error_rejects (t : MT) (ms : ML) (inp : List UInt8) (e : Err) (r : List UInt8) (ws : List Warning)
    (h : decM t inp = .err e r ws) : decodeMembers (.cons t ms) inp = .err e ws := by
  simp [decodeMembers, decMs, h]

/-- *Decoding arbitrary bytes never panics* (the `unwrap`s and slice indexings of the generated
decoders — `Sha256::from_slice(..).unwrap()`, `s[0], s[1]`, the `transmute` assertion of
`AddrPacked` — are modelled as explicit `panic` outcomes; none is reachable), for every
description and every byte string. -/
theorem decode_never_panics (ms : ML) (bs : List UInt8) (site : String) :
    decodeMembers ms bs ≠ .panic site := by
  unfold decodeMembers
  split
  · simp
  · simp
  · rename_i s h; exact absurd h (decMs_noPanic ms bs s)

/-- … including the id and the dispatch. -/
theorem decodeMsg_never_panics (p : ProtoSpec) (bs : List UInt8) (site : String) :
    decodeMsg p bs ≠ .panic site := by
  intro hm
  unfold decodeMsg at hm
  split at hm
  · rename_i s h; exact absurd h (decodeId_noPanic bs s)
  · simp at hm
  · split at hm
    · simp at hm
    · split at hm
      · simp at hm
      · simp at hm
      · rename_i s h
        exact absurd h (decode_never_panics _ _ s)

-- non-vacuity: the hypotheses are met by shipped descriptions and concrete values
example : wfMs Tw.Gen.Spec_tw06.sys_info.members = true ∧
    wtMs Tw.Gen.Spec_tw06.sys_info.members (.cons (.bytes [48, 46, 54]) (.cons .none .nil)) = true ∧
    absentOk (.cons (.bytes [48, 46, 54]) (.cons .none .nil)) = true := by decide
/-- the message that D24 was about: `Info` without password encodes, and decodes back -/
example : encodeMsg true Tw.Gen.Spec_tw06.sys_info (.cons (.bytes [48, 46, 54]) (.cons .none .nil))
    = .ok [3, 48, 46, 54, 0] := by decide
example : decodeMembers Tw.Gen.Spec_tw06.sys_info.members [48, 46, 54, 0]
    = .ok (.cons (.bytes [48, 46, 54]) (.cons .none .nil)) [] := by decide
example : checkRange (some (-1)) (some 15) 16 = false ∧ inI32 16 := by decide
example : Canonical Tw.Gen.Spec_tw06.sys_info.members [48, 46, 54, 0] :=
  ⟨.cons (.bytes [48, 46, 54]) (.cons .none .nil), by decide, by decide, by decide⟩

/-! ### Snapshot objects -/

/-- Every described constraint of a snapshot object is enforced by its integer decoder. -/
theorem decoded_object_is_welltyped (ms : ML) (inp : List Int) (v : VL) (ex : Bool)
    (hi : ∀ x ∈ inp, inI32 x) (hd : decodeObjMembers ms inp = .ok v ex) : wtMs ms v = true := by
  obtain ⟨r, h, _⟩ := decodeObjMembers_ok.mp hd
  exact decOs_wt hi h

/-- A snapshot object decoder accepts exactly `int_size` integers without "excess data": what it
consumes is the size that `obj_size` reports for the type (`tie_obj_size`). -/
theorem decoded_object_consumes_obj_size (ms : ML) (inp : List Int) (v : VL) (hwf : wfOs ms = true)
    (hd : decodeObjMembers ms inp = .ok v false) : inp.length = intSize ms :=
  decOs_len hwf (decodeObjMembers_exact.mp hd)

/-- The full statement for snapshot objects ("re-exposed as the same words"): the words an object
was decoded from are what `encode` returns.  It does not hold for objects with boolean members
(open finding D25; `obj_bool_witness` evaluates one: 58 words decode, 54 come back). -/
def C14_full : Prop :=
  ∀ (ms : ML) (inp : List Int), wfOs ms = true → ms ≠ .nil → (∀ x ∈ inp, inI32 x) →
    (∃ v, decodeObjMembers ms inp = .ok v false) → encodedWords ms inp = some (inp.map some)

/-- *Snapshot objects are re-exposed as the same words* — proved for every object description
without boolean members (every field of the `#[repr(C)]` struct is then four bytes wide): the
words returned by `encode` are exactly the words the object was decoded from.  The excluding
hypothesis `noBool ms` is the negation of the classifier of the open finding D25. -/
theorem object_words_reexposed_partial (ms : ML) (inp : List Int) (hwf : wfOs ms = true)
    (hnb : noBool ms = true) (hne : ms ≠ .nil) (hi : ∀ x ∈ inp, inI32 x)
    (hd : ∃ v, decodeObjMembers ms inp = .ok v false) : encodedWords ms inp = some (inp.map some) := by
  obtain ⟨v, hd⟩ := hd
  obtain ⟨used, hu, _, hc⟩ := decOs_words hwf (decodeObjMembers_exact.mp hd)
  rw [List.append_nil] at hu
  subst hu
  simp [encodedWords, hd, words_struct hne hnb hi (hc hnb hi 0 rfl)]

/-- The other direction, value → words → value: every value an object description (without
boolean members) admits is exposed by `encode` as words that `decode` turns back into exactly that
value, with no excess data. -/
theorem object_encode_decode_roundtrip_partial (ms : ML) (v : VL) (hwf : wfOs ms = true)
    (hnb : noBool ms = true) (hne : ms ≠ .nil) (hwt : wtMs ms v = true) :
    ∃ ints, encodeObj ms v = .ok (ints.map some) ∧ (∀ x ∈ ints, inI32 x) ∧
      decodeObjMembers ms ints = .ok v false := by
  obtain ⟨ints, hc, hi, hd⟩ := cellsMs_decOs ms v hwf hnb hwt
  have := hd []
  rw [List.append_nil] at this
  exact ⟨ints, words_struct hne hnb hi (hc 0 rfl), hi, decodeObjMembers_exact.mpr this⟩

/-- Which shipped snapshot objects the hypothesis excludes: exactly the four of D25. -/
theorem tie_objects_with_bool :
    ((Tw.Gen.Spec_tw05.spec.objects.filter fun s => !noBool s.members).map (·.name)) = [] ∧
    ((Tw.Gen.Spec_tw06.spec.objects.filter fun s => !noBool s.members).map (·.name)) = [] ∧
    ((Tw.Gen.Spec_tw07.spec.objects.filter fun s => !noBool s.members).map (·.name))
      = ["player_input", "de_client_info", "damage"] ∧
    ((Tw.Gen.Spec_ddnet.spec.objects.filter fun s => !noBool s.members).map (·.name))
      = ["ddnet_spectator_info"] := by
  decide +kernel

example : wfOs Tw.Gen.Spec_tw06.obj_character.members = true ∧ noBool Tw.Gen.Spec_tw06.obj_character.members = true ∧
    (∃ v, decodeObjMembers Tw.Gen.Spec_tw06.obj_projectile.members [1, 2, 3, 4, 5, 6] = .ok v false) := by
  refine ⟨by decide, by decide, ?_⟩
  exact ⟨.cons (.int 1) (.cons (.int 2) (.cons (.int 3) (.cons (.int 4) (.cons (.int 5) (.cons (.int 6) .nil))))), by decide⟩

/-- D25 in the model: the 0.7 object `DeClientInfo` decodes 58 zero words, `encode` returns 54
words, two of them containing padding bytes. -/
theorem obj_bool_witness :
    wfOs Tw.Gen.Spec_tw07.obj_de_client_info.members = true ∧
    decodeObjMembers Tw.Gen.Spec_tw07.obj_de_client_info.members (List.replicate 58 0) ≠ .err .unexpectedEnd ∧
    (encodedWords Tw.Gen.Spec_tw07.obj_de_client_info.members (List.replicate 58 0)).map
      (fun ws => (ws.length, ws.count none)) = some (54, 2) := by
  decide +kernel

end Tw.Props.C14
