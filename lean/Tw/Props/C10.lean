import Tw.Model.Snap
import Tw.Gen.Snap
import Tw.Proofs.SnapRaw
import Tw.Proofs.SnapExt

/-!
# C10 — a snapshot survives serialization, including UUID-typed items

Model: `Tw/Model/Snap.lean` (`Builder.addItem`, `Snap.recycle`, `buildFromRaw`,
`Snap.readFromInts` / `readBytes` / `readWithDelta`, `Snap.item` / `items` / `crc`).  Every copy of
a builder-made snapshot obtained through the integer form, the byte form or a delta is *equal* to
the original as a model value (raw items and UUID registry), hence indistinguishable through every
operation.  Before the fix of D6 (`build_from_raw` stored the constant 0 as type number) the
registry of the copy differed; `uuid_lookup_on_copy` is the former counterexample.
-/
namespace Tw.Props.C10
open Tw.Snap

theorem tie_consts :
    maxSize = 65536 ∧ maxItems = 1024 ∧ typeIdEx = 0 ∧ offsetExt = 16384 := by decide

/-- Tie to the source: `OFFSET_EXTENDED_TYPE_ID` and `0x8000` of `Builder::add_item`, the range bounds
and the 256 of `Snap::recycle`, the offset in `raw_type_id`, the four words and sixteen bytes of a UUID.
(`0 < ordinal` and the `+ 1`s are not in the lists: 0 and 1 are not significant numbers.) -/
theorem tie_literals :
    Tw.Gen.Snap.lits_add_item = [16384, 32768] ∧ Tw.Gen.Snap.lits_recycle = [256, 16384, 32768] ∧
    Tw.Gen.Snap.lits_raw_type_id = [16384] ∧ Tw.Gen.Snap.lits_uuid_to_item_data = [4] ∧
    Tw.Gen.Snap.lits_item_data_to_uuid = [4, 16] := by decide

/-- The builder states reachable through the public API: `Builder::new()`, `add_item` with a
`u16` id, `i32` data and an ordinal or UUID type (whatever it returns, unless it panics), and
`recycle` of the finished snapshot (or of any copy — they are equal, see below). -/
inductive Reachable : Builder → Prop
  | new : Reachable Builder.new
  | add {b b' : Builder} {tid : TypeId} {id : Nat} {data : List Int} {r : Option BuilderError} :
      Reachable b → tid.Valid → id < 65536 → (∀ x ∈ data, I32 x) →
      b.addItem tid id data = some (b', r) → Reachable b'
  | recycle {b b' : Builder} : Reachable b → b.snap.recycle = some b' → Reachable b'

theorem reachable_inv {b : Builder} (h : Reachable b) : b.Inv := by
  induction h with
  | new => exact Builder.new_inv
  | add _ htid hid hd ha ih => exact Builder.addItem_inv ih htid hid hd ha
  | recycle _ hr ih =>
    obtain ⟨b'', h1, h2, _, _⟩ := Builder.recycle_inv ih
    rw [hr] at h1
    injection h1 with h1
    rw [h1]
    exact h2

/-- Integer wire form: a builder-made snapshot written by `write_to_ints` and read by
`read_from_ints` is the same snapshot (raw items *and* UUID registry), and no warning is emitted. -/
theorem roundtrip_ints {b : Builder} (h : Reachable b) :
    ∃ xs, b.snap.raw.writeInts = some xs ∧ Snap.readFromInts xs = .ok (b.snap, []) := by
  have hinv := reachable_inv h
  refine ⟨_, writeInts_eq_reference hinv.ok.raw_wf, ?_⟩
  rw [Snap.readFromInts_def, RawSnap.readFromInts_written hinv.ok.raw_wf, thenBuild_of_extOk hinv.ok]

/-- Byte wire form (`write` with a packer, `read`). -/
theorem roundtrip_bytes {b : Builder} (h : Reachable b) :
    ∃ xs, b.snap.raw.writeInts = some xs ∧ Snap.readBytes (packInts xs) = .ok (b.snap, []) := by
  have hinv := reachable_inv h
  refine ⟨_, writeInts_eq_reference hinv.ok.raw_wf, ?_⟩
  rw [Snap.readBytes_def, RawSnap.readBytes_written hinv.ok.raw_wf, thenBuild_of_extOk hinv.ok]

/-- Delta: a builder-made snapshot obtained by `read_with_delta` from any well-formed base with
agreeing item sizes (D15) is again the same snapshot. -/
theorem roundtrip_delta_partial {b : Builder} (h : Reachable b) {a : Snap} (ha : a.raw.WF)
    (hag : SizesAgree a.raw b.snap.raw) :
    ∃ d, createDelta a.raw b.snap.raw = some d ∧ a.readWithDelta d = .ok (b.snap, []) := by
  have hinv := reachable_inv h
  obtain ⟨d, hd, hap⟩ := applyDelta_createDelta ha hinv.ok.raw_wf hag
  refine ⟨d, hd, ?_⟩
  rw [Snap.readWithDelta_def, hap, thenBuild_of_extOk hinv.ok]

/-- Consequently the copy is indistinguishable through the public API: the same item set is
enumerated, looking up any item by ordinal or UUID type and id returns the same data, the checksum
is equal.  (Stated for any reader result equal to the original, which the three theorems above
establish for the integer form, the byte form and deltas.) -/
theorem copy_indistinguishable {s s' : Snap} {ws : List Warning} {r : Res (Snap × List Warning)}
    (hr : r = .ok (s', ws)) (heq : r = .ok (s, [])) :
    s'.items = s.items ∧ (∀ tid id, s'.item tid id = s.item tid id) ∧ s'.crc = s.crc ∧
    s'.recycle = s.recycle ∧ ws = [] := by
  rw [hr] at heq
  injection heq with heq
  injection heq with h1 h2
  subst h1 h2
  exact ⟨rfl, fun _ _ => rfl, rfl, rfl, rfl⟩

/-- The copy can be recycled: `recycle` succeeds, the new builder still knows every UUID type with
its number, the registry items are back in place, and the next fresh number is larger than all of
them (so a new UUID type cannot collide with a known one). -/
theorem recycle_keeps_types {b : Builder} (h : Reachable b) :
    ∃ b', b.snap.recycle = some b' ∧ Reachable b' ∧ b'.snap.ext = b.snap.ext ∧
      (∀ u t, mfind u b.snap.ext = some t →
        t < b'.nextTypeId ∧ mfind (keyOf typeIdEx t) b'.snap.raw.items = some (uuidToData u)) := by
  obtain ⟨b', h1, h2, h3, h4⟩ := Builder.recycle_inv (reachable_inv h)
  refine ⟨b', h1, Reachable.recycle h h1, h3, ?_⟩
  intro u t hu
  rw [← h3] at hu
  exact ⟨(h2.ext_range u t hu).2, (h2.ok.ext_reg u t hu).2.2⟩

/-- A UUID type keeps its number across recycle: adding an item of a known UUID type to the
recycled builder uses the old number (no new registry item). -/
theorem known_type_reused {b b' : Builder} {u : Int} {t id : Nat} {data : List Int}
    (hr : b.snap.recycle = some b') (hb : Reachable b) (hu : mfind u b.snap.ext = some t) :
    b'.addItem (.uuid u) id data =
      match b'.snap.raw.addItem (keyOf t id) data with
      | .error e => some (b', some e)
      | .ok raw => some ({ b' with snap := { b'.snap with raw := raw } }, none) := by
  obtain ⟨b'', h1, _, h3, _⟩ := Builder.recycle_inv (reachable_inv hb)
  rw [hr] at h1
  injection h1 with h1
  subst h1
  rw [← h3] at hu
  simp only [Builder.addItem, hu]
  cases b'.snap.raw.addItem (keyOf t id) data <;> rfl

/-- Target reuse is behaviour-neutral in the model: the result of `read_with_delta` (and of the two
wire readers) does not depend on what the target `Snap` held before.  (True by construction — the
model clears the target first, as the code does; the implementation is held to it by the oracle
`C10+C11/target-reuse-differs`, which repeats every read into used targets.) -/
theorem target_reuse_neutral (t t' a : Snap) (d : Delta) (data : List Int) (bs : List UInt8) :
    Snap.readWithDeltaInto t a d = Snap.readWithDeltaInto t' a d ∧
    Snap.readFromIntsInto t data = Snap.readFromIntsInto t' data ∧
    Snap.readBytesInto t bs = Snap.readBytesInto t' bs := ⟨rfl, rfl, rfl⟩

/-- The former counterexample (D6): one UUID-typed item, written to integers and read back; the
lookup by UUID on the copy finds the item. -/
theorem uuid_lookup_on_copy :
    let u : Int := 0x1a3fcc941e53461e912e21200882024b
    ∀ b, Builder.new.addItem (.uuid u) 1337 [4660, 22136] = some (b, none) →
      ∀ xs, b.snap.raw.writeInts = some xs →
        ∀ s ws, Snap.readFromInts xs = .ok (s, ws) → s.item (.uuid u) 1337 = some (some [4660, 22136]) := by
  intro u b hb xs hx s ws hs
  have hv : (TypeId.uuid u).Valid := (by decide : IsUuid u)
  have hreach : Reachable b := Reachable.add Reachable.new hv (by decide) (by decide) hb
  obtain ⟨xs', h1, h2⟩ := roundtrip_ints hreach
  rw [hx] at h1
  injection h1 with h1
  subst h1
  rw [hs] at h2
  injection h2 with h2
  injection h2 with h3 _
  subst h3
  have : b = (Builder.new.addItem (.uuid u) 1337 [4660, 22136]).get!.1 := by rw [hb]; rfl
  rw [this]
  decide

-- non-vacuity: ordinal and UUID types interleaved, a UUID type used twice
example : ∃ b1 b2 b3,
    Builder.new.addItem (.ordinal 5) 1 [1, 2] = some (b1, none) ∧
    b1.addItem (.uuid 0x1a3fcc941e53461e912e21200882024b) 1337 [4660, 22136] = some (b2, none) ∧
    b2.addItem (.uuid 0x1a3fcc941e53461e912e21200882024b) 7 [] = some (b3, none) ∧
    b3.snap.raw.items.length = 4 ∧ b3.nextTypeId = 16385 := by
  refine ⟨_, _, _, rfl, rfl, rfl, ?_, ?_⟩ <;> decide

end Tw.Props.C10
