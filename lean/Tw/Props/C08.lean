import Tw.Model.Packer
import Tw.Proofs.Packer
import Tw.Proofs.PackerSeq
import Tw.Gen.Packer
import Tw.Proofs.RsPacker

/-!
# C08 — variable-length integers and packed fields round-trip canonically

Property theorems only (helper lemmas live in `Tw/Proofs/Packer*.lean`).  The model is
`Tw/Model/Packer.lean`; it is tied to `packer/src/lib.rs` by the `packer` correspondence domain
(exhaustive over all 2^32 integers in the thorough tier) and by the literal ties below.
An `i32` is an `Int` satisfying `inI32`; a byte string is a `List UInt8`; `readInt bs = none` is
`Err(UnexpectedEnd)`.
-/
namespace Tw.Props.C08
open Tw.Packer

/-! ## Ties to the source -/

/-- The significant constants of `read_int` (named constants resolved, sorted): the digit widths
6 and 7 (6 twice: sign position and first-byte digits), the masks `0x3f`, `0x7f`, `0x80`, `0xf0` — the
numbers the model was written against.  Robust against renaming a magic number into a constant or
restructuring the loop; breaks when a mask or width changes. -/
theorem tie_read_int : Tw.Gen.Packer.sig_read_int = [6, 6, 7, 63, 127, 128, 240] := rfl

/-- … of `write_int`: buffer size 5, widths 6/7 (and the bit positions 6/7 of `to_bit`), masks. -/
theorem tie_write_int : Tw.Gen.Packer.sig_write_int = [5, 6, 6, 7, 7, 7, 63, 127] := rfl

/-- demo-mode `finish` and `new_from_demo`: the padding unit 4. -/
theorem tie_finish : Tw.Gen.Packer.sig_finish = [4] ∧ Tw.Gen.Packer.sig_new_from_demo = [4] :=
  ⟨rfl, rfl⟩

/-! ## Integers -/

/-- Every 32-bit integer is packed into one to five bytes … -/
theorem writeInt_length (v : Int) : 1 ≤ (writeInt v).length ∧ (writeInt v).length ≤ 5 :=
  Tw.Packer.writeInt_length v

/-- … that unpack to the same integer with no warning and nothing left over (for every
continuation `rest` of the byte string, which is returned untouched). -/
theorem readInt_writeInt (v : Int) (h : inI32 v) (rest : List UInt8) :
    readInt (writeInt v ++ rest) = some (v, rest, []) :=
  Tw.Packer.readInt_writeInt v h rest

/-- Canonicity: whenever decoding succeeds, the consumed bytes `c` (1 to 5 of them) are a prefix
of the input, the value is a 32-bit integer, decoding is warning-free **exactly when** `c` is the
packer's encoding of the value, and no shorter encoding of the value exists than the canonical one
(`(writeInt v).length ≤ c.length` for every byte string `c` that decodes to `v`). -/
theorem readInt_canonical (bs : List UInt8) (v : Int) (rest : List UInt8) (ws : List Warning)
    (h : readInt bs = some (v, rest, ws)) :
    ∃ c, bs = c ++ rest ∧ 1 ≤ c.length ∧ c.length ≤ 5 ∧ inI32 v ∧
      (ws = [] ↔ c = writeInt v) ∧ (writeInt v).length ≤ c.length :=
  Tw.Packer.readInt_inv bs v rest ws h

/-- Decoding fails only because the string ends too early: every byte present has its extend
bit set and there are fewer than five of them (the empty string included). -/
theorem readInt_fails_iff_truncated (bs : List UInt8) :
    readInt bs = none ↔ (bs.length < 5 ∧ ∀ b ∈ bs, 128 ≤ b.toNat) := by
  cases bs with
  | nil => simp [readInt]
  | cons b0 inp =>
    have h : readInt (b0 :: inp) = none ↔ readTail 4 (b0.toNat % 64) b0 1 inp [] = none := by
      cases hrt : readTail 4 (b0.toNat % 64) b0 1 inp [] <;> simp [readInt, hrt]
    rw [h, readTail_none]
    simp only [List.length_cons, List.mem_cons, forall_eq_or_imp]
    constructor
    · rintro ⟨h1, h2, h3⟩; exact ⟨by omega, h1, h3⟩
    · rintro ⟨h1, h2, h3⟩; exact ⟨h2, by omega, h3⟩

/-- For zero padding bits decoding yields the value `doc/int.md` prescribes (`docValue` is
defined from the document's bit picture, independently of `readInt`). -/
theorem readInt_documented_value (bs : List UInt8) (v : Int) (rest : List UInt8)
    (ws : List Warning) (h : readInt bs = some (v, rest, ws))
    (hpad : Warning.nonZeroIntPadding ∉ ws) :
    ∃ c, bs = c ++ rest ∧ v = docValue c := by
  obtain ⟨b0, c, rfl, hc⟩ := readInt_some h
  rw [readInt_consumes rest hc] at h
  simp only [Option.some.injEq, Prod.mk.injEq, true_and] at h
  obtain ⟨hv, hws⟩ := h
  have hp : ¬(c.length = 4 ∧ 16 ≤ (c.getLastD b0).toNat) := fun hp =>
    hpad (by rw [← hws, if_pos hp]; simp)
  have hA := docMag_lt hc hp
  rw [Nat.mod_eq_of_lt (Nat.lt_trans hA (by decide)), toI32_signed _ hA] at hv
  exact ⟨b0 :: c, rfl, hv.symm⟩

/-! ## Field sequences (strings, length-prefixed data, raw bytes, integers) -/

/-- Packing well-formed fields into a buffer: it succeeds iff the encodings fit in the remaining
capacity and then appends exactly the concatenated encodings; otherwise it returns
`CapacityError` having written a prefix of the encodings that stays within the capacity. -/
theorem packAll_spec (fs : List Field) (hwf : ∀ f ∈ fs, f.wf) (b : Buf) (hb : b.data.length ≤ b.cap) :
    (totalLen fs ≤ b.remaining → packAll b fs = ({ b with data := b.data ++ encodeAll fs }, .ok)) ∧
    (b.remaining < totalLen fs →
      ∃ k, packAll b fs = ({ b with data := b.data ++ (encodeAll fs).take k }, .capacity) ∧
        b.data.length + ((encodeAll fs).take k).length ≤ b.cap) := by
  rw [packAll_eq_pack fs hwf, Buf.pack, ← encodeAll_length]
  constructor
  · intro h
    rw [Buf.write_fits b _ h]
    rfl
  · intro h
    rw [Buf.write_overflow b _ (Nat.not_le.mpr h)]
    refine ⟨b.remaining, rfl, ?_⟩
    rw [List.length_take, Buf.remaining] at *
    omega

/-- What the packer wrote is read back identically, with nothing consumed beyond it and no
warning. -/
theorem unpackAll_encodeAll (fs : List Field) (hwf : ∀ f ∈ fs, f.wf) (rest : List UInt8) :
    unpackAll (encodeAll fs ++ rest) (fs.map Field.kind) = (fs.map Field.value, true, rest, []) := by
  induction fs with
  | nil => simp [unpackAll, encodeAll]
  | cons f fs ih =>
    have hf : f.wf := hwf f (by simp)
    have := ih (fun g hg => hwf g (by simp [hg]))
    simp only [encodeAll, List.flatMap_cons, List.append_assoc, List.map_cons, unpackAll,
      unpackOne_encode f hf]
    simp only [encodeAll] at this
    rw [this]
    simp

/-- Reading never runs past what is there: after any single read (successful or not) the
remaining input is a suffix of the previous input. -/
theorem unpackOne_suffix (inp : List UInt8) (k : Kind) :
    ∃ c, inp = c ++ (unpackOne inp k).2.1 :=
  (Tw.Packer.unpackOne_suffix inp k).imp fun _ h => h.symm

/-- Demo-mode `finish` warns iff at least four bytes or a non-zero byte remain. -/
theorem finish_demo (rest : List UInt8) :
    finishWarns true rest = true ↔ (4 ≤ rest.length ∨ ∃ b ∈ rest, b ≠ 0) := by
  simp [finishWarns]

/-! ## Non-vacuity -/

example : inI32 (-2147483648) ∧ inI32 2147483647 := by decide
example : readInt (writeInt (-2147483648) ++ [7]) = some (-2147483648, [7], []) := rfl
example : readInt [0x80, 0x00] = some (0, [], [Warning.overlongIntEncoding]) := rfl
example : (Field.str [65, 66]).wf ∧ (Field.data [1, 2, 3]).wf ∧ (Field.int (-5)).wf := by
  refine ⟨?_, ?_, ?_⟩ <;> simp [Field.wf] <;> decide
example : readInt [0xff, 0xff] = none := rfl

/-! ## Function-level tie (`tools/rs2lean`): `to_bit` of `packer/src/lib.rs`

`Tw.Gen.RsPacker.to_bit` is regenerated from the Rust source on every run (`write_int`, `read_int`
are generated next to it; their equivalence with `writeInt`/`readInt` is not proved, see
`notes/rs2lean.md`). -/

/-- `to_bit(b, bit)` sets exactly bit `bit` when `b` holds, and panics iff the assertion `bit < 8`
fails (the model's `writeInt` uses it as `(if … then 128 else 0)` / `sign * 64`). -/
theorem tie_rs_to_bit (b : Bool) (bit : Nat) :
    (bit < 8 → Tw.Gen.RsPacker.to_bit b bit = .ok (if b then 2 ^ bit else 0)) ∧
    (8 ≤ bit → ∃ p, Tw.Gen.RsPacker.to_bit b bit = .error p) :=
  ⟨Tw.RsPacker.to_bit_eq b bit, Tw.RsPacker.to_bit_panics b bit⟩

end Tw.Props.C08
