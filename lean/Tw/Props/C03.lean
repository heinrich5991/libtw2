import Tw.Proofs.ConnStep6
import Tw.Proofs.Conn7

/-!
# C03 — datagrams without the agreed token are inert

`feed` takes the result of the library's reader (`none` = read error; 0.6: as a function of the token
hint the connection passes).  Once an endpoint has fixed a token — 0.6: `Pending (some t)` /
`Online (some t)`; 0.7: every state from `Token` to `Online` (own token) — a datagram that the reader
rejects, or a connection-oriented packet carrying another token or none, returns **the same
connection value**, no event and nothing to send (a warning is allowed).  Equal state gives equal
behaviour under every continuation.  The only exception is 0.7's unauthenticated token request
while `PendingConnect`, whose whole effect is one more token reply.  Tokens an acceptor hands out
come from `Token::random` and are never a reserved value.

The quantifier over byte strings is the quantifier over the reader's possible results here; that the
reader maps every byte string to `none` or to one structured packet is the packet codec's totality
(C06).
-/
namespace Tw.Props.C03
open Tw.Conn

/-! ## 0.6 with token -/

/-- the token a 0.6 endpoint has fixed with its peer, if any -/
def fixed6 (c : Tw.Conn6.Conn) : Option Nat :=
  match c.state with
  | .pending (some t) => some t
  | .online (some t) _ => some t
  | _ => none

/-- a connection-oriented packet that does not carry exactly token `t` -/
def foreign6 (t : Nat) : Tw.Conn6.Packet → Bool
  | .connless _ => false
  | .control _ tok _ => tok != some t
  | .chunks _ tok _ _ _ => tok != some t

/-- **0.6.**  In every state with a fixed token `t`, for every clock value and random source, a
datagram the reader rejects or that is a connected packet without exactly `t` leaves the connection
equal, yields no event and sends nothing. -/
theorem conn6_foreign_inert (env : Tw.Conn6.Env) (c : Tw.Conn6.Conn) (t : Nat) (hfix : fixed6 c = some t)
    (rd : Option Bool → Option Tw.Conn6.Packet)
    (hf : ∀ p, rd (some true) = some p → foreign6 t p = true) :
    ∃ w, Tw.Conn6.feed env c rd = .ok (c, { sent := [], events := [], warns := w }) := by
  -- the hint passed to the reader is `some true`, the expected token is `some t`
  have hst : c.hint = some true ∧ c.state.token? = some (some t) := by
    obtain ⟨st, snd⟩ := c
    cases st with
    | pending tok => cases tok <;> cases hfix; exact ⟨rfl, rfl⟩
    | online tok o => cases tok <;> cases hfix; exact ⟨rfl, rfl⟩
    | _ => cases hfix
  -- so a packet whose token passes the check is not foreign
  have key : ∀ {p tk a}, rd c.hint = some p → p.tokenAck? = some (tk, a) →
      c.state.token?.any (· != tk) = false → False := by
    intro p tk a hrd hta hm
    have hfp := hf p (hst.1 ▸ hrd)
    rw [hst.2] at hm
    cases p <;> cases hta <;> simp_all [foreign6]
  have hr := Tw.Conn6.step_runs env c (.feed rd)
  generalize hg : Tw.Conn6.step env c (.feed rd) = r at hr
  show ∃ w, Tw.Conn6.step env c (.feed rd) = _
  rw [hg]
  cases hr with
  | misuse h => exact h.elim
  | same => exact ⟨_, rfl⟩
  | core _ _ hx => exact hx.elim
  | @fed _ p _ _ hrd hta =>
    rcases hta with ⟨hta, _⟩ | ⟨a, hta, hm⟩
    · have hfp := hf _ (hst.1 ▸ hrd)
      cases p <;> first | cases hfp | cases hta
    · exact (key hrd hta hm).elim
  | acked hrd hta hm => exact (key hrd hta hm).elim

/-- … hence the endpoint's later behaviour is unchanged: every continuation gives the same result -/
theorem conn6_foreign_no_later_effect (env : Tw.Conn6.Env) (c : Tw.Conn6.Conn) (t : Nat)
    (hfix : fixed6 c = some t) (rd : Option Bool → Option Tw.Conn6.Packet)
    (hf : ∀ p, rd (some true) = some p → foreign6 t p = true)
    (sched : List (Tw.Conn6.Env × Tw.Conn6.Op)) :
    Tw.Conn6.run c ((env, .feed rd) :: sched) =
      (match Tw.Conn6.run c sched with
       | .error e => .error e
       | .ok (c', outs) => .ok (c', { warns := (match Tw.Conn6.feed env c rd with
                                                | .ok (_, o) => o.warns
                                                | .error _ => []) } :: outs)) := by
  obtain ⟨w, he⟩ := conn6_foreign_inert env c t hfix rd hf
  simp only [Tw.Conn6.run, Tw.Conn6.step, he]
  cases Tw.Conn6.run c sched with
  | error e => rfl
  | ok r => rfl

/-- `Token::random` (0.6) never returns `TOKEN_NONE` or `TOKEN_RESERVED`, whatever the random source -/
theorem conn6_random_not_reserved (draws : List Nat) (t : Nat) (h : Tw.Conn6.tokenRandom draws = some t) :
    t ≠ Tw.Conn6.TOKEN_NONE ∧ t ≠ Tw.Conn6.TOKEN_RESERVED := by
  induction draws with
  | nil => simp [Tw.Conn6.tokenRandom] at h
  | cons x xs ih =>
    simp only [Tw.Conn6.tokenRandom] at h
    split at h
    · injection h with h; subst h; assumption
    · exact ih h

/-- the token a 0.6 acceptor stores when it answers a connect request is such a value -/
theorem conn6_acceptor_token (env : Tw.Conn6.Env) (snd : Tw.Time.Timeout)
    (rd : Option Bool → Option Tw.Conn6.Packet) (c' : Tw.Conn6.Conn) (out : Tw.Conn6.Out) (t : Nat)
    (h : Tw.Conn6.feed env ⟨.unconnected, snd⟩ rd = .ok (c', out)) (hs : c'.state = .pending (some t)) :
    t ≠ Tw.Conn6.TOKEN_NONE ∧ t ≠ Tw.Conn6.TOKEN_RESERVED := by
  have hst := Tw.Conn6.feed_stepped h
  generalize Tw.Conn6.fedIn _ = i at hst
  cases hst with
  | ctl _ hm _ =>
    cases hm with
    | fedConnect ht =>
      cases hs
      rcases ht with ⟨_, ht⟩ | ⟨nt, _, ht, hd⟩
      · cases ht
      · cases ht
        exact conn6_random_not_reserved _ _ hd
    | _ => cases hs
  | core hst => rcases hst with hst | ⟨hst, _⟩ <;> cases hst
  | acked _ hst => cases hst
  | connless hst => cases hst
  | accept hst => cases hst
  | _ => cases hs

/-! ## 0.7 -/

/-- a datagram's token as `feed` compares it: header token of a connected or connless packet -/
def token7 : Tw.Conn7.Packet → Nat
  | .connless tok _ _ => tok
  | .control _ tok _ => tok
  | .chunks _ tok _ _ _ => tok

/-- the protocol's explicit exception: an unauthenticated token request (control `Token`, header
token `TOKEN_NONE`) while the acceptor is in `PendingConnect` -/
def tokenRequestException (st : Tw.Conn7.State) (p : Tw.Conn7.Packet) : Bool :=
  match st, p with
  | .pendingConnect _, .control _ tok (.token _) => tok == Tw.Conn7.TOKEN_NONE
  | _, _ => false

/-- **0.7.**  In every state with an own token (`Token`, `PendingConnect`, `Connecting`, `Pending`,
`Online`), a datagram the reader rejects or whose token differs from the own token — the token
request exception aside — leaves the connection equal, yields no event and sends nothing. -/
theorem conn7_foreign_inert (env : Tw.Conn7.Env) (c : Tw.Conn7.Conn) (own : Nat)
    (hfix : c.state.ownToken? = some own) (rd : Option Tw.Conn7.Packet)
    (hf : ∀ p, rd = some p → token7 p ≠ own ∧ tokenRequestException c.state p = false) :
    ∃ w, Tw.Conn7.feed env c rd = .ok (c, { sent := [], events := [], warns := w }) := by
  cases rd with
  | none => exact ⟨_, rfl⟩
  | some p =>
    obtain ⟨hne, hex⟩ := hf p rfl
    cases p with
    | connless tok rtok d =>
      simp only [token7] at hne
      simp only [Tw.Conn7.feed, hfix]
      rw [if_pos (by simpa using hne)]
      exact ⟨_, rfl⟩
    | chunks ack tok rr n cs =>
      simp only [token7] at hne
      have hexp : Tw.Conn7.expectedToken c.state (.chunks ack tok rr n cs) = own := by
        unfold Tw.Conn7.expectedToken
        split
        · rename_i h1 h2; cases h2
        · rw [hfix]; rfl
      simp only [Tw.Conn7.feed, hexp]
      rw [if_pos (by simpa using hne)]
      exact ⟨_, rfl⟩
    | control ack tok ctl =>
      simp only [token7] at hne
      have hexp : Tw.Conn7.expectedToken c.state (.control ack tok ctl) = own := by
        unfold Tw.Conn7.expectedToken
        split
        · rename_i o a t r h1 h2
          injection h2 with h2a h2b h2c
          subst h2b h2c
          simp only [tokenRequestException, h1, beq_eq_false_iff_ne, ne_eq] at hex
          rw [if_neg hex]
          rw [h1] at hfix
          simpa [Tw.Conn7.State.ownToken?] using hfix
        · rw [hfix]; rfl
      simp only [Tw.Conn7.feed, hexp]
      rw [if_pos (by simpa using hne)]
      exact ⟨_, rfl⟩

/-- the exception's whole effect: the acceptor stays in the same state and answers with one token
packet addressed to the requester's response token -/
theorem conn7_token_request_exception (env : Tw.Conn7.Env) (own : Nat) (snd : Tw.Time.Timeout)
    (ack rt : Nat) (hown : own ≠ Tw.Conn7.TOKEN_NONE) :
    Tw.Conn7.feed env ⟨.pendingConnect own, snd⟩ (some (.control ack Tw.Conn7.TOKEN_NONE (.token rt))) =
      .ok (⟨.pendingConnect own, snd⟩, { sent := [.control 0 rt (.token own)] }) := by
  have he := (Tw.Conn7.sendControlWith_ok (.pendingConnect own) (.token own) rt (by simp) (by simp)
    (by intro r hr; injection hr with hr; subst hr; exact hown)).1
  simp [Tw.Conn7.feed, Tw.Conn7.expectedToken, Tw.Conn7.feedBody, he, Tw.Conn7.State.ctlAck]

/-- `Token::random` (0.7) never returns `TOKEN_NONE` -/
theorem conn7_random_not_none (draws : List Nat) (t : Nat) (h : Tw.Conn7.tokenRandom draws = some t) :
    t ≠ Tw.Conn7.TOKEN_NONE := Tw.Conn7.tokenRandom_ne h

/-- … and in every state a permitted schedule reaches from a fresh 0.7 connection, the own token
(the one the endpoint hands to its peer) is not `TOKEN_NONE` -/
theorem conn7_own_token_not_none (sched : List (Tw.Conn7.Env × Tw.Conn7.Op))
    (h : Tw.Conn7.runPermitted .new sched = true) :
    ∃ c outs, Tw.Conn7.run .new sched = .ok (c, outs) ∧
      ∀ own, c.state.ownToken? = some own → own ≠ Tw.Conn7.TOKEN_NONE := by
  obtain ⟨c, outs, he, hinv, _⟩ := Tw.Conn7.run_good sched .new Tw.Conn7.Conn.new_inv h
  exact ⟨c, outs, he, hinv.own⟩

/-! ## Non-vacuity -/

example : fixed6 ⟨.online (some 0x12345678) .new, .inactive⟩ = some 0x12345678 := rfl
example : foreign6 0x12345678 (.chunks 0 (some 0x12345679) false 1 [⟨some (1, false), [1]⟩]) = true := by decide
example : foreign6 0x12345678 (.control 0 none (.close [])) = true := by decide
example : Tw.Conn6.tokenRandom [0xffffffff, 0, 7] = some 7 := by decide
example : tokenRequestException (.pendingConnect 5) (.control 0 0xffffffff (.token 9)) = true := by decide

end Tw.Props.C03
