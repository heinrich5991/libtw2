import Tw.Model.Packet6
import Tw.Model.Packet7
import Tw.Proofs.Packet6Read
import Tw.Proofs.Packet7Read
import Tw.Proofs.Packet6Write
import Tw.Proofs.Packet7Write
import Tw.Proofs.Packet6Rewrite
import Tw.Proofs.Packet7Rewrite
import Tw.Proofs.Packet6Bounds
import Tw.Proofs.Packet7Bounds
import Tw.Proofs.PacketIterInst
import Tw.Proofs.PacketFast
import Tw.Proofs.Packet6TwoStepValue
import Tw.Proofs.Packet7TwoStepValue
import Tw.Proofs.Huffman
import Tw.Proofs.HuffmanTable

/-!
# C06 — the packet reader is total and stays inside its buffers

Property theorems only: each with its short proof from the lemmas of `Tw/Proofs/Packet*.lean`, or, where the
proof is long, as a restatement of a lemma proved there.  Models: `Tw/Model/Packet6.lean`
(`net/src/protocol.rs`), `Tw/Model/Packet7.lean` (`net/src/protocol7.rs`), `Tw/Model/PacketCommon.lean`
(`ChunksIter`).  Every `assert!`/`unwrap`/`expect` of the modelled functions is an explicit `panic`
outcome of the model; `is_initial`, `needs_decompression` and `ChunksIter::next_warn` have no such site
and are total functions into `Bool` / `Option Chunk` by construction (the correspondence harness runs
the real functions under `catch_unwind`).

Hypotheses about the Huffman table (proved by C07; instantiated for the built-in table in the last section):
* `HuffmanTerminates t` — `Tw.Huffman.decompress_terminates _ Tw.Huffman.wellFormed_table`
  (`Tw.Props.C07.decompress_total`);
* `HuffmanBounded t` — `Tw.Huffman.decompress_bound` (`Tw.Props.C07.decompress_within_capacity`);
* `HuffmanRoundTrip t` — `Tw.Huffman.roundTrip_table`
  (`Tw.Props.C07.roundtrip`).
-/
namespace Tw.Props.C06
open Tw.Packet

/-- the Huffman decoder never runs out of fuel (C07: `decompress_terminates`) -/
def HuffmanTerminates (t : Tw.Huffman.Table) : Prop :=
  ∀ input cap, Tw.Huffman.decompress t input cap ≠ .diverge

/-- Tie: sizes the reader models depend on. -/
theorem tie_sizes :
    Tw.Gen.Packet6.MAX_PACKETSIZE = 1400 ∧ Tw.Gen.Packet6.HEADER_SIZE = 3 ∧
    Tw.Gen.Packet6.PADDING_SIZE_CONNLESS = 3 ∧ Tw.Gen.Packet6.TOKEN_SIZE = 4 ∧
    Tw.Gen.Packet6.CHUNK_HEADER_SIZE = 2 ∧ Tw.Gen.Packet6.CHUNK_HEADER_SIZE_VITAL = 3 ∧
    Tw.Gen.Packet6.READ_PAYLOAD_LIMIT = 1397 ∧ Tw.Gen.Packet6.CONNLESS_WRITE_LIMIT = 1394 ∧
    Tw.Gen.Packet7.MAX_PACKETSIZE = 1400 ∧ Tw.Gen.Packet7.HEADER_SIZE = 7 ∧
    Tw.Gen.Packet7.HEADER_SIZE_CONNLESS = 9 ∧ Tw.Gen.Packet7.TOKEN_REQUEST_PACKET_SIZE = 519 ∧
    Tw.Gen.Packet7.CHUNK_HEADER_SIZE = 2 ∧ Tw.Gen.Packet7.CHUNK_HEADER_SIZE_VITAL = 3 ∧
    Tw.Gen.Packet7.READ_PAYLOAD_LIMIT = 1393 ∧ Tw.Gen.Packet7.CONNLESS_WRITE_LIMIT = 1391 := by decide

/-- Tie: the numbers the reader models were written against, per function as the *set* of distinct numbers
> 1 it mentions (integer and byte literals, named constants resolved to their values, `.len()` of
byte-string constants, private helper functions followed; sorted).  E.g. `has_token_heuristic` knows 2
(`CTRLMSG_CONNECTACCEPT`), 3 (`nul != 3`, `[0..3]`) and 4 (`CTRLMSG_CLOSE`, `TOKEN_SIZE`, the magic's
length, the ambiguous payload length); `read_impl` additionally `0xff`, 127, 8, 1400.  Behaviour-preserving
restructurings (a helper `nul_position`, `starts_with` for a manual comparison, `MAGIC.len()` for `4`) keep
these sets; a new or changed number breaks the tie.  Masks and shifts of the header codecs stay tied
position by position (`tie_masks6/7` in C05), sizes in `tie_sizes`. -/
theorem tie_reader_literals :
    Tw.Gen.Packet6.nums_has_token_heuristic = [2, 3, 4] ∧
    Tw.Gen.Packet6.nums_read_impl = [2, 3, 4, 8, 127, 255, 1400] ∧
    Tw.Gen.Packet6.nums_is_initial = [2, 3, 4, 1400] ∧ Tw.Gen.Packet6.nums_needs_decompression = [2, 8, 1400] ∧
    Tw.Gen.Packet6.nums_decompress_impl = [2, 8, 1400] ∧
    Tw.Gen.Packet6.nums_next_warn = [2] ∧ Tw.Gen.Packet6.nums_read_chunk_header = [] ∧
    Tw.Gen.Packet7.nums_read_impl = [2, 3, 4, 5, 7, 8, 127, 519, 1400] ∧
    Tw.Gen.Packet7.nums_needs_decompression = [4, 8, 1400] ∧ Tw.Gen.Packet7.nums_decompress_impl = [4, 8, 1400] ∧
    Tw.Gen.Packet7.nums_next_warn = [2] ∧ Tw.Gen.Packet7.nums_read_chunk_header = [] := by decide

/-- Tie: the buffer size the doc comments of `Packet::read` (both files) ask the caller for is the one the
code asserts and the theorems below assume (`MAX_PACKETSIZE`).  Before the doc repair the comments said
`MAX_PAYLOAD` (1390): a caller following them panicked on every call. -/
theorem tie_documented_buffer_size :
    Tw.Gen.Packet6.READ_BUFFER_DOCUMENTED = Tw.Gen.Packet6.MAX_PACKETSIZE ∧
    Tw.Gen.Packet7.READ_BUFFER_DOCUMENTED = Tw.Gen.Packet7.MAX_PACKETSIZE := by decide

/-! ## no panic, no divergence -/

/-- 0.6 `Packet::read` never panics: for every byte string, every token hint and every scratch buffer
of at least `MAX_PACKETSIZE` bytes (the precondition the code asserts). -/
theorem v6_read_never_panics (t : Tw.Huffman.Table) (bytes : List UInt8) (hint : Option Bool) (cap : Nat)
    (hcap : Tw.Gen.Packet6.MAX_PACKETSIZE ≤ cap) (site : String) :
    Tw.Packet6.read t bytes hint (some cap) ≠ .panic site := by
  intro h
  rcases (Tw.Packet6.read_panic_diverge t bytes hint (some cap)).1 site h with ⟨_, hc, hlt⟩ | ⟨hc, _⟩
  · cases hc
    exact absurd hcap (Nat.not_le.mpr hlt)
  · cases hc

/-- 0.6 `Packet::read_panic_on_decompression` never panics on its documented precondition: the
datagram is not a compressed packet. -/
theorem v6_read_panic_on_decompression_never_panics (t : Tw.Huffman.Table) (bytes : List UInt8)
    (hint : Option Bool) (hn : Tw.Packet6.needsDecompression bytes = false) (site : String) :
    Tw.Packet6.read t bytes hint none ≠ .panic site :=
  Tw.Packet6.read_nobuf_ne_panic t bytes hint hn site

/-- 0.6: the reader returns (never loops): the only loop outside the chunk iterator is the Huffman
decoder, which terminates for a well-formed table. -/
theorem v6_read_terminates (t : Tw.Huffman.Table) (ht : HuffmanTerminates t) (bytes : List UInt8)
    (hint : Option Bool) (buffer : Option Nat) :
    Tw.Packet6.read t bytes hint buffer ≠ .diverge := fun h =>
  have ⟨input, cap, hd⟩ := (Tw.Packet6.read_panic_diverge t bytes hint buffer).2 h
  ht input cap hd

/-- 0.6 `Packet::decompress_if_needed` never panics (buffer of at least `MAX_PACKETSIZE` bytes). -/
theorem v6_decompress_if_needed_never_panics (t : Tw.Huffman.Table) (bytes : List UInt8) (cap : Nat)
    (hcap : Tw.Gen.Packet6.MAX_PACKETSIZE ≤ cap) (site : String) :
    Tw.Packet6.decompressIfNeeded t bytes cap ≠ .panic site := by
  rw [Tw.Packet6.decompressIfNeeded_eq t bytes cap hcap]
  split
  · split <;> exact Tw.Packet6.DinResult.noConfusion
  · exact Tw.Packet6.DinResult.noConfusion

/-- 0.7 `Packet::read` never panics. -/
theorem v7_read_never_panics (t : Tw.Huffman.Table) (bytes : List UInt8) (cap : Nat)
    (hcap : Tw.Gen.Packet7.MAX_PACKETSIZE ≤ cap) (site : String) :
    Tw.Packet7.read t bytes (some cap) ≠ .panic site := by
  intro h
  rcases (Tw.Packet7.read_panic_diverge t bytes (some cap)).1 site h with ⟨_, hc, hlt⟩ | ⟨hc, _⟩
  · cases hc
    exact absurd hcap (Nat.not_le.mpr hlt)
  · cases hc

/-- 0.7 `Packet::read_panic_on_decompression` never panics on its documented precondition. -/
theorem v7_read_panic_on_decompression_never_panics (t : Tw.Huffman.Table) (bytes : List UInt8)
    (hn : Tw.Packet7.needsDecompression bytes = false) (site : String) :
    Tw.Packet7.read t bytes none ≠ .panic site :=
  Tw.Packet7.read_nobuf_ne_panic t bytes hn site

/-- 0.7: the reader returns (never loops), as for 0.6. -/
theorem v7_read_terminates (t : Tw.Huffman.Table) (ht : HuffmanTerminates t) (bytes : List UInt8)
    (buffer : Option Nat) :
    Tw.Packet7.read t bytes buffer ≠ .diverge := fun h =>
  have ⟨input, cap, hd⟩ := (Tw.Packet7.read_panic_diverge t bytes buffer).2 h
  ht input cap hd

/-- 0.7 `Packet::decompress_if_needed` never panics (buffer of at least `MAX_PACKETSIZE` bytes). -/
theorem v7_decompress_if_needed_never_panics (t : Tw.Huffman.Table) (bytes : List UInt8) (cap : Nat)
    (hcap : Tw.Gen.Packet7.MAX_PACKETSIZE ≤ cap) (site : String) :
    Tw.Packet7.decompressIfNeeded t bytes cap ≠ .panic site := by
  rw [Tw.Packet7.decompressIfNeeded_eq t bytes cap hcap]
  split
  · split <;> exact Tw.Packet7.DinResult.noConfusion
  · exact Tw.Packet7.DinResult.noConfusion

/-- the two-step path `decompress_if_needed` → `read_panic_on_decompression` (callers without a scratch
buffer for `read`, e.g. a dissector): whenever `decompress_if_needed` succeeds — it decompressed into `s`,
or reports that nothing had to be done — the second step meets its precondition (`s` carries the header
with the compression flag cleared: `needsDecompression s = false`) and never panics.  That the two-step
result equals `Packet::read` of the datagram is `v6_two_step_equals_read` / `v7_two_step_equals_read` below for the
model and the oracle `C06/two-step-read-differs`, on every generated datagram, for the implementation. -/
theorem v6_two_step_never_panics (t : Tw.Huffman.Table) (bytes : List UInt8) (cap : Nat) (hint : Option Bool)
    (site : String) :
    (∀ s, Tw.Packet6.decompressIfNeeded t bytes cap = .ok true s →
      Tw.Packet6.needsDecompression s = false ∧ Tw.Packet6.read t s hint none ≠ .panic site) ∧
    (Tw.Packet6.decompressIfNeeded t bytes cap = .ok false [] → Tw.Gen.Packet6.MAX_PACKETSIZE ≤ cap →
      Tw.Packet6.read t bytes hint none ≠ .panic site) :=
  ⟨fun s h =>
    have hn := Tw.Packet6.decompressIfNeeded_output_not_compressed t bytes cap s h
    ⟨hn, Tw.Packet6.read_nobuf_ne_panic t s hint hn site⟩,
   fun h _ => Tw.Packet6.read_nobuf_ne_panic t bytes hint (Tw.Packet6.decompressIfNeeded_false t bytes cap h) site⟩

theorem v7_two_step_never_panics (t : Tw.Huffman.Table) (bytes : List UInt8) (cap : Nat) (site : String) :
    (∀ s, Tw.Packet7.decompressIfNeeded t bytes cap = .ok true s →
      Tw.Packet7.needsDecompression s = false ∧ Tw.Packet7.read t s none ≠ .panic site) ∧
    (Tw.Packet7.decompressIfNeeded t bytes cap = .ok false [] → Tw.Gen.Packet7.MAX_PACKETSIZE ≤ cap →
      Tw.Packet7.read t bytes none ≠ .panic site) :=
  ⟨fun s h =>
    have hn := Tw.Packet7.decompressIfNeeded_output_not_compressed t bytes cap s h
    ⟨hn, Tw.Packet7.read_nobuf_ne_panic t s hn site⟩,
   fun h _ => Tw.Packet7.read_nobuf_ne_panic t bytes (Tw.Packet7.decompressIfNeeded_false t bytes cap h) site⟩

/-- **0.6 two-step path returns what `Packet::read` returns.**  `ReadResult.value` is the packet or the
error of a result (warnings, slice location and scratch contents dropped: the header the first step writes
has lost `PacketHeaderPadding`/`ControlFlags`).  If `decompress_if_needed` decompressed the datagram into
`s`, not longer than a packet (always so with the documented `MAX_PACKETSIZE` buffer), then
`read_panic_on_decompression s` and `Packet::read bytes` have the same value; if nothing had to be
decompressed the two calls agree completely. -/
theorem v6_two_step_equals_read (t : Tw.Huffman.Table) (bytes : List UInt8) (cap : Nat) (hint : Option Bool) :
    (∀ s, Tw.Packet6.decompressIfNeeded t bytes cap = .ok true s → s.length ≤ Tw.Gen.Packet6.MAX_PACKETSIZE →
      (Tw.Packet6.read t s hint none).value = (Tw.Packet6.read t bytes hint (some cap)).value) ∧
    (Tw.Gen.Packet6.MAX_PACKETSIZE ≤ cap → Tw.Packet6.needsDecompression bytes = false →
      Tw.Packet6.read t bytes hint none = Tw.Packet6.read t bytes hint (some cap)) :=
  ⟨fun s h hs => Tw.Packet6.two_step_value t bytes cap s h hs hint,
   fun hcap hn => Tw.Packet6.read_none_eq_of_not_compressed t bytes hint cap hcap hn⟩

/-- with a buffer larger than a packet the first step can produce more than `MAX_PACKETSIZE` bytes; then
both paths refuse, under different names (`TooLong` / `Compression`) -/
theorem v6_two_step_oversized (t : Tw.Huffman.Table) (bytes : List UInt8) (cap : Nat) (s : List UInt8)
    (h : Tw.Packet6.decompressIfNeeded t bytes cap = .ok true s) (hs : s.length > Tw.Gen.Packet6.MAX_PACKETSIZE)
    (hint : Option Bool) :
    (Tw.Packet6.read t s hint none).value = some (.error .tooLong) ∧
    (Tw.Packet6.read t bytes hint (some cap)).value = some (.error .compression) :=
  Tw.Packet6.two_step_too_long t bytes cap s h hs hint

/-- **0.7 two-step path returns what `Packet::read` returns**, under the explicit hypothesis `hT`: the
token-request length rule (`tooShortRequest tok len`: header token `TOKEN_NONE` and `len < 519`) gives the
same verdict for the length of the datagram and for the length of the decompressed `s`. -/
theorem v7_two_step_equals_read (t : Tw.Huffman.Table) (bytes : List UInt8) (cap : Nat) (s : List UInt8)
    (h : Tw.Packet7.decompressIfNeeded t bytes cap = .ok true s) (hs : s.length ≤ Tw.Gen.Packet7.MAX_PACKETSIZE)
    (hT : Tw.Packet7.tooShortRequest (Tw.Packet7.headerOf bytes).1.token bytes.length ↔
      Tw.Packet7.tooShortRequest (Tw.Packet7.headerOf bytes).1.token s.length) :
    (Tw.Packet7.read t s none).value = (Tw.Packet7.read t bytes (some cap)).value :=
  Tw.Packet7.two_step_value t bytes cap s h hs hT

/-- **witness that `hT` is needed** (built-in table): the 76-byte datagram `14 00 00 ff ff ff ff` +
Huffman(`05 01 02 03 04 00…00`, 512 bytes) — a *compressed* token request — is refused by `Packet::read`
(`ControlTokenRequestTooShort`: the 519-byte anti-amplification rule looks at the wire length), but
`decompress_if_needed` expands it to exactly 519 bytes which `read_panic_on_decompression` accepts as
`Token(01020304)`.  This is a difference between two ways of *reading*; C06's re-writability clause is not
violated (the accepted value is written as a 519-byte request and read back unchanged,
`v7_accepted_is_rewritable`), so it is documented (notes/packet.md) rather than recorded as a C06 finding. -/
theorem v7_two_step_token_request_witness :
    ∃ s, Tw.Packet7.decompressIfNeeded Tw.Gen.Huffman.table
        (Tw.Packet7.compressedTokenRequest Tw.Gen.Huffman.table ⟨1, 2, 3, 4⟩) Tw.Gen.Packet7.MAX_PACKETSIZE = .ok true s ∧
      s.length = Tw.Gen.Packet7.TOKEN_REQUEST_PACKET_SIZE ∧
      (Tw.Packet7.read Tw.Gen.Huffman.table (Tw.Packet7.compressedTokenRequest Tw.Gen.Huffman.table ⟨1, 2, 3, 4⟩)
        (some Tw.Gen.Packet7.MAX_PACKETSIZE)).value = some (.error .controlTokenRequestTooShort) ∧
      (Tw.Packet7.read Tw.Gen.Huffman.table s none).value =
        some (.ok (.connected 0 Tw.Packet7.tokenNone (.control (.token ⟨1, 2, 3, 4⟩)))) := by
  refine Tw.Packet7.two_step_token_request_witness Tw.Gen.Huffman.table
    Tw.Huffman.roundTrip_table ⟨1, 2, 3, 4⟩
    (by decide) ?_
  rw [Tw.Huffman.compress_length_false]
  decide +kernel

/-! ## every returned slice lies inside the input or the scratch buffer -/

/-- 0.6: for every accepted datagram the byte-slice field of the result (connless payload, chunk
payload, close reason) is exactly `length` bytes at offset `loc.off` of the buffer `loc.src` names
(`Tw.Packet6.ReadOk.Located`: `loc.off + length ≤ buffer.length` and the bytes agree), packets
without a slice field have no location, and at most `cap` bytes of the scratch buffer are used.
`HuffmanBounded` is C07's `decompress_bound` (table-independent). -/
theorem v6_read_slices_inside_buffers (t : Tw.Huffman.Table) (hb : Tw.Packet6.HuffmanBounded t)
    (bytes : List UInt8) (hint : Option Bool) (cap : Nat) (r : Tw.Packet6.ReadOk)
    (hr : Tw.Packet6.read t bytes hint (some cap) = .ok r) :
    r.Located bytes ∧ r.scratch.length ≤ cap :=
  Tw.Packet6.read_located t hb bytes hint (some cap) r hr

/-- 0.7: the same for `Tw.Packet7.ReadOk.Located` (slice fields: connless payload, chunk payload, close reason). -/
theorem v7_read_slices_inside_buffers (t : Tw.Huffman.Table) (hb : Tw.Packet7.HuffmanBounded t)
    (bytes : List UInt8) (cap : Nat) (r : Tw.Packet7.ReadOk)
    (hr : Tw.Packet7.read t bytes (some cap) = .ok r) :
    r.Located bytes ∧ r.scratch.length ≤ cap :=
  Tw.Packet7.read_located t hb bytes (some cap) r hr

/-- `ChunksIter` (both protocols): iterating any payload with any chunk count, every returned chunk's
data is exactly the `data.length` bytes at offset `off` of the payload and lies inside it
(`Chunk.Located`), and the iteration ends: each `Some` strictly shortens the remaining data, so the
fuel `payload.length + 1` of `Iter.drain` is never exhausted (fourth component `false`). -/
theorem chunks_iter_inside_payload_and_terminates (payload : List UInt8) (nc : Nat) :
    ((∀ ch ∈ ((Iter.new payload nc).drain Tw.Packet6.codec).1, ch.Located payload) ∧
      ((Iter.new payload nc).drain Tw.Packet6.codec).2.2.2 = false) ∧
    ((∀ ch ∈ ((Iter.new payload nc).drain Tw.Packet7.codec).1, ch.Located payload) ∧
      ((Iter.new payload nc).drain Tw.Packet7.codec).2.2.2 = false) :=
  ⟨Iter.drain_spec _ codec6_sane payload nc, Iter.drain_spec _ codec7_sane payload nc⟩

/-- one call of `next_warn` that returns a chunk strictly shortens the remaining data (progress) -/
theorem chunks_iter_progress (payload : List UInt8) (it : Iter) (hinv : it.Inv payload) (ch : Chunk)
    (ws : List Warning) (it' : Iter) :
    (it.next Tw.Packet6.codec = (some ch, ws, it') → it'.data.length < it.data.length ∧ ch.Located payload) ∧
    (it.next Tw.Packet7.codec = (some ch, ws, it') → it'.data.length < it.data.length ∧ ch.Located payload) :=
  ⟨fun h => (Iter.next_some codec6_sane hinv h).2, fun h => (Iter.next_some codec7_sane hinv h).2⟩

/-! ## whatever the reader accepts can be written again and is read back as the same value -/

/-- **0.6 re-writability**, full statement (no length band is excluded since the repair of D17): for
every byte string, hint and buffer mode, if `Packet::read` returns a packet (with whatever warnings)
then `Packet::write` of that value into any buffer of at least `MAX_PACKETSIZE` bytes succeeds and
`Packet::read` of the written bytes, told the value's token mode, returns the same value with
`expectedWarnings` (nothing, or `ChunksNoChunks` for an empty chunk packet without resend request). -/
theorem v6_accepted_is_rewritable (t : Tw.Huffman.Table) (hrt : Tw.Packet6.HuffmanRoundTrip t)
    (bytes : List UInt8) (hint : Option Bool) (buffer : Option Nat) (r : Tw.Packet6.ReadOk)
    (hr : Tw.Packet6.read t bytes hint buffer = .ok r) (cap scap : Nat)
    (hcap : Tw.Gen.Packet6.MAX_PACKETSIZE ≤ cap) (hs : Tw.Gen.Packet6.MAX_PACKETSIZE ≤ scap) :
    ∃ bs, Tw.Packet6.write t r.pkt cap = .ok bs ∧ bs.length ≤ Tw.Gen.Packet6.MAX_PACKETSIZE ∧
      ∃ r', Tw.Packet6.read t bs (some r.pkt.hasToken) (some scap) = .ok r' ∧ r'.pkt = r.pkt ∧
        r'.warns = Tw.Packet6.expectedWarnings r.pkt :=
  Tw.Packet6.write_read_roundtrip t hrt r.pkt (Tw.Packet6.read_valid t bytes hint buffer r hr) cap scap hcap hs

/-- **0.7 re-writability**, full statement (holds since the repairs of D17 and D25). -/
theorem v7_accepted_is_rewritable (t : Tw.Huffman.Table) (hrt : Tw.Packet7.HuffmanRoundTrip t)
    (bytes : List UInt8) (buffer : Option Nat) (r : Tw.Packet7.ReadOk)
    (hr : Tw.Packet7.read t bytes buffer = .ok r) (cap scap : Nat)
    (hcap : Tw.Gen.Packet7.MAX_PACKETSIZE ≤ cap) (hs : Tw.Gen.Packet7.MAX_PACKETSIZE ≤ scap) :
    ∃ bs, Tw.Packet7.write t r.pkt cap = .ok bs ∧ bs.length ≤ Tw.Gen.Packet7.MAX_PACKETSIZE ∧
      ∃ r', Tw.Packet7.read t bs (some scap) = .ok r' ∧ r'.pkt = r.pkt ∧
        r'.warns = Tw.Packet7.expectedWarnings r.pkt :=
  Tw.Packet7.write_read_roundtrip t hrt r.pkt (Tw.Packet7.read_valid t bytes buffer r hr) cap scap hcap hs

/-- the reader only returns values the writer's preconditions admit (the core of re-writability) -/
theorem accepted_is_valid (t : Tw.Huffman.Table) :
    (∀ bytes hint buffer r, Tw.Packet6.read t bytes hint buffer = .ok r → Tw.Packet6.Valid r.pkt) ∧
    (∀ bytes buffer r, Tw.Packet7.read t bytes buffer = .ok r → Tw.Packet7.Valid r.pkt) :=
  ⟨fun bytes hint buffer r h => Tw.Packet6.read_valid t bytes hint buffer r h,
   fun bytes buffer r h => Tw.Packet7.read_valid t bytes buffer r h⟩

-- non-vacuity: a connless datagram in the former D17 band (payload 1394 bytes) is accepted …
example : Tw.Packet6.read #[] (List.replicate 6 255 ++ List.replicate 1394 0) none (some 1400) =
    .ok { pkt := .connless (List.replicate 1394 0), warns := [], loc := some { src := .input, off := 6 },
          scratch := [] } :=
  Tw.Packet6.read_connless_eq _ _ _ 1400 (by decide) (by rw [List.length_replicate]; decide)
-- … and a small control packet computes
example : Tw.Packet6.read #[] [0x10, 0, 0, 4, 0x68, 0x69, 0] (some false) (some 1400) =
    .ok { pkt := .connected 0 none (.control (.close [0x68, 0x69])), warns := [],
          loc := some { src := .input, off := 4 }, scratch := [] } := by decide

-- non-vacuity: the precondition of the `read_panic_on_decompression` theorems is met by an
-- uncompressed packet and the statement computes; below the buffer precondition the model panics
example : Tw.Packet6.needsDecompression [0x10, 0, 0, 4] = false := by decide
example : Tw.Packet6.needsDecompression [0x80, 0, 0] = true := by decide
example : ∃ s, Tw.Packet6.read #[] [0x10, 0, 0, 4] none (some 1399) = .panic s := ⟨_, rfl⟩

/-! ## the drivers' evaluation of the reader

The correspondence drivers evaluate `readWith (Tw.Huffman.decompressFast table)` (the decoder carries the
remaining capacity instead of measuring the output per byte); these theorems make that the model's
`read` / `decompressIfNeeded`. -/

theorem v6_driver_evaluates_read (t : Tw.Huffman.Table) (bytes : List UInt8) (hint : Option Bool)
    (buffer : Option Nat) (cap : Nat) :
    Tw.Packet6.readWith (Tw.Huffman.decompressFast t) bytes hint buffer = Tw.Packet6.read t bytes hint buffer ∧
    Tw.Packet6.decompressIfNeededWith (Tw.Huffman.decompressFast t) bytes cap =
      Tw.Packet6.decompressIfNeeded t bytes cap :=
  ⟨Tw.Packet6.readWith_fast t bytes hint buffer, Tw.Packet6.decompressIfNeededWith_fast t bytes cap⟩

theorem v7_driver_evaluates_read (t : Tw.Huffman.Table) (bytes : List UInt8) (buffer : Option Nat) (cap : Nat) :
    Tw.Packet7.readWith (Tw.Huffman.decompressFast t) bytes buffer = Tw.Packet7.read t bytes buffer ∧
    Tw.Packet7.decompressIfNeededWith (Tw.Huffman.decompressFast t) bytes cap =
      Tw.Packet7.decompressIfNeeded t bytes cap :=
  ⟨Tw.Packet7.readWith_fast t bytes buffer, Tw.Packet7.decompressIfNeededWith_fast t bytes cap⟩

/-! ## C06 for the built-in table, without any hypothesis about the Huffman codec

`Tw.Huffman.wellFormed_table` (kernel `decide` on the regenerated table), `decompress_terminates`,
`decompress_bound`, `decompress_compress` of C07 discharge the three hypotheses. -/

theorem huffmanTerminates_table : HuffmanTerminates Tw.Gen.Huffman.table :=
  Tw.Huffman.decompress_terminates _ Tw.Huffman.wellFormed_table

/-- **0.6, real table: the reader is total** — for every byte string, every hint and every scratch
buffer of at least `MAX_PACKETSIZE` bytes `Packet::read` returns `ok` or `err`: it neither panics nor
diverges. -/
theorem v6_read_total_table (bytes : List UInt8) (hint : Option Bool) (cap : Nat)
    (hcap : Tw.Gen.Packet6.MAX_PACKETSIZE ≤ cap) :
    (∃ r, Tw.Packet6.read Tw.Gen.Huffman.table bytes hint (some cap) = .ok r) ∨
    (∃ e ws, Tw.Packet6.read Tw.Gen.Huffman.table bytes hint (some cap) = .err e ws) := by
  have h1 := v6_read_never_panics Tw.Gen.Huffman.table bytes hint cap hcap
  have h2 := v6_read_terminates Tw.Gen.Huffman.table huffmanTerminates_table bytes hint (some cap)
  cases h : Tw.Packet6.read Tw.Gen.Huffman.table bytes hint (some cap) with
  | ok r => exact Or.inl ⟨r, rfl⟩
  | err e ws => exact Or.inr ⟨e, ws, rfl⟩
  | panic s => exact absurd h (h1 s)
  | diverge => exact absurd h h2

theorem v7_read_total_table (bytes : List UInt8) (cap : Nat) (hcap : Tw.Gen.Packet7.MAX_PACKETSIZE ≤ cap) :
    (∃ r, Tw.Packet7.read Tw.Gen.Huffman.table bytes (some cap) = .ok r) ∨
    (∃ e ws, Tw.Packet7.read Tw.Gen.Huffman.table bytes (some cap) = .err e ws) := by
  have h1 := v7_read_never_panics Tw.Gen.Huffman.table bytes cap hcap
  have h2 := v7_read_terminates Tw.Gen.Huffman.table huffmanTerminates_table bytes (some cap)
  cases h : Tw.Packet7.read Tw.Gen.Huffman.table bytes (some cap) with
  | ok r => exact Or.inl ⟨r, rfl⟩
  | err e ws => exact Or.inr ⟨e, ws, rfl⟩
  | panic s => exact absurd h (h1 s)
  | diverge => exact absurd h h2

/-- **0.6, real table: slices stay inside the buffers.** -/
theorem v6_read_slices_inside_buffers_table (bytes : List UInt8) (hint : Option Bool) (cap : Nat)
    (r : Tw.Packet6.ReadOk) (hr : Tw.Packet6.read Tw.Gen.Huffman.table bytes hint (some cap) = .ok r) :
    r.Located bytes ∧ r.scratch.length ≤ cap :=
  v6_read_slices_inside_buffers _ (Tw.Huffman.decompress_bound _) bytes hint cap r hr

theorem v7_read_slices_inside_buffers_table (bytes : List UInt8) (cap : Nat)
    (r : Tw.Packet7.ReadOk) (hr : Tw.Packet7.read Tw.Gen.Huffman.table bytes (some cap) = .ok r) :
    r.Located bytes ∧ r.scratch.length ≤ cap :=
  v7_read_slices_inside_buffers _ (Tw.Huffman.decompress_bound _) bytes cap r hr

/-- **0.6, real table: whatever the reader accepts can be written again and is read back unchanged.** -/
theorem v6_accepted_is_rewritable_table (bytes : List UInt8) (hint : Option Bool) (buffer : Option Nat)
    (r : Tw.Packet6.ReadOk) (hr : Tw.Packet6.read Tw.Gen.Huffman.table bytes hint buffer = .ok r)
    (cap scap : Nat) (hcap : Tw.Gen.Packet6.MAX_PACKETSIZE ≤ cap) (hs : Tw.Gen.Packet6.MAX_PACKETSIZE ≤ scap) :
    ∃ bs, Tw.Packet6.write Tw.Gen.Huffman.table r.pkt cap = .ok bs ∧ bs.length ≤ Tw.Gen.Packet6.MAX_PACKETSIZE ∧
      ∃ r', Tw.Packet6.read Tw.Gen.Huffman.table bs (some r.pkt.hasToken) (some scap) = .ok r' ∧
        r'.pkt = r.pkt ∧ r'.warns = Tw.Packet6.expectedWarnings r.pkt :=
  v6_accepted_is_rewritable _
    Tw.Huffman.roundTrip_table
    bytes hint buffer r hr cap scap hcap hs

theorem v7_accepted_is_rewritable_table (bytes : List UInt8) (buffer : Option Nat)
    (r : Tw.Packet7.ReadOk) (hr : Tw.Packet7.read Tw.Gen.Huffman.table bytes buffer = .ok r)
    (cap scap : Nat) (hcap : Tw.Gen.Packet7.MAX_PACKETSIZE ≤ cap) (hs : Tw.Gen.Packet7.MAX_PACKETSIZE ≤ scap) :
    ∃ bs, Tw.Packet7.write Tw.Gen.Huffman.table r.pkt cap = .ok bs ∧ bs.length ≤ Tw.Gen.Packet7.MAX_PACKETSIZE ∧
      ∃ r', Tw.Packet7.read Tw.Gen.Huffman.table bs (some scap) = .ok r' ∧
        r'.pkt = r.pkt ∧ r'.warns = Tw.Packet7.expectedWarnings r.pkt :=
  v7_accepted_is_rewritable _
    Tw.Huffman.roundTrip_table
    bytes buffer r hr cap scap hcap hs

end Tw.Props.C06
